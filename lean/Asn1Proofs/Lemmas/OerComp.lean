import Asn1Proofs.Lemmas.OerLeaf
/-
  SEQUENCE OF and CHOICE of the OER model: encoder equations, the search of the alternatives by tag,
  totality of the encoder.
-/
namespace Asn1.Oer

theorem enc_sequenceOf (e : Ty) (c : SizeC) (vs : List Val) : enc (.sequenceOf e c) (.list vs) =
    vs.mapM (enc e) >>= fun items => encUnsigned vs.length >>= fun q => .ok (q ++ items.flatten) := by
  rw [enc]
  cases List.mapM (enc e) vs <;> cases encUnsigned vs.length <;> rfl

theorem et_sequenceOf (e : Ty) (c : SizeC) (ih : ET e) : ET (.sequenceOf e c) := by
  intro v hwf ht
  obtain ⟨vs, rfl, hty, -⟩ := hasType_sequenceOf ht
  rw [enc_sequenceOf]
  exact (mapM_total _ _ fun x hx => ih x (wf_sequenceOf hwf) (hty x hx)).bind fun _ =>
    (encUnsigned_total _).bind fun _ => .ok _

theorem encTag_beq_false {i j : Nat} (h : i ≠ j) : (encTag i 0x80 == encTag j 0x80) = false := by
  rw [beq_eq_false_iff_ne]
  exact fun e => h (encTag_inj e)

/-- `G` is `decAlt` or `decAltAdd`: the two search alike and differ in what they do at the hit (`F`) -/
theorem altSearch_find {β : Type} (G : Alts → Bytes → Nat → Bytes → Option β)
    (F : String → Ty → Bytes → β)
    (hG : ∀ n t rest tag i bs, G (.cons n t rest) tag i bs =
      if tag == encTag i 0x80 then some (F n t bs) else G rest tag (i + 1) bs)
    (as : Alts) (name : String) (j : Nat) (t : Ty) (h : as.find name = some (j, t))
    (i : Nat) (bs : Bytes) : G as (encTag (i + j) 0x80) i bs = some (F name t bs) := by
  induction as using Alts.ind generalizing j i with
  | nil => cases h
  | cons n t' rest ih =>
    rw [hG]
    rcases Alts.find_cons_some h with ⟨rfl, rfl, rfl⟩ | ⟨j', h1, rfl⟩
    · rw [Nat.add_zero, if_pos (beq_self_eq_true _)]
    · rw [encTag_beq_false (show i + (j' + 1) ≠ i by omega), if_neg Bool.false_ne_true,
        ← ih j' h1 (i + 1), Nat.add_assoc, Nat.add_comm 1]

theorem decAlt_find (as : Alts) (name : String) (j : Nat) (t : Ty) (h : as.find name = some (j, t))
    (i : Nat) (bs : Bytes) :
    decAlt as (encTag (i + j) 0x80) i bs
      = some (do let (v, r) ← dec t bs; .ok (.choice name v, r)) :=
  altSearch_find decAlt _ (fun _ _ _ _ _ _ => rfl) as name j t h i bs

theorem decAltAdd_find (as : Alts) (name : String) (j : Nat) (t : Ty) (h : as.find name = some (j, t))
    (i : Nat) (bs : Bytes) :
    decAltAdd as (encTag (i + j) 0x80) i bs
      = some (do let (_, r0) ← readLenDet bs; let (v, r) ← dec t r0; .ok (.choice name v, r)) :=
  altSearch_find decAltAdd _ (fun _ _ _ _ _ _ => by rw [decAltAdd]) as name j t h i bs

theorem altSearch_none {β : Type} (G : Alts → Bytes → Nat → Bytes → Option β)
    (F : String → Ty → Bytes → β) (hnil : ∀ tag i bs, G .nil tag i bs = none)
    (hG : ∀ n t rest tag i bs, G (.cons n t rest) tag i bs =
      if tag == encTag i 0x80 then some (F n t bs) else G rest tag (i + 1) bs)
    (as : Alts) (idx i : Nat) (bs : Bytes) (h : i + as.length ≤ idx) :
    G as (encTag idx 0x80) i bs = none := by
  induction as using Alts.ind generalizing i with
  | nil => exact hnil _ _ _
  | cons n t rest ih =>
    simp only [Alts.length] at h
    rw [hG, encTag_beq_false (show idx ≠ i by omega), if_neg Bool.false_ne_true]
    exact ih (i + 1) (by omega)

theorem decAlt_none (as : Alts) (idx i : Nat) (bs : Bytes) (h : i + as.length ≤ idx) :
    decAlt as (encTag idx 0x80) i bs = none :=
  altSearch_none decAlt _ (fun _ _ _ => rfl) (fun _ _ _ _ _ _ => rfl) as idx i bs h

theorem decAltAdd_none (as : Alts) (idx i : Nat) (bs : Bytes) (h : i + as.length ≤ idx) :
    decAltAdd as (encTag idx 0x80) i bs = none :=
  altSearch_none decAltAdd _ (fun _ _ _ => rfl) (fun _ _ _ _ _ _ => by rw [decAltAdd]) as idx i bs h

theorem enc_choice (root : Alts) (ext : Bool) (adds : Alts) (name : String) (v : Val) :
    enc (.choice root ext adds) (.choice name v) =
    match encAlt root name v 0 with
    | some (idx, r) => r >>= fun body => .ok (encTag idx 0x80 ++ body)
    | none =>
      match encAlt adds name v root.length with
      | some (idx, r) =>
        r >>= fun body => lenDet body.length >>= fun l => .ok (encTag idx 0x80 ++ l ++ body)
      | none => .error .encodeError := by
  rw [enc]
  cases encAlt root name v 0 with
  | some x => obtain ⟨idx, r⟩ := x; cases r <;> rfl
  | none =>
    cases encAlt adds name v root.length with
    | some x => obtain ⟨idx, r⟩ := x; cases r <;> rfl
    | none => rfl

theorem find_wellFormed {as name j t} (h : as.find name = some (j, t))
    (hw : as.wf = true) (hw2 : oerWfAlts as = true) (hd : as.defaultsOk = true) :
    t.wf = true ∧ oerWf t = true ∧ t.defaultsOk = true :=
  ⟨Alts.find_all h (Alts.all_wf as hw),
   Alts.find_all h (Alts.all_oerWf as hw2),
   Alts.find_all h (Alts.all_defaultsOk as hd)⟩

theorem et_choice (root : Alts) (ext : Bool) (adds : Alts)
    (ihr : root.All ET) (iha : adds.All ET) : ET (.choice root ext adds) := by
  intro v hwf ht
  obtain ⟨name, v, _, t, rfl, hwt, hty, sel⟩ := alt_of_hasType hwf ht
  have ih := sel.all ihr iha v hwt hty
  rw [enc_choice, encAlt_find, encAlt_find]
  rcases sel with hf | ⟨hf, j, hfa, rfl⟩
  · simp only [hf, Option.map_some]
    exact ih.bind fun _ => .ok _
  · simp only [hf, hfa, Option.map_some, Option.map_none]
    exact ih.bind fun _ => (lenDet_total _).bind fun _ => .ok _

end Asn1.Oer
