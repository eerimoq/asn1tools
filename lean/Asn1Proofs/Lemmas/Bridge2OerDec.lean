import Asn1Proofs.Lemmas.PyStrLemmas
import Asn1Proofs.Lemmas.Bridge2Defs
/-
  The translated `oer.Decoder` (a big integer and a count of unread bits) refines the byte readers of `Asn1Model/Oer.lean`.
  A method is computed on a state written `⟨N, T, V⟩` with natural `N`, `V`; at an octet boundary a read of `8 k` bits is
  `Oer.readBytes k` (`ORefines.of_bits`); methods that call methods are compared call by call (`ORefines.bind`) in
  `Properties/C06u.lean`.
-/
namespace Asn1.Bridge
open Asn1 Asn1.Translated
open Asn1.Uper (Err)

/-- representation invariant of `oer.Decoder`; `value` is never reduced, the unread bits are its low `number_of_bits` -/
structure ODecInv (d : oer_DecoderS) : Prop where
  nb : 0 ≤ d.number_of_bits
  le : d.number_of_bits ≤ d.total_number_of_bits
  v0 : 0 ≤ d.value

/-- the bits not yet consumed -/
def oBits (d : oer_DecoderS) : Bits := natToBits d.number_of_bits.toNat (d.value.toNat % 2 ^ d.number_of_bits.toNat)

/-- the decoder stands at an octet boundary in front of the octets `bs` (the first component is `allBytes bs` written out) -/
def oAt (d : oer_DecoderS) (bs : Bytes) : Prop := (∀ b ∈ bs, b < 256) ∧ oBits d = bytesToBits bs

def ORefines {α β : Type} (val : α → β → Prop) : Except String (oer_DecoderS × α) → Except Err (β × Bytes) → Prop
  | .ok (d', a), .ok (b, rest) => ODecInv d' ∧ oAt d' rest ∧ val a b
  | .error e, .error m => errOk m e
  | _, _ => False

/-- the continuations are compared on corresponding results, knowing what the model returned -/
theorem ORefines.bind {α β α' β' : Type} {val : α → β → Prop} {val' : α' → β' → Prop}
    {x : Except String (oer_DecoderS × α)} {y : Except Err (β × Bytes)}
    {f : oer_DecoderS × α → Except String (oer_DecoderS × α')} {g : β × Bytes → Except Err (β' × Bytes)}
    (h : ORefines val x y)
    (hf : ∀ d a b rest, y = .ok (b, rest) → ODecInv d → oAt d rest → val a b → ORefines val' (f (d, a)) (g (b, rest))) :
    ORefines val' (x >>= f) (y >>= g) := by
  cases x with
  | error e =>
    cases y with
    | error m => exact h
    | ok q => exact h.elim
  | ok p =>
    cases y with
    | error m => exact h.elim
    | ok q =>
      obtain ⟨d', a⟩ := p
      obtain ⟨b, rest⟩ := q
      exact hf d' a b rest rfl h.1 h.2.1 h.2.2

theorem ODecInv.view {d : oer_DecoderS} (h : ODecInv d) :
    ∃ (N V : Nat) (T : Int), d = ⟨(N : Int), T, (V : Int)⟩ ∧ (N : Int) ≤ T := by
  obtain ⟨nb, tot, val⟩ := d
  obtain ⟨N, hN⟩ := Int.eq_ofNat_of_zero_le h.nb
  obtain ⟨V, hV⟩ := Int.eq_ofNat_of_zero_le h.v0
  have hle := h.le
  simp only at hN hV hle
  subst hN
  subst hV
  exact ⟨N, V, tot, rfl, hle⟩

theorem odec_inv_mk (N V : Nat) (T : Int) (h : (N : Int) ≤ T) : ODecInv ⟨(N : Int), T, (V : Int)⟩ :=
  ⟨Int.natCast_nonneg N, h, Int.natCast_nonneg V⟩

theorem oBits_mk (N V : Nat) (T : Int) : oBits ⟨(N : Int), T, (V : Int)⟩ = natToBits N V := by
  unfold oBits
  simp only [Int.toNat_natCast]
  rw [natToBits_mod]

theorem oBits_length (d : oer_DecoderS) : (oBits d).length = d.number_of_bits.toNat := by
  unfold oBits; rw [natToBits_length]

theorem odec_advance {N n : Nat} (V : Nat) {T : Int} (hn : n ≤ N) (hle : (N : Int) ≤ T) :
    ODecInv ⟨((N - n : Nat) : Int), T, (V : Int)⟩ ∧
      oBits ⟨((N - n : Nat) : Int), T, (V : Int)⟩ = (natToBits N V).drop n :=
  ⟨odec_inv_mk _ _ _ (Int.le_trans (Int.ofNat_le.2 (Nat.sub_le N n)) hle), by rw [oBits_mk, (natToBits_take_drop N V n hn).2]⟩

theorem oer_rnnbi_bits (d : oer_DecoderS) (h : ODecInv d) (n : Nat) :
    if n ≤ (oBits d).length then
      ∃ d', oer_Decoder_read_non_negative_binary_integer d n = .ok (d', ((bitsToNat ((oBits d).take n) : Nat) : Int)) ∧
        ODecInv d' ∧ oBits d' = (oBits d).drop n
    else oer_Decoder_read_non_negative_binary_integer d n = .error "OutOfDataError" := by
  obtain ⟨N, V, T, rfl, hle⟩ := h.view
  rw [oBits_mk, natToBits_length]
  unfold oer_Decoder_read_non_negative_binary_integer
  rw [Py.ite_decide_congr Int.ofNat_lt]
  by_cases hn : n ≤ N
  · rw [if_pos hn, if_neg (Nat.not_lt.2 hn)]
    dsimp only
    rw [← Int.natCast_sub hn, shlE_natCast, ok_bind, shrE_natCast, ok_bind, band_mask, ← (natToBits_take_drop N V n hn).1]
    exact ⟨_, rfl, odec_advance V hn hle⟩
  · rw [if_neg hn, if_pos (Nat.lt_of_not_le hn)]
    rfl

theorem oer_read_bits_bits (d : oer_DecoderS) (h : ODecInv d) (k : Nat) :
    if 8 * k ≤ (oBits d).length then
      ∃ d', oer_Decoder_read_bits d ((8 : Int) * (k : Int))
          = .ok (d', ofNats (natToBytesN k (bitsToNat ((oBits d).take (8 * k))))) ∧
        ODecInv d' ∧ oBits d' = (oBits d).drop (8 * k)
    else oer_Decoder_read_bits d ((8 : Int) * (k : Int)) = .error "OutOfDataError" := by
  obtain ⟨N, V, T, rfl, hle⟩ := h.view
  rw [oBits_mk, natToBits_length, Py.mul8]
  unfold oer_Decoder_read_bits
  rw [Py.ite_decide_congr Int.ofNat_lt]
  by_cases hn : 8 * k ≤ N
  · rw [if_pos hn, if_neg (Nat.not_lt.2 hn)]
    dsimp only
    rw [← Int.natCast_sub hn, shlE_natCast, ok_bind, shrE_natCast, ok_bind, band_mask, band_mask, Nat.mod_mod,
      shlE_natCast, ok_bind, (natToBits_take_drop N V (8 * k) hn).1]
    have hxlt : V / 2 ^ (N - 8 * k) % 2 ^ (8 * k) < 2 ^ (8 * k) := Nat.mod_lt _ (Nat.two_pow_pos _)
    -- the sentinel `0x80 << n` keeps the leading zeros of the `hex` string
    rw [unhex_sentinel_bor k _ hxlt]
    exact ⟨_, rfl, odec_advance V hn hle⟩
  · rw [if_neg hn, if_pos (Nat.lt_of_not_le hn)]
    rfl

theorem oer_read_bit_eq (d : oer_DecoderS) (h : ODecInv d) :
    oer_Decoder_read_bit d = oer_Decoder_read_non_negative_binary_integer d ((1 : Nat) : Int) := by
  unfold oer_Decoder_read_bit oer_Decoder_read_non_negative_binary_integer
  have := h.nb
  rw [shlE_natCast, ok_bind,
    show decide (d.number_of_bits = 0) = decide (((1 : Nat) : Int) > d.number_of_bits) from decide_eq_decide.2 (by omega)]
  rfl

theorem oer_peek_bit_eq (d : oer_DecoderS) : oer_Decoder_peek_bit d = (oer_Decoder_read_bit d).map Prod.snd := by
  unfold oer_Decoder_peek_bit oer_Decoder_read_bit
  split
  · rfl
  · dsimp only
    cases Py.shrE d.value (d.number_of_bits - 1) with
    | error e => rfl
    | ok v => rfl

theorem oAt_length {d : oer_DecoderS} {bs : Bytes} (ha : oAt d bs) : (oBits d).length = 8 * bs.length := by
  rw [ha.2, bytesToBits_length]

theorem oAt_take {d : oer_DecoderS} {bs : Bytes} (ha : oAt d bs) (k : Nat) :
    bitsToNat ((oBits d).take (8 * k)) = bytesToNat (bs.take k) := by
  rw [ha.2, bytesToBits_take, bitsToNat_bytesToBits _ (allBytes_take k ha.1)]

theorem ORefines.of_bits {α : Type} {val : α → Bytes → Prop} {d : oer_DecoderS} {bs : Bytes} (ha : oAt d bs) {k : Nat}
    {x : Except String (oer_DecoderS × α)} {a : α}
    (hx : if 8 * k ≤ (oBits d).length then ∃ d', x = .ok (d', a) ∧ ODecInv d' ∧ oBits d' = (oBits d).drop (8 * k)
      else x = .error "OutOfDataError")
    (hv : k ≤ bs.length → val a (bs.take k)) : ORefines val x (Oer.readBytes k bs) := by
  rw [oAt_length ha] at hx
  rw [Oer.readBytes_eq]
  by_cases hk : k ≤ bs.length
  · rw [if_pos (Nat.mul_le_mul_left 8 hk)] at hx
    obtain ⟨d', e, hi, hb⟩ := hx
    rw [if_pos hk, e]
    exact ⟨hi, ⟨allBytes_drop k ha.1, by rw [hb, ha.2, bytesToBits_drop]⟩, hv hk⟩
  · rw [if_neg fun h8 => hk (Nat.le_of_mul_le_mul_left h8 (by decide))] at hx
    rw [if_neg hk, hx]
    exact .inl rfl

theorem oer_rnnbi_bytes (d : oer_DecoderS) (h : ODecInv d) (bs : Bytes) (ha : oAt d bs) (k : Nat) :
    ORefines (fun a ds => a = ((bytesToNat ds : Nat) : Int))
      (oer_Decoder_read_non_negative_binary_integer d ((8 : Int) * (k : Int))) (Oer.readBytes k bs) := by
  rw [Py.mul8]
  refine ORefines.of_bits ha (oer_rnnbi_bits d h (8 * k)) fun _ => ?_
  rw [oAt_take ha]

theorem oer_read_bits_bytes (d : oer_DecoderS) (h : ODecInv d) (bs : Bytes) (ha : oAt d bs) (k : Nat) :
    ORefines bytesVal (oer_Decoder_read_bits d ((8 : Int) * (k : Int))) (Oer.readBytes k bs) := by
  refine ORefines.of_bits ha (oer_read_bits_bits d h k) fun hk => ?_
  show _ = ofNats (bs.take k)
  have e := natToBytesN_bytesToNat (bs.take k) (allBytes_take k ha.1)
  rw [List.length_take_of_le hk] at e
  rw [oAt_take ha, e]

end Asn1.Bridge
