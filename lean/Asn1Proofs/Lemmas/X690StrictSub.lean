import Asn1Proofs.Lemmas.X690Frame
/-
  C04: the strict reference decoder `decVS` (reference decoder minus the named deviation `dirtyUnusedBits`) is a
  restriction of the reference decoder `decV`: whatever it accepts, `decV` accepts with the same
  value; outside `berDeviates` the two agree.
-/
namespace Asn1.X690

def ss_SUB (t : Ty) : Prop :=
  ∀ (tg : Option Nat) (fuel : Nat) (bs rest : Bytes) (v : Val),
    decVS t tg fuel bs = some (v, rest) → decV t tg fuel bs = some (v, rest)

theorem ss_constructedContentsI_mono {α : Type} {p p' : Bool → Bytes → Option (α × Bytes)}
    (hp : ∀ b c y, p b c = some y → p' b c = some y) {bs : Bytes} {x : α × Bytes}
    (h : constructedContentsI p bs = some x) : constructedContentsI p' bs = some x := by
  unfold constructedContentsI at h ⊢
  split at h
  · rename_i n r hr
    split at h
    · rename_i c rest hc
      split at h
      · rename_i a hpc
        rw [hp _ _ _ hpc]; exact h
      · cases h
    · cases h
  · rename_i r hr
    split at h
    · rename_i a rest hpc
      rw [hp _ _ _ hpc]; exact h
    · cases h
  · cases h

theorem ss_elements_mono (p p' : Bytes → Option (Val × Bytes))
    (hp : ∀ c y, p c = some y → p' c = some y) (fuel : Nat) :
    ∀ (bs : Bytes) (x : List Val × Bytes), elements p fuel bs = some x → elements p' fuel bs = some x := by
  induction fuel with
  | zero => intro bs x h; rw [elements] at h; cases h
  | succ fuel ih =>
    intro bs x h
    rw [elements] at h ⊢
    split
    · next hc => rw [if_pos hc] at h; exact h
    · next hc =>
      rw [if_neg hc] at h
      cases hpc : p bs with
      | none => rw [hpc] at h; cases h
      | some y =>
        obtain ⟨v, r⟩ := y
        rw [hpc] at h
        rw [hp bs _ hpc]
        simp only at h ⊢
        cases he : elements p fuel r with
        | none => rw [he] at h; cases h
        | some z => rw [he] at h; rw [ih r z he]; exact h

theorem ss_components (ms : Members) (hall : Members.All ss_SUB ms) :
    ∀ (i fuel : Nat) (bs : Bytes) (x : List (String × Val) × Bytes),
      decComponentsS ms i fuel bs = some x → decComponents ms i fuel bs = some x := by
  induction ms using Members.ind with
  | nil => intro i fuel bs x h; exact h
  | cons name p t rest ih =>
    intro i fuel bs x h
    obtain ⟨fs, y⟩ := x
    rw [decComponents_cons]
    by_cases hc : componentPresent t i bs = true
    · obtain ⟨v, x', fs', hv, hr, rfl⟩ := decComponentsS_cons_present hc h
      simp only [hc, if_true, hall.1 _ _ _ _ _ hv, ih hall.2 _ _ _ _ hr]
    · obtain ⟨fs', hr, hfs⟩ := decComponentsS_cons_absent (by simpa using hc) h
      have := ih hall.2 _ _ _ _ hr
      rcases hfs with ⟨rfl, rfl⟩ | ⟨d, rfl, rfl⟩ <;> simp only [hc, this, Bool.false_eq_true, if_false]

theorem ss_alternatives (as : Alts) (hall : Alts.All ss_SUB as) :
    ∀ (i fuel : Nat) (bs : Bytes) (x : Val × Bytes),
      decAlternativesS as i fuel bs = some x → decAlternatives as i fuel bs = some x := by
  induction as using Alts.ind with
  | nil => intro i fuel bs x h; cases h
  | cons n t rest ih =>
    intro i fuel bs x h
    rw [decAlternativesS_cons] at h
    rw [decAlternatives_cons]
    split
    · next hc =>
      rw [if_pos hc] at h
      cases hd : decVS t (some i) fuel bs with
      | none => rw [hd] at h; cases h
      | some y =>
        obtain ⟨v, r⟩ := y
        rw [hd] at h; rw [hall.1 _ _ _ _ _ hd]; exact h
    · next hc => rw [if_neg hc] at h; exact ih hall.2 _ _ _ _ h

theorem ss_leaf {t : Ty} (hl : isPrimLeaf t = true) : ss_SUB t := by
  intro tg fuel bs rest v h; rw [decVS_leaf hl] at h; exact h

theorem ss_bitString (c : SizeC) : ss_SUB (.bitString c) := by
  intro tg fuel bs rest v h
  rw [decVS_bitString] at h; rw [decV_bitString]
  split at h
  · rename_i cs r hs
    split at h
    · rename_i data n hb
      split at h
      · next hc => rw [eq_of_beq hc]; exact h
      · cases h
    · cases h
  · cases h

theorem ss_sequence (root : Members) (e : Bool) (adds : Members)
    (ihr : Members.All ss_SUB root) (iha : Members.All ss_SUB adds) :
    ss_SUB (.sequence root e adds) := by
  intro tg fuel bs rest v h
  rw [decVS_sequence] at h; rw [decV_sequence]
  split at h
  · cases h
  · rename_i r hs
    rw [constructedContents_eq]
    refine ss_constructedContentsI_mono ?_ h
    intro b c y hy
    obtain ⟨v', y'⟩ := y
    obtain ⟨fs1, c1, fs2, h1, h2, rfl⟩ := componentsRefS_some hy
    exact componentsRef_of (ss_components root ihr _ _ _ _ h1) (ss_components adds iha _ _ _ _ h2)

theorem ss_sequenceOf (e : Ty) (c : SizeC) (ih : ss_SUB e) : ss_SUB (.sequenceOf e c) := by
  intro tg fuel bs rest v h
  rw [decVS_sequenceOf] at h; rw [decV_sequenceOf]
  split at h
  · cases h
  · rename_i r hs
    split at h
    · rename_i vs r' hc
      rw [constructedContents_eq] at hc ⊢
      rw [ss_constructedContentsI_mono (fun _ c y hy => ss_elements_mono _ (decV e none fuel)
        (fun c y hy => ih _ _ _ _ _ hy) fuel c y hy) hc]
      exact h
    · cases h

theorem ss_alts_tagGe (as : Alts) :
    ∀ (i fuel : Nat) (bs : Bytes) (x : Val × Bytes), decAlternativesS as i fuel bs = some x → TagGe i bs := by
  induction as using Alts.ind with
  | nil => intro i fuel bs x h; cases h
  | cons n t rest ih =>
    intro i fuel bs x h
    rw [decAlternativesS_cons] at h
    split at h
    · next hc => exact tagGe_of_componentPresent hc
    · exact (ih _ _ _ _ h).mono (by omega)

theorem ss_chosen (root adds : Alts) (ihr : Alts.All ss_SUB root) (iha : Alts.All ss_SUB adds)
    (fuel : Nat) (b : Bytes) (y : Val × Bytes) (h : chosenRefS root adds fuel b = some y) :
    chosenRef root adds fuel b = some y := by
  unfold chosenRefS at h
  unfold chosenRef
  cases h1 : decAlternativesS root 0 fuel b with
  | some x =>
    rw [h1] at h; rw [ss_alternatives root ihr _ _ _ _ h1]; exact h
  | none =>
    rw [h1] at h
    simp only at h
    obtain ⟨j, u, c, r, hj, hb⟩ := ss_alts_tagGe adds _ _ _ _ h
    have h2 : decAlternatives root 0 fuel b = none := by
      rw [hb]; exact decAlternatives_none root u c j 0 fuel r (by omega)
    rw [h2]
    exact ss_alternatives adds iha _ _ _ _ h

theorem ss_choice (root : Alts) (e : Bool) (adds : Alts)
    (ihr : Alts.All ss_SUB root) (iha : Alts.All ss_SUB adds) : ss_SUB (.choice root e adds) := by
  intro tg fuel bs rest v h
  rw [decVS_choice] at h; rw [decV_choice]
  cases tg with
  | none => exact ss_chosen root adds ihr iha fuel bs _ h
  | some i =>
    simp only at h ⊢
    split at h
    · cases h
    · rename_i r hs
      rw [constructedContents_eq] at h ⊢
      exact ss_constructedContentsI_mono (fun _ c y hy => ss_chosen root adds ihr iha fuel c y hy) h

theorem ss_all : ∀ t, ss_SUB t :=
  Ty.induct (ss_leaf rfl) (ss_leaf rfl) (fun _ => ss_leaf rfl) (fun _ _ => ss_leaf rfl)
    (fun _ _ _ _ _ _ h => h) ss_bitString (fun _ _ _ _ _ _ _ h => h) ss_sequence ss_sequenceOf ss_choice

theorem decVS_sub (t : Ty) (tg : Option Nat) (fuel : Nat) (bs rest : Bytes) (v : Val)
    (h : decVS t tg fuel bs = some (v, rest)) : decV t tg fuel bs = some (v, rest) :=
  ss_all t tg fuel bs rest v h

theorem berDecodeRefStrict_sub (t : Ty) (bs : Bytes) (v : Val)
    (h : berDecodeRefStrict t bs = some v) : berDecodeRef t bs = some v := by
  unfold berDecodeRefStrict at h
  unfold berDecodeRef
  cases hd : decVS t none (bs.length + 1) bs with
  | none => rw [hd] at h; cases h
  | some y =>
    obtain ⟨w, r⟩ := y
    rw [hd] at h; rw [decVS_sub _ _ _ _ _ _ hd]; exact h

theorem strict_of_not_deviates (t : Ty) (bs : Bytes) (v : Val)
    (h : berDecodeRef t bs = some v) (hd : berDeviates t bs = false) : berDecodeRefStrict t bs = some v := by
  unfold berDeviates at hd
  rw [h] at hd
  cases hs : berDecodeRefStrict t bs with
  | none => rw [hs] at hd; simp at hd
  | some v' =>
    have := berDecodeRefStrict_sub t bs v' hs
    rw [h] at this
    rw [this]

end Asn1.X690

#print axioms Asn1.X690.decVS_sub
#print axioms Asn1.X690.berDecodeRefStrict_sub
#print axioms Asn1.X690.strict_of_not_deviates
