import Asn1Proofs.Lemmas.UperUtf8
import Asn1Proofs.Lemmas.JsonRoundtrip
/-
  `ensure_ascii=True` (the default of `json.dumps`, which asn1tools does not change): every document the writer
  emits is ASCII only, so its UTF-8 form is the same list of numbers.
-/
namespace Asn1.Json

def Ascii (l : List Nat) : Prop := ∀ c ∈ l, c < 128

theorem ascii_append (a b : List Nat) : Ascii (a ++ b) ↔ Ascii a ∧ Ascii b := List.forall_mem_append

theorem ascii_cons (c : Nat) (l : List Nat) : Ascii (c :: l) ↔ c < 128 ∧ Ascii l := List.forall_mem_cons

theorem Ascii.nil : Ascii [] := fun _ h => nomatch h

theorem Ascii.cons {c : Nat} {l : List Nat} (hc : c < 128) (hl : Ascii l) : Ascii (c :: l) :=
  (ascii_cons c l).2 ⟨hc, hl⟩

theorem Ascii.append {a b : List Nat} (ha : Ascii a) (hb : Ascii b) : Ascii (a ++ b) :=
  (ascii_append a b).2 ⟨ha, hb⟩

theorem utf8_of_ascii (cps : List Nat) (h : Ascii cps) : cps.flatMap Uper.utf8Enc = cps := by
  induction cps with
  | nil => rfl
  | cons c r ih =>
    have hc := h c (List.mem_cons_self ..)
    have : Uper.utf8Enc c = [c] := by unfold Uper.utf8Enc; rw [if_pos (by omega)]
    rw [List.flatMap_cons, this, ih (fun x hx => h x (List.mem_cons_of_mem _ hx))]
    rfl

theorem utf8Dec_ascii (l : List Nat) (h : Ascii l) (fuel : Nat) (hf : l.length + 1 ≤ fuel) :
    Uper.utf8Dec fuel l = some l := by
  have key := Uper.utf8Dec_flatMap_utf8Enc l (fun c hc => by have := h c hc; omega) fuel
  rw [utf8_of_ascii l h] at key
  exact key hf

theorem hexDigitN_lt (d : Nat) (h : d < 16) : hexDigitN d < 128 := by
  unfold hexDigitN; split <;> omega

theorem uEscape_ascii (u : Nat) : Ascii (uEscape u) := by
  rw [uEscape_eq]
  have h16 : ∀ x : Nat, x % 16 < 16 := fun x => Nat.mod_lt _ (by decide)
  exact .cons (by decide) (.cons (by decide) (.cons (hexDigitN_lt _ (h16 _)) (.cons (hexDigitN_lt _ (h16 _))
    (.cons (hexDigitN_lt _ (h16 _)) (.cons (hexDigitN_lt _ (h16 _)) .nil)))))

theorem renderChar_ascii (c : Nat) : Ascii (renderChar c) := by
  rcases renderChar_cases c with ⟨e, hm, h⟩ | ⟨_, _, _, _, h⟩ | ⟨_, _, h⟩ | ⟨_, h⟩ <;> rw [h]
  · refine .cons (by decide) (.cons ?_ .nil)
    simp only [shortEsc, List.mem_cons, Prod.mk.injEq, List.not_mem_nil, or_false] at hm
    omega
  · exact .cons (by omega) .nil
  · exact uEscape_ascii _
  · exact .append (uEscape_ascii _) (uEscape_ascii _)

theorem renderStr_ascii (cps : List Nat) : Ascii (renderStr cps) := by
  unfold renderStr
  refine .append (.append (.cons (by decide) .nil) ?_) (.cons (by decide) .nil)
  intro x hx
  simp only [List.mem_flatMap] at hx
  obtain ⟨c, _, hc⟩ := hx
  exact renderChar_ascii c x hc

theorem natDigits_ascii (n : Nat) : Ascii (natDigits n) := by
  intro c hc
  have := (natDigits_spec n).1 c hc
  simp only [isDigit, Bool.and_eq_true, decide_eq_true_eq] at this
  omega

theorem renderInt_ascii (i : Int) : Ascii (renderInt i) := by
  unfold renderInt
  split
  · exact .cons (by decide) (natDigits_ascii _)
  · exact natDigits_ascii _

theorem ascii_of_ws {l : List Nat} (h : ∀ c ∈ l, isWs c = true) : Ascii l := by
  intro c hc
  have := h c hc
  simp only [isWs, Bool.or_eq_true, beq_iff_eq] at this
  omega

theorem nl_ascii (indent : Option Nat) (level : Nat) : Ascii (nl indent level) :=
  ascii_of_ws (nl_ws indent level)

theorem keySep_ascii (indent : Option Nat) : Ascii (keySep indent) := by
  cases indent with
  | none => exact .cons (by decide) .nil
  | some n => exact .cons (by decide) (.cons (by decide) .nil)

mutual
  theorem renderV_ascii (indent : Option Nat) (j : JsonV) (level : Nat) : Ascii (renderV indent level j) := by
    match j with
    | .null => rw [renderV]; unfold Ascii; decide
    | .bool true => rw [renderV]; unfold Ascii; decide
    | .bool false => rw [renderV]; unfold Ascii; decide
    | .num i => rw [renderV]; exact renderInt_ascii i
    | .dec m e => simp [renderV, ascii_append, ascii_cons, renderInt_ascii]
    | .str cps => rw [renderV]; exact renderStr_ascii cps
    | .arr [] => rw [renderV]; unfold Ascii; decide
    | .arr (x :: xs) =>
      simp [renderV, ascii_append, ascii_cons, Ascii.nil, nl_ascii, renderV_ascii indent x,
        renderTail_ascii indent xs]
    | .obj [] => rw [renderV]; unfold Ascii; decide
    | .obj ((k, v) :: kvs) =>
      simp [renderV, ascii_append, ascii_cons, Ascii.nil, nl_ascii, renderStr_ascii, keySep_ascii,
        renderV_ascii indent v, renderMembers_ascii indent kvs]
  theorem renderTail_ascii (indent : Option Nat) (xs : List JsonV) (level : Nat) :
      Ascii (renderTail indent level xs) := by
    match xs with
    | [] => rw [renderTail]; exact .nil
    | x :: xs =>
      simp [renderTail, ascii_append, ascii_cons, nl_ascii, renderV_ascii indent x,
        renderTail_ascii indent xs]
  theorem renderMembers_ascii (indent : Option Nat) (kvs : List (List Nat × JsonV)) (level : Nat) :
      Ascii (renderMembers indent level kvs) := by
    match kvs with
    | [] => rw [renderMembers]; exact .nil
    | (k, v) :: kvs =>
      simp [renderMembers, ascii_append, ascii_cons, nl_ascii, renderStr_ascii, keySep_ascii,
        renderV_ascii indent v, renderMembers_ascii indent kvs]
end

theorem render_ascii (indent : Option Nat) (j : JsonV) : Ascii (render indent j) := renderV_ascii indent j 0

end Asn1.Json
