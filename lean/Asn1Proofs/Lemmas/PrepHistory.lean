import Asn1Proofs.Lemmas.PrepSpec
import Asn1Proofs.Lemmas.PrepConv
/-
  A rewrite under one `numeric_enums` flag followed by a rewrite under another one, on dictionaries
  without COMPONENTS OF entries (where the rewrite is a map over the modules): the first is absorbed
  under the hypothesis `PH` on every descriptor.
-/
namespace Asn1.SpecDict
open Preprocess

theorem forall_types_map_locModule {Q : String → Desc → Prop} (sk : Skel) (n : Bool) {s : Spec}
    (hQ : ∀ mn mt ext d, Q mn d → Q mn (locDesc sk n mn mt ext d))
    (h : ∀ mn m, (mn, m) ∈ s → ∀ k d, (k, d) ∈ m.types → Q mn d) :
    ∀ mn m, (mn, m) ∈ s.map (locModule sk n) → ∀ k d, (k, d) ∈ m.types → Q mn d := by
  intro mn m hm k d hd
  obtain ⟨p, hp, hpe⟩ := List.mem_map.1 hm
  cases hpe
  obtain ⟨d0, hd0, rfl⟩ := mem_mapSnd hd
  exact hQ _ _ _ _ (h p.1 p.2 hp k d0 hd0)

theorem AllClean_map_locModule (sk : Skel) (n : Bool) {s : Spec} (h : AllClean s) :
    AllClean (s.map (locModule sk n)) :=
  forall_types_map_locModule (Q := fun _ d => d.topClean = true) sk n
    (fun _ _ _ _ hd => (topClean_locDesc ..).trans hd) h

/-- For a descriptor whose type resolves (from module `mn`) to ENUMERATED: `GoodEnum`, and the DEFAULT
is not a Python `bool`. -/
def PH (sk : Skel) (mn : String) (a : Attrs) : Prop :=
  (resolve sk a.core mn).type = "ENUMERATED" →
    (∀ vals, (resolve sk a.core mn).values = some vals → GoodEnum vals) ∧
    (∀ v b, a.default = some v → v ≠ .bool b)

theorem PH_tag (sk : Skel) (mn mt mn' : String) (k : Option Nat) {a : Attrs} (h : PH sk mn a) :
    PH sk mn (kindAttrs sk mt mn' (numAttrs k a)) := by
  simpa [PH] using h

theorem PH_conv (sk : Skel) (mn : String) (b : Bool) {a : Attrs} (h : PH sk mn a) :
    PH sk mn (convAttrs sk b mn a) := by
  intro he
  rw [convAttrs_core] at he
  obtain ⟨h1, h2⟩ := h he
  refine ⟨by rw [convAttrs_core]; exact h1, ?_⟩
  intro v c hv
  rw [convAttrs_default] at hv
  cases hd : a.default with
  | none => simp [hd] at hv
  | some v0 =>
    simp only [hd, Option.map_some, Option.some.injEq] at hv
    rw [← hv]
    exact convDefault_not_bool b _ v0 (fun _ c' => h2 v0 c' hd) he c

theorem PH_absorb (sk : Skel) (mn : String) (m n : Bool) {a : Attrs} (h : PH sk mn a) :
    Absorbs sk n mn m a := by
  refine Absorbs_of_value _ _ _ _ _ (fun v hv => ?_)
  exact convDefault_absorb m n _ v (fun he => (h he).1) (fun he c => (h he).2 v c hv)

/-- No COMPONENTS OF entry is left, and every descriptor satisfies `PH` read from its own module
(with the skeleton of the dictionary): the hypothesis under which a rewrite absorbs an earlier one
under another flag (`run_absorb`), kept by every rewrite (`HistOK_run`). -/
def HistOK (d : Spec) : Prop :=
  AllClean d ∧ ∀ mn m, (mn, m) ∈ d → ∀ k td, (k, td) ∈ m.types → td.All (PH (skel d) mn)

theorem skel_map_locModule (n : Bool) (s : Spec) (h : AllClean s) :
    skel (s.map (locModule (skel s) n)) = skel s := by
  rw [← run_of_clean n s h, skel_run]

theorem HistOK_run (b : Bool) {d : Spec} (h : HistOK d) : HistOK (run b d) := by
  obtain ⟨hc, hp⟩ := h
  rw [run_of_clean b d hc]
  refine ⟨AllClean_map_locModule _ _ hc, ?_⟩
  rw [skel_map_locModule b d hc]
  refine forall_types_map_locModule (Q := fun mn td => td.All (PH (skel d) mn)) (skel d) b ?_ hp
  intro mn mt ext td hd
  exact Desc.All.loc (P := PH (skel d) mn) (skel d) b mn mt ext (fun _ k => PH_tag (skel d) mn mt mn k)
    (fun _ => PH_conv (skel d) mn b) hd

theorem run_absorb (m n : Bool) {d : Spec} (h : HistOK d) : run n (run m d) = run n d := by
  obtain ⟨hc, hp⟩ := h
  rw [run_of_clean n d hc, run_of_clean m d hc,
    run_of_clean n _ (AllClean_map_locModule _ _ hc), skel_map_locModule m d hc, List.map_map]
  refine List.map_congr_left ?_
  intro p hp0
  exact locModule_locModule (P := PH (skel d) p.1) (skel d) m n p
    (fun _ k mt => PH_tag (skel d) p.1 mt p.1 k) (fun _ => PH_absorb (skel d) p.1 m n) (hp p.1 p.2 hp0)

theorem run_history_aux (n : Bool) (hist : List Bool) {d : Spec} (h : HistOK d) :
    run n (hist.foldl (fun d b => run b d) d) = run n d := by
  induction hist generalizing d with
  | nil => rfl
  | cons b t ih =>
    simp only [List.foldl_cons]
    rw [ih (HistOK_run b h), run_absorb b n h]

end Asn1.SpecDict
