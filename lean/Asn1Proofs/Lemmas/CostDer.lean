import Asn1Proofs.Lemmas.CostDer2
import Asn1Proofs.Lemmas.DerCodecInst
/-
  C08 for the DER model: allocation bound `CT dec t` and fuel independence `FI dec t` of `Der.dec`, type by
  type.  ("Fuel independence" here, "fuel sufficient" / "fuel irrelevant" in the names of C08: one property.)
  `CostDer1`, `CostDer2` are over an arbitrary `D : Decoder` with the facts about the components as hypotheses
  (`Members.All (CT D) ms`, …), not over `IsCodec D test`: the bound and the fuel equation of SEQUENCE and CHOICE
  need nothing of a codec but the two equations `IsCodec.seq`, `IsCodec.choice`, applied here in one `rw`
  (`ct_sequence` … `fi_choice`, for DER and BER).
-/
namespace Asn1.Cost
open Asn1.Der

theorem ct_boolean : CT dec .boolean := by
  intro tg f bs v k r h
  obtain ⟨o, h1, h⟩ := bind_ok h
  cases o with
  | none => cases h
  | some x =>
    dsimp only at h
    split at h
    · cases h
      exact cp_of_readPrim _ (Nat.le_refl 1) h1 (Nat.le_add_right 1 _)
    · cases h

theorem ct_null : CT dec .null := by
  intro tg f bs v k r h
  obtain ⟨o, h1, h⟩ := bind_ok h
  cases o with
  | none => cases h
  | some r0 =>
    obtain ⟨⟨len, hh, r1⟩, h2, h⟩ := bind_ok h
    cases h
    have a1 := matchTag_len h1
    obtain ⟨a2, a3, _, _⟩ := readLen_spec h2
    have := mkTag_pos 5 false tg
    refine ⟨by omega, by omega, ?_⟩
    show 1 ≤ 1 * _
    omega

theorem ct_integer (c : IntC) : CT dec (.integer c) := by
  intro tg f bs v k r h
  obtain ⟨o, h1, h⟩ := bind_ok h
  cases o with
  | none => cases h
  | some x =>
    cases h
    exact cp_of_readPrim _ (Nat.le_refl 1) h1 (Nat.le_add_right 1 _)

theorem enumOfContent_nodes {root : List (String × Int)} {ext : Option (List (String × Int))}
    {content : Bytes} {v : Val} (h : enumOfContent root ext content = .ok v) : v.nodes = 1 := by
  unfold enumOfContent at h
  split at h
  · cases h; rfl
  · split at h
    · cases h; rfl
    · cases h

theorem ct_enumerated (root : List (String × Int)) (ext : Option (List (String × Int))) :
    CT dec (.enumerated root ext) := by
  intro tg f bs v k r h
  obtain ⟨o, h1, h⟩ := bind_ok h
  cases o with
  | none => cases h
  | some x =>
    obtain ⟨v', h2, h⟩ := bind_ok h
    cases h
    exact cp_of_readPrim _ (Nat.le_refl 1) h1
      (by rw [enumOfContent_nodes h2]; exact Nat.le_add_right 1 _)

theorem ct_octetString (c : SizeC) : CT dec (.octetString c) := by
  intro tg f bs v k r h
  obtain ⟨o, h1, h⟩ := bind_ok h
  cases o with
  | none => cases h
  | some x =>
    cases h
    exact cp_of_readPrim _ (Nat.le_refl 1) h1 (Nat.le_refl _)

theorem ct_bitString (c : SizeC) : CT dec (.bitString c) := by
  intro tg f bs v k r h
  obtain ⟨o, h1, h⟩ := bind_ok h
  cases o with
  | none => cases h
  | some x =>
    obtain ⟨⟨body, n⟩, h2, h⟩ := bind_ok h
    cases h
    exact cp_of_readPrim _ (Nat.le_refl 1) h1
      (by have := bitsOfContent_len h2; show 1 + body.length ≤ _; omega)

theorem ct_charString (kind : StrKind) (c : SizeC) : CT dec (.charString kind c) := by
  intro tg f bs v k r h
  obtain ⟨o, h1, h⟩ := bind_ok h
  cases o with
  | none => cases h
  | some x =>
    obtain ⟨cps, h2, h⟩ := bind_ok h
    cases h
    exact cp_of_readPrim _ (Nat.le_refl 1) h1
      (Nat.add_le_add_left (decodeStr_len h2) 1)

/-- in the form `gSeqOf_cost`/`gSeqOf_fuel` take: the item loop `derElems` is `BerCodec.items` up to a known end -/
theorem der_dec_seqOf (e : Ty) (c : SizeC) (tg : Option Nat) (f : Nat) (bs : Bytes) :
    dec (.sequenceOf e c) tg f bs =
      matchTag (mkTag 16 true tg) bs >>= fun o => match o with
        | none => .ok none
        | some r0 => readLen true r0 >>= fun x =>
            BerCodec.items (dec e none f) f (some (x.1.getD 0)) x.2.2 >>= fun y =>
              .ok (some (.list y.1, (mkTag 16 true tg).length + x.2.1 + y.2.1, y.2.2)) := by
  rw [dec]
  simp only [derElems_eq]
  rfl

theorem ct_sequenceOf (e : Ty) (c : SizeC) (ih : CT dec e) : CT dec (.sequenceOf e c) :=
  gSeqOf_cost (te := fun len => some (len.getD 0)) (der_dec_seqOf e c) ih

section
variable {D : Decoder} {test : Ty → Nat → Bytes → Bool} (hD : IsCodec D test)
include hD

theorem ct_sequence (root : Members) (ext : Bool) (adds : Members) (hr : Members.All (CT D) root)
    (ha : Members.All (CT D) adds) : CT D (.sequence root ext adds) := by
  intro tg f bs v k r h
  rw [hD.seq] at h
  simp only [KD]
  exact gSeq_cost D root adds hr ha tg f bs v k r h

theorem ct_choice (root : Alts) (ext : Bool) (adds : Alts) (hr : Alts.All (CT D) root)
    (ha : Alts.All (CT D) adds) : CT D (.choice root ext adds) := by
  intro tg f bs v k r h
  rw [hD.choice] at h
  simp only [KD]
  exact gChoice_cost D test root ext adds hr ha tg f bs v k r h

theorem fi_sequence (hct : ∀ t, CT D t) (root : Members) (ext : Bool) (adds : Members)
    (hr : Members.All (FI D) root) (ha : Members.All (FI D) adds) : FI D (.sequence root ext adds) := by
  intro tg f f' bs h1 h2
  rw [hD.seq, hD.seq]
  exact gSeq_fuel D root adds (.of_forall hct root) (.of_forall hct adds) hr ha tg f f' bs h1 h2

theorem fi_choice (root : Alts) (ext : Bool) (adds : Alts) (hr : Alts.All (FI D) root)
    (ha : Alts.All (FI D) adds) : FI D (.choice root ext adds) := by
  intro tg f f' bs h1 h2
  rw [hD.choice, hD.choice]
  exact gChoice_fuel D test root ext adds hr ha tg f f' bs h1 h2

end

theorem ct_all (t : Ty) : CT dec t :=
  Ty.induct
    ct_boolean ct_null ct_integer ct_enumerated ct_octetString ct_bitString ct_charString
    (ct_sequence der_isCodec) ct_sequenceOf (ct_choice der_isCodec) t

theorem ct_alts (as : Alts) : Alts.All (CT dec) as := alts_all_of_forall ct_all as

theorem fi_sequenceOf (e : Ty) (c : SizeC) (ih : FI dec e) : FI dec (.sequenceOf e c) :=
  gSeqOf_fuel (te := fun len => some (len.getD 0)) (der_dec_seqOf e c) (ct_all e) ih

/-- the decoders of the seven leaf types do not mention the fuel: `rfl` -/
theorem fi_all (t : Ty) : FI dec t :=
  Ty.induct
    (fun _ _ _ _ _ _ => rfl) (fun _ _ _ _ _ _ => rfl) (fun _ _ _ _ _ _ _ => rfl)
    (fun _ _ _ _ _ _ _ _ => rfl) (fun _ _ _ _ _ _ _ => rfl) (fun _ _ _ _ _ _ _ => rfl)
    (fun _ _ _ _ _ _ _ _ => rfl)
    (fi_sequence der_isCodec ct_all) fi_sequenceOf (fi_choice der_isCodec) t

theorem der_dec_cost (t : Ty) (tg : Option Nat) (f : Nat) (bs : Bytes) (v : Val) (k : Nat) (r : Bytes)
    (h : Der.dec t tg f bs = .ok (some (v, k, r))) :
    r.length < bs.length ∧ 1 ≤ k ∧ v.nodes ≤ KD t * (bs.length - r.length) :=
  ct_all t tg f bs v k r h

theorem der_dec_fuel (t : Ty) (tg : Option Nat) (f f' : Nat) (bs : Bytes)
    (hf : bs.length < f) (hf' : bs.length < f') :
    Der.dec t tg f bs = Der.dec t tg f' bs :=
  fi_all t tg f f' bs hf hf'

theorem der_retry_fuel (ms : Members) (i f extra : Nat) (c : Cur) :
    retry (decPass ms i f) (ms.length + 1 + extra) (List.replicate ms.length none) c
      = retry (decPass ms i f) (ms.length + 1) (List.replicate ms.length none) c := by
  rw [der_decPass_fun]
  exact gPass_retry_fuel dec ms i f extra c

end Asn1.Cost

#print axioms Asn1.Cost.der_dec_cost
#print axioms Asn1.Cost.der_dec_fuel
#print axioms Asn1.Cost.der_retry_fuel
