import Asn1Proofs.Lemmas.BridgeFun
import Asn1Proofs.Lemmas.UperMisc
import Asn1Proofs.Lemmas.OerBits
/-
  The Python string / hexadecimal primitives used by the translated decoder classes (`int(s, 2)`, `s[i]`, `'0' * n`,
  `binascii.unhexlify(hex(x)[4:])`), and what `packBits` does on padding.
-/
namespace Asn1.Bridge
open Asn1 Asn1.Translated

theorem packBits_pad (bs : Bits) :
    packBits (bs ++ List.replicate ((8 - bs.length % 8) % 8) false) = packBits bs := by
  rw [← packBits_bytesToBits _ (packBits_lt bs), bytesToBits_packBits]
  rfl

theorem packBits_eq (bs : Bits) (k : Nat) (p : Nat) (hp : p = (8 - bs.length % 8) % 8) (hk : 8 * k = bs.length + p) :
    ofNats (packBits bs) = ofNats (natToBytesN k (bitsToNat (bs ++ List.replicate p false))) := by
  subst hp
  have hl : (bs ++ List.replicate ((8 - bs.length % 8) % 8) false).length = 8 * k := by
    simp only [List.length_append, List.length_replicate]; omega
  have h1 := packBits_bytesToBits _ (natToBytesN_lt k (bitsToNat (bs ++ List.replicate ((8 - bs.length % 8) % 8) false)))
  rw [bytesToBits_natToBytesN, ← hl, natToBits_bitsToNat, packBits_pad] at h1
  rw [h1]

/-- the two hexadecimal digits `hex` prints for each octet (for octets, i.e. below 256, this is `Asn1.Gser.nibbles` of the
GSER model, which reduces the high digit modulo 16) -/
def nibbles (bs : List Nat) : List Nat := bs.flatMap (fun b => [b / 16, b % 16])

theorem nibbles_append (a b : List Nat) : nibbles (a ++ b) = nibbles a ++ nibbles b := by
  simp [nibbles]

theorem nibbles_length (a : List Nat) : (nibbles a).length = 2 * a.length := by
  induction a with
  | nil => rfl
  | cons x r ih => simp [nibbles] at ih ⊢; omega

theorem pairUp_nibbles (bs : List Nat) : Py.pairUp (nibbles bs) = ofNats bs := by
  induction bs with
  | nil => rfl
  | cons b r ih =>
    show Py.pairUp (b / 16 :: b % 16 :: nibbles r) = _
    rw [Py.pairUp, ih, ofNats_cons]
    congr 1
    show ((16 * (b / 16) + b % 16 : Nat) : Int) = (b : Int)
    congr 1; omega

/-- `hex(0x80 << 8 k | x)` for `x` of at most `k` octets is `'80'` followed by exactly `2 k` digits, the nibbles of the `k`
octets of `x`: the sentinel octet keeps the leading zeros that `hex(x)` alone would drop. -/
theorem hexDigitsAux_sentinel (k : Nat) : ∀ (x fuel : Nat) (acc : List Nat), x < 256 ^ k → 2 * k + 2 ≤ fuel →
    Py.hexDigitsAux fuel (128 * 256 ^ k + x) acc = 8 :: 0 :: (nibbles (natToBytesN k x) ++ acc) := by
  induction k with
  | zero =>
    intro x fuel acc hx hf
    have : x = 0 := by simpa using hx
    subst this
    obtain ⟨f, rfl⟩ : ∃ f, fuel = f + 2 := ⟨fuel - 2, by omega⟩
    simp [Py.hexDigitsAux, natToBytesN, nibbles]
  | succ k ih =>
    intro x fuel acc hx hf
    obtain ⟨f, rfl⟩ : ∃ f, fuel = f + 2 := ⟨fuel - 2, by omega⟩
    have hpos : 0 < 256 ^ k := Nat.pow_pos (by omega)
    rw [Nat.pow_succ] at hx
    have hn : 128 * 256 ^ (k + 1) + x = (128 * 256 ^ k + x / 256) * 256 + x % 256 := by
      rw [Nat.pow_succ]; omega
    generalize hN : 128 * 256 ^ (k + 1) + x = N at hn
    have c1 : ¬ N < 16 := by omega
    have c2 : ¬ N / 16 < 16 := by omega
    have e1 : N / 16 / 16 = 128 * 256 ^ k + x / 256 := by omega
    have e2 : N / 16 % 16 = x % 256 / 16 := by omega
    have e3 : N % 16 = x % 256 % 16 := by omega
    rw [Py.hexDigitsAux, if_neg c1, Py.hexDigitsAux, if_neg c2, e1, e2, e3,
      ih (x / 256) f _ (by omega) (by omega), natToBytesN, nibbles_append]
    simp [nibbles]

theorem unhexAfter4_sentinel (k x : Nat) (hx : x < 256 ^ k) :
    Py.unhexAfter4 ((128 * 256 ^ k + x : Nat) : Int) = .ok (ofNats (natToBytesN k x)) := by
  unfold Py.unhexAfter4 Py.hexDigits
  have hk : k < 256 ^ k := Nat.lt_pow_self (by omega)
  rw [if_neg (by omega), Int.toNat_natCast, hexDigitsAux_sentinel k x _ [] hx (by omega)]
  simp only [List.drop_succ_cons, List.drop_zero, List.append_nil, nibbles_length, natToBytesN_length]
  rw [if_neg (by omega), pairUp_nibbles]

/-- `unhexlify(hex(x | (0x80 << 8 k))[4:])` -/
theorem unhex_sentinel_bor (k x : Nat) (hx : x < 2 ^ (8 * k)) :
    Py.unhexAfter4 (Py.bor (x : Int) ((128 : Int) * 2 ^ (8 * k))) = .ok (ofNats (natToBytesN k x)) := by
  rw [show (128 : Int) * 2 ^ (8 * k) = ((128 * 2 ^ (8 * k) : Nat) : Int) by rw [Int.natCast_mul, cast_two_pow]; rfl,
    Py.bor_natCast, Nat.or_comm, Py.mul_pow_or _ hx, ← pow256, unhexAfter4_sentinel k x (by rw [pow256]; exact hx)]

/-- the bit a character of `per.Decoder.value` stands for; the statements write `(· == '1')` out -/
def bitOfChar (c : Char) : Bool := c == '1'

theorem intOfBin_eq (s : List Char) (hne : s ≠ []) (hb : ∀ c ∈ s, c = '0' ∨ c = '1') :
    Py.intOfBin s = .ok ((bitsToNat (s.map (· == '1')) : Nat) : Int) := by
  unfold Py.intOfBin
  have h1 : s.isEmpty = false := by cases s <;> simp at hne ⊢
  have h2 : s.all (fun c => c == '0' || c == '1') = true := by
    rw [List.all_eq_true]
    intro c hc
    rcases hb c hc with rfl | rfl <;> rfl
  rw [h1, h2]
  simp only [Bool.false_eq_true, if_false, if_true]
  unfold bitsToNat
  rw [List.foldl_map]
  simp only [beq_iff_eq]
  rfl

theorem intOfDec_bit (c : Char) (hb : c = '0' ∨ c = '1') :
    Py.intOfDec [c] = .ok (if (c == '1') then 1 else 0) := by
  rcases hb with rfl | rfl <;> rfl

theorem strRepeat_zero (p : Nat) : Py.strRepeat ['0'] (p : Int) = List.replicate p '0' := by
  unfold Py.strRepeat
  rw [Int.toNat_natCast]
  induction p with
  | zero => rfl
  | succ p ih => rw [List.replicate_succ, List.flatten_cons, ih]; rfl

theorem strIdx_eq (xs : List Char) (a : Nat) (h : a < xs.length) :
    Py.strIdx xs (a : Int) = .ok [xs[a]] := by
  unfold Py.strIdx Py.getIdx?
  rw [if_pos (by omega), Int.toNat_natCast, List.getElem?_eq_getElem h]

end Asn1.Bridge
