import Asn1Proofs.Lemmas.X696Prim
/-
  C06 at the types without components: the code model `Oer.enc` against the specification `X696.enc`.
-/
namespace Asn1.X696

/-- The statement of C06 at `t`: for a well-typed value without deviation the code model computes the
specification (an equation, refusals included), and the two side conditions of the OER round trip hold -/
def REF (t : Ty) : Prop :=
  ∀ (v : Val), t.wf = true → hasType t v = true → devs t v = [] →
    Oer.enc t v = enc t v ∧ Oer.utf8Ok t v = true ∧ Oer.noSwallow t v = true

theorem ref_boolean : REF .boolean := by
  intro v _ ht _
  obtain ⟨b, rfl⟩ := hasType_boolean ht
  exact ⟨rfl, rfl, rfl⟩

theorem ref_null : REF .null := by
  intro v _ ht _
  cases hasType_null ht
  exact ⟨rfl, rfl, rfl⟩

theorem ite4_congr {α β : Type} {p1 p2 p3 p4 q1 q2 q3 q4 : Prop} [Decidable p1] [Decidable p2]
    [Decidable p3] [Decidable p4] [Decidable q1] [Decidable q2] [Decidable q3] [Decidable q4]
    (g : α → β) (a1 a2 a3 a4 z : α) (h1 : p1 ↔ q1) (h2 : p2 ↔ q2) (h3 : p3 ↔ q3) (h4 : p4 ↔ q4) :
    g (if q1 then a1 else if q2 then a2 else if q3 then a3 else if q4 then a4 else z) =
      if p1 then g a1 else if p2 then g a2 else if p3 then g a3 else if p4 then g a4 else g z := by
  simp only [h1, h2, h3, h4, apply_ite g]

/-- the form of the specification, read off the code model's width table and signedness -/
def formOf (fx : Option (Nat × Bool)) (signed : Bool) : IntForm :=
  match fx with
  | some (k, false) => .fixedUnsigned k
  | some (k, true) => .fixedSigned k
  | none => if signed then .varSigned else .varUnsigned

/-- the two width tables agree: the specification bounds the upper bound by `≤ 2^(8k) - 1`, the code
by `< 2^(8k)` -/
theorem intForm_eq (c : IntC) : intForm c = formOf (Oer.intFixed c) (Oer.intSigned c) := by
  obtain ⟨lo, hi, ext⟩ := c
  cases ext with
  | true => cases lo <;> rfl
  | false =>
    cases lo with
    | none => rfl
    | some lo =>
      unfold intForm visibleLo visibleHi Oer.intFixed Oer.intSigned
      rw [if_neg Bool.false_ne_true, if_neg Bool.false_ne_true, if_neg Bool.false_ne_true]
      dsimp only
      cases hi with
      | none =>
        dsimp only
        by_cases h0 : 0 ≤ lo
        · rw [if_pos h0, decide_eq_false (by omega)]; rfl
        · rw [if_neg h0, decide_eq_true (by omega)]; rfl
      | some hi =>
        dsimp only
        have hu {t : Int} : hi ≤ t ↔ hi < t + 1 := Int.lt_add_one_iff.symm
        by_cases h0 : 0 ≤ lo
        · rw [if_pos h0, if_pos h0, decide_eq_false (by omega)]
          symm
          refine ite4_congr (formOf · false) _ _ _ _ _ ?_ ?_ ?_ ?_ <;> exact hu
        · rw [if_neg h0, if_neg h0, decide_eq_true (by omega)]
          symm
          refine ite4_congr (formOf · true) _ _ _ _ _ ?_ ?_ ?_ ?_ <;> exact and_congr .rfl hu

theorem inVisibleRange_of {c : IntC} {i : Int} (ht : (c.ext || intInRange c i) = true) :
    inVisibleRange c i = true := by
  obtain ⟨lo, hi, ext⟩ := c
  cases ext with
  | true => rfl
  | false => exact ht

theorem encInteger_eq (c : IntC) (i : Int) (ht : (c.ext || intInRange c i) = true) :
    Oer.enc (.integer c) (.int i) = encInteger c i := by
  rw [Oer.enc]
  unfold encInteger
  rw [inVisibleRange_of ht, if_pos rfl, intForm_eq]
  cases hfx : Oer.intFixed c with
  | some ks =>
    obtain ⟨k, s⟩ := ks
    obtain ⟨lo, hi, rfl⟩ := Oer.intFixed_some hfx
    obtain ⟨hu, -⟩ := Oer.intFixed_least hfx
    have hr : (decide (lo ≤ i) && decide (i ≤ hi)) = true := ht
    dsimp only
    rw [if_pos hr]
    cases s with
    | true => rfl
    | false =>
      rw [Bool.and_eq_true, decide_eq_true_eq] at hr
      exact congrArg _ (intToBytesN_nonneg k i (Int.le_trans (hu rfl) hr.1))
  | none =>
    dsimp only
    cases hsg : Oer.intSigned c with
    | true => exact (varSigned_eq i).symm
    | false =>
      obtain ⟨lo, hlo, hext, h0⟩ := Oer.intSigned_false hsg
      simp only [hext, Bool.false_or, intInRange, hlo, Bool.and_eq_true, decide_eq_true_eq] at ht
      rw [if_neg Bool.false_ne_true, if_neg (by omega)]
      exact (varUnsigned_eq _).symm

theorem ref_integer (c : IntC) : REF (.integer c) := by
  intro v _ ht _
  obtain ⟨i, rfl, hin⟩ := hasType_integer ht
  exact ⟨encInteger_eq c i hin, rfl, rfl⟩

theorem ref_enumerated (root : List (String × Int)) (ext : Option (List (String × Int))) :
    REF (.enumerated root ext) := by
  intro v _ ht hdev
  obtain ⟨name, rfl, -⟩ := hasType_enumerated ht
  refine ⟨?_, rfl, rfl⟩
  rw [devs, itemValue_eq] at hdev
  rw [Oer.enc, enc, encEnumerated, itemValue_eq]
  cases hv : Oer.enumValue name (root ++ ext.getD []) with
  | none => rfl
  | some x =>
    rw [hv] at hdev
    dsimp only at hdev ⊢
    by_cases h : 0 ≤ x ∧ x ≤ 127
    · rw [if_pos h, if_pos h]
    · rw [if_neg h, if_neg h]
      by_cases hk : signedOctets x ≤ 127
      · have hs : signedOctets x = intByteLength x := rfl
        rw [if_pos hk, show Oer.encSigned x = Oer.lenPrefixed _ _ from rfl, Oer.lenPrefixed,
          Oer.lenDet_def, if_pos (by omega), Nat.add_comm]
        rfl
      · rw [if_neg (by simp [h, hk])] at hdev
        cases hdev

theorem sized_eq (c : SizeC) (body : Bytes) :
    (match visibleFixedSize c with
     | some _ => .ok body
     | none => match lengthDet body.length with
       | .ok l => .ok (l ++ body)
       | .error e => .error e) = Oer.sized c body := by
  unfold Oer.sized
  rw [visibleFixedSize_eq]
  cases Oer.fixedSize c with
  | some n => rfl
  | none => exact prefixed_eq _ _

theorem ref_octetString (c : SizeC) : REF (.octetString c) := by
  intro v _ ht _
  obtain ⟨data, rfl, -⟩ := hasType_octetString ht
  exact ⟨(sized_eq c data).symm, rfl, rfl⟩

theorem ref_bitString (c : SizeC) : REF (.bitString c) := by
  intro v _ ht _
  obtain ⟨data, n, rfl, -, hlen, -⟩ := hasType_bitString ht
  have hle : n ≤ 8 * data.length := by omega
  refine ⟨?_, rfl, rfl⟩
  rw [Oer.enc, enc, encBitString, visibleFixedSize_eq, if_neg (by omega), if_pos hle,
    show bitOctets data n = cleanBits data n from rfl]
  cases Oer.fixedSize c with
  | some k => rfl
  | none =>
    have hl := cleanBits_length data n hle
    dsimp only
    unfold encBitsVar
    rw [lengthDet_eq, Nat.add_comm 1, hl, ← padLength_eq, ← hl]
    cases Oer.lenDet ((cleanBits data n).length + 1) <;> rfl

theorem ref_charString (k : StrKind) (c : SizeC) : REF (.charString k c) := by
  intro v _ ht hdev
  obtain ⟨cps, rfl, hs⟩ := hasType_charString ht
  rw [devs] at hdev
  rw [Oer.enc_charString, enc, encCharString]
  rcases hs with ⟨rfl, _⟩ | ⟨hk, hal, _⟩
  · cases hf : visibleFixedSize c with
    | some n => rw [hf] at hdev; cases hdev
    | none =>
      -- without a fixed size `utf8Ok` asks nothing
      refine ⟨?_, by rw [Oer.utf8Ok, ← visibleFixedSize_eq, hf], rfl⟩
      have h := sized_eq c (cps.flatMap Uper.utf8Enc)
      rw [hf] at h
      exact h.symm
  · have hall := Oer.all_lt_of_alphabet k cps (List.all_eq_true.2 hal)
    refine ⟨?_, by cases k <;> first | rfl | exact absurd rfl hk, rfl⟩
    rw [Oer.encodeStr_not_utf8 hk, if_pos hall, ok_bind]
    have hm : ∃ m, multiplier k = some m := by
      cases k <;> first | exact ⟨_, rfl⟩ | exact absurd rfl hk
    obtain ⟨m, hm⟩ := hm
    rw [hm]
    dsimp only
    rw [if_pos hall]
    exact (sized_eq c cps).symm

end Asn1.X696
