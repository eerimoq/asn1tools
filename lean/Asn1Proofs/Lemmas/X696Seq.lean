import Asn1Proofs.Lemmas.X696Comp
/-
  C06, SEQUENCE: the specification's loops over the root components and over the extension additions
  as one step each, the preamble, and the code's loops against them.
-/
namespace Asn1.X696

/-- what the specification writes for one root component (the step of `encRoot`) -/
def rootHere (p : Presence) (t : Ty) (ov : Option Val) : EncM Bytes :=
  match ov with
  | some v =>
    (match p with
     | .default d => if isDefault t v d then .ok [] else enc t v
     | _ => enc t v)
  | none =>
    (match p with
     | .mandatory => .error .encodeError
     | _ => .ok [])

theorem encRoot_cons (name : String) (p : Presence) (t : Ty) (rest : Members) (fs : List (String × Val)) :
    encRoot (.cons name p t rest) fs =
      (match rootHere p t (lookup name fs), encRoot rest fs with
       | .ok a, .ok b => .ok (a ++ b)
       | .error e, _ => .error e
       | _, .error e => .error e) := by
  cases p <;> rfl

/-- the specification's slot of one extension addition (the step of `encSlots`); `later`: some later
addition is present (`anyPresent rest fs`), which makes an absent mandatory one an error -/
def slotHere (p : Presence) (t : Ty) (ov : Option Val) (later : Bool) : EncM (Option Bytes) :=
  match ov with
  | some v =>
    (match p with
     | .default d =>
       if isDefault t v d then .ok none
       else (match enc t v with | .ok e => .ok (some e) | .error e => .error e)
     | _ => (match enc t v with | .ok e => .ok (some e) | .error e => .error e))
  | none =>
    (match p with
     | .mandatory => if later then .error .encodeError else .ok none
     | _ => .ok none)

theorem encSlots_cons (name : String) (p : Presence) (t : Ty) (rest : Members) (fs : List (String × Val)) :
    encSlots (.cons name p t rest) fs =
      (match slotHere p t (lookup name fs) (anyPresent rest fs), encSlots rest fs with
       | .ok a, .ok b => .ok (a :: b)
       | .error e, _ => .error e
       | _, .error e => .error e) := by
  cases p <;> rfl

theorem preamble_eq (ms : Members) (fs : List (String × Val)) :
    Oer.encPreamble ms fs = .ok (rootPresence ms fs) := by
  induction ms using Members.ind with
  | nil => rfl
  | cons name p t rest ih =>
    rw [Oer.encPreamble_cons, ih]
    cases p with
    | default d => simp only [rootPresence]; cases lookup name fs <;> rfl
    | _ => rfl

theorem devsMembers_cons (name : String) (p : Presence) (t : Ty) (rest : Members) (fs : List (String × Val)) :
    devsMembers (.cons name p t rest) fs =
      (match lookup name fs with | some v => devs t v | none => []) ++ devsMembers rest fs := by
  rw [devsMembers]
  cases lookup name fs <;> rfl

theorem encRoot_eq (fs : List (String × Val)) (ms : Members) (ih : ms.All REF) (hwf : ms.wf = true)
    (hok : membersOk ms fs = true) (hdev : devsMembers ms fs = []) :
    Oer.encMembers ms fs false = encRoot ms fs ∧ Oer.utf8OkMembers ms fs = true ∧
      Oer.noSwallowMembers ms fs false = true := by
  induction ms using Members.ind with
  | nil => exact ⟨rfl, rfl, rfl⟩
  | cons name p t rest ihm =>
    simp only [Members.wf, Bool.and_eq_true] at hwf
    simp only [membersOk, Bool.and_eq_true] at hok
    rw [devsMembers_cons, List.append_eq_nil_iff] at hdev
    obtain ⟨r0, r1, r2⟩ := ihm ih.2 hwf.2 hok.2 hdev.2
    rw [Oer.encMembers_cons, encRoot_cons, r0]
    simp only [Oer.utf8OkMembers, Oer.noSwallowMembers, r1, r2, Bool.and_true]
    cases hl : lookup name fs with
    | none => exact ⟨by cases p <;> rfl, rfl, rfl⟩
    | some v =>
      obtain ⟨e, u1, u2⟩ := ih.1 v hwf.1 (by simpa [hl] using hok.1) (by simpa [hl] using hdev.1)
      refine ⟨?_, u1, by simp [u2]⟩
      have hh : Oer.encHere p t (some v) false = rootHere p t (some v) := by
        cases p with
        | default d =>
          simp only [Oer.encHere, rootHere, e, Bool.or_false]
          cases isDefault t v d <;> rfl
        | _ => exact e
      rw [hh]
      cases rootHere p t (some v) <;> cases encRoot rest fs <;> rfl

/-- for a well-typed record (`membersOk`: no mandatory addition is absent) an addition can only fail
by being present and not encodable; so where one fails, one is present -/
theorem anyPresent_of_fails (fs : List (String × Val)) (ms : Members) (hok : membersOk ms fs = true)
    (hf : additionFails ms fs = true) : anyPresent ms fs = true := by
  induction ms using Members.ind with
  | nil => simp [additionFails] at hf
  | cons name p t rest ih =>
    simp only [membersOk, Bool.and_eq_true] at hok
    simp only [additionFails, Bool.or_eq_true] at hf
    simp only [anyPresent, Bool.or_eq_true]
    rcases hf with hf | hf
    · left
      cases hl : lookup name fs with
      | some v => rfl
      | none =>
        exfalso
        rw [hl] at hf
        have := hok.1
        rw [hl] at this
        cases p <;> simp_all
    · right; exact ih hok.2 hf

theorem additionFails_false {fs : List (String × Val)} {ms : Members} (hok : membersOk ms fs = true)
    (hsw : (if additionFails ms fs && anyPresent ms fs then ["addition-error-swallowed"] else [])
      = []) : additionFails ms fs = false := by
  cases h : additionFails ms fs with
  | false => rfl
  | true => rw [h, anyPresent_of_fails fs ms hok h] at hsw; cases hsw

theorem slots_eq (fs : List (String × Val)) (ms : Members) (ih : ms.All REF) (hwf : ms.wf = true)
    (hok : membersOk ms fs = true) (hdev : devsMembers ms fs = [])
    (hdef : additionIsDefault ms fs = false) (hfail : additionFails ms fs = false) :
    (∃ slots, encSlots ms fs = .ok slots ∧
      Oer.encAdditions ms fs = (slots.map Option.isSome, slots.filterMap id, false) ∧
      slots.length = ms.length) ∧
    Oer.utf8OkMembers ms fs = true ∧ Oer.noSwallowMembers ms fs true = true := by
  induction ms using Members.ind with
  | nil => exact ⟨⟨[], rfl, rfl, rfl⟩, rfl, rfl⟩
  | cons name p t rest ihm =>
    simp only [Members.wf, Bool.and_eq_true] at hwf
    simp only [membersOk, Bool.and_eq_true] at hok
    rw [devsMembers_cons, List.append_eq_nil_iff] at hdev
    simp only [additionIsDefault, Bool.or_eq_false_iff] at hdef
    simp only [additionFails, Bool.or_eq_false_iff] at hfail
    obtain ⟨⟨slots, hs, ha, hlen⟩, r1, r2⟩ := ihm ih.2 hwf.2 hok.2 hdev.2 hdef.2 hfail.2
    rw [encSlots_cons, Oer.encAdditions_cons, hs, ha]
    simp only [Oer.utf8OkMembers, Oer.noSwallowMembers, r1, r2, Bool.and_true]
    cases hl : lookup name fs with
    | none =>
      have hm := hok.1
      rw [hl] at hm
      cases p with
      | mandatory => cases hm
      | _ => exact ⟨⟨none :: slots, rfl, by simp [Oer.addHere], by simp [Members.length, hlen]⟩, rfl, rfl⟩
    | some v =>
      obtain ⟨e, u1, u2⟩ := ih.1 v hwf.1 (by simpa [hl] using hok.1) (by simpa [hl] using hdev.1)
      have hf := hfail.1
      simp only [hl] at hf
      cases hbs : enc t v with
      | error er => rw [hbs] at hf; cases hf
      | ok bs =>
        have h1 : slotHere p t (some v) (anyPresent rest fs) = .ok (some bs) := by
          cases p with
          | default d =>
            have : isDefault t v d = false := by simpa [hl] using hdef.1
            simp [slotHere, hbs, this]
          | _ => simp [slotHere, hbs]
        have h2 : Oer.addHere p t (some v) = .ok bs := e.trans hbs
        exact ⟨⟨some bs :: slots, by rw [h1], by rw [h2]; simp, by simp [Members.length, hlen]⟩,
          u1, by simp [u2, e, hbs]⟩

end Asn1.X696
