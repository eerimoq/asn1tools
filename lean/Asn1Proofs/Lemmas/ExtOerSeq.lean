import Asn1Proofs.Lemmas.ExtOerComp
namespace Asn1.Ext.OerX
open Asn1 Asn1.Oer Asn1.Ext

theorem viewMembers_cons_absent {n : String} {fs : List (String × Val)} (h : lookup n fs = none)
    {n' : String} {p p' : Presence} {tD tE : Ty} {mD mE : Members} :
    viewMembers false (.cons n p tD mD) (.cons n' p' tE mE) fs false = viewMembers false mD mE fs false := by
  rw [viewMembers_cons_cons, h]
  cases p <;> rfl

/-- what the induction carries for root member lists: the decoder's members `mD` read the preamble
and the body the encoder wrote for `mE` back as `viewMembers`, and leave the rest of the input -/
def XTM (mD mE : Members) : Prop :=
  ∀ (fs : List (String × Val)),
    mE.wf = true → oerWfMembers mE = true → mE.defaultsOk = true → dOkMembers false mD mE →
    membersOk mE fs = true → utf8OkMembers mE fs = true → noSwallowMembers mE fs false = true →
    ∀ (pre : Bits) (body rest : Bytes),
      encPreamble mE fs = .ok pre → encMembers mE fs false = .ok body →
      pre.length = optionalCount mD ∧
      decMembers mD pre (body ++ rest) = .ok (viewMembers false mD mE fs true, rest)

theorem xtm_nil : XTM .nil .nil := by
  intro fs _ _ _ _ _ _ _ pre body rest hp hb
  simp only [encPreamble, encMembers] at hp hb
  cases hp; cases hb
  exact ⟨rfl, rfl⟩

theorem xtm_cons {tD tE : Ty} {mD mE : Members} (name : String) (p : Presence)
    (hc : Compat tD tE) (hxt : XT tD tE) (ih : XTM mD mE) :
    XTM (.cons name p tD mD) (.cons name p tE mE) := by
  intro fs hwf hwf2 hd hdk hok hu hns pre body rest hp hb
  simp only [Members.wf, oerWfMembers, Members.defaultsOk, membersOk, utf8OkMembers,
    noSwallowMembers, Bool.and_eq_true] at hwf hwf2 hd hok hu hns
  rw [dOkMembers_cons_cons] at hdk
  obtain ⟨r, hpr⟩ := encPreamble_ok fs mE
  rw [encPreamble_cons, hpr] at hp
  rw [encMembers_cons] at hb
  rw [optionalCount_cons, viewMembers_cons_cons]
  cases hh : encHere p tE (lookup name fs) false with
  | error e => rw [hh] at hb; cases hb
  | ok a =>
  cases hbr : encMembers mE fs false with
  | error e => rw [hh, hbr] at hb; cases hb
  | ok b =>
  rw [hh, hbr] at hb
  cases hb
  obtain ⟨hlen, hdec⟩ := ih fs hwf.2 hwf2.2 hd.2 hdk.2.2 hok.2 hu.2 hns.2 r b rest hpr hbr
  cases hl : lookup name fs with
  | some v =>
    simp only [hl] at hok hu hns hh hp ⊢
    have hrt' : ∀ a', enc tE v = .ok a' →
        dec tD (a' ++ (b ++ rest)) = .ok (view false tD tE v, b ++ rest) := fun a' ha =>
      hxt v a' (b ++ rest) hwf.1 hwf2.1 hd.1.2 hdk.2.1 hok.1 hu.1 (by simpa using hns.1) ha
    cases p with
    | mandatory =>
      cases hp
      rw [decMembers_mandatory]
      exact ⟨hlen, decHere_ok (hrt' a hh) hdec⟩
    | optional =>
      cases hp
      rw [Option.isSome_some, decMembers_optional_true]
      exact ⟨by simp [hlen], decHere_ok (hrt' a hh) hdec⟩
    | default d =>
      cases hp
      simp only [encHere, Bool.or_false] at hh
      cases hdef : isDefault tE v d with
      | true =>
        simp only [hdef, Bool.not_true, Bool.false_eq_true, if_false] at hh
        cases hh
        rw [Bool.not_true, decMembers_default_false, List.nil_append, hdec, ok_bind,
          view_of_isDefault false hc v d hdk.1 hdef]
        exact ⟨by simp [hlen], rfl⟩
      | false =>
        simp only [hdef, Bool.not_false, if_true] at hh
        rw [Bool.not_false, decMembers_default_true]
        exact ⟨by simp [hlen], decHere_ok (hrt' a hh) hdec⟩
  | none =>
    simp only [hl] at hok hh hp ⊢
    cases p with
    | mandatory => simp at hok
    | optional =>
      cases hh
      cases hp
      rw [Option.isSome_none, decMembers_optional_false]
      exact ⟨by simp [hlen], hdec⟩
    | default d =>
      cases hh
      cases hp
      rw [decMembers_default_false, List.nil_append, hdec, ok_bind]
      exact ⟨by simp [hlen], rfl⟩

/-- the same for extension additions: the decoder's additions `aD` read the presence bitmap and the
length-prefixed encodings written for `aE`, whichever list is longer.  First conjunct: without an
addition encoding the encoder writes no extension block, `decAdditions` does not run, and the decoder
must see no addition (`xt_sequence`). -/
def XTA (aD aE : Members) : Prop :=
  ∀ (fs : List (String × Val)),
    aE.wf = true → oerWfMembers aE = true → aE.defaultsOk = true → dOkMembers false aD aE →
    membersOk aE fs = true → utf8OkMembers aE fs = true → noSwallowMembers aE fs true = true →
    ((encAdditions aE fs).2.1 = [] → viewMembers false aD aE fs false = []) ∧
    ∀ (wrapped : List Bytes) (rest : Bytes),
      (encAdditions aE fs).2.1.mapM wrap = .ok wrapped →
      decAdditions aD (encAdditions aE fs).1 (wrapped.flatten ++ rest)
        = .ok (viewMembers false aD aE fs false, rest)

/-- `hok`, `hns`: the head conjuncts of `membersOk (.cons name p t rest) fs` and
`noSwallowMembers (.cons name p t rest) fs true` -/
theorem encAdditions_cons_cases {name : String} {p : Presence} {t : Ty} {rest : Members}
    {fs : List (String × Val)}
    (hok : (match lookup name fs with
            | some v => hasType t v
            | none => match p with | .mandatory => false | _ => true) = true)
    (hns : (match lookup name fs with
            | some v => noSwallow t v && (!true || (match enc t v with | .ok _ => true | .error _ => false))
            | none => true) = true) :
    (∃ v e, lookup name fs = some v ∧ enc t v = .ok e ∧
      encAdditions (.cons name p t rest) fs =
        (true :: (encAdditions rest fs).1, e :: (encAdditions rest fs).2.1, (encAdditions rest fs).2.2)) ∨
    (lookup name fs = none ∧
      encAdditions (.cons name p t rest) fs =
        (false :: (encAdditions rest fs).1, (encAdditions rest fs).2.1, (encAdditions rest fs).2.2)) := by
  rw [encAdditions_cons]
  cases hl : lookup name fs with
  | some v =>
    cases henc : enc t v with
    | error e => simp [hl, henc] at hns
    | ok e =>
      exact Or.inl ⟨v, e, rfl, henc, by simp only [addHere, henc, Option.isSome_some, or_true, if_true]⟩
  | none =>
    rw [hl] at hok
    refine Or.inr ⟨rfl, ?_⟩
    cases p <;> simp [addHere] at hok ⊢

theorem mapM_wrap_cons {e : Bytes} {es wrapped : List Bytes} (hw : (e :: es).mapM wrap = .ok wrapped) :
    ∃ l wr, lenDet e.length = .ok l ∧ es.mapM wrap = .ok wr ∧ wrapped = (l ++ e) :: wr := by
  rw [mapM_cons_bind] at hw
  obtain ⟨we, hwe, hw⟩ := bind_ok hw
  obtain ⟨wr, hwr, hw⟩ := bind_ok hw
  cases hw
  obtain ⟨l, hld, hwe⟩ := bind_ok hwe
  cases hwe
  exact ⟨l, wr, hld, hwr, rfl⟩

theorem skipUnknown_enc (fs : List (String × Val)) (ms : Members) :
    membersOk ms fs = true → noSwallowMembers ms fs true = true →
    ∀ (wrapped : List Bytes) (rest : Bytes),
      (encAdditions ms fs).2.1.mapM wrap = .ok wrapped →
      skipUnknown (encAdditions ms fs).1 (wrapped.flatten ++ rest) = .ok rest := by
  induction ms using Members.ind with
  | nil =>
    intro _ _ wrapped rest hw
    simp only [encAdditions] at hw ⊢
    rw [Uper.mapM_nil'] at hw
    cases hw
    rfl
  | cons name p t ms ih =>
    intro hok hns wrapped rest hw
    simp only [membersOk, noSwallowMembers, Bool.and_eq_true] at hok hns
    rcases encAdditions_cons_cases hok.1 hns.1 with ⟨v, e, _, _, hea⟩ | ⟨_, hea⟩
    · rw [hea] at hw ⊢
      obtain ⟨l, wr, hld, hwr, rfl⟩ := mapM_wrap_cons hw
      simp only [skipUnknown, if_true, bind, Except.bind, List.flatten_cons, List.append_assoc]
      rw [readLenDet_lenDet hld]
      simp only
      rw [readBytes_append e _ rfl]
      exact ih hok.2 hns.2 wr rest hwr
    · rw [hea] at hw ⊢
      simp only [skipUnknown, Bool.false_eq_true, if_false]
      exact ih hok.2 hns.2 wrapped rest hw

theorem xta_nilD (ms : Members) : XTA .nil ms := by
  intro fs _ _ _ _ hok _ hns
  refine ⟨fun _ => rfl, ?_⟩
  intro wrapped rest hw
  simp only [decAdditions, bind, Except.bind]
  rw [skipUnknown_enc fs ms hok hns wrapped rest hw]
  rfl

theorem xta_nilE (ms : Members) : XTA ms .nil := by
  intro fs _ _ _ _ _ _ _
  refine ⟨fun _ => viewMembers_nilE_false _ ms fs, ?_⟩
  intro wrapped rest hw
  simp only [encAdditions] at hw ⊢
  rw [Uper.mapM_nil'] at hw
  cases hw
  rw [viewMembers_nilE_false]
  cases ms with
  | nil => rfl
  | cons n p t r => rfl

theorem xta_cons {tD tE : Ty} {mD mE : Members} (name : String) (p : Presence)
    (hxt : XT tD tE) (ih : XTA mD mE) :
    XTA (.cons name p tD mD) (.cons name p tE mE) := by
  intro fs hwf hwf2 hd hdk hok hu hns
  simp only [Members.wf, oerWfMembers, Members.defaultsOk, membersOk, utf8OkMembers,
    noSwallowMembers, Bool.and_eq_true] at hwf hwf2 hd hok hu hns
  rw [dOkMembers_cons_cons] at hdk
  obtain ⟨ihe, ihd⟩ := ih fs hwf.2 hwf2.2 hd.2 hdk.2.2 hok.2 hu.2 hns.2
  rcases encAdditions_cons_cases hok.1 hns.1 with ⟨v, e, hl, henc, hea⟩ | ⟨hl, hea⟩
  · rw [hea, viewMembers_cons_cons]
    simp only [hl, Bool.and_eq_true] at hok hu hns ⊢
    refine ⟨(fun h => absurd h (List.cons_ne_nil _ _)), ?_⟩
    intro wrapped rest hw
    obtain ⟨l, wr, hld, hwr, rfl⟩ := mapM_wrap_cons hw
    rw [decAdditions_cons_true]
    simp only [bind, Except.bind, List.flatten_cons, List.append_assoc]
    rw [readLenDet_lenDet hld]
    simp only
    rw [hxt v e _ hwf.1 hwf2.1 hd.1.2 hdk.2.1 hok.1 hu.1 hns.1.1 henc]
    simp only
    rw [ihd wr rest hwr]
  · rw [hea, viewMembers_cons_absent hl]
    exact ⟨ihe, fun wrapped rest hw => by rw [decAdditions_cons_false]; exact ihd wrapped rest hw⟩

theorem encAdditions_length (fs : List (String × Val)) (ms : Members) :
    membersOk ms fs = true → noSwallowMembers ms fs true = true →
    (encAdditions ms fs).1.length = ms.length := by
  induction ms using Members.ind with
  | nil => intro _ _; rfl
  | cons name p t ms ih =>
    intro hok hns
    simp only [membersOk, noSwallowMembers, Bool.and_eq_true] at hok hns
    rcases encAdditions_cons_cases hok.1 hns.1 with ⟨_, _, _, _, hea⟩ | ⟨_, hea⟩ <;>
      rw [hea, List.length_cons, ih hok.2 hns.2, Members.length]

theorem xt_sequence {rD rE aD aE : Members} (x : Bool) (hr : XTM rD rE) (ha : XTA aD aE) :
    XT (.sequence rD x aD) (.sequence rE x aE) := by
  intro v bytes rest hwf hwf2 hd hdk ht hu hns he
  obtain ⟨fs, rfl, ht⟩ := hasType_sequence ht
  obtain ⟨hwr, hwa, hnd, hext, _⟩ := wf_sequence hwf
  simp only [oerWf, Ty.defaultsOk, utf8Ok, noSwallow, Bool.and_eq_true] at hwf2 hd hu hns
  simp only [dOk] at hdk
  obtain ⟨hokr, hoka⟩ := membersOk_of_hasType rE aE x fs hnd ht
  simp only [view]
  rw [enc_sequence] at he
  obtain ⟨pre, hpre, he1⟩ := bind_ok he
  obtain ⟨body, hbody, he2⟩ := bind_ok he1
  clear he he1
  -- the root members are read back in front of any `tail`: the rest of the input, or the extension block
  have hm := fun tail => hr fs hwr hwf2.1 hd.1 hdk.1 hokr hu.1 hns.1 pre body tail hpre hbody
  have hlen := (hm []).1
  obtain ⟨hae, had⟩ := ha fs hwa hwf2.2 hd.2 hdk.2 hoka hu.2 hns.2
  have hal := encAdditions_length fs aE hoka hns.2
  by_cases hx : (x && !(encAdditions aE fs).2.1.isEmpty) = true
  · rw [if_pos hx] at he2
    rw [Bool.and_eq_true] at hx
    cases hx.1
    obtain ⟨l, hl, he3⟩ := bind_ok he2
    obtain ⟨wrapped, hw, he4⟩ := bind_ok he3
    cases he4
    have hd2 := decExtBlock_ok aD (viewMembers false rD rE fs true) _ _ l _ wrapped.flatten rest hl hal
      (had wrapped rest hw)
    have hd3 := dec_sequence_ok rD true aD pre true body _ _ hlen
      (hm (l ++ ([(8 - aE.length % 8) % 8] ++
        (packBits (encAdditions aE fs).1 ++ (wrapped.flatten ++ rest))))).2
    rw [hal, Nat.sub_self, List.replicate_zero, List.nil_append]
    simp only [List.append_assoc]
    exact hd3.trans hd2
  · rw [if_neg hx] at he2
    cases he2
    have hnone : viewMembers false aD aE fs false = [] := by
      cases x with
      | true => exact hae (by simpa using hx)
      | false =>
        cases Members.eq_nil_of_length (hext.resolve_left Bool.false_ne_true)
        exact viewMembers_nilE_false _ aD fs
    have := dec_sequence_ok rD x aD pre false body rest _ hlen (hm rest).2
    rw [Bool.and_false] at this
    rw [List.append_assoc, this, hnone, List.append_nil]
    rfl

end Asn1.Ext.OerX
