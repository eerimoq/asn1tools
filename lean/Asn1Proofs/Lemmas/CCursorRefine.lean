import Asn1Proofs.Lemmas.CCursorBits
/-
  C09 memory safety, encoder side: under the invariant `Enc.Inv` and the argument preconditions every encoder
  helper of the checked model returns `.ok`, that is, performs no out-of-bounds access, no undefined shift, no
  signed overflow.  Each helper has one equation, valid in every cursor state: the struct after it is
  `Enc.put e n B` with the unchecked pure function of `CCursorPureDefs.lean` as the buffer `B`, and a sequence of
  helper calls ends in `e.put` of the sum of the bits asked for.
-/
namespace Asn1.CCursor

/-- a value below 2^24 shifted by at most 7 stays below 2^31: no signed overflow in `int` -/
theorem shl_bound {v s : Nat} (hv : v < 16777216) (hs : s ≤ 7) : v <<< s < 2147483648 := by
  rw [Nat.shiftLeft_eq]
  have : 2 ^ s ≤ 2 ^ 7 := Nat.pow_le_pow_right (by decide) hs
  calc v * 2 ^ s ≤ v * 2 ^ 7 := Nat.mul_le_mul_left _ this
    _ < 2147483648 := by omega

theorem memcpy_ok (src : Mem) : ∀ n dst dOff sOff, sOff + n ≤ src.size → dOff + n ≤ dst.size →
    memcpy src n dst dOff sOff = .ok (pureMemcpy src n dst dOff sOff) := by
  intro n
  induction n with
  | zero => intros; rfl
  | succ n ih =>
    intro dst dOff sOff hs hd
    unfold memcpy pureMemcpy
    rw [Mem.load_ok (by omega), ok_bind, Mem.store_ok (by omega), ok_bind,
      ih _ _ _ (by omega) (by rw [Mem.size_set!]; omega)]

theorem Enc.inv_step {e : Enc} (hi : e.Inv) {buf' : Mem} (hb : buf'.size = e.buf.size) {p' : Int}
    (h0 : 0 ≤ p') (h1 : p' ≤ e.size) : ({ e with buf := buf', pos := p' } : Enc).Inv := by
  obtain ⟨hbs, hl | hl⟩ := hi
  · exact ⟨by simpa [hb] using hbs, Or.inl ⟨h0, h1, by simpa [hb] using hl.2.2⟩⟩
  · omega

/-- the cursor is live and there is room for `n` more bits -/
def Enc.fits (e : Enc) (n : Nat) : Prop := 0 ≤ e.size ∧ e.pos + (n : Int) ≤ e.size

instance (e : Enc) (n : Nat) : Decidable (e.fits n) := by unfold Enc.fits; infer_instance

/-- the struct after a helper that asks `encoder_alloc` for `n` bits and leaves `B` in the buffer: untouched if an
error is latched, advanced if there is room, else `-ENOMEM` (= -12) is latched -/
def Enc.put (e : Enc) (n : Nat) (B : Mem) : Enc :=
  if e.size < 0 then e
  else if e.pos + (n : Int) ≤ e.size then { e with buf := B, pos := e.pos + (n : Int) }
  else ({ e with buf := B } : Enc).latch 12

/-- what an all-or-nothing helper leaves in the buffer -/
def Enc.sel (e : Enc) (n : Nat) (B : Mem) : Mem := if e.fits n then B else e.buf

theorem Enc.put_fits {e : Enc} {n : Nat} (h : e.fits n) (B : Mem) :
    e.put n B = { e with buf := B, pos := e.pos + (n : Int) } := by
  rw [Enc.put, if_neg (by have := h.1; omega), if_pos h.2]

theorem Enc.put_latched {e : Enc} (h : e.size < 0) (n : Nat) (B : Mem) : e.put n B = e := if_pos h

theorem Enc.put_short {e : Enc} {n : Nat} (h0 : 0 ≤ e.size) (h : e.size < e.pos + (n : Int)) (B : Mem) :
    e.put n B = ({ e with buf := B } : Enc).latch 12 := by
  rw [Enc.put, if_neg (by omega), if_neg (by omega)]

theorem Enc.put_inv {e : Enc} (hi : e.Inv) (n : Nat) {B : Mem} (hB : B.size = e.buf.size) :
    (e.put n B).Inv ∧ (e.put n B).buf.size = e.buf.size := by
  unfold Enc.put
  split
  · exact ⟨hi, rfl⟩
  · split
    · exact ⟨Enc.inv_step hi hB (by obtain ⟨_, h | h⟩ := hi <;> omega) (by assumption), hB⟩
    · exact ⟨Enc.latch_inv (e := { e with buf := B }) (hB ▸ hi.1) (by decide) (by decide), hB⟩

theorem Enc.put_zero {e : Enc} (hi : e.Inv) : e.put 0 e.buf = e := by
  by_cases hl : e.size < 0
  · exact Enc.put_latched hl 0 _
  · rw [Enc.put_fits ⟨by omega, by obtain ⟨_, h | h⟩ := hi <;> omega⟩]; simp

/-- two helper calls in a row ask for `a + b` bits; the second buffer is what is left unless the first call failed -/
theorem Enc.put_put (e : Enc) (a b : Nat) (B B' : Mem) :
    (e.put a B).put b B' = e.put (a + b) (if e.fits a then B' else B) := by
  by_cases hl : e.size < 0
  · rw [Enc.put_latched hl, Enc.put_latched hl, Enc.put_latched hl]
  · by_cases ha : e.pos + (a : Int) ≤ e.size
    · rw [Enc.put_fits (n := a) ⟨by omega, ha⟩, if_pos ⟨by omega, ha⟩]
      unfold Enc.put
      simp only [if_neg hl, Enc.latch, Int.natCast_add, Int.add_assoc]
    · rw [Enc.put_short (e := e) (n := a) (by omega) (by omega), Enc.put_latched (by simp [Enc.latch]),
        Enc.put_short (by omega) (by omega), if_neg (fun h => ha h.2)]

theorem Enc.fits_add {e : Enc} {a b : Nat} (h : e.fits (a + b)) (B : Mem) : e.fits a ∧ (e.put a B).fits b := by
  have ha : e.fits a := ⟨h.1, by have := h.2; omega⟩
  rw [Enc.put_fits ha]
  exact ⟨ha, h.1, by have := h.2; simp only []; omega⟩

theorem Enc.sel_fits {e : Enc} {n : Nat} (h : e.fits n) (B : Mem) : e.sel n B = B := if_pos h

theorem Enc.sel_size (e : Enc) (n : Nat) {B : Mem} (hB : B.size = e.buf.size) : (e.sel n B).size = e.buf.size := by
  unfold Enc.sel; split
  · exact hB
  · rfl

/-- `encoder_alloc` in every cursor state, for a request below 2^62 bits (so that `pos + request` stays in `ssize_t`) -/
theorem Enc.alloc_eq {e : Enc} (hi : e.Inv) {n : UInt64} {k : Nat} (hk : n.toNat = k)
    (hn : k < 4611686018427387904) :
    ∃ p, e.alloc n = .ok (p, e.put k e.buf) ∧ (e.fits k → p = e.pos) ∧ (¬ e.fits k → p < 0) := by
  subst hk
  obtain ⟨hb, hi⟩ := hi
  unfold Enc.alloc Enc.put Enc.fits
  rw [toSsize_small (by omega), ssz_ok (by omega) (by omega), ok_bind]
  by_cases hfit : e.pos + (n.toNat : Int) ≤ e.size
  · refine ⟨e.pos, ?_, fun _ => rfl, fun _ => by omega⟩
    rw [if_pos hfit]
    show Except.ok (e.pos, ({ e with pos := e.pos + (n.toNat : Int) } : Enc)) = _
    by_cases h0 : e.size < 0
    · have : e.pos + (n.toNat : Int) = e.pos := by omega
      rw [if_pos h0, this]
    · rw [if_neg h0, if_pos hfit]
  · refine ⟨-12, ?_, fun _ => by omega, fun _ => by omega⟩
    rw [if_neg hfit]
    simp only [ENOMEM]
    rw [ssz_ok (by omega) (by omega), ok_bind]
    by_cases h0 : e.size < 0
    · rw [Enc.abort_latched h0, if_pos h0, ok_bind]
    · rw [Enc.abort_live (by omega) (by omega) (by omega), if_neg h0, if_neg hfit, ok_bind]

theorem Enc.appendBit_eq {e : Enc} (hi : e.Inv) {v : Int} (hv0 : 0 ≤ v) (hv : v < 16777216) :
    e.appendBit v = .ok (e.put 1 (e.sel 1 (writeBit e.buf e.pos.toNat v.toNat))) := by
  obtain ⟨p, ha, hp⟩ := Enc.alloc_eq (n := 1) (k := 1) hi rfl (by decide)
  unfold Enc.appendBit Enc.sel
  rw [ha, ok_bind]
  by_cases hfit : e.fits 1
  · obtain ⟨hb, hl | hl⟩ := id hi
    · have := hfit.2
      obtain ⟨hd0, hdn, hsn, hal⟩ := bit_index hl.1
      simp only [hp.1 hfit, if_pos hfit, Enc.put_fits hfit]
      rw [if_neg (by omega), Int.tmod_eq_emod_of_nonneg (by omega), Int.tdiv_eq_ediv_of_nonneg (by omega)]
      have hb1 : (if e.pos % 8 = 0 then e.buf.storeI (e.pos / 8) 0 else .ok e.buf)
          = .ok (if e.pos.toNat % 8 = 0 then e.buf.set! (e.pos.toNat / 8) 0 else e.buf) := by
        by_cases hz : e.pos % 8 = 0
        · rw [if_pos hz, if_pos (hal.1 hz), Mem.storeI_ok hd0 (by omega), hdn]
        · rw [if_neg hz, if_neg (mt hal.2 hz)]
      have hs1 : (if e.pos.toNat % 8 = 0 then e.buf.set! (e.pos.toNat / 8) 0 else e.buf).size = e.buf.size := by
        split <;> simp
      have hsh : shlInt v (7 - e.pos % 8) = .ok (v.toNat <<< (7 - e.pos.toNat % 8)) := by
        unfold shlInt
        rw [if_neg (by omega), hsn, shlS32_ok (by omega) (shl_bound (by omega) (by omega))]
      rw [hb1, ok_bind, ssz_ok (by omega) (by omega), ok_bind, hsh, ok_bind,
        Mem.loadI_ok hd0 (by omega), ok_bind, Mem.storeI_ok hd0 (by omega), hdn]
      rfl
    · have := hfit.1; omega
  · rw [if_neg hfit]
    exact if_pos (hp.2 hfit)

/-- the four index computations of one iteration of the unaligned byte loops do not wrap in `uint64_t` -/
theorem loop_index {bytePos i pib : UInt64} (h : bytePos.toNat + i.toNat + 1 < 18446744073709551616)
    (hp8 : pib.toNat < 8) :
    (bytePos + i).toNat = bytePos.toNat + i.toNat ∧ (bytePos + i + 1).toNat = bytePos.toNat + i.toNat + 1
      ∧ (i + 1).toNat = i.toNat + 1 ∧ (8 - pib).toNat = 8 - pib.toNat := by
  have e1 : (bytePos + i).toNat = bytePos.toNat + i.toNat := by
    rw [UInt64.toNat_add]; omega
  refine ⟨e1, ?_, ?_, ?_⟩
  · rw [UInt64.toNat_add, e1, UInt64.toNat_one]; omega
  · rw [UInt64.toNat_add, UInt64.toNat_one]; omega
  · rw [UInt64.toNat_sub, show (8 : UInt64).toNat = 8 from rfl]; omega

theorem Enc.appendBytesLoop_ok (src : Mem) (bytePos pib : UInt64)
    (hp0 : 0 < pib.toNat) (hp8 : pib.toNat < 8) :
    ∀ n (i : UInt64) (buf : Mem), i.toNat + n ≤ src.size →
      bytePos.toNat + i.toNat + n + 1 ≤ buf.size → buf.size < 576460752303423488 →
      Enc.appendBytesLoop src bytePos pib n i buf
        = .ok (pureAppendBytesLoop src bytePos.toNat pib.toNat n i.toNat buf) := by
  intro n
  induction n with
  | zero => intros; rfl
  | succ n ih =>
    intro i buf hs hb hsz
    obtain ⟨e1, e2, e3, e4⟩ := loop_index (bytePos := bytePos) (i := i) (pib := pib) (by omega) hp8
    have hsl : src[i.toNat]!.toNat < 256 := UInt8.toNat_lt _
    unfold Enc.appendBytesLoop pureAppendBytesLoop
    rw [e1, e2, e4, Mem.load_ok (by omega), ok_bind, Mem.load_ok (by omega), ok_bind,
      shrS32_ok (by omega), ok_bind, Mem.store_ok (by omega), ok_bind, ok_bind,
      shlS32_ok (by omega) (shl_bound (by omega) (by omega)), ok_bind,
      Mem.store_ok (by rw [Mem.size_set!]; omega), ok_bind,
      ih _ _ (by omega) (by simp only [Mem.size_set!]; omega) (by simp only [Mem.size_set!]; exact hsz), e3]

theorem eight_mul_toNat {n : UInt64} (hn : n.toNat < 576460752303423488) :
    ((8 * n).toNat : Int) = 8 * (n.toNat : Int) := by
  rw [UInt64.toNat_mul, show (8 : UInt64).toNat = 8 from rfl]; omega

theorem toSize_div_mod {p : Int} (h0 : 0 ≤ p) (h1 : p < 18446744073709551616) :
    (toSize p / 8).toNat = p.toNat / 8 ∧ (toSize p % 8).toNat = p.toNat % 8
      ∧ (toSize p % 8 = 0 ↔ p.toNat % 8 = 0) := by
  have hts := toSize_nonneg h0 h1
  have c8 : (8 : UInt64).toNat = 8 := rfl
  have hpib : (toSize p % 8).toNat = p.toNat % 8 := by rw [UInt64.toNat_mod, hts, c8]
  refine ⟨by rw [UInt64.toNat_div, hts, c8], hpib, fun h => by rw [← hpib, h]; rfl,
    fun h => UInt64.toNat_inj.1 (by rw [hpib, h]; rfl)⟩

theorem Enc.appendBytes_eq {e : Enc} (hi : e.Inv) {src : Mem} {n : UInt64}
    (hn : n.toNat < 576460752303423488) (hsrc : n.toNat ≤ src.size) :
    e.appendBytes src n
      = .ok (e.put (8 * n.toNat) (e.sel (8 * n.toNat) (writeBytes e.buf e.pos.toNat src n.toNat))) := by
  obtain ⟨p, ha, hp⟩ := Enc.alloc_eq (n := 8 * n) (k := 8 * n.toNat) hi
    (by have := eight_mul_toNat hn; omega) (by omega)
  unfold Enc.appendBytes Enc.sel
  rw [ha, ok_bind]
  by_cases hfit : e.fits (8 * n.toNat)
  · obtain ⟨hb, hl | hl⟩ := id hi
    · obtain ⟨hbp, hpib, hal⟩ := toSize_div_mod (p := e.pos) (by omega) (by omega)
      have := hfit.2
      unfold writeBytes
      simp only [hp.1 hfit, if_pos hfit, Enc.put_fits hfit]
      rw [if_neg (by omega)]
      by_cases hz : toSize e.pos % 8 = 0
      · rw [if_pos hz, if_pos (hal.1 hz), hbp, Mem.ptr_ok (by omega), ok_bind,
          memcpy_ok _ _ _ _ _ (by omega) (by omega), ok_bind]
      · have hz' := mt hal.2 hz
        rw [if_neg hz, if_neg hz',
          Enc.appendBytesLoop_ok src _ _ (by omega) (by omega) _ _ _ (by simp; omega) (by rw [hbp]; simp; omega) hb,
          ok_bind, hbp, hpib]
        rfl
    · have := hfit.1; omega
  · rw [if_neg hfit]
    exact if_pos (hp.2 hfit)

theorem Enc.appendU16_eq (e : Enc) (v : UInt16) : e.appendU16 v = e.appendBytes (bytesU16 v) 2 := by
  unfold Enc.appendU16
  rw [shrS32_ok (by omega)]
  rfl

theorem Enc.appendU32_eq (e : Enc) (v : UInt32) : e.appendU32 v = e.appendBytes (bytesU32 v) 4 := by
  unfold Enc.appendU32
  rw [shrU32_ok (by omega), shrU32_ok (by omega), shrU32_ok (by omega)]
  rfl

theorem Enc.appendU64_eq (e : Enc) (v : UInt64) : e.appendU64 v = e.appendBytes (bytesU64 v) 8 := by
  unfold Enc.appendU64
  rw [shrU64_ok (by omega), shrU64_ok (by omega), shrU64_ok (by omega), shrU64_ok (by omega),
    shrU64_ok (by omega), shrU64_ok (by omega), shrU64_ok (by omega)]
  rfl

/-- the bytes a fixed width helper hands to `encoder_append_bytes`; the signed helpers add the offset
`2^(N-1)` first -/
def EncOp.asBytes : EncOp → Option Mem
  | .u8 v => some #[v]
  | .u16 v => some (bytesU16 v)
  | .u32 v => some (bytesU32 v)
  | .u64 v => some (bytesU64 v)
  | .i8 v => some #[UInt8.ofNat (v.toUInt8.toNat + 128)]
  | .i16 v => some (bytesU16 (UInt16.ofNat (v.toUInt16.toNat + 32768)))
  | .i32 v => some (bytesU32 (UInt32.ofNat (v.toUInt32.toNat + 2147483648)))
  | .i64 v => some (bytesU64 (v.toUInt64 + 9223372036854775808))
  | _ => none

/-- the bits `op` appends -/
def EncOp.need : EncOp → Nat
  | .bit _ => 1
  | .bool _ => 1
  | .bytes _ n => 8 * n.toNat
  | .u8 _ => 8 | .u16 _ => 16 | .u32 _ => 32 | .u64 _ => 64
  | .i8 _ => 8 | .i16 _ => 16 | .i32 _ => 32 | .i64 _ => 64
  | .nnbi _ n => n.toNat
  | .abort _ => 0

theorem Enc.run_asBytes (e : Enc) {op : EncOp} {src : Mem} (h : op.asBytes = some src) :
    ∃ n : UInt64, n.toNat = src.size ∧ n.toNat < 9 ∧ op.need = 8 * n.toNat ∧ e.run op = e.appendBytes src n := by
  cases op with
  | u8 v => cases h; exact ⟨1, rfl, by decide, rfl, rfl⟩
  | u16 v => cases h; exact ⟨2, rfl, by decide, rfl, e.appendU16_eq _⟩
  | u32 v => cases h; exact ⟨4, rfl, by decide, rfl, e.appendU32_eq _⟩
  | u64 v => cases h; exact ⟨8, rfl, by decide, rfl, e.appendU64_eq _⟩
  | i8 v => cases h; exact ⟨1, rfl, by decide, rfl, rfl⟩
  | i16 v => cases h; exact ⟨2, rfl, by decide, rfl, e.appendU16_eq _⟩
  | i32 v => cases h; exact ⟨4, rfl, by decide, rfl, e.appendU32_eq _⟩
  | i64 v => cases h; exact ⟨8, rfl, by decide, rfl, e.appendU64_eq _⟩
  | _ => cases h

/-- Argument preconditions of the encoder helpers (what generated code must guarantee): a bit value
that can be shifted in `int` (below 2^24, see `shl_bound`), a source object at least as large as the claimed
size (< 2^59), at most 64 bits for `append_non_negative_binary_integer`, a positive error code of at most 2^62
(so that the latched cursor keeps `Enc.Inv`). -/
def EncOp.Pre : EncOp → Prop
  | .bit v => 0 ≤ v ∧ v < 16777216
  | .bytes src n => n.toNat ≤ src.size ∧ n.toNat < 576460752303423488
  | .nnbi _ n => n.toNat ≤ 64
  | .abort err => 0 < err ∧ err ≤ 4611686018427387904
  | _ => True

/-- the three cases of `Enc.put` with the buffer forgotten (`Enc.StepSpec.of_put`): the form in which
`C09.enc_runAll_spec` states what a sequence of helper calls does to the cursor -/
def Enc.StepSpec (e : Enc) (need : Nat) (r : C Enc) : Prop :=
  (e.size < 0 → r = .ok e) ∧
  (0 ≤ e.size → e.pos + (need : Int) ≤ e.size →
    ∃ buf', buf'.size = e.buf.size ∧ r = .ok { e with buf := buf', pos := e.pos + (need : Int) }) ∧
  (0 ≤ e.size → e.size < e.pos + (need : Int) →
    ∃ buf', buf'.size = e.buf.size ∧ r = .ok (({ e with buf := buf' } : Enc).latch 12))

theorem Enc.StepSpec.of_put (e : Enc) (n : Nat) {B : Mem} (hB : B.size = e.buf.size) :
    e.StepSpec n (.ok (e.put n B)) := by
  unfold Enc.put
  refine ⟨fun hl => by rw [if_pos hl], fun h0 h => ⟨B, hB, by rw [if_neg (by omega), if_pos h]⟩,
    fun h0 h => ⟨B, hB, by rw [if_neg (by omega), if_neg (by omega)]⟩⟩

theorem Enc.nnbiLoop_succ (value size : UInt64) (hsz : size.toNat ≤ 64) {n : Nat} {i : UInt64}
    (hin : i.toNat + (n + 1) = size.toNat) (e : Enc) :
    ∃ x : UInt64, x.toNat ≤ 1 ∧ x = value >>> UInt64.ofNat (size.toNat - i.toNat - 1) &&& 1
      ∧ (i + 1).toNat = i.toNat + 1
      ∧ Enc.nnbiLoop value size (n + 1) i e
          = (e.appendBit (Int.ofNat x.toNat) >>= Enc.nnbiLoop value size n (i + 1)) := by
  have e3 : (i + 1).toNat = i.toNat + 1 := by
    rw [UInt64.toNat_add, UInt64.toNat_one]; omega
  have e5 : (size - i - 1).toNat = size.toNat - i.toNat - 1 := by
    have a : (size - i).toNat = size.toNat - i.toNat := by
      rw [UInt64.toNat_sub]; omega
    rw [UInt64.toNat_sub, a, UInt64.toNat_one]; omega
  refine ⟨_, ?_, rfl, e3, ?_⟩
  · rw [UInt64.toNat_and, UInt64.toNat_one]; exact Nat.and_le_right
  · rw [Enc.nnbiLoop, e5, shrU64_ok (by omega), ok_bind]

/-- the loop of `encoder_append_non_negative_binary_integer` is `n` calls of `encoder_append_bit`; when it runs
out of room the bits that fitted stay written, hence the buffer is known only if all of them fit -/
theorem Enc.nnbiLoop_eq (value size : UInt64) (hsz : size.toNat ≤ 64) :
    ∀ n (i : UInt64) (e : Enc), e.Inv → i.toNat + n = size.toNat →
      ∃ B, B.size = e.buf.size ∧ Enc.nnbiLoop value size n i e = .ok (e.put n B) ∧
        (e.fits n → B = writeNnbi value size.toNat n i.toNat e.buf e.pos.toNat) := by
  intro n
  induction n with
  | zero => intro i e hi _; exact ⟨e.buf, rfl, by rw [Enc.put_zero hi]; rfl, fun _ => rfl⟩
  | succ n ih =>
    intro i e hi hin
    obtain ⟨x, hx1, hbv, e3, hstep⟩ := Enc.nnbiLoop_succ value size hsz hin e
    have hB1 := e.sel_size 1 (writeBit_size e.buf e.pos.toNat (Int.ofNat x.toNat).toNat)
    obtain ⟨B2, hB2, hr, hw⟩ := ih (i + 1) _ (Enc.put_inv hi 1 hB1).1 (by omega)
    refine ⟨_, ?_, by rw [hstep, Enc.appendBit_eq hi (by simp) (by simp; omega), ok_bind, hr, Enc.put_put,
      Nat.add_comm], fun hf => ?_⟩
    · split
      · exact hB2.trans (Enc.put_inv hi 1 hB1).2
      · exact hB1
    · obtain ⟨h1, hn⟩ := Enc.fits_add (a := 1) (b := n) (by rw [Nat.add_comm]; exact hf)
        (e.sel 1 (writeBit e.buf e.pos.toNat (Int.ofNat x.toNat).toNat))
      have hp0 : 0 ≤ e.pos := by obtain ⟨_, h | h⟩ := hi <;> have := h1.1 <;> omega
      have hp : (e.pos + ((1 : Nat) : Int)).toNat = e.pos.toNat + 1 := by omega
      rw [if_pos h1, hw hn, Enc.put_fits h1, Enc.sel, if_pos h1]
      simp only [writeNnbi, e3, hp, ← hbv]
      rfl

theorem Enc.run_eq {e : Enc} (hi : e.Inv) {op : EncOp} (hpre : op.Pre) (hna : ∀ err, op ≠ .abort err) :
    ∃ B, B.size = e.buf.size ∧ e.run op = .ok (e.put op.need B) := by
  have hbit : ∀ {v : Int}, 0 ≤ v → v < 16777216 → ∃ B, B.size = e.buf.size ∧ e.appendBit v = .ok (e.put 1 B) :=
    fun h0 h => ⟨_, e.sel_size 1 (writeBit_size _ _ _), Enc.appendBit_eq hi h0 h⟩
  have hbytes : ∀ {src : Mem} {n : UInt64}, n.toNat < 576460752303423488 → n.toNat ≤ src.size →
      ∃ B, B.size = e.buf.size ∧ e.appendBytes src n = .ok (e.put (8 * n.toNat) B) :=
    fun h1 h2 => ⟨_, e.sel_size _ (writeBytes_size _ _ _ _), Enc.appendBytes_eq hi h1 h2⟩
  cases hb : op.asBytes with
  | some src =>
    obtain ⟨n, hn, hn9, hneed, hrun⟩ := e.run_asBytes hb
    rw [hneed, hrun]
    exact hbytes (by omega) (by omega)
  | none =>
    cases op with
    | bit v => exact hbit hpre.1 hpre.2
    | bool b => cases b <;> exact hbit (by decide) (by decide)
    | bytes src n => exact hbytes hpre.2 hpre.1
    | nnbi v n =>
      obtain ⟨B, hB, hr, _⟩ := Enc.nnbiLoop_eq v n hpre n.toNat 0 e hi (by simp)
      exact ⟨B, hB, hr⟩
    | abort err => exact absurd rfl (hna err)
    | _ => cases hb

theorem Enc.runAll_cons {e e1 : Enc} {op : EncOp} (h : e.run op = .ok e1) (ops : List EncOp) :
    e.runAll (op :: ops) = e1.runAll ops := by
  rw [Enc.runAll, h, ok_bind]

theorem Enc.runAll_eq : ∀ (ops : List EncOp) {e : Enc}, e.Inv → (∀ op ∈ ops, op.Pre) →
    (∀ op ∈ ops, ∀ err, op ≠ .abort err) →
    ∃ B, B.size = e.buf.size ∧ e.runAll ops = .ok (e.put (ops.map EncOp.need).sum B) := by
  intro ops
  induction ops with
  | nil => intro e hi _ _; exact ⟨e.buf, rfl, by rw [List.map_nil, List.sum_nil, Enc.put_zero hi]; rfl⟩
  | cons op ops ih =>
    intro e hi hpre hna
    obtain ⟨B, hB, h1⟩ := Enc.run_eq hi (hpre op (by simp)) (hna op (by simp))
    obtain ⟨hi1, hs1⟩ := Enc.put_inv hi op.need hB
    obtain ⟨B', hB', h2⟩ := ih hi1 (fun o ho => hpre o (by simp [ho])) fun o ho => hna o (by simp [ho])
    refine ⟨_, ?_, by rw [Enc.runAll_cons h1, h2, Enc.put_put]; rfl⟩
    split
    · exact hB'.trans hs1
    · exact hB

end Asn1.CCursor
