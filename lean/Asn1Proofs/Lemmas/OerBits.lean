import Asn1Model.Oer
import Asn1Proofs.Lemmas.UperNum
/-
  Octet arithmetic on top of the bit lemmas of `UperPrim` / `UperNum`, for every codec that works on
  octets: octets as base-256 digits (`bytesToNat`, `natToBytesN`, `natToBytesMin`), `packBits` against
  `padToByte`, two's complement in a fixed number of octets, `Oer.readBytes` as `take` / `drop`.
-/
namespace Asn1

theorem bitsToNat_natToBits_of_lt_oer {w n : Nat} (h : n < 2 ^ w) : bitsToNat (natToBits w n) = n :=
  bitsToNat_natToBits_of_lt h

theorem natToBits_bitsToNat (bs : Bits) : natToBits bs.length (bitsToNat bs) = bs := by
  induction bs with
  | nil => rfl
  | cons b r ih =>
    have hlt := bitsToNat_lt r
    rw [bitsToNat_cons, List.length_cons, Nat.add_comm r.length 1, natToBits_add]
    have h1 : ((if b = true then 1 else 0) * 2 ^ r.length + bitsToNat r) / 2 ^ r.length
        = (if b = true then 1 else 0) := by
      rw [Nat.add_comm, Nat.add_mul_div_right _ _ (Nat.two_pow_pos _), Nat.div_eq_of_lt hlt]
      simp
    have h2 : natToBits r.length ((if b = true then 1 else 0) * 2 ^ r.length + bitsToNat r)
        = natToBits r.length (bitsToNat r) := by
      rw [← natToBits_mod, Nat.add_comm, Nat.add_mul_mod_self_right, Nat.mod_eq_of_lt hlt]
    rw [h1, h2, ih]
    cases b <;> rfl

theorem natToBytesN_lt (k n : Nat) : ∀ b ∈ natToBytesN k n, b < 256 := by
  induction k generalizing n with
  | zero => intro b hb; simp [natToBytesN] at hb
  | succ k ih =>
    intro b hb
    simp only [natToBytesN, List.mem_append, List.mem_singleton] at hb
    rcases hb with hb | hb
    · exact ih _ b hb
    · omega

theorem bytesToNat_append (a b : Bytes) :
    bytesToNat (a ++ b) = bytesToNat a * 256 ^ b.length + bytesToNat b := by
  unfold bytesToNat
  rw [List.foldl_append]
  generalize a.foldl (fun acc b => 256 * acc + b) 0 = x
  induction b generalizing x with
  | nil => simp
  | cons d r ih =>
    simp only [List.foldl_cons, List.length_cons]
    rw [ih (256 * x + d), ih (256 * 0 + d), Nat.pow_succ, Nat.mul_zero, Nat.zero_add, Nat.add_mul,
      Nat.mul_comm 256 x, Nat.mul_assoc, Nat.mul_comm 256 (256 ^ r.length), Nat.add_assoc]

theorem bytesToNat_single (b : Nat) : bytesToNat [b] = b := by
  simp [bytesToNat]

theorem bytesToNat_natToBytesN (k n : Nat) : bytesToNat (natToBytesN k n) = n % 256 ^ k := by
  induction k generalizing n with
  | zero => simp [natToBytesN, bytesToNat, Nat.mod_one]
  | succ k ih =>
    rw [natToBytesN, bytesToNat_append, ih, bytesToNat_single]
    simp only [List.length_singleton, Nat.pow_one]
    rw [Nat.pow_succ, Nat.mul_comm (256 ^ k) 256, Nat.mod_mul]
    omega

theorem bytesToNat_natToBytesN_of_lt {k n : Nat} (h : n < 256 ^ k) :
    bytesToNat (natToBytesN k n) = n := by
  rw [bytesToNat_natToBytesN, Nat.mod_eq_of_lt h]

theorem natToBytesN_bytesToNat (bs : Bytes) (h : ∀ b ∈ bs, b < 256) : natToBytesN bs.length (bytesToNat bs) = bs := by
  generalize hk : bs.length = k
  induction k generalizing bs with
  | zero => rw [List.eq_nil_of_length_eq_zero hk]; rfl
  | succ k ih =>
    rcases List.eq_nil_or_concat bs with rfl | ⟨r, b, rfl⟩
    · cases hk
    · rw [List.concat_eq_append] at hk h ⊢
      have hb : b < 256 := h b (by simp)
      rw [bytesToNat_append, bytesToNat_single, List.length_singleton, Nat.pow_one, natToBytesN,
        show (bytesToNat r * 256 + b) / 256 = bytesToNat r by omega,
        show (bytesToNat r * 256 + b) % 256 = b by omega,
        ih r (fun x hx => h x (by simp [hx])) (by simpa using hk)]

theorem bytesToBits_eq (ds : Bytes) (hd : ∀ b ∈ ds, b < 256) :
    bytesToBits ds = natToBits (8 * ds.length) (bytesToNat ds) := by
  rw [← bytesToBits_natToBytesN, natToBytesN_bytesToNat ds hd]

theorem bytesToNat_lt (ds : Bytes) (hd : ∀ b ∈ ds, b < 256) : bytesToNat ds < 2 ^ (8 * ds.length) := by
  have := bytesToNat_natToBytesN ds.length (bytesToNat ds)
  rw [natToBytesN_bytesToNat ds hd] at this
  rw [this, ← pow256]
  exact Nat.mod_lt _ (Nat.pow_pos (by omega))

theorem bitsToNat_bytesToBits (bs : Bytes) (h : ∀ b ∈ bs, b < 256) : bitsToNat (bytesToBits bs) = bytesToNat bs := by
  rw [bytesToBits_eq bs h, bitsToNat_natToBits_of_lt (bytesToNat_lt bs h)]

theorem lt_pow_byteLength (n : Nat) : n < 256 ^ byteLength n :=
  (byteLength_le_iff n _).1 (Nat.le_refl _)

theorem bytesToNat_natToBytesMin (n : Nat) : bytesToNat (natToBytesMin n) = n :=
  bytesToNat_natToBytesN_of_lt (lt_pow_byteLength n)

theorem bytesToBits_append_oer (a b : Bytes) : bytesToBits (a ++ b) = bytesToBits a ++ bytesToBits b :=
  bytesToBits_append a b

theorem bytesToBits_cons (b : Nat) (r : Bytes) : bytesToBits (b :: r) = natToBits 8 b ++ bytesToBits r := rfl

theorem bitsToBytes_length (fuel : Nat) (bs : Bits) (hf : bs.length + 1 ≤ fuel) :
    (bitsToBytes fuel bs).length = (bs.length + 7) / 8 := by
  induction fuel generalizing bs with
  | zero => omega
  | succ fuel ih =>
    rw [bitsToBytes]
    cases bs with
    | nil => rfl
    | cons b r =>
      simp only [List.isEmpty_cons, Bool.false_eq_true, if_false, List.length_cons]
      rw [ih _ (by simp only [List.length_drop, List.length_cons] at hf ⊢; omega)]
      simp only [List.length_drop, List.length_cons]
      omega

theorem packBits_length (bs : Bits) : (packBits bs).length = (bs.length + 7) / 8 :=
  bitsToBytes_length _ _ (Nat.le_refl _)

theorem bitsToBytes_lt (fuel : Nat) : ∀ (bs : Bits), ∀ b ∈ bitsToBytes fuel bs, b < 256 := by
  induction fuel with
  | zero => intro bs b hb; cases hb
  | succ f ih =>
    intro bs b hb
    rw [bitsToBytes] at hb
    split at hb
    · cases hb
    · rcases List.mem_cons.1 hb with rfl | hb
      · have h8 : (List.take 8 bs ++ List.replicate (8 - (List.take 8 bs).length) false).length = 8 := by
          simp only [List.length_append, List.length_take, List.length_replicate]; omega
        have := bitsToNat_lt (List.take 8 bs ++ List.replicate (8 - (List.take 8 bs).length) false)
        rwa [h8] at this
      · exact ih _ b hb

theorem packBits_lt (bs : Bits) : ∀ b ∈ packBits bs, b < 256 := bitsToBytes_lt _ bs

theorem bytesToBits_bitsToBytes (fuel : Nat) (e : Bits) (h : e.length ≤ 8 * fuel) :
    bytesToBits (bitsToBytes fuel e) = Uper.padToByte e := by
  induction fuel generalizing e with
  | zero =>
    have : e = [] := List.eq_nil_of_length_eq_zero (by omega)
    subst this; rfl
  | succ fuel ih =>
    rw [bitsToBytes]
    cases e with
    | nil => rfl
    | cons b r =>
      simp only [List.isEmpty_cons, Bool.false_eq_true, if_false]
      generalize hE : b :: r = e at *
      have hne : 0 < e.length := by subst hE; simp
      unfold bytesToBits
      rw [List.flatMap_cons]
      have hlen : (List.take 8 e ++ List.replicate (8 - (List.take 8 e).length) false).length = 8 := by
        simp only [List.length_append, List.length_take, List.length_replicate]; omega
      have h8 := natToBits_bitsToNat (List.take 8 e ++ List.replicate (8 - (List.take 8 e).length) false)
      rw [hlen] at h8
      rw [h8]
      have ih' := ih (e.drop 8) (by simp only [List.length_drop]; omega)
      unfold bytesToBits at ih'
      rw [ih']
      unfold Uper.padToByte
      by_cases h8e : 8 ≤ e.length
      · have : (List.take 8 e).length = 8 := by simp only [List.length_take]; omega
        rw [this]
        simp only [Nat.sub_self, List.replicate_zero, List.append_nil, List.length_drop]
        have hm : (8 - (e.length - 8) % 8) % 8 = (8 - e.length % 8) % 8 := by omega
        rw [hm, ← List.append_assoc, List.take_append_drop]
      · have hd : e.drop 8 = [] := List.drop_eq_nil_of_le (by omega)
        have ht : e.take 8 = e := List.take_of_length_le (by omega)
        rw [hd, ht]
        simp only [List.length_nil, Nat.zero_mod, Nat.sub_zero, Nat.mod_self, List.replicate_zero,
          List.append_nil]
        have : (8 - e.length % 8) % 8 = 8 - e.length := by omega
        rw [this]

theorem bytesToBits_packBits (e : Bits) : bytesToBits (packBits e) = Uper.padToByte e :=
  bytesToBits_bitsToBytes _ _ (by omega)

theorem take_bytesToBits_packBits (bs : Bits) : (bytesToBits (packBits bs)).take bs.length = bs := by
  rw [bytesToBits_packBits]; exact List.take_left' rfl

theorem take_bytesToBits_packBits' (bs : Bits) (n : Nat) (h : bs.length = n) :
    (bytesToBits (packBits bs)).take n = bs := by
  subst h; exact take_bytesToBits_packBits bs

theorem sub_unusedBits (n : Nat) : 8 * ((n + 7) / 8) - (8 - n % 8) % 8 = n := by
  rw [padLength_eq, Nat.sub_sub_self (by omega)]

theorem unusedBits_le (n : Nat) : (8 - n % 8) % 8 ≤ 8 * ((n + 7) / 8) :=
  padLength_eq n ▸ Nat.sub_le _ _

theorem cleanBits_length (data : Bytes) (n : Nat) (h : n ≤ 8 * data.length) :
    (cleanBits data n).length = (n + 7) / 8 := by
  unfold cleanBits
  rw [packBits_length, List.length_take, bytesToBits_length, Nat.min_eq_left h]

theorem bytesToInt_intToBytesN (k : Nat) (i : Int) (hk : 1 ≤ k)
    (hlo : -((2 ^ (8 * k - 1) : Nat) : Int) ≤ i) (hhi : i < ((2 ^ (8 * k - 1) : Nat) : Int)) :
    bytesToInt (intToBytesN k i) = i := by
  obtain ⟨hmlt, hback⟩ := twos_back hk hlo hhi
  unfold bytesToInt intToBytesN
  simp only [natToBytesN_length]
  rw [bytesToNat_natToBytesN_of_lt (by rwa [← pow256] at hmlt)]
  have hk0 : 8 * k ≠ 0 := by omega
  simp only [hk0, ne_eq, not_false_eq_true, true_and]
  exact hback

theorem bytesToInt_intToBytesMin (i : Int) : bytesToInt (intToBytesN (intByteLength i) i) = i :=
  bytesToInt_intToBytesN _ i (intByteLength_pos i) (intByteLength_bounds i).1 (intByteLength_bounds i).2

theorem bytesToNat_intToBytesN (k : Nat) (i : Int) (h0 : 0 ≤ i) (h1 : i < ((256 ^ k : Nat) : Int)) :
    ((bytesToNat (intToBytesN k i) : Nat) : Int) = i := by
  unfold intToBytesN
  rw [Int.emod_eq_of_lt h0 h1]
  rw [bytesToNat_natToBytesN_of_lt (by omega)]
  omega

@[simp] theorem intToBytesN_length (k : Nat) (i : Int) : (intToBytesN k i).length = k := by
  simp [intToBytesN]

theorem natToBytesN_mod (k n : Nat) : natToBytesN k (n % 256 ^ k) = natToBytesN k n := by
  induction k generalizing n with
  | zero => rfl
  | succ k ih =>
    simp only [natToBytesN]
    have h1 : n % 256 ^ (k + 1) / 256 = (n / 256) % 256 ^ k := by
      rw [Nat.pow_succ, Nat.mul_comm, Nat.mod_mul_right_div_self]
    have h2 : n % 256 ^ (k + 1) % 256 = n % 256 := by
      rw [Nat.pow_succ, Nat.mul_comm]
      exact Nat.mod_mul_right_mod n 256 (256 ^ k)
    rw [h1, h2, ih]

theorem intToBytesN_nonneg (k : Nat) (i : Int) (h : 0 ≤ i) : intToBytesN k i = natToBytesN k i.toNat := by
  unfold intToBytesN
  have : (i % ((256 ^ k : Nat) : Int)).toNat = i.toNat % 256 ^ k := by
    rw [Int.toNat_emod h (Int.natCast_nonneg _), Int.toNat_natCast]
  rw [this, natToBytesN_mod]

theorem bytesToBits_take (bs : Bytes) (k : Nat) : (bytesToBits bs).take (8 * k) = bytesToBits (bs.take k) := by
  induction bs generalizing k with
  | nil => simp [bytesToBits]
  | cons b r ih =>
    cases k with
    | zero => simp [bytesToBits]
    | succ k =>
      rw [bytesToBits_cons, List.take_succ_cons, bytesToBits_cons, ← ih k,
        show 8 * (k + 1) = 8 + 8 * k by omega, List.take_append, natToBits_length,
        List.take_of_length_le (by simp), show 8 + 8 * k - 8 = 8 * k by omega]

theorem bytesToBits_drop (bs : Bytes) (k : Nat) : (bytesToBits bs).drop (8 * k) = bytesToBits (bs.drop k) := by
  induction bs generalizing k with
  | nil => simp [bytesToBits]
  | cons b r ih =>
    cases k with
    | zero => simp
    | succ k =>
      rw [bytesToBits_cons, List.drop_succ_cons, ← ih k,
        show 8 * (k + 1) = 8 + 8 * k by omega]
      rw [List.drop_append, natToBits_length, List.drop_of_length_le (by simp),
        show 8 + 8 * k - 8 = 8 * k by omega, List.nil_append]

theorem natToBytesMin_lt (n : Nat) : ∀ b ∈ natToBytesMin n, b < 256 :=
  natToBytesN_lt (byteLength n) n

theorem byteLength_pos {n : Nat} (h : 0 < n) : 1 ≤ byteLength n := by
  have := byteLength_le_iff n 0
  simp at this
  omega

theorem byteLength_div (n : Nat) (h : 0 < n) : byteLength n = byteLength (n / 256) + 1 := by
  apply Nat.le_antisymm
  · rw [byteLength_le_iff, Nat.pow_succ]
    have := lt_pow_byteLength (n / 256)
    omega
  · have h1 := byteLength_pos h
    obtain ⟨k, hk⟩ : ∃ k, byteLength n = k + 1 := ⟨byteLength n - 1, by omega⟩
    have h2 := lt_pow_byteLength n
    rw [hk, Nat.pow_succ] at h2
    have h3 : byteLength (n / 256) ≤ k := by
      rw [byteLength_le_iff]; omega
    omega

theorem natToBytesMin_step (n : Nat) (h : 0 < n) :
    natToBytesMin n = natToBytesMin (n / 256) ++ [n % 256] := by
  unfold natToBytesMin
  rw [byteLength_div n h, natToBytesN]

theorem natToBytesMin_reverse (n : Nat) (h : n ≠ 0) :
    (natToBytesMin n).reverse = n % 256 :: (natToBytesMin (n / 256)).reverse := by
  rw [natToBytesMin_step n (by omega), List.reverse_append]; rfl

namespace Oer

theorem splitAux_eq (n : Nat) (bs acc : Bytes) :
    splitAux n bs acc =
      if n ≤ bs.length then some (acc.reverse ++ bs.take n, bs.drop n) else none := by
  induction n generalizing bs acc with
  | zero => simp [splitAux]
  | succ n ih =>
    cases bs with
    | nil => simp [splitAux]
    | cons b t =>
      simp only [splitAux, ih, List.length_cons, Nat.add_le_add_iff_right, List.reverse_cons,
        List.take_succ_cons, List.drop_succ_cons, List.append_assoc, List.singleton_append]

theorem readBytes_eq (n : Nat) (bs : Bytes) :
    readBytes n bs = if n ≤ bs.length then .ok (bs.take n, bs.drop n) else .error .decodeError := by
  simp only [readBytes, splitAux_eq]
  by_cases h : n ≤ bs.length <;> simp [h]

theorem readBytes_ok {bs ds r : Bytes} {k : Nat} (h : readBytes k bs = .ok (ds, r)) :
    k ≤ bs.length ∧ ds = bs.take k ∧ r = bs.drop k := by
  rw [readBytes_eq] at h
  split at h
  · cases h; exact ⟨‹_›, rfl, rfl⟩
  · cases h

theorem readByte_ok {bs r : Bytes} {b : Nat} (h : readByte bs = .ok (b, r)) : bs = b :: r := by
  cases bs with
  | nil => cases h
  | cons c t =>
    injection h with h
    injection h with h1 h2
    rw [h1, h2]

theorem readByte_eq (bs : Bytes) : readByte bs = readBytes 1 bs >>= fun p => .ok (bytesToNat p.1, p.2) := by
  cases bs with
  | nil => rfl
  | cons b r =>
    rw [readBytes_eq, if_pos (show 1 ≤ (b :: r).length from Nat.succ_le_succ (Nat.zero_le _))]
    show Except.ok (b, r) = .ok (bytesToNat [b], r)
    rw [bytesToNat_single]

end Oer

end Asn1
