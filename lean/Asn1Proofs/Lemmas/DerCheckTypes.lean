import Asn1Proofs.Lemmas.DerSeq
/-
  The model of the library's type checker (`Der.checkTypes`, run by `Specification.encode` before
  the codec is entered) accepts every value that `hasType` accepts; hence `Der.encode` and
  `BerCodec.encode` are total on well-typed values of well-formed types.
-/
namespace Asn1.Der

/-- the type checker accepts every value of `t` -/
def CT (t : Ty) : Prop := ∀ v, t.wf = true → hasType t v = true → checkTypes t v = true

theorem checkMembers_cons (name : String) (p : Presence) (t : Ty) (rest : Members)
    (fs : List (String × Val)) :
    checkMembers (.cons name p t rest) fs =
      ((match lookup name fs with
        | some v => checkTypes t v
        | none => true) && checkMembers rest fs) := by
  cases p <;> rw [checkMembers] <;> first | rfl | (intros; contradiction)

theorem checkAlt_find (as : Alts) (name : String) (v : Val) :
    checkAlt as name v = (as.find name).map (fun x => checkTypes x.2 v) :=
  Alts.search_map name (f := fun as => checkAlt as name v) (fun _ _ _ => rfl) rfl as

theorem checkMembers_of_membersOk (fs : List (String × Val)) (ms : Members)
    (hall : ms.All CT) (hwf : ms.wf = true) (hok : membersOk ms fs = true) :
    checkMembers ms fs = true := by
  induction ms using Members.ind with
  | nil => rw [checkMembers]
  | cons name p t rest ih =>
    rw [checkMembers_cons]
    rw [membersOk_cons] at hok
    simp only [Members.wf, Bool.and_eq_true] at hwf
    simp only [Bool.and_eq_true] at hok ⊢
    refine ⟨?_, ih hall.2 hwf.2 hok.2⟩
    have h1 := hok.1
    cases hl : lookup name fs with
    | none => rfl
    | some v =>
      simp only [hl] at h1
      exact hall.1 v hwf.1 h1

theorem ct_boolean : CT .boolean := by
  intro v _ ht
  obtain ⟨_, rfl⟩ := hasType_boolean ht
  rfl

theorem ct_null : CT .null := by
  intro v _ ht
  cases hasType_null ht
  rfl

theorem ct_integer (c : IntC) : CT (.integer c) := by
  intro v _ ht
  obtain ⟨_, rfl, _⟩ := hasType_integer ht
  rfl

theorem ct_enumerated (root : List (String × Int)) (ext : Option (List (String × Int))) :
    CT (.enumerated root ext) := by
  intro v _ ht
  obtain ⟨_, rfl, _⟩ := hasType_enumerated ht
  rfl

theorem ct_octetString (c : SizeC) : CT (.octetString c) := by
  intro v _ ht
  obtain ⟨_, rfl, _⟩ := hasType_octetString ht
  rfl

theorem ct_charString (k : StrKind) (c : SizeC) : CT (.charString k c) := by
  intro v _ ht
  obtain ⟨_, rfl, _⟩ := hasType_charString ht
  rfl

theorem ct_bitString (c : SizeC) : CT (.bitString c) := by
  intro v _ ht
  obtain ⟨data, n, rfl, _, hdl, _⟩ := hasType_bitString ht
  simp only [checkTypes, decide_eq_true_eq]
  omega

theorem ct_sequence (root : Members) (ext : Bool) (adds : Members)
    (ihr : root.All CT) (iha : adds.All CT) : CT (.sequence root ext adds) := by
  intro v hwf ht
  obtain ⟨fs, rfl, hwr, hwa, hokr, hoka⟩ := record_of_hasType hwf ht
  rw [checkTypes, checkMembers_of_membersOk fs root ihr hwr hokr,
    checkMembers_of_membersOk fs adds iha hwa hoka]
  rfl

theorem ct_sequenceOf (e : Ty) (c : SizeC) (ih : CT e) : CT (.sequenceOf e c) := by
  intro v hwf ht
  obtain ⟨vs, rfl, hvs, -⟩ := hasType_sequenceOf ht
  simp only [checkTypes, List.all_eq_true]
  exact fun x hx => ih x (wf_sequenceOf hwf) (hvs x hx)

theorem ct_choice (root : Alts) (ext : Bool) (adds : Alts)
    (ihr : root.All CT) (iha : adds.All CT) : CT (.choice root ext adds) := by
  intro v hwf ht
  obtain ⟨name, v, idx, t, rfl, hwt, hty, hsel⟩ := alt_of_hasType hwf ht
  have := hsel.all ihr iha v hwt hty
  rcases hsel with hf | ⟨hf, j, hfa, _⟩
  · simpa only [checkTypes, checkAlt_find, hf, Option.map_some]
  · simpa only [checkTypes, checkAlt_find, hf, hfa, Option.map_some, Option.map_none, Option.getD_some]

theorem ct_all (t : Ty) : CT t :=
  Ty.induct (P := CT)
    ct_boolean ct_null ct_integer ct_enumerated ct_octetString ct_bitString ct_charString
    (fun root ext adds ihr iha => ct_sequence root ext adds ihr iha)
    (fun e c ih => ct_sequenceOf e c ih)
    (fun root ext adds ihr iha => ct_choice root ext adds ihr iha) t

theorem checkTypes_of_hasType (t : Ty) (v : Val) (hwf : t.wf = true) (ht : hasType t v = true) :
    checkTypes t v = true :=
  ct_all t v hwf ht

theorem encode_total (t : Ty) (v : Val) (hwf : t.wf = true) (ht : hasType t v = true) :
    ∃ bytes, encode t v = .ok bytes := by
  unfold encode
  rw [checkTypes_of_hasType t v hwf ht, if_pos rfl]
  exact enc_total t none v hwf ht

theorem encode_total_ber (t : Ty) (v : Val) (hwf : t.wf = true) (ht : hasType t v = true) :
    ∃ bytes, BerCodec.encode t v = .ok bytes :=
  encode_total t v hwf ht

end Asn1.Der

#print axioms Asn1.Der.checkTypes_of_hasType
#print axioms Asn1.Der.encode_total_ber
#print axioms Asn1.Der.encode_total
