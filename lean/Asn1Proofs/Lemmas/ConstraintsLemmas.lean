import Asn1Model.Constraints
import Asn1Proofs.Lemmas.Typed
/-
  Lemmas for C11 (Asn1Proofs/Properties/C11.lean): the constraints-checker model `check` against
  the specification `admits` / `components`, and against `reach` for the path it reports
  (`path_check`, the constraints checker's counterpart of C12's path theorem).

  The unrestricted equivalence `check t v = none ↔ admits t v` is FALSE (see
  `Asn1.Constraints.iff_counterexample`): for a CHOICE whose additions repeat a root alternative
  name the checker only looks at the root alternative, while `components` lists both.  The
  equivalence holds under `Ty.altsDisjoint`, which `Ty.wf` implies; the direction admitted ⇒ accepted
  and the path theorem need no hypothesis.
-/
namespace Asn1

mutual
  /-- in every CHOICE nested in the type, no addition alternative repeats a root alternative name
  (X.680 requires all alternative names of a CHOICE to be distinct) -/
  def Ty.altsDisjoint : Ty → Bool
    | .sequence root _ adds => root.altsDisjoint && adds.altsDisjoint
    | .sequenceOf e _ => e.altsDisjoint
    | .choice root _ adds =>
      root.altsDisjoint && adds.altsDisjoint && root.names.all (fun n => !adds.names.contains n)
    | _ => true
  def Members.altsDisjoint : Members → Bool
    | .nil => true
    | .cons _ _ t rest => t.altsDisjoint && rest.altsDisjoint
  def Alts.altsDisjoint : Alts → Bool
    | .nil => true
    | .cons _ t rest => t.altsDisjoint && rest.altsDisjoint
end

mutual
  theorem Ty.altsDisjoint_of_wf (t : Ty) (h : t.wf = true) : t.altsDisjoint = true := by
    cases t with
    | sequence root e adds =>
      obtain ⟨hwr, hwa, -⟩ := wf_sequence h
      simp only [Ty.altsDisjoint, Bool.and_eq_true]
      exact ⟨Members.altsDisjoint_of_wf root hwr, Members.altsDisjoint_of_wf adds hwa⟩
    | sequenceOf e c =>
      simp only [Ty.altsDisjoint]
      exact Ty.altsDisjoint_of_wf e (wf_sequenceOf h)
    | choice root ext adds =>
      obtain ⟨hwr, hwa, -, hn, -⟩ := wf_choice h
      simp only [Ty.altsDisjoint, Bool.and_eq_true]
      refine ⟨⟨Alts.altsDisjoint_of_wf root hwr, Alts.altsDisjoint_of_wf adds hwa⟩, ?_⟩
      rw [List.nodup_append] at hn
      simp only [List.all_eq_true, Bool.not_eq_true', List.contains_eq_mem, decide_eq_false_iff_not]
      intro n hn1 hn2
      exact hn.2.2 n hn1 n hn2 rfl
    | _ => simp [Ty.altsDisjoint]
  theorem Members.altsDisjoint_of_wf (ms : Members) (h : ms.wf = true) : ms.altsDisjoint = true := by
    cases ms with
    | nil => simp [Members.altsDisjoint]
    | cons n p t rest =>
      simp only [Members.wf, Bool.and_eq_true] at h
      simp only [Members.altsDisjoint, Bool.and_eq_true]
      exact ⟨Ty.altsDisjoint_of_wf t h.1, Members.altsDisjoint_of_wf rest h.2⟩
  theorem Alts.altsDisjoint_of_wf (as : Alts) (h : as.wf = true) : as.altsDisjoint = true := by
    cases as with
    | nil => simp [Alts.altsDisjoint]
    | cons n t rest =>
      simp only [Alts.wf, Bool.and_eq_true] at h
      simp only [Alts.altsDisjoint, Bool.and_eq_true]
      exact ⟨Ty.altsDisjoint_of_wf t h.1, Alts.altsDisjoint_of_wf rest h.2⟩
end

namespace Constraints

/-- a CHOICE whose addition repeats the root alternative name `"a"` with a tighter constraint -/
def cexTy : Ty :=
  .choice (.cons "a" (.integer ⟨none, none, false⟩) .nil) false
    (.cons "a" (.integer ⟨some 0, some 1, false⟩) .nil)

def cexVal : Val := .choice "a" (.int 5)

/-- `check` accepts (it only looks at the root alternative) although a component of the value (the
additions' `"a"`) violates its constraint, so `admits` is false -/
theorem iff_counterexample :
    check cexTy cexVal = none ∧ admits cexTy cexVal = false ∧
      ((Ty.integer ⟨some 0, some 1, false⟩, Val.int 5) ∈ components cexTy cexVal ∧
        localOk (Ty.integer ⟨some 0, some 1, false⟩) (Val.int 5) = false) := by
  refine ⟨by decide +kernel, by decide +kernel, ?_, by decide +kernel⟩
  simp [cexTy, cexVal, components, componentsAlt]

/-- a listed component passes: its own constraint holds and, for a CHOICE value, the alternative it names exists
or the type is extensible -/
def compOk (p : Ty × Val) : Bool := localOk p.1 p.2 && altKnown p.1 p.2

theorem admits_eq (t : Ty) (v : Val) : admits t v = (components t v).all compOk := rfl

/-- a component that violates its own constraint, or a CHOICE value naming an alternative the
(non-extensible) type does not have -/
def Bad (c : Ty × Val) : Prop := localOk c.1 c.2 = false ∨ altKnown c.1 c.2 = false

theorem bad_iff (c : Ty × Val) : Bad c ↔ compOk c = false := by
  unfold Bad compOk
  cases localOk c.1 c.2 <;> cases altKnown c.1 c.2 <;> simp

/-- the (type, value) shapes on which `check` / `components` recurse -/
def composite : Ty → Val → Bool
  | .sequence _ _ _, .record _ => true
  | .sequenceOf _ _, .list _ => true
  | .choice _ _ _, .choice _ _ => true
  | _, _ => false

/-- the premisses of the catch-all equations of `check`, `components`, `altKnown` and `reach` -/
theorem composite_false {t : Ty} {v : Val} (h : composite t v = false) :
    (∀ root e adds fs, t = .sequence root e adds → v = .record fs → False) ∧
    (∀ e c vs, t = .sequenceOf e c → v = .list vs → False) ∧
    (∀ root e adds n x, t = .choice root e adds → v = .choice n x → False) :=
  ⟨fun _ _ _ _ ht hv => (by subst ht hv; cases h),
   fun _ _ _ ht hv => (by subst ht hv; cases h),
   fun _ _ _ _ _ ht hv => (by subst ht hv; cases h)⟩

theorem check_leaf (t : Ty) (v : Val) (h : composite t v = false) :
    check t v = if localOk t v then none else some [] :=
  check.eq_4 t v (composite_false h).1 (composite_false h).2.1 (composite_false h).2.2

theorem components_leaf (t : Ty) (v : Val) (h : composite t v = false) :
    components t v = [(t, v)] :=
  components.eq_4 t v (composite_false h).1 (composite_false h).2.1 (composite_false h).2.2

theorem altKnown_leaf (t : Ty) (v : Val) (h : composite t v = false) : altKnown t v = true :=
  altKnown.eq_2 t v (composite_false h).2.2

theorem reach_leaf_nil (t : Ty) (v : Val) (h : composite t v = false) :
    reach t v [] = [(t, v)] :=
  reach.eq_4 t v (composite_false h).2.1

theorem firstSome_eq_findSome? {α β : Type} (f : α → Option β) (l : List α) :
    firstSome f l = l.findSome? f := by
  induction l with
  | nil => rfl
  | cons x r ih => rw [firstSome, List.findSome?_cons, ih]; cases f x <;> rfl

theorem checkAlt_eq_none_iff :
    (as : Alts) → (n : String) → (v : Val) → (checkAlt as n v = none ↔ as.names.contains n = false)
  | .nil, _, _ => by simp [checkAlt, Alts.names]
  | .cons m t rest, n, v => by
    have ih := checkAlt_eq_none_iff rest n v
    by_cases hm : m = n
    · subst hm; simp [checkAlt, Alts.names]
    · have hm' : ¬ n = m := fun e => hm e.symm
      simp [checkAlt, Alts.names, hm, hm', ih]

theorem contains_of_checkAlt_some {n : String} {v : Val} {as : Alts} {r : Option (List String)}
    (h : checkAlt as n v = some r) : as.names.contains n = true := by
  cases hc : as.names.contains n
  · rw [(checkAlt_eq_none_iff as n v).2 hc] at h; cases h
  · rfl

theorem componentsAlt_eq_nil :
    (as : Alts) → (n : String) → (v : Val) → as.names.contains n = false → componentsAlt as n v = []
  | .nil, _, _, _ => by simp [componentsAlt]
  | .cons m t rest, n, v, h => by
    by_cases hm : m = n
    · subst hm; simp [Alts.names] at h
    · have hm' : ¬ n = m := fun e => hm e.symm
      simp only [Alts.names, List.contains_cons, Bool.or_eq_false_iff] at h
      simp [componentsAlt, hm, componentsAlt_eq_nil rest n v h.2]

theorem altKnown_choice (root adds : Alts) (ext : Bool) (n : String) (v : Val) :
    altKnown (.choice root ext adds) (.choice n v) =
      (ext || (root.names.contains n || adds.names.contains n)) := by
  simp [altKnown, List.contains_eq_mem, List.mem_append, Bool.decide_or]

theorem check_none_of_all_leaf (t : Ty) (v : Val) (hc : composite t v = false)
    (h : (components t v).all compOk = true) : check t v = none := by
  rw [components_leaf t v hc] at h
  rw [check_leaf t v hc]
  simp only [List.all_cons, List.all_nil, Bool.and_true, compOk, Bool.and_eq_true] at h
  simp [h.1]

mutual
  theorem check_none_of_all (t : Ty) (v : Val) (h : (components t v).all compOk = true) :
      check t v = none := by
    cases t with
    | sequence root e adds =>
      cases v with
      | record fs =>
        simp only [components, List.all_cons, List.all_append, Bool.and_eq_true] at h
        simp only [check]
        rw [checkMembers_none_of_all root fs h.2.1, checkMembers_none_of_all adds fs h.2.2]
      | _ => exact check_none_of_all_leaf _ _ rfl h
    | sequenceOf e c =>
      cases v with
      | list vs =>
        simp only [components, List.all_cons, List.all_flatMap, Bool.and_eq_true] at h
        have hs : sizeOk c vs.length = true := by simpa [compOk, localOk, altKnown] using h.1
        simp only [check, hs, Bool.not_true, Bool.false_eq_true, if_false]
        rw [firstSome_eq_findSome?, List.findSome?_eq_none_iff]
        exact fun x hx => check_none_of_all e x (List.all_eq_true.1 h.2 x hx)
      | _ => exact check_none_of_all_leaf _ _ rfl h
    | choice root ext adds =>
      cases v with
      | choice n v =>
        simp only [components, List.all_cons, List.all_append, Bool.and_eq_true, compOk,
          altKnown_choice] at h
        simp only [check]
        rcases checkAlt_of_all root n v h.2.1 with hr | hr
        · rcases checkAlt_of_all adds n v h.2.2 with ha | ha
          · have h1 := (checkAlt_eq_none_iff root n v).1 hr
            have h2 := (checkAlt_eq_none_iff adds n v).1 ha
            have h3 := h.1.2
            simp only [h1, h2, Bool.or_false] at h3
            simp [hr, ha, h3]
          · simp [hr, ha]
        · simp [hr]
      | _ => exact check_none_of_all_leaf _ _ rfl h
    | _ => exact check_none_of_all_leaf _ _ rfl h
  theorem checkMembers_none_of_all (ms : Members) (fs : List (String × Val))
      (h : (componentsMembers ms fs).all compOk = true) : checkMembers ms fs = none := by
    cases ms with
    | nil => simp [checkMembers]
    | cons name p t rest =>
      simp only [componentsMembers, List.all_append, Bool.and_eq_true] at h
      simp only [checkMembers]
      cases hl : lookup name fs with
      | none => simpa using checkMembers_none_of_all rest fs h.2
      | some x =>
        simp only [hl] at h
        simp only [check_none_of_all t x h.1]
        exact checkMembers_none_of_all rest fs h.2
  theorem checkAlt_of_all (as : Alts) (n : String) (v : Val)
      (h : (componentsAlt as n v).all compOk = true) :
      checkAlt as n v = none ∨ checkAlt as n v = some none := by
    cases as with
    | nil => simp [checkAlt]
    | cons m t rest =>
      simp only [componentsAlt] at h
      simp only [checkAlt]
      by_cases hm : (m == n) = true
      · simp only [hm, if_true] at h ⊢
        simp [check_none_of_all t v h]
      · simp only [hm] at h ⊢
        exact checkAlt_of_all rest n v h
end

theorem all_of_check_none_leaf (t : Ty) (v : Val) (hc : composite t v = false)
    (h : check t v = none) : (components t v).all compOk = true := by
  rw [components_leaf t v hc]
  rw [check_leaf t v hc] at h
  have hl : localOk t v = true := by
    cases hb : localOk t v
    · simp [hb] at h
    · rfl
  simp [compOk, hl, altKnown_leaf t v hc]

mutual
  theorem all_of_check_none (t : Ty) (v : Val) (hd : t.altsDisjoint = true)
      (h : check t v = none) : (components t v).all compOk = true := by
    cases t with
    | sequence root e adds =>
      cases v with
      | record fs =>
        simp only [Ty.altsDisjoint, Bool.and_eq_true] at hd
        simp only [check] at h
        split at h
        · cases h
        · next hr =>
          simp only [components, List.all_cons, List.all_append, Bool.and_eq_true]
          exact ⟨by simp [compOk, localOk, altKnown], all_of_checkMembers_none root fs hd.1 hr,
            all_of_checkMembers_none adds fs hd.2 h⟩
      | _ => exact all_of_check_none_leaf _ _ rfl h
    | sequenceOf e c =>
      cases v with
      | list vs =>
        simp only [Ty.altsDisjoint] at hd
        simp only [check] at h
        split at h
        · cases h
        · next hs =>
          rw [firstSome_eq_findSome?, List.findSome?_eq_none_iff] at h
          simp only [components, List.all_cons, List.all_flatMap, Bool.and_eq_true]
          exact ⟨by simpa [compOk, localOk, altKnown] using hs,
            List.all_eq_true.2 fun x hx => all_of_check_none e x hd (h x hx)⟩
      | _ => exact all_of_check_none_leaf _ _ rfl h
    | choice root ext adds =>
      cases v with
      | choice n v =>
        simp only [Ty.altsDisjoint, Bool.and_eq_true, List.all_eq_true, Bool.not_eq_true'] at hd
        simp only [check] at h
        simp only [components, List.all_cons, List.all_append, Bool.and_eq_true, compOk,
          altKnown_choice, localOk, Bool.true_and]
        split at h
        · next r hr =>
          subst h
          -- the one place `hd` works: found among the root names, `n` is not an addition name, so
          -- the additions contribute no component
          have hin := contains_of_checkAlt_some hr
          have hout : adds.names.contains n = false :=
            hd.2 n (by simpa [List.contains_eq_mem] using hin)
          refine ⟨by rw [hin]; simp, all_of_checkAlt root n v hd.1.1 hr, ?_⟩
          simp [componentsAlt_eq_nil adds n v hout]
        · next hr =>
          have hin := (checkAlt_eq_none_iff root n v).1 hr
          split at h
          · next r ha =>
            subst h
            have hina := contains_of_checkAlt_some ha
            refine ⟨by rw [hina]; simp, ?_, all_of_checkAlt adds n v hd.1.2 ha⟩
            simp [componentsAlt_eq_nil root n v hin]
          · next ha =>
            have hina := (checkAlt_eq_none_iff adds n v).1 ha
            split at h
            · next he =>
              refine ⟨by simp [he], ?_, ?_⟩
              · simp [componentsAlt_eq_nil root n v hin]
              · simp [componentsAlt_eq_nil adds n v hina]
            · cases h
      | _ => exact all_of_check_none_leaf _ _ rfl h
    | _ => exact all_of_check_none_leaf _ _ rfl h
  theorem all_of_checkMembers_none (ms : Members) (fs : List (String × Val))
      (hd : ms.altsDisjoint = true) (h : checkMembers ms fs = none) :
      (componentsMembers ms fs).all compOk = true := by
    cases ms with
    | nil => rfl
    | cons name p t rest =>
      simp only [Members.altsDisjoint, Bool.and_eq_true] at hd
      simp only [checkMembers] at h
      simp only [componentsMembers, List.all_append, Bool.and_eq_true]
      split at h
      · next x hl =>
        split at h
        · cases h
        · next hc =>
          exact ⟨all_of_check_none t x hd.1 hc, all_of_checkMembers_none rest fs hd.2 h⟩
      · exact ⟨rfl, all_of_checkMembers_none rest fs hd.2 h⟩
  theorem all_of_checkAlt (as : Alts) (n : String) (v : Val) (hd : as.altsDisjoint = true)
      (h : checkAlt as n v = some none) : (componentsAlt as n v).all compOk = true := by
    cases as with
    | nil => rfl
    | cons m t rest =>
      simp only [Alts.altsDisjoint, Bool.and_eq_true] at hd
      simp only [checkAlt] at h
      simp only [componentsAlt]
      split at h
      · next hm =>
        rw [if_pos hm]
        exact all_of_check_none t v hd.1 (Option.map_eq_none_iff.1 (Option.some.inj h))
      · next hm =>
        rw [if_neg hm]
        exact all_of_checkAlt rest n v hd.2 h
end

theorem path_leaf (t : Ty) (v : Val) (p : List String) (hc : composite t v = false)
    (h : check t v = some p) : ∃ c ∈ reach t v p, Bad c := by
  rw [check_leaf t v hc] at h
  cases hl : localOk t v
  · simp only [hl, Bool.false_eq_true, if_false, Option.some.injEq] at h
    subst h
    rw [reach_leaf_nil t v hc]
    exact ⟨(t, v), by simp, Or.inl hl⟩
  · simp [hl] at h

mutual
  theorem path_check (t : Ty) (v : Val) (p : List String) (h : check t v = some p) :
      ∃ c ∈ reach t v p, Bad c := by
    cases t with
    | sequence root e adds =>
      cases v with
      | record fs =>
        simp only [check] at h
        split at h
        · next q hr =>
          obtain rfl := Option.some.inj h
          obtain ⟨name, p', rfl, c, hc, hb⟩ := path_members root fs q hr
          exact ⟨c, by simp [reach, hc], hb⟩
        · obtain ⟨name, p', rfl, c, hc, hb⟩ := path_members adds fs p h
          exact ⟨c, by simp [reach, hc], hb⟩
      | _ => exact path_leaf _ _ _ rfl h
    | sequenceOf e c =>
      cases v with
      | list vs =>
        simp only [check] at h
        split at h
        · next hs =>
          obtain rfl := Option.some.inj h
          refine ⟨(.sequenceOf e c, .list vs), ?_, Or.inl (by simpa [localOk] using hs)⟩
          rw [reach]; exact List.mem_append_left _ (.head _)
        · obtain ⟨x, hx, hcx⟩ := List.exists_of_findSome?_eq_some (firstSome_eq_findSome? _ _ ▸ h)
          obtain ⟨c', hc', hb⟩ := path_check e x p hcx
          refine ⟨c', ?_, hb⟩
          rw [reach, List.mem_append, List.mem_flatMap]
          exact Or.inr ⟨x, hx, hc'⟩
      | _ => exact path_leaf _ _ _ rfl h
    | choice root ext adds =>
      cases v with
      | choice n v =>
        simp only [check] at h
        split at h
        · next r hr =>
          subst h
          obtain ⟨p', rfl, c, hc, hb⟩ := path_alt root n v p hr
          exact ⟨c, by simp [reach, hc], hb⟩
        · next hr =>
          split at h
          · next r ha =>
            subst h
            obtain ⟨p', rfl, c, hc, hb⟩ := path_alt adds n v p ha
            exact ⟨c, by simp [reach, hc], hb⟩
          · next ha =>
            -- no alternative of that name: the path is empty and the CHOICE itself is the bad
            -- component (`altKnown` false), unless the type is extensible
            have h1 := (checkAlt_eq_none_iff root n v).1 hr
            have h2 := (checkAlt_eq_none_iff adds n v).1 ha
            cases ext with
            | true => simp at h
            | false =>
              obtain rfl : [] = p := by simpa using h
              refine ⟨(.choice root false adds, .choice n v), by simp [reach], Or.inr ?_⟩
              show altKnown _ _ = false
              rw [altKnown_choice, h1, h2]; rfl
      | _ => exact path_leaf _ _ _ rfl h
    | _ => exact path_leaf _ _ _ rfl h
  theorem path_members (ms : Members) (fs : List (String × Val)) (p : List String)
      (h : checkMembers ms fs = some p) :
      ∃ name p', p = name :: p' ∧ ∃ c ∈ reachMembers ms fs name p', Bad c := by
    cases ms with
    | nil => simp [checkMembers] at h
    | cons m pr t rest =>
      simp only [checkMembers] at h
      split at h
      · next x hl =>
        split at h
        · next q hc =>
          obtain rfl := Option.some.inj h
          obtain ⟨c, hcr, hb⟩ := path_check t x q hc
          exact ⟨m, q, rfl, c, by simp [reachMembers, hl, hcr], hb⟩
        · obtain ⟨name, p', hp, c, hc, hb⟩ := path_members rest fs p h
          exact ⟨name, p', hp, c, by simp [reachMembers, hc], hb⟩
      · obtain ⟨name, p', hp, c, hc, hb⟩ := path_members rest fs p h
        exact ⟨name, p', hp, c, by simp [reachMembers, hc], hb⟩
  theorem path_alt (as : Alts) (n : String) (v : Val) (p : List String)
      (h : checkAlt as n v = some (some p)) :
      ∃ p', p = n :: p' ∧ ∃ c ∈ reachAlt as n v p', Bad c := by
    cases as with
    | nil => simp [checkAlt] at h
    | cons m t rest =>
      simp only [checkAlt] at h
      split at h
      · next hm =>
        obtain ⟨q, hc, rfl⟩ := Option.map_eq_some_iff.1 (Option.some.inj h)
        obtain ⟨c, hcr, hb⟩ := path_check t v q hc
        exact ⟨q, rfl, c, by simp [reachAlt, hm, hcr], hb⟩
      · next hm =>
        obtain ⟨p', hp, c, hc, hb⟩ := path_alt rest n v p h
        exact ⟨p', hp, c, by simp [reachAlt, hm, hc], hb⟩
end

end Constraints
end Asn1
