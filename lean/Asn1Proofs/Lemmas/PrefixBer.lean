import Asn1Model.BerCodec
import Asn1Proofs.Lemmas.PrefixDerTop
/-
  C16 for the BER model.  `BerCodec.enc` IS `Der.enc` (definitionally), so the shape lemmas of the DER
  proof (`Der.enc_form`, `Der.encode_shape`) are reused as they are.  `BerCodec.dec` is a different
  function; what has to be re-argued is

  * the string types (`pcDecode`): the identifier octets are compared with the primitive AND the
    constructed tag, then `readLen false` (indefinite form allowed) is called.  `Der.readLen_short`
    holds for either value of the `definiteOnly` flag: the first length octet the encoder writes is
    never `0x80`;
  * SEQUENCE OF: `readLen false` instead of `readLen true`, same argument;
  * a bare CHOICE: `tag_to_member` also holds the constructed tag of every string alternative, so an
    alternative may be entered through its constructed tag (`dec_string_short` with `c = true`).
-/
namespace Asn1.BerCodec
open Asn1.Der (SPre tlv tlv_eq mkTag tagOf readLen readLen_short split_short readPrim_short matchTag_bind_short)

theorem pcDecode_short {α : Type} (prim : Bytes → Bytes → Der.DecM α) (join : List α → α)
    (segTag segCtag : Bytes) (fuel : Nat) (tag ctag T q content : Bytes)
    (hlen : T.length = tag.length) (hT : T = tag ∨ T = ctag) (h : SPre q (tlv T content)) :
    pcDecode prim join segTag segCtag (fuel + 1) tag ctag q = .error .decodeError := by
  rw [tlv_eq] at h
  rw [pcDecode, ← hlen]
  rcases split_short T q _ h with h1 | ⟨q', h1, h2⟩
  · rw [h1]
  · rw [h1]
    have hl := readLen_short false q' content h2
    dsimp only
    split
    · rw [hl]
    · split
      · rw [hl]
      · rename_i hn1 hn2
        rcases hT with rfl | rfl
        · simp at hn1
        · simp at hn2

theorem mkTag_length_flag (u : Nat) (c c' : Bool) (tg : Option Nat) :
    (mkTag u c tg).length = (mkTag u c' tg).length := by
  cases tg <;> simp only [mkTag, Der.encTag_length_der]

theorem dec_string_short (t : Ty) (hs : isString t = true) (tg : Option Nat) (fuel : Nat) (c : Bool)
    (q content : Bytes) (h : SPre q (tlv (mkTag (Der.univNumber t) c tg) content)) :
    dec t tg (fuel + 1) q = .error .decodeError := by
  have hT : ∀ u, mkTag u c tg = mkTag u false tg ∨ mkTag u c tg = mkTag u true tg := by
    intro u; cases c
    · exact .inl rfl
    · exact .inr rfl
  cases t <;> simp only [isString, Bool.false_eq_true] at hs
  case octetString cc =>
    exact bind_eq_of_error
      (pcDecode_short _ _ _ _ fuel _ _ _ q content (mkTag_length_flag 4 c false tg) (hT 4) h)
  case bitString cc =>
    exact bind_eq_of_error
      (pcDecode_short _ _ _ _ fuel _ _ _ q content (mkTag_length_flag 3 c false tg) (hT 3) h)
  case charString k cc =>
    exact bind_eq_of_error (pcDecode_short _ _ _ _ fuel _ _ _ q content
      (mkTag_length_flag (Der.univNumber (.charString k cc)) c false tg) (hT _) h)

/-- The cases other than the strings are those of `Der.dec_short` word for word, but about another
function: `IsCodec` exposes the SEQUENCE and CHOICE arms of a decoder only, so they are not shared.
`fuel + 1`: `pcDecode` matches on the fuel. -/
theorem dec_short (t : Ty) (tg : Option Nat) (fuel : Nat) (q content : Bytes)
    (hne : tg.isSome = true ∨ ∀ r e a, t ≠ .choice r e a)
    (h : SPre q (tlv (tagOf t tg) content)) : dec t tg (fuel + 1) q = .error .decodeError := by
  cases t with
  | boolean => exact bind_eq_of_error (readPrim_short _ q content h)
  | null => exact matchTag_bind_short _ q content h _ fun _ hl => bind_eq_of_error (hl _)
  | integer c => exact bind_eq_of_error (readPrim_short _ q content h)
  | enumerated root ext => exact bind_eq_of_error (readPrim_short _ q content h)
  | octetString c => exact dec_string_short _ rfl tg fuel false q content h
  | bitString c => exact dec_string_short _ rfl tg fuel false q content h
  | charString k c => exact dec_string_short _ rfl tg fuel false q content h
  | sequence root ext adds =>
    exact matchTag_bind_short _ q content h _ fun _ hl => bind_eq_of_error (hl _)
  | sequenceOf e c => exact matchTag_bind_short _ q content h _ fun _ hl => bind_eq_of_error (hl _)
  | choice root ext adds =>
    cases tg with
    | none =>
      rcases hne with hne | hne
      · cases hne
      · exact absurd rfl (hne root ext adds)
    | some i => exact matchTag_bind_short _ q content h _ fun _ hl => bind_eq_of_error (hl _)

theorem berTest_short (fuel : Nat) (q content : Bytes) (t : Ty) (i : Nat) (T : Bytes)
    (ht : berTest t i T = true) (h : SPre q (tlv T content)) :
    dec t (some i) (fuel + 1) q = .error .decodeError := by
  simp only [berTest, Bool.or_eq_true, Bool.and_eq_true, beq_iff_eq] at ht
  rcases ht with hT | ⟨hs, hT⟩
  · exact dec_short t (some i) fuel q content (.inl rfl) (hT ▸ h)
  · exact dec_string_short t hs (some i) fuel true q content (hT ▸ h)

theorem truncated (t : Ty) (v : Val) (bytes : Bytes) (k : Nat)
    (he : encode t v = .ok bytes) (hk : k < bytes.length) :
    decode t (bytes.take k) = .error .decodeError := by
  have key : dec t none ((bytes.take k).length + 1) (bytes.take k) = .error .decodeError ∨
      dec t none ((bytes.take k).length + 1) (bytes.take k) = .ok none := by
    rcases Der.encode_shape t v bytes he with ⟨content, rfl, hne⟩ |
      ⟨root, ext, adds, n, c, content, rfl, hc, rfl⟩
    · exact .inl (dec_short t none _ _ content (.inr hne) (Der.spre_take hk))
    · exact ber_isCodec.bare_short (berTest_short _ _ content) root adds ext n c hc (Der.spre_take hk)
  unfold decode decodeWithLength
  rcases key with k1 | k1 <;> rw [k1] <;> rfl

end Asn1.BerCodec

#print axioms Asn1.BerCodec.truncated
