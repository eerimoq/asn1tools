import Asn1Proofs.Lemmas.ExtOerBase
namespace Asn1.Ext.OerX
open Asn1 Asn1.Oer Asn1.Ext

theorem xt_sequenceOf {eD eE : Ty} (c : SizeC) (ih : XT eD eE) :
    XT (.sequenceOf eD c) (.sequenceOf eE c) := by
  intro v bytes rest hwf hwf2 hd hdk ht hu hns he
  obtain ⟨vs, rfl, hvs, -⟩ := hasType_sequenceOf ht
  simp only [oerWf, Ty.defaultsOk, utf8Ok, noSwallow, List.all_eq_true] at hwf2 hd hu hns
  simp only [dOk] at hdk
  rw [enc_sequenceOf] at he
  obtain ⟨items, hitems, he⟩ := bind_ok he
  obtain ⟨q, hq, he⟩ := bind_ok he
  cases he
  rw [view, dec, List.append_assoc, decUnsigned_encUnsigned hq, ok_bind]
  show (decRepeat _ _ _ >>= _) = _
  rw [decRepeat_mapM (enc eE) (view false eD eE) (dec eD) vs items rest ?_ hitems]
  · rfl
  · intro x hx bs r hbs
    exact ih x bs r (wf_sequenceOf hwf) hwf2 hd hdk (hvs x hx) (hu x hx) (hns x hx) hbs

theorem xt_choice {rD rE aD aE : Alts} (x : Bool)
    (hr : PairA XT rD rE) (hlen : rD.length = rE.length) (ha : PairA XT aD aE) :
    XT (.choice rD x aD) (.choice rE x aE) := by
  intro v bytes rest hwf hwf2 hd hdk ht hu hns he
  obtain ⟨name, v, rfl, hav⟩ := hasType_choice ht
  obtain ⟨idx, t, sel, -, hty⟩ := Alts.sel_of_hasType hwf hav
  obtain ⟨hwr, hwa, _, _, hext⟩ := wf_choice hwf
  simp only [oerWf, Ty.defaultsOk, Bool.and_eq_true] at hwf2 hd
  simp only [dOk] at hdk
  simp only [utf8Ok, Bool.and_eq_true, utf8OkAlt_find] at hu
  simp only [noSwallow, Bool.and_eq_true, noSwallowAlt_find] at hns
  simp only [view]
  rw [enc_choice, encAlt_find, encAlt_find] at he
  rw [dec]
  rcases sel with hf | ⟨hf, j, hfa, rfl⟩
  · simp only [hf, Option.map_some, Nat.zero_add] at he hu hns
    obtain ⟨hwt, hwt2, hdt⟩ := find_wellFormed hf hwr hwf2.1 hd.1
    have hj := Alts.find_lt hf
    obtain ⟨tD', hfD, hxt, hdk', hview⟩ :=
      (pairA_find false name v rE rD hr hdk.1 idx t hf).resolve_right (fun h => by omega)
    obtain ⟨body, hbody, he⟩ := bind_ok he
    cases he
    rw [hview, List.append_assoc, readTag_encTag, ok_bind]
    have := decAlt_find rD name idx tD' hfD 0 (body ++ rest)
    rw [Nat.zero_add] at this
    simp only [this]
    rw [hxt v body rest hwt hwt2 hdt hdk' hty hu.1 hns.1 hbody, ok_bind]
  · simp only [hf, hfa, Option.map_some, Option.map_none] at he hu hns
    obtain ⟨hwt, hwt2, hdt⟩ := find_wellFormed hfa hwa hwf2.2 hd.2
    have hj := Alts.find_lt hfa
    obtain ⟨body, hbody, he⟩ := bind_ok he
    obtain ⟨l, hl, he⟩ := bind_ok he
    cases he
    rw [pairA_find_none false name v rE rD hr hf, List.append_assoc, List.append_assoc, readTag_encTag,
      ok_bind]
    simp only [decAlt_none rD (rE.length + j) 0 _ (by omega)]
    rcases pairA_find false name v aE aD ha hdk.2 j t hfa with ⟨tD', hfD, hxt, hdk', hview⟩ | ⟨hle, hview⟩
    · rw [hview, ← hlen]
      simp only [decAltAdd_find aD name j tD' hfD]
      rw [readLenDet_lenDet hl, ok_bind]
      show (dec tD' _ >>= _) = _
      rw [hxt v body rest hwt hwt2 hdt hdk' hty hu.2 hns.2 hbody, ok_bind]
    · -- a tag beyond the decoder's alternatives: skipped by its length prefix
      have hx : x = true := hext.resolve_right (by omega)
      subst hx
      rw [hview, decAltAdd_none aD _ rD.length _ (by omega)]
      simp only [if_true]
      rw [readLenDet_lenDet hl, ok_bind, readBytes_append body rest rfl]
      rfl

end Asn1.Ext.OerX
