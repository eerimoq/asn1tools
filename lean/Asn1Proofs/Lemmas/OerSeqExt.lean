import Asn1Proofs.Lemmas.OerSeq
/-
  SEQUENCE of the OER model: extension additions and the extension block (`decExtBlock`), `dec` and
  `enc` of a SEQUENCE in sequenced form (`dec_sequence`, `enc_sequence`).
-/
namespace Asn1.Oer

/-- the length prefix written in front of every addition encoding -/
def wrap (e : Bytes) : EncM Bytes := lenPrefixed e.length e

def addHere (p : Presence) (t : Ty) (ov : Option Val) : EncM Bytes :=
  match ov with
  | some v => enc t v
  | none =>
    match p with
    | .mandatory => .error .encodeError
    | _ => .ok []

theorem encAdditions_cons (name : String) (p : Presence) (t : Ty) (rest : Members)
    (fs : List (String × Val)) :
    encAdditions (.cons name p t rest) fs =
      (match addHere p t (lookup name fs) with
       | .error _ => ([false], [], true)
       | .ok e =>
         if e.length > 0 ∨ (lookup name fs).isSome then
           (true :: (encAdditions rest fs).1, e :: (encAdditions rest fs).2.1, (encAdditions rest fs).2.2)
         else (false :: (encAdditions rest fs).1, (encAdditions rest fs).2.1, (encAdditions rest fs).2.2)) := by
  cases p <;> rfl

theorem decAdditions_cons_true (name : String) (p : Presence) (t : Ty) (rest : Members)
    (bitmap : Bits) (bs : Bytes) :
    decAdditions (.cons name p t rest) (true :: bitmap) bs =
      (do let (_, r) ← readLenDet bs
          let (v, r') ← dec t r
          let (fs, r'') ← decAdditions rest bitmap r'
          .ok ((name, v) :: fs, r'')) := rfl

theorem decAdditions_cons_false (name : String) (p : Presence) (t : Ty) (rest : Members)
    (bitmap : Bits) (bs : Bytes) :
    decAdditions (.cons name p t rest) (false :: bitmap) bs = decAdditions rest bitmap bs := rfl

/-- read `n` bits that stand, padded, in whole octets -/
def withPre {α : Type} (n : Nat) (bs : Bytes) (k : Bits → Bytes → DecM α) : DecM α := do
  let (pre, r) ← readBytes ((n + 7) / 8) bs
  k ((bytesToBits pre).take n) r

theorem withPre_packBits {α : Type} (bits : Bits) (n : Nat) (h : bits.length = n) (rest : Bytes)
    (k : Bits → Bytes → DecM α) : withPre n (packBits bits ++ rest) k = k bits rest := by
  unfold withPre
  rw [readBytes_append _ _ (by rw [packBits_length, h])]
  exact congrArg (k · rest) (take_bytesToBits_packBits' bits n h)

/-- what the decoder does after the root members of an extended value -/
def decExtBlock (adds : Members) (fields : List (String × Val)) (r1 : Bytes) : DecM (Val × Bytes) := do
  let (len, r2) ← readLenDet r1
  let (unused, r3) ← readByte r2
  if len = 0 ∨ 8 * (len - 1) < unused then .error .unmodelled
  else do
    withPre (8 * (len - 1) - unused) r3 fun bitmap r4 => do
      let (more, r5) ← decAdditions adds bitmap r4
      .ok (.record (fields ++ more), r5)

theorem dec_sequence (root : Members) (ext : Bool) (adds : Members) (bs : Bytes) :
    dec (.sequence root ext adds) bs = (do
      let nflags := optionalCount root + (if ext then 1 else 0)
      withPre nflags bs fun bits r0 => do
        let (fields, r1) ← decMembers root (if ext then bits.drop 1 else bits) r0
        if (ext && bits.head?.getD false) then decExtBlock adds fields r1
        else .ok (.record fields, r1)) := by
  rw [dec]; rfl

theorem decExtBlock_ok (adds : Members) (fields more : List (String × Val)) (n : Nat) (l : Bytes)
    (bitmap : Bits) (tail rest : Bytes)
    (hl : lenDet ((n + 7) / 8 + 1) = .ok l) (hb : bitmap.length = n)
    (hd : decAdditions adds bitmap (tail ++ rest) = .ok (more, rest)) :
    decExtBlock adds fields (l ++ ([(8 - n % 8) % 8] ++ (packBits bitmap ++ (tail ++ rest))))
      = .ok (.record (fields ++ more), rest) := by
  unfold decExtBlock
  simp only [bind, Except.bind]
  rw [readLenDet_lenDet hl]
  simp only [List.cons_append, List.nil_append, readByte_cons, Nat.add_sub_cancel]
  rw [if_neg (by omega)]
  simp only [sub_unusedBits]
  rw [withPre_packBits bitmap n hb, hd]

/-- the extension block is written exactly when some addition encoding is present; that covers the model's
separate case `adds = .nil`, where there is none -/
theorem enc_sequence (root : Members) (ext : Bool) (adds : Members) (fs : List (String × Val)) :
    enc (.sequence root ext adds) (.record fs) =
    encPreamble root fs >>= fun pre => encMembers root fs false >>= fun body =>
      if ext && !(encAdditions adds fs).2.1.isEmpty then
        lenDet ((adds.length + 7) / 8 + 1) >>= fun l =>
        (encAdditions adds fs).2.1.mapM wrap >>= fun wrapped =>
        .ok (packBits (true :: pre) ++ body ++ l ++ [(8 - adds.length % 8) % 8] ++
          packBits (List.replicate (adds.length - (encAdditions adds fs).1.length) false ++
            (encAdditions adds fs).1) ++ wrapped.flatten)
      else .ok (packBits (if ext then false :: pre else pre) ++ body) := by
  rw [enc]
  cases encPreamble root fs with
  | error e => rfl
  | ok pre =>
    cases encMembers root fs false with
    | error e => rfl
    | ok body =>
      cases ext with
      | false => rfl
      | true =>
        cases adds with
        | nil => rfl
        | cons n p t r =>
          rcases encAdditions (.cons n p t r) fs with ⟨present, encs, stopped⟩
          cases encs with
          | nil => rfl
          | cons e es =>
            show (match lenDet _, List.mapM wrap _ with | .ok l, .ok wrapped => _ | .error e, _ => _ | _, .error e => _) = _
            cases lenDet (((Members.cons n p t r).length + 7) / 8 + 1) <;>
              cases List.mapM wrap (e :: es) <;> rfl
end Asn1.Oer
