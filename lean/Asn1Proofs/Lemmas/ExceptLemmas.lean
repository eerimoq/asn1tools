/-
  Sequencing in `Except`, for stepping through the `do` blocks of the model without unfolding `bind`
  (which exposes the whole continuation to the unifier): `ok_bind`/`error_bind` compute, `bind_eq_of_ok`/
  `bind_eq_of_error` rewrite with a known first step, `bind_ok` inverts a success.  Also `ite_cases`.
-/
namespace Asn1

theorem ok_bind {ε α β : Type} (a : α) (f : α → Except ε β) : (Except.ok a >>= f) = f a := rfl

theorem error_bind {ε α β : Type} (e : ε) (f : α → Except ε β) :
    (Except.error e >>= f) = .error e := rfl

theorem bind_ok {ε α β : Type} {m : Except ε α} {g : α → Except ε β} {b : β}
    (h : (m >>= g) = .ok b) : ∃ a, m = .ok a ∧ g a = .ok b := by
  cases m with
  | error e => cases h
  | ok a => exact ⟨a, rfl, h⟩

theorem bind_eq_of_ok {ε α β : Type} {m : Except ε α} {g : α → Except ε β} {a : α}
    (h : m = .ok a) : (m >>= g) = g a := by
  rw [h]; rfl

theorem bind_eq_of_error {ε α β : Type} {m : Except ε α} {g : α → Except ε β} {e : ε}
    (h : m = .error e) : (m >>= g) = .error e := by
  rw [h]; rfl

/-- case analysis on a conditional in a hypothesis; what `split at h` does, without its cost on long
`if` chains over numerals -/
theorem ite_cases {α : Sort _} {c : Prop} [Decidable c] {a b x : α} (h : (if c then a else b) = x) :
    c ∧ a = x ∨ ¬c ∧ b = x := by
  by_cases hc : c
  · exact .inl ⟨hc, (if_pos hc).symm.trans h⟩
  · exact .inr ⟨hc, (if_neg hc).symm.trans h⟩

end Asn1
