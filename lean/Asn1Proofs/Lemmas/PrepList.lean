import Asn1Model.SpecDict
/-
  Association lists.  `mapSnd`, `typesSkel` and `skel` are `List.map`, `modifyAt` is `List.modify`;
  stated once, so that what is proved about them comes from the library (but for
  `modifyAt_append_cons`, an induction of its own).  Then what the passes
  need of them: `find?` under `map`, and the skeleton of a dictionary modified at one position.
-/
namespace Asn1.SpecDict

section
variable {α β : Type}

theorem mapSnd_eq_map (f : α → α) (l : List (String × α)) :
    mapSnd f l = l.map fun p => (p.1, f p.2) := by
  induction l with
  | nil => rfl
  | cons x t ih => simp [mapSnd, ih]

theorem modifyAt_eq_modify (f : α → α) (i : Nat) (l : List (String × α)) :
    modifyAt f i l = l.modify i fun p => (p.1, f p.2) := by
  induction l generalizing i with
  | nil => cases i <;> rfl
  | cons x t ih => cases i <;> simp [modifyAt, ih]

@[simp] theorem modifyAt_length (f : α → α) (i : Nat) (l : List (String × α)) :
    (modifyAt f i l).length = l.length := by
  simp [modifyAt_eq_modify]

theorem getElem?_modifyAt_ne (f : α → α) {i j : Nat} (h : j ≠ i) (l : List (String × α)) :
    (modifyAt f i l)[j]? = l[j]? := by
  rw [modifyAt_eq_modify, List.getElem?_modify_ne _ _ (Ne.symm h)]

theorem getElem?_modifyAt_self (f : α → α) (i : Nat) (l : List (String × α)) :
    (modifyAt f i l)[i]? = (l[i]?).map fun p => (p.1, f p.2) := by
  rw [modifyAt_eq_modify, List.getElem?_modify_eq]; rfl

theorem modifyAt_of_none (f : α → α) {i : Nat} {l : List (String × α)} (h : l[i]? = none) :
    modifyAt f i l = l := by
  rw [modifyAt_eq_modify, List.modify_eq_self (List.getElem?_eq_none_iff.1 h)]

theorem getElem?_modifyAt_of_eq (f : α → α) {i : Nat} {l : List (String × α)} {k : String} {v : α}
    (h : l[i]? = some (k, v)) : (modifyAt f i l)[i]? = some (k, f v) := by
  rw [getElem?_modifyAt_self, h]; rfl

theorem modifyAt_congr {f g : α → α} {i : Nat} {l : List (String × α)}
    (h : ∀ k v, l[i]? = some (k, v) → f v = g v) : modifyAt f i l = modifyAt g i l := by
  refine List.ext_getElem? fun j => ?_
  by_cases hj : j = i
  · subst hj
    cases hl : l[j]? with
    | none => rw [modifyAt_of_none f hl, modifyAt_of_none g hl]
    | some p => rw [getElem?_modifyAt_of_eq f hl, getElem?_modifyAt_of_eq g hl, h _ _ hl]
  · rw [getElem?_modifyAt_ne f hj, getElem?_modifyAt_ne g hj]

theorem modifyAt_eq_self {f : α → α} {i : Nat} {l : List (String × α)}
    (h : ∀ k v, l[i]? = some (k, v) → f v = v) : modifyAt f i l = l := by
  rw [modifyAt_congr (g := id) h, modifyAt_eq_modify]
  exact List.modify_id i l

theorem modifyAt_modifyAt (f g : α → α) (i : Nat) (l : List (String × α)) :
    modifyAt f i (modifyAt g i l) = modifyAt (fun x => f (g x)) i l := by
  simp only [modifyAt_eq_modify, List.modify_modify_eq]; rfl

theorem modifyAt_comm (f g : α → α) {i j : Nat} (h : i ≠ j) (l : List (String × α)) :
    modifyAt f i (modifyAt g j l) = modifyAt g j (modifyAt f i l) := by
  simp only [modifyAt_eq_modify, List.modify_modify_ne _ _ _ h]

theorem modifyAt_append_cons (f : α → α) (l₁ : List (String × α)) (k : String) (v : α)
    (l₂ : List (String × α)) :
    modifyAt f l₁.length (l₁ ++ (k, v) :: l₂) = l₁ ++ (k, f v) :: l₂ := by
  induction l₁ with
  | nil => rfl
  | cons x t ih => simp [modifyAt, ih]

theorem mem_modifyAt {f : α → α} {i : Nat} {l : List (String × α)} {k : String} {w : α}
    (h : (k, w) ∈ modifyAt f i l) : (k, w) ∈ l ∨ ∃ v, l[i]? = some (k, v) ∧ w = f v := by
  obtain ⟨j, hj⟩ := List.getElem?_of_mem h
  by_cases hji : j = i
  · subst hji
    rw [getElem?_modifyAt_self, Option.map_eq_some_iff] at hj
    obtain ⟨p, hp, he⟩ := hj
    cases he
    exact .inr ⟨p.2, hp, rfl⟩
  · rw [getElem?_modifyAt_ne f hji] at hj
    exact .inl (List.mem_of_getElem? hj)

theorem map_modify_of_eq {γ : Type} {φ : β → γ} {g : β → β} (h : ∀ x, φ (g x) = φ x) (i : Nat)
    (l : List β) : (l.modify i g).map φ = l.map φ := by
  induction l generalizing i with
  | nil => simp
  | cons x t ih => cases i <;> simp [h, ih]

@[simp] theorem mapSnd_length (f : α → α) (l : List (String × α)) :
    (mapSnd f l).length = l.length := by
  simp [mapSnd_eq_map]

theorem mapSnd_mapSnd (f g : α → α) (l : List (String × α)) :
    mapSnd f (mapSnd g l) = mapSnd (fun x => f (g x)) l := by
  simp [mapSnd_eq_map]

theorem mapSnd_congr {f g : α → α} {l : List (String × α)}
    (h : ∀ k v, (k, v) ∈ l → f v = g v) : mapSnd f l = mapSnd g l := by
  simp only [mapSnd_eq_map]
  exact List.map_congr_left fun p hp => by rw [h p.1 p.2 hp]

theorem mem_mapSnd {f : α → α} {l : List (String × α)} {k : String} {w : α}
    (h : (k, w) ∈ mapSnd f l) : ∃ v, (k, v) ∈ l ∧ w = f v := by
  rw [mapSnd_eq_map, List.mem_map] at h
  obtain ⟨p, hp, he⟩ := h
  cases he
  exact ⟨p.2, hp, rfl⟩

theorem find?_mem {k : String} {l : List (String × α)} {v : α} (h : find? k l = some v) :
    (k, v) ∈ l := by
  induction l with
  | nil => simp [find?] at h
  | cons x t ih =>
    obtain ⟨a, b⟩ := x
    simp only [find?] at h
    split at h
    · rename_i hk; cases h; subst hk; simp
    · simp [ih h]

theorem find?_map (g : α → β) (k : String) (l : List (String × α)) :
    find? k (l.map fun p => (p.1, g p.2)) = (find? k l).map g := by
  induction l with
  | nil => rfl
  | cons x t ih =>
    simp only [List.map_cons, find?]
    split
    · rfl
    · exact ih

end

theorem typesSkel_eq_map (l : List (String × Desc)) :
    typesSkel l = l.map fun p => (p.1, p.2.attrs.core) := by
  induction l with
  | nil => rfl
  | cons x t ih => simp [typesSkel, ih]

theorem skel_eq_map (s : Spec) : skel s = s.map fun p => (p.1, p.2.skel) := by
  induction s with
  | nil => rfl
  | cons x t ih => simp [skel, ih]

@[simp] theorem skel_length (s : Spec) : (skel s).length = s.length := by
  simp [skel_eq_map]

theorem typesSkel_length (l : List (String × Desc)) : (typesSkel l).length = l.length := by
  simp [typesSkel_eq_map]

theorem skel_getElem? (s : Spec) (i : Nat) :
    (skel s)[i]? = (s[i]?).map (fun p => (p.1, p.2.skel)) := by
  simp [skel_eq_map]

theorem find?_skel (k : String) (s : Spec) : find? k (skel s) = (find? k s).map Module.skel := by
  rw [skel_eq_map, find?_map]

theorem find?_typesSkel (k : String) (l : List (String × Desc)) :
    find? k (typesSkel l) = (find? k l).map (fun d => d.attrs.core) := by
  rw [typesSkel_eq_map]; exact find?_map (fun d => d.attrs.core) k l

theorem skel_modifyAt {g : Module → Module} (h : ∀ m, (g m).skel = m.skel)
    (i : Nat) (s : Spec) : skel (modifyAt g i s) = skel s := by
  rw [skel_eq_map, skel_eq_map, modifyAt_eq_modify]
  exact map_modify_of_eq (fun p => by rw [h]) i s

theorem Module.skel_modifyType {f : Desc → Desc} (h : ∀ d, (f d).attrs.core = d.attrs.core)
    (k : Nat) (m : Module) : (m.modifyType k f).skel = m.skel := by
  simp only [Module.skel, Module.modifyType, typesSkel_eq_map, modifyAt_eq_modify]
  rw [map_modify_of_eq (fun p => by rw [h]) k m.types]

theorem skel_mapTypes_at {f : Desc → Desc} (hf : ∀ d, (f d).attrs.core = d.attrs.core)
    (i : Nat) (s : Spec) : skel (modifyAt (Module.mapTypes f) i s) = skel s :=
  skel_modifyAt (fun m => by
    simp [Module.skel, Module.mapTypes, typesSkel_eq_map, mapSnd_eq_map, hf]) i s

theorem mapTypes_mapTypes (f g : Desc → Desc) (m : Module) :
    (m.mapTypes g).mapTypes f = m.mapTypes (fun d => f (g d)) := by
  simp [Module.mapTypes, mapSnd_mapSnd]

theorem mapTypes_at_idem {f : Desc → Desc} (hf : ∀ d, f (f d) = f d) (i : Nat) (s : Spec) :
    modifyAt (Module.mapTypes f) i (modifyAt (Module.mapTypes f) i s)
      = modifyAt (Module.mapTypes f) i s := by
  rw [modifyAt_modifyAt]
  refine modifyAt_congr fun _ m _ => ?_
  rw [mapTypes_mapTypes]
  exact congrArg m.mapTypes (funext hf)

theorem header_of_skel_eq {s s' : Spec} (h : skel s' = skel s) {i : Nat} {mn : String} {m : Module}
    (hi : s[i]? = some (mn, m)) : ∃ m', s'[i]? = some (mn, m') ∧ m'.skel = m.skel := by
  have h2 := skel_getElem? s' i
  rw [h, skel_getElem?, hi] at h2
  cases hs : s'[i]? with
  | none => simp [hs] at h2
  | some p =>
    simp only [hs, Option.map_some, Option.some.injEq, Prod.mk.injEq] at h2
    exact ⟨p.2, by rw [h2.1], h2.2.symm⟩

theorem Module.skel_fields {m m' : Module} (h : m'.skel = m.skel) :
    m'.tags = m.tags ∧ m'.extImplied = m.extImplied ∧ m'.types.length = m.types.length := by
  refine ⟨congrArg ModSkel.tags h, congrArg ModSkel.extImplied h, ?_⟩
  simpa [Module.skel, typesSkel_length] using congrArg (fun x => x.types.length) h

end Asn1.SpecDict
