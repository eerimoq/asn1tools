import Asn1Proofs.Lemmas.GserParse
import Asn1Proofs.Lemmas.JsonAscii
import Asn1Proofs.Lemmas.JerLeaf
import Asn1Proofs.Lemmas.UperUtf8
/-
  The layout of a well-formed tree whose character strings consist of Unicode scalar values consists of
  Unicode scalar values, which is what the strict UTF-8 decoder needs to give a text back from its octets.
-/
namespace Asn1.Gser
open Asn1.Json (isWs Ascii renderInt_ascii ascii_of_ws)
open Asn1.Jer (hexDigitU_lt)

/-- Unicode scalar values (what UTF-8 can carry): the model's `Json.isScalar` of every element, as a `Prop`
in the form `hasType_charString` and `Uper.utf8Dec_flatMap_utf8Enc` state it -/
def Scalar (l : List Nat) : Prop := ∀ c ∈ l, c < 0x110000 ∧ ¬ (0xd800 ≤ c ∧ c < 0xe000)

theorem Scalar.append {a b : List Nat} (ha : Scalar a) (hb : Scalar b) : Scalar (a ++ b) := by
  intro x hx
  simp only [List.mem_append] at hx
  rcases hx with hx | hx
  · exact ha x hx
  · exact hb x hx

theorem Scalar.of_ascii {l : List Nat} (h : Ascii l) : Scalar l := by
  intro c hc
  have := h c hc
  omega

theorem Scalar.lit (l : List Nat) (h : l.all (· < 128) = true := by decide) : Scalar l := by
  intro x hx
  have := of_decide_eq_true (List.all_eq_true.mp h x hx)
  omega

theorem Scalar.map {α : Type} {f : α → Nat} {l : List α} (h : ∀ a ∈ l, f a < 128) : Scalar (l.map f) := by
  intro x hx
  obtain ⟨a, ha, rfl⟩ := List.mem_map.mp hx
  have := h a ha
  omega

theorem word_scalar {w : List Nat} (hw : isWord w = true) : Scalar w := by
  obtain ⟨_, _, _, _, hall, _⟩ := isWord_parts hw
  intro c hc
  have := isWordChar_cases (hall c hc)
  omega

mutual
  def strsScalar : GVal → Prop
    | .str cps => Scalar cps
    | .braces its => itemsScalar its
    | .choice _ v => strsScalar v
    | _ => True
  def itemsScalar : List (Option (List Nat) × GVal) → Prop
    | [] => True
    | (_, v) :: r => strsScalar v ∧ itemsScalar r
end

theorem quoteChar_scalar (cps : List Nat) (h : Scalar cps) : Scalar (cps.flatMap quoteChar) := by
  intro x hx
  simp only [List.mem_flatMap] at hx
  obtain ⟨c, hc, hx⟩ := hx
  unfold quoteChar at hx
  split at hx
  · simp only [List.mem_cons, List.not_mem_nil, or_false, or_self] at hx; subst hx; omega
  · simp only [List.mem_cons, List.not_mem_nil, or_false] at hx; rw [hx]; exact h c hc

theorem renderName_scalar (nm : Option (List Nat)) (h : nameOk nm = true) : Scalar (renderName nm) := by
  cases nm with
  | none => exact .lit _
  | some n => exact .append (word_scalar (isWord_of_isIdent h)) (.lit _)

theorem commaIf_scalar {α : Type} (l : List α) : Scalar (commaIf l) := by
  unfold commaIf
  split
  · exact .lit _
  · exact .lit _

mutual
  theorem renderV_scalar (ind : Nat) (g : GVal) (hg : wfG g = true) (hs : strsScalar g) (sep : List Nat)
      (hsep : ∀ c ∈ sep, isWs c = true) : Scalar (renderV ind sep g) := by
    match g, hg, hs with
    | .word w, hg, _ => rw [renderV]; exact word_scalar hg
    | .num i, _, _ => rw [renderV]; exact .of_ascii (renderInt_ascii i)
    | .hstr ds, hg, _ =>
      rw [renderV]
      exact .append (.append (.lit _) (.map fun d hd =>
        hexDigitU_lt d (of_decide_eq_true (List.all_eq_true.mp hg d hd)))) (.lit _)
    | .bstr bs, _, _ =>
      rw [renderV]
      exact .append (.append (.lit _) (.map fun b _ => by cases b <;> decide)) (.lit _)
    | .str cps, _, hs =>
      rw [renderV]
      exact .append (.append (.lit _) (quoteChar_scalar cps hs)) (.lit _)
    | .braces its, hg, hs =>
      rw [renderV]
      have hm := replicate_ws sep ind hsep
      exact .append (.append (.append (.lit _) (renderItems_scalar ind its hg hs _ hm))
        (.of_ascii (ascii_of_ws hsep))) (.lit _)
    | .choice id v, hg, hs =>
      rw [renderV]
      exact .append (.append (word_scalar (isWord_of_isIdent (wfG_choice hg).1)) (.lit _))
        (renderV_scalar ind v (wfG_choice hg).2 hs sep hsep)
  theorem renderItems_scalar (ind : Nat) (l : List (Option (List Nat) × GVal)) (hl : wfItems l = true)
      (hs : itemsScalar l) (msep : List Nat) (hm : ∀ c ∈ msep, isWs c = true) :
      Scalar (renderItems ind msep l) := by
    match l, hl, hs with
    | [], _, _ => rw [renderItems]; exact .lit _
    | (nm, v) :: xs, hl, hs =>
      obtain ⟨hn, hv, hxs⟩ := wfItems_cons hl
      rw [renderItems]
      exact .append (.append (.append (.append (.of_ascii (ascii_of_ws hm)) (renderName_scalar nm hn))
        (renderV_scalar ind v hv hs.1 msep hm)) (commaIf_scalar xs)) (renderItems_scalar ind xs hxs hs.2 msep hm)
end

theorem assignment_scalar (tn : List Nat) (htn : isTypeRef tn = true) (indent : Option Nat) (g : GVal)
    (hg : wfG g = true) (hs : strsScalar g) :
    Scalar (tn.map lowerAscii ++ [32] ++ tn ++ [32] ++ kAssign ++ [32] ++ lstrip (render indent g)) := by
  obtain ⟨ind, sep, hsep, e⟩ := render_eq indent g
  rw [lstrip_render indent g hg, e]
  exact .append (.append (.append (.append (.append (.append
    (word_scalar (isWord_of_isIdent (isIdent_lower_of_isTypeRef htn)))
    (.lit _)) (word_scalar (isWord_of_isTypeRef htn))) (.lit _))
    (.lit _)) (.lit _))
    (renderV_scalar ind g hg hs sep hsep)

theorem textCps_utf8Enc (s : List Nat) (hs : Scalar s) : textCps (s.flatMap Uper.utf8Enc) = some s :=
  Uper.utf8Dec_flatMap_utf8Enc s hs _ (Nat.le_refl _)

end Asn1.Gser
