import Asn1Proofs.Lemmas.X690Complete
/-
  C04 completeness of the code's BER decoder w.r.t. the strict reference decoder `decVS`: the
  statement `COMP` and what its cases share.  The two length forms are one `Bool` (`atEndB`, DerSeq.lean):
  `framing` opens a constructed encoding in either (CHOICE, where the code itself branches on the
  length form after the body, uses `readLen_of_constructedContentsI` directly), and `items_of_run`
  takes the code's loop `BerCodec.items` along a `Run` of the reference decoder.
-/
namespace Asn1.X690
open Asn1.Der (mkTag DecM eoc)
open Asn1.BerCodec (items)

/-- length of the identifier octets of the tagging context; written with one choice of universal
number and form, which do not matter for the length of a context tag (`tagLen_le`) -/
def tagLen : Option Nat → Nat
  | none => 0
  | some i => (mkTag 0 true (some i)).length

theorem tagLen_le (u : Nat) (c : Bool) (tg : Option Nat) : tagLen tg ≤ (mkTag u c tg).length := by
  cases tg with
  | none => exact Nat.zero_le _
  | some i => exact Der.mkTag_ctx_length_mono (Nat.le_refl i)

/-- What the strict reference decoder accepts for `t` at the start of `bs`, the code's BER decoder
decodes to the same value, consuming the same `k` octets.  `extra` is whatever follows in the code's
input: the reference decoder cuts the contents of a definite-length constructed encoding out of the
input before it parses them, the code never does.  `tagLen tg < k`: more than the identifier octets
is consumed, so every iteration of the code's loops (`BerCodec.items`) makes progress and something
follows a component's tag. -/
def COMP (t : Ty) : Prop :=
  ∀ (tg : Option Nat) (fuel fuelC : Nat) (bs rest extra : Bytes) (v : Val),
    decVS t tg fuel bs = some (v, rest) → (bs ++ extra).length < fuelC →
    ∃ k, BerCodec.dec t tg fuelC (bs ++ extra) = .ok (some (v, k, rest ++ extra)) ∧
      bs.length = k + rest.length ∧ tagLen tg < k

theorem comp_leaf (t : Ty) (hl : isPrimLeaf t = true) : COMP t := by
  intro tg fuel fuelC bs rest extra v h hlen
  rw [decVS_leaf hl] at h
  have h1 := decV_leaf_append t tg fuel bs rest extra v hl h
  rw [decV_leaf hl, ← decV_leaf hl tg fuelC] at h1
  obtain ⟨k, hk, hl2, hk0⟩ := complete_leaf t tg fuelC (bs ++ extra) (rest ++ extra) v hl h1
  have := tagLen_le (Der.univNumber t) false tg
  exact ⟨k, hk, by simp only [List.length_append] at hl2; omega, by omega⟩

theorem comp_boolean : COMP .boolean := comp_leaf _ rfl
theorem comp_null : COMP .null := comp_leaf _ rfl
theorem comp_integer (c : IntC) : COMP (.integer c) := comp_leaf _ rfl
theorem comp_enumerated (root : List (String × Int)) (ext : Option (List (String × Int))) :
    COMP (.enumerated root ext) := comp_leaf _ rfl

theorem eoc_of_not_startsEOC {x : Bytes} (extra : Bytes) (hlen : 2 ≤ x.length) (hs : startsEOC x = false) :
    eoc (x ++ extra) = .ok false := by
  match x, hlen, hs with
  | 0 :: 0 :: t, _, hs => simp [startsEOC] at hs
  | 0 :: (b + 1) :: t, _, _ => rfl
  | (a + 1) :: b :: t, _, _ => rfl

/-- what is left for the code after the end of the contents: it has consumed the end-of-contents octets -/
def afterEnd (indef : Bool) (y : Bytes) : Bytes := if indef then y.drop 2 else y

theorem afterEnd_length_le (indef : Bool) (y : Bytes) : (afterEnd indef y).length ≤ y.length := by
  unfold afterEnd; split <;> simp

/-- The contents of a constructed encoding, both length forms at once: the reference decoder has
parsed `z` up to `y`, the end of the contents in its length form; the code gets the length (if any)
and goes on in `z ++ tail`, and what follows the end of the contents there is what follows the
encoding (`tail` is `rest ++ extra` in the definite form, `extra` in the indefinite one). -/
theorem framing {α : Type} {p : Bool → Bytes → Option (α × Bytes)} {r rest : Bytes} {a : α}
    (h : constructedContentsI p r = some (a, rest)) (extra : Bytes) :
    ∃ (indef : Bool) (z y tail : Bytes) (hdr : Nat), p indef z = some (a, y) ∧ atEndB indef y = true ∧
      afterEnd indef y ++ tail = rest ++ extra ∧
      Der.readLen false (r ++ extra) = .ok (if indef then none else some z.length, hdr, z ++ tail) ∧
      (r ++ extra).length = hdr + (z ++ tail).length ∧ 0 < hdr := by
  rcases readLen_of_constructedContentsI h extra with ⟨hdr, c, hp, hrl, hl, hd0⟩ | ⟨z, hp, hrl, hl⟩
  · exact ⟨false, c, [], rest ++ extra, hdr, hp, rfl, rfl, hrl, by simp only [List.length_append]; omega, hd0⟩
  · exact ⟨true, z, 0 :: 0 :: rest, extra, 1, hp, rfl, rfl, hrl, by simp only [List.length_append]; omega,
      Nat.one_pos⟩

/-- The loops of the reference decoder (`elements`, `segments`): items, each read by `one`, up to the
end of the contents. -/
inductive Run {α : Type} (one : Bytes → α → Bytes → Prop) : Bytes → List α → Bytes → Prop
  | stop {x : Bytes} : (x.isEmpty || startsEOC x) = true → Run one x [] x
  | step {x x' y : Bytes} {a : α} {as : List α} :
      (x.isEmpty || startsEOC x) = false → one x a x' → Run one x' as y → Run one x (a :: as) y

/-- The code's loop `BerCodec.items` (fuel `lf`), in either length form, follows a run of the reference
decoder whose items the code's item decoder `D` accepts.  `hone` is that acceptance for inputs
shorter than `N` -- in the uses the induction hypothesis `COMP` of the element type, `N` the code's
fuel. -/
theorem items_of_run {α β : Type} (D : Bytes → DecM (Option (β × Nat × Bytes))) (one : Bytes → α → Bytes → Prop)
    (g : α → β) (indef : Bool) (tail : Bytes) (N : Nat)
    (hone : ∀ x a x', one x a x' → (x ++ tail).length < N →
      ∃ k, D (x ++ tail) = .ok (some (g a, k, x' ++ tail)) ∧ x.length = k + x'.length ∧ 0 < k)
    {x y : Bytes} {as : List α} (h : Run one x as y) (hy : atEndB indef y = true) :
    ∀ lf, x.length < lf → (x ++ tail).length < N →
      ∃ k, items D lf (if indef then none else some x.length) (x ++ tail)
          = .ok (as.map g, k, afterEnd indef y ++ tail) ∧
        x.length = k + (afterEnd indef y).length ∧ (indef = true → 2 ≤ k) := by
  induction h with
  | stop hs =>
    intro lf hlf _
    obtain ⟨lf', rfl⟩ : ∃ lf', lf = lf' + 1 := ⟨lf - 1, by omega⟩
    cases indef with
    | false =>
      simp only [atEndB, if_false, Bool.false_eq_true, List.isEmpty_iff] at hy
      subst hy
      exact ⟨0, by simp [items, afterEnd], by simp [afterEnd], by simp⟩
    | true =>
      obtain ⟨r, rfl⟩ := startsEOC_iff.mp hy
      exact ⟨2, by simp [items, eoc, afterEnd], by simp [afterEnd]; omega, fun _ => Nat.le_refl _⟩
  | @step x x' y a as hs h1 _ ih =>
    intro lf hlf hN
    obtain ⟨lf', rfl⟩ : ∃ lf', lf = lf' + 1 := ⟨lf - 1, by omega⟩
    obtain ⟨k, hk, hlen, hk0⟩ := hone x a x' h1 hN
    obtain ⟨k', hk', hl', h2⟩ := ih hy lf' (by omega) (by simp only [List.length_append] at hN ⊢; omega)
    refine ⟨k + k', ?_, by omega, fun hi => by have := h2 hi; omega⟩
    cases indef with
    | false =>
      have hx : (x.length == 0) = false := by simpa using (show x.length ≠ 0 by omega)
      rw [if_neg Bool.false_ne_true] at hk' ⊢
      rw [show x'.length = x.length - k by omega] at hk'
      simp only [items, hx, hk, Option.map_some, hk', List.map_cons]
    | true =>
      -- the end-of-contents octets are still to come, so at least two octets are left
      have hse : startsEOC x = false := by
        cases hh : startsEOC x
        · rfl
        · simp [hh] at hs
      have := h2 rfl
      simp only [if_true] at hk' ⊢
      simp only [items, eoc_of_not_startsEOC tail (by omega) hse, hk, Option.map_none, hk', List.map_cons]

theorem run_of_elements {p : Bytes → Option (Val × Bytes)} :
    ∀ {f : Nat} {x : Bytes} {vs : List Val} {y : Bytes}, elements p f x = some (vs, y) →
      Run (fun x v x' => p x = some (v, x')) x vs y := by
  intro f
  induction f with
  | zero => intro x vs y h; simp [elements] at h
  | succ f ih =>
    intro x vs y h
    rw [elements] at h
    split at h
    · rename_i hs
      cases h
      exact .stop hs
    · rename_i hs
      split at h
      · rename_i v x' hd
        split at h
        · rename_i vs' y' he
          cases h
          exact .step (by simpa using hs) hd (ih he)
        · cases h
      · cases h

end Asn1.X690

#print axioms Asn1.X690.comp_integer
