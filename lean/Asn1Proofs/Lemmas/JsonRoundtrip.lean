import Asn1Proofs.Lemmas.JsonLex
/-
  The JSON reader inverts the writer: a rendered value followed by anything that may follow a value is read
  back as the tree and that rest (`render_inv`, `value_render`), for every indent.  The whole-document form
  `Json.parse (Json.render indent j) = some j` is `C02j.json_parse_render`.
-/
namespace Asn1.Json

mutual
  /-- well-formed JSON trees: strings and member names are lists of Unicode scalar values; no number with
  a fraction / exponent (the JER model never produces one) -/
  def wfV : JsonV → Bool
    | .null => true
    | .bool _ => true
    | .num _ => true
    | .dec _ _ => false
    | .str s => s.all isScalar
    | .arr xs => wfList xs
    | .obj kvs => wfMembers kvs
  def wfList : List JsonV → Bool
    | [] => true
    | x :: xs => wfV x && wfList xs
  def wfMembers : List (List Nat × JsonV) → Bool
    | [] => true
    | (k, v) :: r => k.all isScalar && wfV v && wfMembers r
end

theorem value_renderInt (i : Int) (rest : List Nat) (hr : okFollow rest) (fuel : Nat) :
    value (fuel + 1) (renderInt i ++ rest) = some (.num i, rest) := by
  obtain ⟨h, tl, e, hh⟩ := renderInt_head i
  have key := parseNumber_renderInt i rest hr
  obtain ⟨_, _, _, n1, n2, n3, n4, n5, n6⟩ := numHead_facts hh
  rw [e, List.cons_append] at key ⊢
  rw [value, if_neg n1, if_neg n2, if_neg n3, if_neg n4, if_neg n5, if_neg n6, if_pos hh]
  exact key

theorem length_flatMap_renderChar (cps : List Nat) : cps.length ≤ (cps.flatMap renderChar).length := by
  induction cps with
  | nil => simp
  | cons c cps ih =>
    obtain ⟨h, tl, e, _⟩ := renderChar_head c
    simp only [List.flatMap_cons, List.length_append, List.length_cons, e]
    omega

theorem renderV_head (indent : Option Nat) (level : Nat) (j : JsonV) :
    ∃ h tl, renderV indent level j = h :: tl ∧ isWs h = false ∧ h ≠ 93 ∧ h ≠ 125 := by
  cases j with
  | null => exact ⟨110, _, rfl, by decide⟩
  | bool b => cases b <;> exact ⟨_, _, rfl, by decide⟩
  | num i =>
    obtain ⟨h, tl, e, hh⟩ := renderInt_head i
    obtain ⟨h1, h2, h3, _⟩ := numHead_facts hh
    exact ⟨h, tl, by rw [renderV, e], h1, h2, h3⟩
  | dec m e =>
    obtain ⟨h, tl, e', hh⟩ := renderInt_head m
    obtain ⟨h1, h2, h3, _⟩ := numHead_facts hh
    exact ⟨h, tl ++ [101] ++ renderInt e, by rw [renderV, e']; rfl, h1, h2, h3⟩
  | str s => exact ⟨34, _, rfl, by decide⟩
  | arr xs => cases xs <;> exact ⟨91, _, rfl, by decide⟩
  | obj kvs => cases kvs <;> exact ⟨123, _, rfl, by decide⟩

theorem skipWs_renderV (indent : Option Nat) (level : Nat) (j : JsonV) (w s : List Nat)
    (hw : ∀ c ∈ w, isWs c = true) :
    skipWs (w ++ (renderV indent level j ++ s)) = renderV indent level j ++ s := by
  obtain ⟨h, tl, e, h1, _, _⟩ := renderV_head indent level j
  rw [skipWs_ws_append w _ hw, e, List.cons_append, skipWs_of_not_ws h _ h1]

theorem value_arr {f d : Nat} {r r' r'' : List Nat} {xs : List JsonV} (hs : skipWs r = d :: r') (hd : d ≠ 93)
    (he : elems f (d :: r') = some (xs, r'')) : value (f + 1) (91 :: r) = some (.arr xs, r'') := by
  simp only [value, Nat.reduceEqDiff, reduceIte, hs, if_neg hd, he]

theorem value_obj {f d : Nat} {r r' r'' : List Nat} {kvs : List (List Nat × JsonV)} (hs : skipWs r = d :: r')
    (hd : d ≠ 125) (hm : members f (d :: r') = some (kvs, r'')) : value (f + 1) (123 :: r) = some (.obj kvs, r'') := by
  simp only [value, Nat.reduceEqDiff, reduceIte, hs, if_neg hd, hm]

theorem elems_more {f : Nat} {s r r' r'' : List Nat} {v : JsonV} {vs : List JsonV} (hv : value f s = some (v, r))
    (hs : skipWs r = 44 :: r') (he : elems f (skipWs r') = some (vs, r'')) : elems (f + 1) s = some (v :: vs, r'') := by
  simp only [elems, hv, hs, reduceIte, he]

theorem elems_last {f : Nat} {s r r' : List Nat} {v : JsonV} (hv : value f s = some (v, r))
    (hs : skipWs r = 93 :: r') : elems (f + 1) s = some ([v], r') := by
  simp only [elems, hv, hs, Nat.reduceEqDiff, reduceIte]

theorem members_step {f d : Nat} {r0 r1 r2 r3 r4 k : List Nat} {v : JsonV} (hk : parseStr f r0 = some (k, r1))
    (hc : skipWs r1 = 58 :: r2) (hv : value f (skipWs r2) = some (v, r3)) (hs : skipWs r3 = d :: r4) :
    members (f + 1) (34 :: r0) =
      if d = 44 then
        match members f (skipWs r4) with
        | none => none
        | some (kvs, r5) => some ((k, v) :: kvs, r5)
      else if d = 125 then some ([(k, v)], r4) else none := by
  simp only [members, reduceIte, hk, hc, hv, hs]
  rfl

theorem renderStr_append (cps s : List Nat) : renderStr cps ++ s = 34 :: (cps.flatMap renderChar ++ 34 :: s) := by
  simp only [renderStr, List.append_assoc, List.cons_append, List.nil_append]

theorem renderV_arr_append (indent : Option Nat) (level : Nat) (x : JsonV) (xs : List JsonV) (s : List Nat) :
    renderV indent level (.arr (x :: xs)) ++ s = 91 :: (nl indent (level + 1) ++ (renderV indent (level + 1) x ++
      (renderTail indent (level + 1) xs ++ (nl indent level ++ 93 :: s)))) := by
  simp only [renderV, List.append_assoc, List.cons_append, List.nil_append]

theorem renderTail_cons_append (indent : Option Nat) (level : Nat) (y : JsonV) (ys : List JsonV) (s : List Nat) :
    renderTail indent level (y :: ys) ++ s =
      44 :: (nl indent level ++ (renderV indent level y ++ (renderTail indent level ys ++ s))) := by
  simp only [renderTail, List.append_assoc, List.cons_append, List.nil_append]

theorem renderV_obj_append (indent : Option Nat) (level : Nat) (k : List Nat) (v : JsonV)
    (kvs : List (List Nat × JsonV)) (s : List Nat) :
    renderV indent level (.obj ((k, v) :: kvs)) ++ s = 123 :: (nl indent (level + 1) ++ (renderStr k ++
      (keySep indent ++ (renderV indent (level + 1) v ++ (renderMembers indent (level + 1) kvs ++
        (nl indent level ++ 125 :: s)))))) := by
  simp only [renderV, List.append_assoc, List.cons_append, List.nil_append]

theorem renderMembers_cons_append (indent : Option Nat) (level : Nat) (k : List Nat) (v : JsonV)
    (kvs : List (List Nat × JsonV)) (s : List Nat) :
    renderMembers indent level ((k, v) :: kvs) ++ s = 44 :: (nl indent level ++ (renderStr k ++
      (keySep indent ++ (renderV indent level v ++ (renderMembers indent level kvs ++ s))))) := by
  simp only [renderMembers, List.append_assoc, List.cons_append, List.nil_append]

theorem wfMembers_append (a b : List (List Nat × JsonV)) (ha : wfMembers a = true) (hb : wfMembers b = true) :
    wfMembers (a ++ b) = true := by
  induction a with
  | nil => exact hb
  | cons x r ih =>
    obtain ⟨k, v⟩ := x
    simp only [wfMembers, Bool.and_eq_true] at ha
    simp [wfMembers, ha.1.1, ha.1.2, ih ha.2]

theorem okFollow_renderTail (indent : Option Nat) (level : Nat) (xs : List JsonV) (w rest : List Nat)
    (hw : ∀ c ∈ w, isWs c = true) : okFollow (renderTail indent level xs ++ (w ++ 93 :: rest)) := by
  cases xs with
  | nil => rw [renderTail, List.nil_append]; exact okFollow_ws_append w 93 rest hw (by decide)
  | cons y ys => rw [renderTail_cons_append]; exact List.mem_cons_self ..

theorem okFollow_renderMembers (indent : Option Nat) (level : Nat) (kvs : List (List Nat × JsonV))
    (w rest : List Nat) (hw : ∀ c ∈ w, isWs c = true) :
    okFollow (renderMembers indent level kvs ++ (w ++ 125 :: rest)) := by
  cases kvs with
  | nil => rw [renderMembers, List.nil_append]; exact okFollow_ws_append w 125 rest hw (by decide)
  | cons kv kvs => rw [renderMembers_cons_append]; exact List.mem_cons_self ..

theorem skipWs_keySep (indent : Option Nat) (s : List Nat) :
    ∃ r2, skipWs (keySep indent ++ s) = 58 :: r2 ∧ skipWs r2 = skipWs s := by
  cases indent with
  | none => exact ⟨s, rfl, rfl⟩
  | some n => exact ⟨32 :: s, rfl, rfl⟩

/-- Induction on the fuel, which the reader spends one unit of per call: with more than twice the remaining
input it reads back a rendered value, the items of an array up to `]`, the members of an object up to `}`.
Twice: an item costs one call of `elems` / `members` and one of `value`, and is at least one character long;
the list readers need one unit more (`+ 2`): they spend one before they call `value` on the same text. -/
theorem render_inv (indent : Option Nat) (fuel : Nat) :
    (∀ (j : JsonV) (level : Nat) (rest : List Nat), wfV j = true → okFollow rest →
      2 * (renderV indent level j ++ rest).length + 1 ≤ fuel →
      value fuel (renderV indent level j ++ rest) = some (j, rest)) ∧
    (∀ (x : JsonV) (xs : List JsonV) (level : Nat) (w rest : List Nat), wfList (x :: xs) = true →
      (∀ c ∈ w, isWs c = true) →
      2 * (renderV indent level x ++ (renderTail indent level xs ++ (w ++ 93 :: rest))).length + 2 ≤ fuel →
      elems fuel (renderV indent level x ++ (renderTail indent level xs ++ (w ++ 93 :: rest))) =
        some (x :: xs, rest)) ∧
    (∀ (k : List Nat) (v : JsonV) (kvs : List (List Nat × JsonV)) (level : Nat) (w rest : List Nat),
      wfMembers ((k, v) :: kvs) = true → (∀ c ∈ w, isWs c = true) →
      2 * (renderStr k ++ (keySep indent ++ (renderV indent level v ++
        (renderMembers indent level kvs ++ (w ++ 125 :: rest))))).length + 2 ≤ fuel →
      members fuel (renderStr k ++ (keySep indent ++ (renderV indent level v ++
        (renderMembers indent level kvs ++ (w ++ 125 :: rest))))) = some ((k, v) :: kvs, rest)) := by
  induction fuel with
  | zero => exact ⟨fun _ _ _ _ _ hf => by omega, fun _ _ _ _ _ _ _ hf => by omega, fun _ _ _ _ _ _ _ _ hf => by omega⟩
  | succ f ih =>
    obtain ⟨ihv, ihe, ihm⟩ := ih
    refine ⟨?_, ?_, ?_⟩
    · intro j level rest hj hr hf
      cases j with
      | null => rw [renderV]; simp [value, expect]
      | bool b => cases b <;> rw [renderV] <;> simp [value, expect]
      | num i => rw [renderV]; exact value_renderInt i rest hr f
      | dec _ _ => simp [wfV] at hj
      | str cps =>
        rw [renderV] at hf ⊢
        rw [wfV] at hj
        have hlen := length_flatMap_renderChar cps
        rw [renderStr_append] at hf ⊢
        simp only [List.length_cons, List.length_append] at hf
        rw [value]
        simp only [Nat.reduceEqDiff, reduceIte]
        rw [parseStr_render cps (by simpa using hj) rest f (by omega)]
      | arr l =>
        cases l with
        | nil => rw [renderV]; simp [value, skipWs, isWs]
        | cons x xs =>
          rw [wfV] at hj
          rw [renderV_arr_append] at hf ⊢
          obtain ⟨h, tl, e, _, h93, _⟩ := renderV_head indent (level + 1) x
          have he := ihe x xs (level + 1) (nl indent level) rest hj (nl_ws indent level) (by
            simp only [List.length_cons, List.length_append] at hf ⊢
            omega)
          rw [e, List.cons_append] at he
          exact value_arr ((skipWs_renderV indent (level + 1) x _ _ (nl_ws indent (level + 1))).trans
            (by rw [e, List.cons_append])) h93 he
      | obj l =>
        cases l with
        | nil => rw [renderV]; simp [value, skipWs, isWs]
        | cons kv kvs =>
          obtain ⟨k, v⟩ := kv
          rw [wfV] at hj
          rw [renderV_obj_append] at hf ⊢
          have hm := ihm k v kvs (level + 1) (nl indent level) rest hj (nl_ws indent level) (by
            simp only [List.length_cons, List.length_append] at hf ⊢
            omega)
          rw [renderStr_append] at hm
          exact value_obj ((skipWs_nl indent (level + 1) _).trans
            (by rw [renderStr_append, skipWs_of_not_ws 34 _ (by decide)])) (by decide) hm
    · intro x xs level w rest hl hw hf
      rw [wfList, Bool.and_eq_true] at hl
      have hv := ihv x level _ hl.1 (okFollow_renderTail indent level xs w rest hw) (by omega)
      match xs, hl.2 with
      | [], _ =>
        rw [renderTail, List.nil_append] at hv ⊢
        refine elems_last hv ?_
        rw [skipWs_ws_append w _ hw, skipWs_of_not_ws 93 _ (by decide)]
      | y :: ys, hys =>
        rw [renderTail_cons_append] at hv hf ⊢
        refine elems_more hv (skipWs_of_not_ws 44 _ (by decide)) ?_
        rw [skipWs_renderV indent level y _ _ (nl_ws indent level)]
        exact ihe y ys level w rest hys hw (by
          simp only [List.length_cons, List.length_append] at hf ⊢
          omega)
    · intro k v kvs level w rest hl hw hf
      rw [wfMembers, Bool.and_eq_true, Bool.and_eq_true] at hl
      obtain ⟨⟨hk, hv⟩, hkvs⟩ := hl
      have hklen := length_flatMap_renderChar k
      rw [renderStr_append] at hf ⊢
      have hstr := parseStr_render k (by simpa using hk) (keySep indent ++ (renderV indent level v ++
        (renderMembers indent level kvs ++ (w ++ 125 :: rest)))) f (by
          simp only [List.length_cons, List.length_append] at hf
          omega)
      obtain ⟨r2, hc, hr2⟩ := skipWs_keySep indent (renderV indent level v ++
        (renderMembers indent level kvs ++ (w ++ 125 :: rest)))
      have hval := ihv v level _ hv (okFollow_renderMembers indent level kvs w rest hw) (by
        simp only [List.length_cons, List.length_append] at hf ⊢
        omega)
      rw [← skipWs_renderV indent level v [] _ (fun _ h => nomatch h), List.nil_append, ← hr2] at hval
      match kvs, hkvs with
      | [], _ =>
        rw [members_step hstr hc hval (by
          rw [renderMembers, List.nil_append, skipWs_ws_append w _ hw, skipWs_of_not_ws 125 _ (by decide)])]
        rfl
      | (k', v') :: ys, hys =>
        rw [members_step hstr hc hval (by rw [renderMembers_cons_append, skipWs_of_not_ws 44 _ (by decide)]),
          if_pos rfl, skipWs_nl, renderStr_append, skipWs_of_not_ws 34 _ (by decide), ← renderStr_append,
          ihm k' v' ys level w rest hys hw (by
            rw [renderMembers_cons_append] at hf
            simp only [List.length_cons, List.length_append] at hf ⊢
            omega)]

theorem value_render (indent : Option Nat) (j : JsonV) (hj : wfV j = true) (level : Nat) (rest : List Nat)
    (hr : okFollow rest) (fuel : Nat) (hf : 2 * (renderV indent level j ++ rest).length + 1 ≤ fuel) :
    value fuel (renderV indent level j ++ rest) = some (j, rest) :=
  (render_inv indent fuel).1 j level rest hj hr hf

theorem elems_render (indent : Option Nat) (l : List JsonV) (hne : l ≠ []) (hl : wfList l = true) (level : Nat)
    (w rest : List Nat) (hw : ∀ c ∈ w, isWs c = true) (fuel : Nat)
    (hf : 2 * (renderTail indent level l ++ (w ++ 93 :: rest)).length ≤ fuel) :
    match (generalizing := false) l with
    | [] => True
    | x :: xs =>
      elems fuel (renderV indent level x ++ (renderTail indent level xs ++ (w ++ 93 :: rest))) = some (l, rest) := by
  match l, hne, hl, hf with
  | [], hne, _, _ => exact absurd rfl hne
  | x :: xs, _, hl, hf =>
    rw [renderTail_cons_append, List.length_cons, List.length_append] at hf
    exact (render_inv indent fuel).2.1 x xs level w rest hl hw (by omega)

theorem members_render (indent : Option Nat) (l : List (List Nat × JsonV)) (hne : l ≠ []) (hl : wfMembers l = true)
    (level : Nat) (w rest : List Nat) (hw : ∀ c ∈ w, isWs c = true) (fuel : Nat)
    (hf : 2 * (renderMembers indent level l ++ (w ++ 125 :: rest)).length ≤ fuel) :
    match (generalizing := false) l with
    | [] => True
    | (k, v) :: kvs =>
      members fuel (renderStr k ++ (keySep indent ++ (renderV indent level v ++
        (renderMembers indent level kvs ++ (w ++ 125 :: rest))))) = some (l, rest) := by
  match l, hne, hl, hf with
  | [], hne, _, _ => exact absurd rfl hne
  | (k, v) :: kvs, _, hl, hf =>
    rw [renderMembers_cons_append, List.length_cons, List.length_append] at hf
    exact (render_inv indent fuel).2.2 k v kvs level w rest hl hw (by omega)

end Asn1.Json
