import Asn1Proofs.Properties.C14
/-
  Three theorems of C14 about the comment pre-pass.  They rest on `strip_ok_iff` of Properties/C14, which is
  why this lemma module imports a property module (and stays in the one import chain of the modules about
  `Comments.go`, see the head of CommentsLemmas).  Properties/C14b states the same three as `Asn1.C14b.*`,
  says what each means, and proves it by citing the one here.
-/
namespace Asn1.C14
open Asn1.Comments

theorem str_verbatim (a : Nat) (rest : List Char) (body : List Char) (hb : '"' ∉ body) :
    go .str a (body ++ '"' :: rest) = (fun o => body ++ '"' :: o) <$> go .normal a rest := by
  rw [go_str_append a body _ hb, go.eq_23, Functor.map_map]

theorem strip_idem (s o : List Char) (h : strip s = .ok o) : strip o = .ok o :=
  (strip_ok_iff o o).2 (go_idem _ _ _ _ ((strip_ok_iff s o).1 h) 0)

theorem strip_no_comment (s : List Char)
    (h1 : ∀ pre post, s ≠ pre ++ '-' :: '-' :: post)
    (h2 : ∀ pre post, s ≠ pre ++ '/' :: '*' :: post)
    (h3 : '"' ∉ s) : strip s = .ok s :=
  (strip_ok_iff s s).2 (go_no_comment _ 0 s rfl h1 h2 h3)

end Asn1.C14
