import Asn1Model.Per
import Asn1Proofs.Lemmas.UperPrim
/-
  The position-tracking readers of ALIGNED PER in closed form: they split the remaining bits where
  `Uper.splitExact` does and advance the position by the number of bits taken.
-/
namespace Asn1.Per

theorem readBits_eq (n : Nat) (s : St) :
    readBits n s = if n ≤ s.bs.length then .ok (s.bs.take n, ⟨s.pos + n, s.bs.drop n⟩)
      else .error .decodeError := by
  simp only [readBits, Uper.splitExact, Uper.splitAux_eq]
  by_cases h : n ≤ s.bs.length <;> simp [h]

theorem readNat_eq (n : Nat) (s : St) :
    readNat n s = if n ≤ s.bs.length then .ok (bitsToNat (s.bs.take n), ⟨s.pos + n, s.bs.drop n⟩)
      else .error .decodeError := by
  simp only [readNat, Uper.splitExact, Uper.splitAux_eq]
  by_cases h : n ≤ s.bs.length <;> simp [h]

end Asn1.Per
