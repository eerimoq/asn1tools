import Asn1Proofs.Lemmas.ExtLemmasAux
/-
  C07: what the codec files and the property theorems take from the inductions of `ExtLemmasAux.lean`:
  `Extends.forward` / `Extends.backward` hold all that a forward / a backward theorem needs, and
  `Extends.refl` makes the one-type facts (`Compat.refl`, `view_self`, `dOk_self`) the `t1 = t2` instances.
-/
namespace Asn1.Ext
open Asn1

theorem oerWf_of_extends {t1 t2 : Ty} (h : Extends t1 t2) (hwf : Oer.oerWf t2 = true) :
    Oer.oerWf t1 = true :=
  oerWf_all.1 h hwf

theorem hasType_of_extends {t1 t2 : Ty} (h : Extends t1 t2) (v : Val) (ht : hasType t1 v = true) :
    hasType t2 v = true :=
  hasType_all.1 h v ht

theorem Extends.forward (fa : Bool) {t1 t2 : Ty} (hx : Extends t1 t2) (hwf : t2.wf = true)
    (hd1 : defaultsOkG fa t1 = true) :
    Compat t1 t2 ∧ dOk fa t1 t2 ∧ ∀ v, view fa t1 t2 v = canonG fa t1 (project t1 t2 v) :=
  ⟨(compat_all t1 t2 hx).1, ((dOk_all fa).1 hx hwf hd1).1, (view_project_all fa).1 hx (wf_all.1 hx hwf)⟩

theorem Extends.backward (fa : Bool) {t1 t2 : Ty} (hx : Extends t1 t2) (hwf : t2.wf = true)
    (hd1 : defaultsOkG fa t1 = true) (hd2 : defaultsOkG fa t2 = true) :
    Compat t2 t1 ∧ t1.wf = true ∧ dOk fa t2 t1 ∧
      ∀ v, hasType t1 v = true → view fa t2 t1 v = canonG fa t2 v :=
  ⟨(compat_all t1 t2 hx).2, wf_all.1 hx hwf, ((dOk_all fa).1 hx hwf hd1).2 hd2,
    fun v ht => ((view_same_all fa).1 hx hwf v ht).2⟩

theorem ExtendsMembers.of_all {ms : Members} (h : ms.All fun t => Extends t t) : ExtendsMembers ms ms := by
  induction ms using Members.ind with
  | nil => exact .nil
  | cons n p t ms ih => exact .cons n p h.1 (ih h.2)

theorem ExtendsAlts.of_all {as : Alts} (h : as.All fun t => Extends t t) : ExtendsAlts as as := by
  induction as using Alts.ind with
  | nil => exact .nil
  | cons n t as ih => exact .cons n h.1 (ih h.2)

theorem Extends.refl (t : Ty) : Extends t t :=
  Ty.induct (P := fun t => Extends t t) .boolean .null .integer
    (fun root ext => by
      cases ext with
      | none => exact .enumerated root
      | some adds =>
        have := Extends.enumeratedExt root adds []
        rwa [List.append_nil] at this)
    .octetString .bitString .charString
    (fun _ x _ hr ha => .sequence x (.of_all hr) ((ExtendsMembers.of_all ha).toAdds x))
    (fun _ c ih => .sequenceOf c ih)
    (fun _ x _ hr ha => .choice x (.of_all hr) ((ExtendsAlts.of_all ha).toAltAdds x)) t

theorem Compat.refl (t : Ty) : Compat t t := (compat_all t t (Extends.refl t)).1

theorem view_self (fa : Bool) {t : Ty} (hwf : t.wf = true) {v : Val} (ht : hasType t v = true) :
    view fa t t v = canonG fa t v :=
  ((view_same_all fa).1 (Extends.refl t) hwf v ht).1

theorem dOk_self (fa : Bool) {t : Ty} (hwf : t.wf = true) (hd : defaultsOkG fa t = true) : dOk fa t t :=
  ((dOk_all fa).1 (Extends.refl t) hwf hd).1

end Asn1.Ext
