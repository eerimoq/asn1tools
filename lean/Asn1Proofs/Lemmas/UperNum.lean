import Asn1Proofs.Lemmas.UperPrim
/-
  Octets as bits (`bytesToBits`, `natToBytesN`), two's complement in a number of octets
  (`intByteLength`, `twos_back`), and the UPER whole-number readers on what the encoders
  write (`decUnconstrained_enc`, `decNsnnwn_enc`, `decNsLength_enc`).
-/
namespace Asn1

theorem bytesToBits_append (a b : Bytes) : bytesToBits (a ++ b) = bytesToBits a ++ bytesToBits b := by
  simp [bytesToBits]

theorem bytesToBits_singleton (b : Nat) : bytesToBits [b] = natToBits 8 b := by
  simp [bytesToBits]

theorem flatten_map_natToBits8 (bs : Bytes) : (bs.map (natToBits 8)).flatten = bytesToBits bs := by
  unfold bytesToBits; rw [List.flatMap_def]

theorem flatten_map_singleton (l : Bits) : (l.map (fun b => [b])).flatten = l := by
  induction l with
  | nil => rfl
  | cons a r ih => simp only [List.map_cons, List.flatten_cons, ih, List.singleton_append]

@[simp] theorem bytesToBits_length (bs : Bytes) : (bytesToBits bs).length = 8 * bs.length := by
  induction bs with
  | nil => rfl
  | cons b r ih =>
    show (natToBits 8 b ++ bytesToBits r).length = _
    simp [ih]; omega

@[simp] theorem natToBytesN_length (k n : Nat) : (natToBytesN k n).length = k := by
  induction k generalizing n with
  | zero => rfl
  | succ k ih => simp [natToBytesN, ih]

theorem bytesToBits_natToBytesN (k n : Nat) : bytesToBits (natToBytesN k n) = natToBits (8 * k) n := by
  induction k generalizing n with
  | zero => rfl
  | succ k ih =>
    rw [natToBytesN, bytesToBits_append, ih, Nat.mul_succ, natToBits_add, ← natToBits_mod 8 n]
    exact congrArg _ (List.append_nil _)

/-- the number of bits that fill the last octet, as `padToByte` computes it and in closed form -/
theorem padLength_eq (n : Nat) : (8 - n % 8) % 8 = 8 * ((n + 7) / 8) - n := by omega

theorem lt_two_pow_octets (m : Nat) : m < 2 ^ (8 * (bitLength m / 8 + 1) - 1) :=
  Nat.lt_of_lt_of_le (lt_two_pow_bitLength m) (Nat.pow_le_pow_right (by decide) (by omega))

theorem intByteLength_bounds (i : Int) :
    -((2 ^ (8 * intByteLength i - 1) : Nat) : Int) ≤ i ∧ i < ((2 ^ (8 * intByteLength i - 1) : Nat) : Int) := by
  unfold intByteLength
  split
  · have := lt_two_pow_octets i.toNat
    omega
  · have := lt_two_pow_octets (-i - 1).toNat
    omega

theorem intByteLength_pos (i : Int) : 1 ≤ intByteLength i := by
  unfold intByteLength; split <;> omega

theorem two_pow_octets {k : Nat} (hk : 1 ≤ k) : (2 : Nat) ^ (8 * k) = 2 * 2 ^ (8 * k - 1) := by
  rw [← Nat.pow_succ', Nat.succ_eq_add_one, Nat.sub_add_cancel (by omega)]

/-- reading the two's complement of `i` in `k` octets back: the residue is below `2 ^ (8 * k)`, and
subtracting `2 ^ (8 * k)` from it when it reaches the sign threshold gives `i` -/
theorem twos_back {k : Nat} {i : Int} (hk : 1 ≤ k)
    (hlo : -((2 ^ (8 * k - 1) : Nat) : Int) ≤ i) (hhi : i < ((2 ^ (8 * k - 1) : Nat) : Int)) :
    (i % ((256 ^ k : Nat) : Int)).toNat < 2 ^ (8 * k) ∧
    (if (i % ((256 ^ k : Nat) : Int)).toNat ≥ 2 ^ (8 * k - 1)
      then (((i % ((256 ^ k : Nat) : Int)).toNat : Nat) : Int) - ((2 ^ (8 * k) : Nat) : Int)
      else (((i % ((256 ^ k : Nat) : Int)).toNat : Nat) : Int)) = i := by
  rw [pow256, two_pow_octets hk]
  generalize (2 : Nat) ^ (8 * k - 1) = Q at *
  by_cases h0 : 0 ≤ i
  · rw [Int.emod_eq_of_lt h0 (by omega)]
    refine ⟨by omega, ?_⟩
    rw [if_neg (by omega)]; omega
  · have : i % ((2 * Q : Nat) : Int) = i + 2 * Q := by
      rw [← Int.add_emod_right, Int.emod_eq_of_lt (by omega) (by omega)]; simp
    rw [this]
    refine ⟨by omega, ?_⟩
    rw [if_pos (by omega)]; omega

namespace Uper

/-- `h`: the octet count is written as an unfragmented length determinant -/
theorem decUnconstrained_enc (i : Int) (rest : Bits) (h : intByteLength i < 16384) :
    decUnconstrained (encUnconstrained i ++ rest) = .ok (i, rest) := by
  have hb := intByteLength_bounds i
  have hpos := intByteLength_pos i
  obtain ⟨hmlt, hback⟩ := twos_back hpos hb.1 hb.2
  have hk0 : ¬ intByteLength i = 0 := by omega
  unfold encUnconstrained
  simp only [intToBytesN]
  rw [bytesToBits_natToBytesN]
  simp only [decUnconstrained, List.append_assoc, readLenDet_lenDet, lenDet_snd_of_lt h, ok_bind,
    readBits_append _ _ (natToBits_length _ _), hk0, if_false, bitsToNat_natToBits_of_lt hmlt]
  split at hback <;> rename_i hc <;> simp only [hc, if_true, if_false] <;> rw [hback]

/-- `h`: the length determinant of the octet count is not a fragment marker -/
theorem decNsnnwn_enc (v : Nat) (rest : Bits) (h : (bitLength v + 7) / 8 < 16384) :
    decNsnnwn (encNsnnwn v ++ rest) = .ok (v, rest) := by
  unfold encNsnnwn
  split
  · rw [natToBits_succ_of_lt (w := 6) (by omega)]
    simp only [decNsnnwn, ok_bind, List.cons_append, readBit_cons, Bool.not_false, if_true]
    exact readNat_natToBits rest (by omega)
  · simp only [decNsnnwn, ok_bind, List.cons_append, List.nil_append, readBit_cons,
      List.append_assoc, Bool.not_true, Bool.false_eq_true, if_false, readLenDet_lenDet,
      lenDet_snd_of_lt h]
    exact readNat_natToBits _ (Nat.lt_of_lt_of_le (lt_two_pow_bitLength v)
      (Nat.pow_le_pow_right (by omega) (by omega)))

theorem encNsLength_small {n : Nat} (h : n ≤ 64) : encNsLength n = .ok (natToBits 7 (n - 1)) := by
  simp [encNsLength, h]

theorem decNsLength_enc {n : Nat} (rest : Bits) (h1 : 1 ≤ n) (h : n ≤ 64) :
    decNsLength (natToBits 7 (n - 1) ++ rest) = .ok (n, rest) := by
  rw [natToBits_succ_of_lt (w := 6) (by omega)]
  simp only [decNsLength, ok_bind, List.cons_append, readBit_cons, Bool.not_false, if_true,
    readNat_natToBits rest (show n - 1 < 2 ^ 6 by omega), Nat.sub_add_cancel h1]

end Uper
end Asn1
