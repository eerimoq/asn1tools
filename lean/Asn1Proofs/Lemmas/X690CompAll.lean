import Asn1Proofs.Lemmas.X690CompStr
import Asn1Proofs.Lemmas.X690CompSeqOf
import Asn1Proofs.Lemmas.X690CompChoice
import Asn1Proofs.Lemmas.X690CompSeq
import Asn1Proofs.Lemmas.X690StrictSub
/-
  C04 completeness of the code's BER decoder (`BerCodec.dec`) with respect to the reference BER
  decoder of X690.lean, outside the named deviation `dirtyUnusedBits` (`X690.berDeviates`).
-/
namespace Asn1.X690

theorem comp_all : ∀ t, COMP t :=
  Ty.induct comp_boolean comp_null comp_integer comp_enumerated comp_octetString comp_bitString
    comp_charString comp_sequence comp_sequenceOf comp_choice

/-- read off `comp_all`: the code consumes more than the identifier octets -/
theorem progSo_all (t : Ty) (tg : Option Nat) (fuel : Nat) (bs : Bytes) (v : Val) (rest : Bytes)
    (h : decVS t tg fuel bs = some (v, rest)) : rest.length < bs.length := by
  obtain ⟨k, _, hl, hk⟩ := comp_all t tg fuel (bs.length + 1) bs rest [] v h (by simp)
  have := Nat.zero_lt_of_lt hk
  omega

theorem complete_strict_with_length (t : Ty) (bs extra : Bytes) (v : Val)
    (h : berDecodeRefStrict t bs = some v) :
    BerCodec.decodeWithLength t (bs ++ extra) = .ok (v, bs.length) := by
  unfold berDecodeRefStrict at h
  cases hd : decVS t none (bs.length + 1) bs with
  | none => simp [hd] at h
  | some x =>
    obtain ⟨v', r⟩ := x
    cases r with
    | cons _ _ => simp [hd] at h
    | nil =>
      simp only [hd, Option.some.injEq] at h
      subst h
      obtain ⟨k, hk, hlen, _⟩ := comp_all t none (bs.length + 1) ((bs ++ extra).length + 1) bs [] extra v' hd (by omega)
      unfold BerCodec.decodeWithLength
      rw [hk]
      simp only [List.length_nil, Nat.add_zero] at hlen
      rw [hlen]

/-- C04 `complete`: every valid BER serialisation (per the reference decoder) outside the named
deviations is decoded by the code with the same meaning -/
theorem complete (t : Ty) (bs : Bytes) (v : Val)
    (h : berDecodeRef t bs = some v) (hdev : berDeviates t bs = false) : BerCodec.decode t bs = .ok v := by
  have := complete_strict_with_length t bs [] v (strict_of_not_deviates t bs v h hdev)
  rw [List.append_nil] at this
  unfold BerCodec.decode; rw [this]; rfl

end Asn1.X690

#print axioms Asn1.X690.complete
#print axioms Asn1.X690.complete_strict_with_length
#print axioms Asn1.X690.progSo_all
