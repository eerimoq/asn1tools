import Asn1Proofs.Lemmas.JerRoundtrip
/-
  The JER canonical form is the value itself when no DEFAULT member is left out (`explicitDefaults`): then
  `decode (encode v) = v` literally.
-/
namespace Asn1.Jer

mutual
  /-- every DEFAULT member of every SEQUENCE value inside `v` is present -/
  def explicitDefaults : Ty → Val → Bool
    | .sequence root _ adds, .record fs => explicitMembers root fs && explicitMembers adds fs
    | .sequenceOf e _, .list vs => vs.all (explicitDefaults e)
    | .choice root _ adds, .choice n v => explicitAlt root n v && explicitAlt adds n v
    | _, _ => true
  def explicitMembers : Members → List (String × Val) → Bool
    | .nil, _ => true
    | .cons name p t rest, fs =>
      (match lookup name fs with
       | some v => explicitDefaults t v
       | none => match p with
         | .default _ => false
         | _ => true) && explicitMembers rest fs
  def explicitAlt : Alts → String → Val → Bool
    | .nil, _, _ => true
    | .cons n t rest, name, v => if n == name then explicitDefaults t v else explicitAlt rest name v
end

/-- a typed value with every DEFAULT member present is its own `canonJ`; what `id_all` proves by induction -/
def ID (t : Ty) : Prop :=
  ∀ v : Val, t.wf = true → hasType t v = true → explicitDefaults t v = true → canonJ t v = v

theorem id_sequenceOf (e : Ty) (c : SizeC) (ih : ID e) : ID (.sequenceOf e c) := by
  intro v hwf ht hx
  obtain ⟨vs, rfl, hvs, -⟩ := hasType_sequenceOf ht
  simp only [explicitDefaults, List.all_eq_true] at hx
  rw [canonJ, List.map_congr_left (g := id) fun x hx' => ih x (wf_sequenceOf hwf) (hvs x hx') (hx x hx'),
    List.map_id]

/-- the fields `hasMembers` consumes are exactly what `canonJMembers` rebuilds.  `pre0`: the fields already
consumed by earlier members; `hasMembers` walks the remainder `fs`, `canonJMembers` looks names up in the
whole record `pre0 ++ fs`. -/
theorem canonJMembers_of_hasMembers :
    ∀ (ms : Members) (fs rest pre0 : List (String × Val)), hasMembers ms fs = some rest → ms.names.Nodup →
      (∀ n ∈ ms.names, n ∉ fieldNames rest) → (∀ n ∈ ms.names, n ∉ fieldNames pre0) →
      Members.All ID ms → ms.wf = true → explicitMembers ms (pre0 ++ fs) = true →
      ∃ pre, fs = pre ++ rest ∧ (∀ n ∈ fieldNames pre, n ∈ ms.names) ∧ canonJMembers ms (pre0 ++ fs) = pre := by
  intro ms
  induction ms using Members.ind with
  | nil =>
    intro fs rest pre0 h _ _ _ _ _ _
    simp only [hasMembers, Option.some.injEq] at h
    subst h
    exact ⟨[], rfl, by simp [fieldNames], rfl⟩
  | cons name p t ms ih =>
    intro fs rest pre0 h hnd hrest hpre hall hwf hx
    simp only [Members.names, List.nodup_cons] at hnd
    simp only [Members.wf, Bool.and_eq_true] at hwf
    have hname_pre : name ∉ fieldNames pre0 := hpre name (List.mem_cons_self ..)
    have hrest' : ∀ n ∈ ms.names, n ∉ fieldNames rest := fun n hn => hrest n (List.mem_cons_of_mem _ hn)
    have hpre' : ∀ n ∈ ms.names, n ∉ fieldNames pre0 := fun n hn => hpre n (List.mem_cons_of_mem _ hn)
    simp only [explicitMembers, Bool.and_eq_true] at hx
    rcases hasMembers_cons_some h with ⟨v, fs', rfl, ht, h'⟩ | ⟨hp, h'⟩
    · have hl : lookup name (pre0 ++ (name, v) :: fs') = some v := by
        rw [lookup_append_of_not_mem _ _ _ hname_pre, lookup_cons]; simp
      rw [hl] at hx
      have hassoc : pre0 ++ (name, v) :: fs' = (pre0 ++ [(name, v)]) ++ fs' := by simp
      obtain ⟨pre', e1, e2, e3⟩ := ih fs' rest (pre0 ++ [(name, v)]) h' hnd.2 hrest' (by
        intro m hm
        simp only [fieldNames, List.map_append, List.map_cons, List.map_nil, List.mem_append,
          List.mem_singleton, not_or]
        exact ⟨hpre' m hm, fun e => hnd.1 (e ▸ hm)⟩) hall.2 hwf.2 (hassoc ▸ hx.2)
      refine ⟨(name, v) :: pre', by rw [e1]; rfl, ?_, ?_⟩
      · intro m hm
        rcases List.mem_cons.1 hm with rfl | hm
        · exact List.mem_cons_self ..
        · exact List.mem_cons_of_mem _ (e2 m hm)
      · simp only [canonJMembers, hl, hall.1 v hwf.1 ht hx.1]
        rw [hassoc, e3]
    · -- the member is absent from the value: it is OPTIONAL, a DEFAULT would have to be present
      obtain ⟨pre, h1, h2⟩ := hasMembers_split ms fs rest h'
      have hl : lookup name (pre0 ++ fs) = none := by
        rw [lookup_append_of_not_mem _ _ _ hname_pre]
        apply lookup_none_of_not_mem
        rw [h1]
        simp only [fieldNames, List.map_append, List.mem_append, not_or]
        exact ⟨fun hm => hnd.1 (h2 name hm), hrest name (List.mem_cons_self ..)⟩
      rw [hl] at hx
      obtain ⟨pre', e1, e2, e3⟩ := ih fs rest pre0 h' hnd.2 hrest' hpre' hall.2 hwf.2 hx.2
      refine ⟨pre', e1, fun n hn => List.mem_cons_of_mem _ (e2 n hn), ?_⟩
      cases p with
      | mandatory => exact absurd rfl hp
      | optional => simp only [canonJMembers, hl]; exact e3
      | default d => simp at hx

theorem id_sequence (root : Members) (ext : Bool) (adds : Members)
    (ihr : Members.All ID root) (iha : Members.All ID adds) : ID (.sequence root ext adds) := by
  intro v hwf ht hx
  obtain ⟨fs, rfl, -⟩ := hasType_sequence ht
  rw [hasType] at ht
  obtain ⟨hwr, hwa, hnd, _⟩ := wf_sequence hwf
  obtain ⟨nd1, nd2, disj⟩ := List.nodup_append.mp hnd
  simp only [explicitDefaults, Bool.and_eq_true] at hx
  cases h1 : hasMembers root fs with
  | none => simp [h1] at ht
  | some rest =>
    simp only [h1] at ht
    cases h2 : hasMembers adds rest with
    | none => simp [h2] at ht
    | some rest' =>
      simp only [h2, List.isEmpty_iff] at ht
      subst ht
      obtain ⟨pre2', e2', m2'⟩ := hasMembers_split adds rest [] h2
      obtain ⟨pre1, e1, m1, c1⟩ := canonJMembers_of_hasMembers root fs rest [] h1 nd1 (by
          intro n hn hm
          rw [e2', List.append_nil] at hm
          exact disj n hn n (m2' n hm) rfl) (by simp [fieldNames]) ihr hwr (by simpa using hx.1)
      have hx2 : explicitMembers adds (pre1 ++ rest) = true := by rw [← e1]; exact hx.2
      obtain ⟨pre2, e2, _, c2⟩ := canonJMembers_of_hasMembers adds rest [] pre1 h2 nd2 (by simp [fieldNames])
        (fun n hn hm => disj n (m1 n hm) n hn rfl) iha hwa hx2
      simp only [List.nil_append] at c1
      simp only [canonJ, c1]
      rw [List.append_nil] at e2
      rw [e1, c2, ← e2]

theorem id_choice (root : Alts) (ext : Bool) (adds : Alts)
    (ihr : Alts.All ID root) (iha : Alts.All ID adds) : ID (.choice root ext adds) := by
  intro v hwf ht hx
  obtain ⟨n, v, rfl, hor⟩ := hasType_choice ht
  obtain ⟨_, t, sel, hwt, htv⟩ := Alts.sel_of_hasType hwf hor
  have ih := sel.all ihr iha
  simp only [explicitDefaults, Bool.and_eq_true] at hx
  have e1 := Alts.search_eq n (f := fun as => explicitAlt as n v) fun _ _ _ => rfl
  have e2 := Alts.search_eq n (f := fun as => canonJAlt as n v) fun _ _ _ => rfl
  rw [e1 root, e1 adds] at hx
  rw [canonJ, e2 root, e2 adds]
  rcases sel.finds with h | h
  · simp only [h] at hx ⊢
    rw [ih v hwt htv hx.1]
  · simp only [h, explicitAlt, canonJAlt] at hx ⊢
    rw [ih v hwt htv hx.2]

theorem id_all (t : Ty) : ID t :=
  Ty.induct (P := ID) (fun _ _ _ _ => rfl) (fun _ _ _ _ => rfl) (fun _ _ _ _ _ => rfl) (fun _ _ _ _ _ _ => rfl)
    (fun _ _ _ _ _ => rfl) (fun _ _ _ _ _ => rfl) (fun _ _ _ _ _ _ => rfl) id_sequence id_sequenceOf id_choice t

end Asn1.Jer
