import Asn1Model.Typing
/-
  Induction over the type universe.  `Ty` is mutual with `Members` and `Alts`: `Ty.induct` is the
  induction over types, `Members.ind` / `Alts.ind` the inductions along the two kinds of list.  A
  statement `P` about types is carried through member and alternative lists by `Members.All P` /
  `Alts.All P`, and read off at a named alternative through `Alts.find`.
-/
namespace Asn1

def Members.All (P : Ty → Prop) : Members → Prop
  | .nil => True
  | .cons _ _ t rest => P t ∧ Members.All P rest

def Alts.All (P : Ty → Prop) : Alts → Prop
  | .nil => True
  | .cons _ t rest => P t ∧ Alts.All P rest

/-- first alternative with the given name and its position -/
def Alts.find (name : String) : Alts → Option (Nat × Ty)
  | .nil => none
  | .cons n t rest => if n == name then some (0, t) else (Alts.find name rest).map (fun x => (x.1 + 1, x.2))

theorem Members.All.of_forall {P : Ty → Prop} (h : ∀ t, P t) : ∀ ms : Members, ms.All P
  | .nil => trivial
  | .cons _ _ _ rest => ⟨h _, Members.All.of_forall h rest⟩

theorem Alts.All.of_forall {P : Ty → Prop} (h : ∀ t, P t) : ∀ as : Alts, as.All P
  | .nil => trivial
  | .cons _ _ rest => ⟨h _, Alts.All.of_forall h rest⟩

theorem Members.ind {motive : Members → Prop} (nil : motive .nil)
    (cons : ∀ name p t rest, motive rest → motive (.cons name p t rest)) : ∀ ms, motive ms
  | .nil => nil
  | .cons name p t rest => cons name p t rest (Members.ind nil cons rest)

theorem Alts.ind {motive : Alts → Prop} (nil : motive .nil)
    (cons : ∀ name t rest, motive rest → motive (.cons name t rest)) : ∀ ms, motive ms
  | .nil => nil
  | .cons name t rest => cons name t rest (Alts.ind nil cons rest)

/-- a check that is the conjunction of `p` over the alternatives gives `p` at each of them -/
theorem Alts.all_of_and {p : Ty → Bool} {q : Alts → Bool}
    (hcons : ∀ n t rest, q (.cons n t rest) = (p t && q rest)) :
    ∀ as, q as = true → as.All (fun t => p t = true)
  | .nil, _ => trivial
  | .cons n t rest, h => by
    rw [hcons, Bool.and_eq_true] at h
    exact ⟨h.1, all_of_and hcons rest h.2⟩

theorem Ty.induct {P : Ty → Prop} (boolean : P .boolean) (null : P .null)
    (integer : ∀ c, P (.integer c)) (enumerated : ∀ root ext, P (.enumerated root ext))
    (octetString : ∀ c, P (.octetString c)) (bitString : ∀ c, P (.bitString c))
    (charString : ∀ k c, P (.charString k c))
    (sequence : ∀ root ext adds, root.All P → adds.All P → P (.sequence root ext adds))
    (sequenceOf : ∀ e c, P e → P (.sequenceOf e c))
    (choice : ∀ root ext adds, root.All P → adds.All P → P (.choice root ext adds)) (t : Ty) : P t :=
  Ty.rec (motive_1 := P) (motive_2 := Members.All P) (motive_3 := Alts.All P)
    boolean null integer enumerated octetString bitString charString sequence sequenceOf choice
    trivial (fun _ _ _ _ iht ihr => ⟨iht, ihr⟩) trivial (fun _ _ _ iht ihr => ⟨iht, ihr⟩) t

theorem Members.eq_nil_of_length {ms : Members} (h : ms.length = 0) : ms = .nil := by
  cases ms with
  | nil => rfl
  | cons n p t r => simp [Members.length] at h

theorem Alts.find_none_iff (name : String) (as : Alts) : as.find name = none ↔ name ∉ as.names := by
  induction as using Alts.ind with
  | nil => simp [Alts.find, Alts.names]
  | cons n t rest ih =>
    simp only [Alts.find, Alts.names, List.mem_cons, not_or]
    by_cases hn : n = name
    · subst hn; simp
    · have : ¬ name = n := fun e => hn e.symm
      simp [hn, this, ih]

theorem Alts.find_cons_some {n name : String} {t u : Ty} {rest : Alts} {j : Nat}
    (h : (Alts.cons n t rest).find name = some (j, u)) :
    (n = name ∧ j = 0 ∧ u = t) ∨ ∃ j', rest.find name = some (j', u) ∧ j = j' + 1 := by
  simp only [Alts.find] at h
  split at h
  · rename_i hn
    cases h
    exact .inl ⟨eq_of_beq hn, rfl, rfl⟩
  · simp only [Option.map_eq_some_iff] at h
    obtain ⟨⟨j', _⟩, h1, h2⟩ := h
    cases h2
    exact .inr ⟨j', h1, rfl⟩

theorem Alts.find_lt {name : String} {as : Alts} {j : Nat} {t : Ty} (h : as.find name = some (j, t)) :
    j < as.length := by
  induction as using Alts.ind generalizing j with
  | nil => cases h
  | cons n t' rest ih =>
    rcases Alts.find_cons_some h with ⟨_, rfl, _⟩ | ⟨j', h1, rfl⟩
    · exact Nat.succ_pos _
    · exact Nat.succ_lt_succ (ih h1)

theorem Alts.find_all {P : Ty → Prop} {name : String} {as : Alts} {j : Nat} {t : Ty}
    (h : as.find name = some (j, t)) (hall : as.All P) : P t := by
  induction as using Alts.ind generalizing j with
  | nil => cases h
  | cons n t' rest ih =>
    rcases Alts.find_cons_some h with ⟨_, _, rfl⟩ | ⟨j', h1, _⟩
    · exact hall.1
    · exact ih h1 hall.2

theorem Alts.find_disjoint {root adds : Alts} {name : String} {j : Nat} {t : Ty}
    (hnd : (root.names ++ adds.names).Nodup) (h : root.find name = some (j, t)) :
    adds.find name = none := by
  rw [Alts.find_none_iff]
  intro hna
  have hnr : name ∈ root.names := Decidable.byContradiction fun hn => by
    rw [(Alts.find_none_iff name root).2 hn] at h
    cases h
  exact (List.nodup_append.1 hnd).2.2 name hnr name hna rfl

end Asn1
