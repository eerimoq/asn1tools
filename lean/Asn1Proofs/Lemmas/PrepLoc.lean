import Asn1Proofs.Lemmas.PrepCompOf
import Asn1Proofs.Lemmas.PrepDefault
/-
  The three passes that do not follow COMPONENTS OF, composed on one type assignment:
  `locDesc = defaults ∘ tags ∘ extensibility-implied`.  A second application (possibly with another
  `numeric_enums` flag) is absorbed (`locDesc_absorb`).  The lemmas take their arguments in the order of
  `locDesc`; with two flags, the flag of the first application comes first (`Absorbs` and the
  `defDesc_absorb` family of PrepDefault have it the other way round).
-/
namespace Asn1.SpecDict

def locDesc (sk : Skel) (n : Bool) (mn mt : String) (ext : Bool) (d : Desc) : Desc :=
  defDesc sk n mn false (tagDesc sk mt mn none (if ext then extDesc d else d))

section
variable (sk : Skel) (n : Bool) (mn mt : String) (ext : Bool)

theorem locDesc_core (d : Desc) :
    (locDesc sk n mn mt ext d).attrs.core = d.attrs.core := by
  cases ext <;> simp [locDesc]

theorem topClean_locDesc (d : Desc) :
    (locDesc sk n mn mt ext d).topClean = d.topClean := by
  cases d with
  | mk a b =>
    cases b <;> cases ext <;>
      simp [locDesc, defDesc, defBody, tagDesc, tagBody, extDesc, extBody, Desc.topClean,
        noCompOf_defItems, noCompOf_tagItems, noCompOf_addMarker, noCompOf_extItems]

variable {P : Attrs → Prop}

theorem Desc.All.ite_ext {d : Desc} (hd : d.All P) : (if ext then extDesc d else d).All P := by
  cases ext
  · exact hd
  · exact Desc.All.ext d hd

theorem Desc.All.loc
    (hPt : ∀ a k, P a → P (kindAttrs sk mt mn (numAttrs k a)))
    (hPc : ∀ a, P a → P (convAttrs sk n mn a))
    {d : Desc} (hd : d.All P) : (locDesc sk n mn mt ext d).All P :=
  Desc.All.dflt sk n mn hPc false _ (Desc.All.tag sk mt mn hPt none _ (hd.ite_ext ext))

end

section
variable (sk : Skel) (m n : Bool) (mn mt : String) (ext : Bool) {P : Attrs → Prop}

/-- Normal form of two applications: the EXTENSIBILITY IMPLIED pass and the tag pass of the second
application are pushed inwards through the DEFAULT pass and the tag pass of the first (the three
passes commute) and cancelled against their first occurrence (they are idempotent); only the two
DEFAULT conversions remain. -/
theorem locDesc_locDesc (d : Desc) :
    locDesc sk n mn mt ext (locDesc sk m mn mt ext d)
      = defDesc sk n mn false (defDesc sk m mn false
          (tagDesc sk mt mn none (if ext then extDesc d else d))) := by
  unfold locDesc
  cases ext
  · simp only [Bool.false_eq_true, if_false]
    rw [tagDesc_defDesc, tagDesc_idem]
  · simp only [if_true]
    rw [extDesc_defDesc, extDesc_tagDesc, extDesc_idem, tagDesc_defDesc, tagDesc_idem]

theorem locDesc_absorb
    (hPt : ∀ a k, P a → P (kindAttrs sk mt mn (numAttrs k a)))
    (hPa : ∀ a, P a → Absorbs sk n mn m a)
    {d : Desc} (hd : d.All P) :
    locDesc sk n mn mt ext (locDesc sk m mn mt ext d) = locDesc sk n mn mt ext d := by
  rw [locDesc_locDesc]
  exact defDesc_absorb sk n mn m false _
    (Desc.All.imp hPa _ (Desc.All.tag sk mt mn hPt none _ (hd.ite_ext ext)))

end

end Asn1.SpecDict
