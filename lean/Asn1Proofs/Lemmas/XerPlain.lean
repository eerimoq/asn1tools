import Asn1Proofs.Lemmas.XerRoundtrip
import Asn1Proofs.Lemmas.XmlParse
import Asn1Proofs.Lemmas.JsonAscii
/-
  The element tree the XER encoder builds is `XmlT.plain` (ASCII names, character data XML can
  carry, text or children), provided the identifiers of the type are XML names and the character
  strings of the value consist of XML-legal characters other than CR (`PL`; the value need not be well
  typed).  Together with `Xml.parse_renderDoc` and `Xer.rt_all` this gives the document-level round trip.
-/
namespace Asn1.Xer
open Asn1.Xml Asn1.X690

def PL (t : Ty) : Prop :=
  ∀ (inList : Bool) (nm : String) (v : Val) (x : XmlT),
    namesOk t = true → nameOk nm = true → textOk t v = true → enc t inList nm v = .ok x →
    x.plain = true

theorem textChar_of_range (c : Nat) (h : 32 ≤ c ∧ c < 128) : isTextChar c = true := by
  simp only [isTextChar, isChar, Bool.and_eq_true, Bool.or_eq_true, decide_eq_true_eq, beq_iff_eq,
    bne_iff_ne]
  omega

theorem plain_leaf (nm : String) (text : List Nat) (hn : nameOk nm = true)
    (ht : text.all isTextChar = true) : (leaf nm text).plain = true := by
  simp only [leaf, XmlT.plain, plainList, Bool.and_eq_true, Bool.or_eq_true, List.isEmpty_nil]
  exact ⟨⟨⟨hn, ht⟩, Or.inr trivial⟩, trivial⟩

theorem plain_node (nm : String) (kids : List XmlT) (hn : nameOk nm = true)
    (hk : plainList kids = true) : (XmlT.elem nm [] kids).plain = true := by
  simp only [XmlT.plain, Bool.and_eq_true, Bool.or_eq_true, List.isEmpty_nil, List.all_nil]
  exact ⟨⟨⟨hn, trivial⟩, Or.inl trivial⟩, hk⟩

/-- an item on its own (inside SEQUENCE OF) or as the only child of the element `nm` -/
theorem plain_wrap {inList : Bool} {nm : String} {x y : XmlT} (hnm : nameOk nm = true) (hy : y.plain = true)
    (h : (if inList = true then (.ok y : EncM XmlT) else .ok (.elem nm [] [y])) = .ok x) : x.plain = true := by
  cases inList <;> cases h
  · exact plain_node nm _ hnm (by simp only [plainList, hy, Bool.and_true])
  · exact hy

theorem plainList_append (a b : List XmlT) (ha : plainList a = true) (hb : plainList b = true) :
    plainList (a ++ b) = true := by
  induction a with
  | nil => exact hb
  | cons x r ih =>
    simp only [plainList, Bool.and_eq_true, List.cons_append] at ha ⊢
    exact ⟨ha.1, ih ha.2⟩

theorem nameOk_typeName (t : Ty) : nameOk (typeName t) = true := by
  cases t with
  | charString k c => cases k <;> simp only [typeName] <;> decide +kernel
  | _ => simp only [typeName] <;> decide +kernel

theorem intText_chars (i : Int) (t : List Nat) (h : intText i = .ok t) :
    t.all isTextChar = true := by
  unfold intText at h
  simp only [] at h
  split at h
  · cases h
  · cases h
    have hd := natToDec_digits i.natAbs
    have hall : (natToDec i.natAbs).all isTextChar = true := by
      simp only [List.all_eq_true] at hd ⊢
      intro c hc
      have := hd c hc
      simp only [isDigit, Bool.and_eq_true, decide_eq_true_eq] at this
      exact textChar_of_range c (by omega)
    split
    · simp only [List.all_cons, hall, Bool.and_true]
      exact textChar_of_range 45 (by omega)
    · exact hall

theorem hexText_chars (bs : Bytes) : (hexText bs).all isTextChar = true := by
  have hd : ∀ n, n < 16 → isTextChar (hexDigitU n) = true := by
    intro n hn
    apply textChar_of_range
    unfold hexDigitU
    split <;> omega
  induction bs with
  | nil => rfl
  | cons b r ih =>
    simp only [hexText, List.flatMap_cons, List.all_append, List.all_cons, List.all_nil, Bool.and_true,
      Bool.and_eq_true] at ih ⊢
    exact ⟨⟨hd _ (Nat.mod_lt _ (by omega)), hd _ (by omega)⟩, ih⟩

theorem bitText_chars (bs : Bits) : (bitText bs).all isTextChar = true := by
  simp only [bitText, List.all_map, List.all_eq_true]
  intro b _
  cases b <;> decide

theorem pl_boolean : PL .boolean := by
  intro inList nm v x hno hnm ht h
  cases v <;> simp only [enc] at h <;> try cases h
  case bool b => exact plain_wrap hnm (by cases b <;> decide) h

theorem pl_null : PL .null := by
  intro inList nm v x hno hnm ht h
  simp only [enc] at h
  cases h
  exact plain_leaf nm [] hnm rfl

theorem pl_integer (c : IntC) : PL (.integer c) := by
  intro inList nm v x hno hnm ht h
  cases v <;> simp only [enc] at h <;> try cases h
  case int i =>
    cases hit : intText i with
    | error e => rw [hit] at h; cases h
    | ok t =>
      rw [hit] at h
      cases h
      exact plain_leaf nm t hnm (intText_chars i t hit)

theorem pl_enumerated (root : List (String × Int)) (ext : Option (List (String × Int))) :
    PL (.enumerated root ext) := by
  intro inList nm v x hno hnm ht h
  cases v <;> simp only [enc] at h <;> try cases h
  case «enum» n =>
    split at h
    · rename_i hc
      have hn : nameOk n = true := by
        simp only [namesOk, List.all_eq_true] at hno
        exact hno n (by simpa using hc)
      exact plain_wrap hnm (plain_leaf n [] hn rfl) h
    · cases h

theorem pl_octetString (c : SizeC) : PL (.octetString c) := by
  intro inList nm v x hno hnm ht h
  cases v <;> simp only [enc] at h <;> try cases h
  case bytes bs => exact plain_leaf nm _ hnm (hexText_chars bs)

theorem pl_bitString (c : SizeC) : PL (.bitString c) := by
  intro inList nm v x hno hnm ht h
  cases v <;> simp only [enc] at h <;> try cases h
  case bits data n =>
    split at h
    · cases h
    · cases h
      exact plain_leaf nm _ hnm (bitText_chars _)

theorem pl_charString (k : StrKind) (c : SizeC) : PL (.charString k c) := by
  intro inList nm v x hno hnm ht h
  cases v <;> simp only [enc] at h <;> try cases h
  case str cps =>
    simp only [textOk] at ht
    exact plain_leaf nm cps hnm ht

theorem pl_members (ms : Members) (hall : Members.All PL ms) (fs : List (String × Val))
    (hno : namesOkMembers ms = true) (ht : textOkMembers ms fs = true) (xs : List XmlT)
    (h : encMembers ms fs = .ok xs) : plainList xs = true := by
  induction ms using Members.ind generalizing xs with
  | nil => simp only [encMembers] at h; cases h; rfl
  | cons name p t rest ih =>
    simp only [namesOkMembers, Bool.and_eq_true] at hno
    simp only [textOkMembers, Bool.and_eq_true] at ht
    simp only [encMembers] at h
    cases hl : lookup name fs with
    | some v =>
      rw [hl] at h ht
      simp only [] at h
      cases hx : enc t false name v with
      | error e => rw [hx] at h; cases h
      | ok x =>
        rw [hx] at h
        simp only [] at h
        cases hr : encMembers rest fs with
        | error e => rw [hr] at h; cases h
        | ok r =>
          rw [hr] at h
          cases h
          simp only [plainList, Bool.and_eq_true]
          exact ⟨hall.1 false name v x hno.1.2 hno.1.1 ht.1 hx, ih hall.2 hno.2 ht.2 r hr⟩
    | none =>
      rw [hl] at h
      cases p with
      | mandatory => cases h
      | optional => exact ih hall.2 hno.2 ht.2 xs h
      | «default» d => exact ih hall.2 hno.2 ht.2 xs h

theorem pl_sequence (root : Members) (ext : Bool) (adds : Members)
    (ihr : Members.All PL root) (iha : Members.All PL adds) : PL (.sequence root ext adds) := by
  intro inList nm v x hno hnm ht h
  cases v <;> simp only [enc] at h <;> try cases h
  case record fs =>
    simp only [namesOk, Bool.and_eq_true] at hno
    simp only [textOk, Bool.and_eq_true] at ht
    cases ha : encMembers root fs with
    | error e => rw [ha] at h; cases h
    | ok a =>
      rw [ha] at h
      simp only [] at h
      cases hb : encMembers adds fs with
      | error e => rw [hb] at h; cases h
      | ok b =>
        rw [hb] at h
        cases h
        exact plain_node nm _ hnm (plainList_append a b (pl_members root ihr fs hno.1 ht.1 a ha)
          (pl_members adds iha fs hno.2 ht.2 b hb))

theorem pl_list (e : Ty) (ih : PL e) (hno : namesOk e = true) (vs : List Val)
    (ht : ∀ v ∈ vs, textOk e v = true) (xs : List XmlT)
    (h : vs.mapM (enc e true (typeName e)) = .ok xs) : plainList xs = true := by
  have h2 := Uper.all2_of_mapM _ _ _ h
  clear h
  induction h2 with
  | nil => rfl
  | cons hx _ ihr =>
    simp only [plainList, Bool.and_eq_true]
    exact ⟨ih true (typeName e) _ _ hno (nameOk_typeName e) (ht _ (List.mem_cons_self ..)) hx,
      ihr (fun w hw => ht w (List.mem_cons_of_mem _ hw))⟩

theorem pl_sequenceOf (e : Ty) (c : SizeC) (ih : PL e) : PL (.sequenceOf e c) := by
  intro inList nm v x hno hnm ht h
  cases v <;> simp only [enc] at h <;> try cases h
  case list vs =>
    simp only [namesOk] at hno
    simp only [textOk, List.all_eq_true] at ht
    cases hm : vs.mapM (enc e true (typeName e)) with
    | error err => rw [hm] at h; cases h
    | ok xs =>
      rw [hm] at h
      cases h
      exact plain_node nm xs hnm (pl_list e ih hno vs ht xs hm)

theorem pl_alts (as : Alts) (hall : Alts.All PL as) (hno : namesOkAlts as = true) (n : String)
    (v : Val) (ht : textOkAlt as n v = true) (x : XmlT) (h : encAlt as n v = some (.ok x)) :
    x.plain = true := by
  induction as using Alts.ind with
  | nil => simp [encAlt] at h
  | cons m t rest ih =>
    simp only [namesOkAlts, Bool.and_eq_true] at hno
    simp only [encAlt] at h
    simp only [textOkAlt] at ht
    by_cases hm : (m == n) = true
    · rw [if_pos hm] at h ht
      simp only [Option.some.injEq] at h
      exact hall.1 false m v x hno.1.2 hno.1.1 ht h
    · rw [if_neg hm] at h ht
      exact ih hall.2 hno.2 ht h

theorem pl_choice (root : Alts) (ext : Bool) (adds : Alts)
    (ihr : Alts.All PL root) (iha : Alts.All PL adds) : PL (.choice root ext adds) := by
  intro inList nm v x hno hnm ht h
  cases v <;> simp only [enc] at h <;> try cases h
  case choice n v =>
    simp only [namesOk, Bool.and_eq_true] at hno
    simp only [textOk, Bool.and_eq_true] at ht
    cases hr : encAlt root n v with
    | some r =>
      rw [hr] at h
      cases r with
      | error e => cases h
      | ok y => exact plain_wrap hnm (pl_alts root ihr hno.1 n v ht.1 y hr) h
    | none =>
      rw [hr] at h
      simp only [] at h
      cases ha : encAlt adds n v with
      | some r =>
        rw [ha] at h
        cases r with
        | error e => cases h
        | ok y => exact plain_wrap hnm (pl_alts adds iha hno.2 n v ht.2 y ha) h
      | none => rw [ha] at h; cases h

theorem pl_all (t : Ty) : PL t :=
  Ty.induct (P := PL)
    pl_boolean pl_null pl_integer pl_enumerated pl_octetString pl_bitString pl_charString
    pl_sequence pl_sequenceOf pl_choice t

theorem parseDoc_renderDoc (ind : Option Nat) (x : XmlT) (hp : x.plain = true) :
    parseDoc (renderDoc ind x) = .ok x := by
  unfold parseDoc
  rw [Json.utf8Dec_ascii _ (fun c hc => (outOk_renderDoc ind x hp c hc).2) _ (Nat.le_refl _)]
  exact parse_renderDoc ind x hp

end Asn1.Xer
