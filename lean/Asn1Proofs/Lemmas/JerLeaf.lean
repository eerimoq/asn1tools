import Asn1Model.Jer
import Asn1Proofs.Lemmas.Typed
import Asn1Proofs.Lemmas.JsonRoundtrip
/-
  The leaves of the JER model: names as code points, hex strings read back (`unhex_hexUpper`), `dict`
  look-ups, the ENUMERATED and OCTET STRING cases of `toJson` / `ofJson`.
-/
namespace Asn1.Jer
open Asn1.Json (isScalar hexNat)

theorem strCps_inj {a b : String} (h : strCps a = strCps b) : a = b := cps_inj h

theorem strCps_beq (a b : String) : (strCps a == strCps b) = (a == b) := cps_beq a b

theorem strCps_scalar (s : String) : (strCps s).all isScalar = true := by
  simp only [strCps, List.all_map, List.all_eq_true]
  intro c _
  have hv := c.valid
  show isScalar c.toNat = true
  simp only [isScalar, Char.toNat, Bool.and_eq_true, decide_eq_true_eq, Bool.not_eq_true',
    Bool.and_eq_false_iff, decide_eq_false_iff_not]
  unfold UInt32.isValidChar Nat.isValidChar at hv
  omega

theorem findName_of_mem (n : String) (names : List String) (h : n ∈ names) :
    findName (strCps n) names = some n := by
  induction names with
  | nil => simp at h
  | cons m r ih =>
    unfold findName
    rw [strCps_beq]
    by_cases hm : m = n
    · subst hm; simp
    · have : (m == n) = false := by simpa using hm
      rw [this]
      simp only [Bool.false_eq_true, if_false]
      simp only [List.mem_cons] at h
      rcases h with h | h
      · exact absurd h.symm hm
      · exact ih h

theorem hexNat_hexDigitU (d : Nat) (h : d < 16) : hexNat (hexDigitU d) = some d := by
  unfold hexDigitU hexNat
  by_cases h10 : d < 10
  · rw [if_pos h10, if_pos (by omega)]; congr 1; omega
  · rw [if_neg h10, if_neg (by omega), if_neg (by omega), if_pos (by omega)]; congr 1; omega

theorem hexDigitU_lt (d : Nat) (h : d < 16) : hexDigitU d < 128 := by
  unfold hexDigitU; split <;> omega

theorem unhex_hexUpper (bs : Bytes) (h : allBytes bs = true) : unhex (hexUpper bs) = some bs := by
  induction bs with
  | nil => rfl
  | cons b r ih =>
    simp only [allBytes, List.all_cons, Bool.and_eq_true, decide_eq_true_eq] at h
    have hr : allBytes r = true := by unfold allBytes; exact h.2
    simp only [hexUpper, List.flatMap_cons, List.cons_append, List.nil_append] at ih ⊢
    rw [unhex, hexNat_hexDigitU _ (Nat.mod_lt _ (by decide)), hexNat_hexDigitU _ (Nat.mod_lt _ (by decide))]
    have ih' := ih hr
    rw [ih']
    simp only [Option.some.injEq, List.cons.injEq, and_true]
    omega

theorem hexUpper_scalar (bs : Bytes) : (hexUpper bs).all isScalar = true := by
  simp only [hexUpper, List.all_flatMap, List.all_eq_true]
  intro b _ x hx
  have h1 := hexDigitU_lt (b / 16 % 16) (Nat.mod_lt _ (by decide))
  have h2 := hexDigitU_lt (b % 16) (Nat.mod_lt _ (by decide))
  simp only [List.mem_cons, List.not_mem_nil, or_false] at hx
  simp only [isScalar, Bool.and_eq_true, decide_eq_true_eq,
    Bool.not_eq_true', Bool.and_eq_false_iff, decide_eq_false_iff_not]
  rcases hx with hx | hx <;> subst hx <;> omega

theorem toJson_enumerated {root : List (String × Int)} {ext : Option (List (String × Int))} {n : String}
    (h : n ∈ enumNames root ext) : toJson (.enumerated root ext) (.enum n) = .ok (.str (strCps n)) := by
  rw [toJson, if_pos (List.contains_iff_mem.mpr h)]

theorem ofJson_enumerated {root : List (String × Int)} {ext : Option (List (String × Int))} {n : String}
    (h : n ∈ enumNames root ext) : ofJson (.enumerated root ext) (.str (strCps n)) = .ok (.enum n) := by
  rw [ofJson, findName_of_mem n _ h]

theorem ofJson_octetString (c : SizeC) {bs : Bytes} (h : allBytes bs = true) :
    ofJson (.octetString c) (.str (hexUpper bs)) = .ok (.bytes bs) := by
  rw [ofJson, unhex_hexUpper bs h]

theorem dictGet_append (k : List Nat) (a b : List (List Nat × JsonV)) :
    dictGet k (a ++ b) = match dictGet k b with
      | some w => some w
      | none => dictGet k a := by
  induction a with
  | nil => simp only [List.nil_append, dictGet]; cases dictGet k b <;> rfl
  | cons x r ih =>
    obtain ⟨k', v⟩ := x
    rw [List.cons_append, dictGet, ih]
    cases hb : dictGet k b with
    | some w => rfl
    | none => simp only [dictGet]

theorem dictGet_cons (k k' : List Nat) (v : JsonV) (r : List (List Nat × JsonV)) :
    dictGet k ((k', v) :: r) = match dictGet k r with
      | some w => some w
      | none => if k' == k then some v else none := rfl

theorem dictGet_none (k : List Nat) : ∀ a : List (List Nat × JsonV), (∀ kv ∈ a, kv.1 ≠ k) → dictGet k a = none
  | [], _ => rfl
  | (k', v) :: r, h => by
    simp only [dictGet_cons, dictGet_none k r fun kv hkv => h kv (List.mem_cons_of_mem _ hkv),
      beq_eq_false_iff_ne.mpr (h (k', v) (List.mem_cons_self ..)), Bool.false_eq_true, if_false]

end Asn1.Jer
