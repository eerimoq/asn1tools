import Asn1Proofs.Lemmas.OerRoundtrip
/-
  The statement of `Oer.roundtrip_partial` without the hypothesis `noSwallow t v = true` is false
  (`roundtrip_original_false`).

  Type   : SEQUENCE { ..., a OCTET STRING OPTIONAL }
  Value  : { a <2^1016 zero octets> }
  `enc` of the addition fails in `lenDet` (the length needs 128 length octets), `encAdditions`
  swallows the error, the SEQUENCE is encoded as the single octet `00`, and decoding `00` gives the
  empty record instead of the canonical value.
-/
namespace Asn1.Oer

def cexTy : Ty := .sequence .nil true (.cons "a" .optional (.octetString ⟨0, none, false⟩) .nil)
def cexVal (data : Bytes) : Val := .record [("a", .bytes data)]

set_option exponentiation.threshold 2000 in
theorem lenDet_big_pow : lenDet (2 ^ 1016) = .error .encodeError := by
  have h1 : ¬ (2 ^ 1016 < 128) :=
    Nat.not_lt.mpr (Nat.le_trans (by decide : 128 ≤ 2 ^ 7)
      (Nat.pow_le_pow_right (by decide) (by decide)))
  have h2 : bitLength (2 ^ 1016) = 1017 := by
    unfold bitLength
    rw [if_neg (Nat.ne_of_gt (Nat.two_pow_pos _)), Nat.log2_two_pow]
  rw [lenDet_def, if_neg h1]
  have h3 : (natToBytesMin (2 ^ 1016)).length = 128 := by
    unfold natToBytesMin byteLength
    rw [natToBytesN_length, h2]
  rw [h3]
  rfl

theorem lenDet_big : ∃ N, lenDet N = .error .encodeError := ⟨_, lenDet_big_pow⟩

section
variable (data : Bytes) (hlen : lenDet data.length = .error .encodeError)
include hlen

theorem cex_enc : enc cexTy (cexVal data) = .ok [0] := by
  have hadd : encAdditions (.cons "a" .optional (.octetString ⟨0, none, false⟩) .nil)
      [("a", Val.bytes data)] = ([false], [], true) := by
    rw [encAdditions_cons]
    have : addHere .optional (.octetString ⟨0, none, false⟩) (lookup "a" [("a", Val.bytes data)])
        = .error .encodeError := by
      show (lenDet data.length >>= _) = _
      rw [hlen]; rfl
    rw [this]
  unfold cexTy cexVal
  rw [enc]
  simp only [encPreamble, encMembers, if_true, hadd, List.isEmpty_nil, List.append_nil]
  have hp : packBits [false] = [0] := by decide
  rw [hp]

omit hlen in
theorem cex_dec (rest : Bytes) : dec cexTy ([0] ++ rest) = .ok (.record [], rest) := by
  have h := dec_sequence_ok .nil true (.cons "a" .optional (.octetString ⟨0, none, false⟩) .nil)
    [] false [] rest [] rfl rfl
  have hp : packBits (if true = true then [false] else []) = [0] := by decide
  rw [hp] at h
  exact h

omit hlen in
theorem cex_canon : canon cexTy (cexVal data) = cexVal data := by
  simp [cexTy, cexVal, canon, canonMembers, lookup]

end

theorem roundtrip_original_false :
    ¬ (∀ (t : Ty) (v : Val) (bytes rest : Bytes),
        t.wf = true → oerWf t = true → t.defaultsOk = true →
        hasType t v = true → utf8Ok t v = true → enc t v = .ok bytes →
        dec t (bytes ++ rest) = .ok (canon t v, rest)) := by
  intro h
  obtain ⟨N, hN⟩ := lenDet_big
  generalize hdata : List.replicate N 0 = data
  have hlen : lenDet data.length = .error .encodeError := by
    rw [← hdata, List.length_replicate]; exact hN
  have hall : allBytes data = true := by
    rw [← hdata]
    show (List.replicate N 0).all (· < 256) = true
    rw [List.all_eq_true]
    intro x hx
    rw [List.eq_of_mem_replicate hx]
    decide
  have hty : hasType cexTy (cexVal data) = true := by
    simp [cexTy, cexVal, hasType, hasMembers, hall, sizeOk]
  have hutf : utf8Ok cexTy (cexVal data) = true := by
    simp [cexTy, cexVal, utf8Ok, utf8OkMembers, lookup]
  have := h cexTy (cexVal data) [0] [] (by decide) (by decide) (by decide) hty hutf (cex_enc data hlen)
  rw [cex_dec, cex_canon] at this
  simp [cexVal] at this

end Asn1.Oer

#print axioms Asn1.Oer.roundtrip_original_false
