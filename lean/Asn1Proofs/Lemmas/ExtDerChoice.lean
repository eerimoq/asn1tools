import Asn1Proofs.Lemmas.ExtDerBase
/-
  C07, BER and DER: CHOICE, for every instance `D` of the shared decoder (`Der.gChoice`,
  `Der.IsCodec.choice`).  The alternative is selected by its identifier octets -- for ber.py
  `tag_to_member` also holds the constructed tag of the string alternatives, which `IsCodec.test_num`
  covers (a key with tag number `j` only ever leads to alternative `j`) --; an alternative the decoder
  does not know is stepped over with `skipTLV` and reported as `.choice "" .absent`.
-/
namespace Asn1.Ext.DerX
open Asn1 Asn1.Der Asn1.Ext

theorem xt_choice {D : Decoder} {test : Ty → Nat → Bytes → Bool} (hD : IsCodec D test)
    {rD rE aD aE : Alts} (x : Bool)
    (hr : PairA (XCg D) rD rE) (hrl : rD.length = rE.length) (ha : PairA (XCg D) aD aE) :
    XTg D (.choice rD x aD) (.choice rE x aE) := by
  intro tg v bytes rest fuel hwf hwf2 hd hdk ht he hfuel
  obtain ⟨name, v, idx, t, rfl, hwt, hty, hsel⟩ := alt_of_hasType hwf ht
  obtain ⟨-, -, -, -, hext⟩ := wf_choice hwf
  simp only [Oer.oerWf, Bool.and_eq_true] at hwf2
  simp only [X690.defaultsOkV, Bool.and_eq_true] at hd
  rw [dOk] at hdk
  have hwt2 := hsel.all (Alts.all_oerWf rE hwf2.1) (Alts.all_oerWf aE hwf2.2)
  have hdt := hsel.all (Alts.all_defaultsOkV rE hd.1) (Alts.all_defaultsOkV aE hd.2)
  rw [enc_sel hsel] at he
  rw [hD.choice]
  refine gChoice_of_bare rD x aD tg _ bytes rest fuel _ he ?_
  intro body hbody hle rest'
  rw [view]
  rcases hsel with hf | ⟨hf, j, hfa, rfl⟩
  · have hjlt := Alts.find_lt hf
    obtain ⟨tD, hfD, ⟨hxt, hcp⟩, hdkt, hview⟩ :=
      (pairA_find true name v rE rD hr hdk.1 idx t hf).resolve_right (fun h => by omega)
    rw [hview]
    exact gBare_known hD rD x aD name idx tD (.inl hfD) _ body rest' fuel
      (compat_tagOf hcp _ ▸ enc_tagOf hbody)
      (hxt (some idx) v body rest' fuel hwt hwt2 hdt hdkt hty hbody (by omega))
  · rw [pairA_find_none true name v rE rD hr hf]
    rcases pairA_find true name v aE aD ha hdk.2 j t hfa with ⟨tD, hfD, ⟨hxt, hcp⟩, hdkt, hview⟩ | ⟨hjge, hview⟩
    · simp only [hview]
      rw [← hrl] at hbody
      exact gBare_known hD rD x aD name _ tD (.inr ⟨j, hfD, rfl⟩) _ body rest' fuel
        (compat_tagOf hcp _ ▸ enc_tagOf hbody)
        (hxt (some (rD.length + j)) v body rest' fuel hwt hwt2 hdt hdkt hty hbody (by omega))
    · simp only [hview]
      have hx : x = true := hext.resolve_right (by have := Alts.find_lt hfa; omega)
      subst hx
      obtain ⟨⟨content, rfl⟩, _⟩ := (enc_form hbody).resolve_right (fun h => by cases h.1)
      exact gBare_unknown hD rD aD _ _ (rE.length + j) content rest' fuel (by omega)

end Asn1.Ext.DerX
