import Asn1Proofs.Lemmas.X690CompDefs
/-
  C04 completeness (`COMP`, X690CompDefs.lean) for OCTET STRING, the character strings and BIT STRING,
  in primitive form and in constructed form with arbitrarily nested segments, definite and indefinite
  lengths.
-/
namespace Asn1.X690
open Asn1.Der (mkTag DecM)
open Asn1.BerCodec (pcDecode)

section core
/- `u`: the UNIVERSAL tag number of the segments (4 for OCTET STRING and the character strings, 3 for
BIT STRING); `prim contents rest` and `join`: the code's `decode_primitive_contents` and
`decode_constructed_segments` (the arguments of `BerCodec.pcDecode`); `g cs`: the value the code
returns for the list `cs` of primitive contents; `good c`: what `prim` needs of one of them (BIT
STRING: a number of unused bits that fits). -/
variable {α : Type} (prim : Bytes → Bytes → DecM α) (join : List α → α)
  (g : List Bytes → α) (good : Bytes → Prop) (u : Nat)

/-- the code's segment decoder (the untagged instance of the segment type) -/
abbrev segDec (fC : Nat) : Bytes → DecM (Option (α × Nat × Bytes)) :=
  pcDecode prim join [u] [u + 0x20] fC [u] [u + 0x20]

/-- one segment of a constructed string (8.7.3 / 8.6.4): itself a string encoding with the universal
identifier octets, primitive or constructed, read with fuel below `F` -/
def oneSeg (F : Nat) (x : Bytes) (cs : List Bytes) (x' : Bytes) : Prop :=
  (∀ c ∈ cs, good c) ∧ ∃ f, f < F ∧ stringChunks u f [u] [u + 0x20] x = some (cs, x')

/-- the code's segment decoder accepts every segment the reference decoder reads with fuel below `F` -/
def SegSim (F : Nat) : Prop :=
  ∀ (x : Bytes) (cs : List Bytes) (x' tail : Bytes) (fC : Nat), oneSeg good u F x cs x' →
    (x ++ tail).length < fC →
    ∃ k, segDec prim join u fC (x ++ tail) = .ok (some (g cs, k, x' ++ tail)) ∧ x.length = k + x'.length ∧ 0 < k

theorem run_of_segments (F : Nat) : ∀ (f : Nat) (x : Bytes) (cs : List Bytes) (y : Bytes), f ≤ F →
    segments u f x = some (cs, y) → (∀ c ∈ cs, good c) →
    ∃ css : List (List Bytes), css.flatten = cs ∧ Run (oneSeg good u F) x css y := by
  intro f
  induction f with
  | zero => intro x cs y _ h; simp [segments] at h
  | succ f ih =>
    intro x cs y hF h hg
    cases hstop : (x.isEmpty || startsEOC x) with
    | true =>
      have : cs = [] ∧ y = x := by
        cases x with
        | nil => simp [segments] at h; exact h
        | cons b r => rw [segments, hstop] at h; simp only [if_true] at h; cases h; exact ⟨rfl, rfl⟩
      obtain ⟨rfl, rfl⟩ := this
      exact ⟨[], rfl, .stop hstop⟩
    | false =>
      cases x with
      | nil => simp at hstop
      | cons b r =>
        rw [segments, hstop] at h
        simp only [Bool.false_eq_true, if_false] at h
        by_cases hb : b = u
        · rw [if_pos hb] at h; subst hb
          split at h
          · rename_i c r' hp
            split at h
            · rename_i cs' r'' hseg
              cases h
              obtain ⟨css, hcss, hrun⟩ := ih r' cs' y (by omega) hseg (fun c hc => hg c (by simp [hc]))
              exact ⟨[c] :: css, by simp [hcss],
                .step hstop ⟨fun c' hc' => hg c' (by simp at hc'; simp [hc']), f, by omega,
                  by simp [stringChunks, stripPrefix, hp]⟩ hrun⟩
            · cases h
          · cases h
        · rw [if_neg hb] at h
          by_cases hb2 : b = u + 0x20
          · rw [if_pos hb2] at h; subst hb2
            split at h
            · rename_i cs1 r' hcc
              split at h
              · rename_i cs' r'' hseg
                cases h
                obtain ⟨css, hcss, hrun⟩ := ih r' cs' y (by omega) hseg (fun c hc => hg c (by simp [hc]))
                exact ⟨cs1 :: css, by simp [hcss],
                  .step hstop ⟨fun c hc => hg c (by simp [hc]), f, by omega,
                    by simp [stringChunks, stripPrefix, hcc]⟩ hrun⟩
              · cases h
            · cases h
          · rw [if_neg hb2] at h; cases h

/-- `PrimitiveOrConstructedType.decode` on a constructed encoding the reference decoder accepts:
length octets and the loop over the segments -/
theorem pcDecode_constructed (hjoin : ∀ css : List (List Bytes), join (css.map g) = g css.flatten)
    (f : Nat) (hS : SegSim prim join g good u f) (tag ctag : Bytes) (hlen : tag.length = ctag.length)
    (hne : ctag ≠ tag) {r r' : Bytes} {cs : List Bytes}
    (h : constructedContents (segments u f) r = some (cs, r')) (hg : ∀ c ∈ cs, good c)
    (extra : Bytes) (fC : Nat) (hf : (r ++ extra).length < fC + 1) :
    ∃ k, pcDecode prim join [u] [u + 0x20] (fC + 1) tag ctag (ctag ++ (r ++ extra))
        = .ok (some (g cs, k, r' ++ extra)) ∧ (ctag ++ r).length = k + r'.length ∧ tag.length < k := by
  have hb : (ctag == tag) = false := by simpa using hne
  rw [constructedContents_eq] at h
  obtain ⟨indef, z, y, tail, hdr, hseg, hy, hrest, hrl, hl, hd0⟩ := framing h extra
  obtain ⟨css, hcss, hrun⟩ := run_of_segments good u f f z cs y (Nat.le_refl _) hseg hg
  simp only [List.length_append] at hf hl
  obtain ⟨k, hit, hk, _⟩ := items_of_run (segDec prim join u fC) _ g indef tail fC
    (fun x a x' h hN => hS x a x' tail fC h hN) hrun hy (fC + 1) (by omega)
    (by simp only [List.length_append]; omega)
  have := congrArg List.length hrest
  simp only [List.length_append] at this ⊢
  refine ⟨tag.length + hdr + k, ?_, by omega, by omega⟩
  simp only [segDec] at hit
  simp only [pcDecode, hlen, Oer.splitAux_append, List.reverse_nil, List.nil_append, hb,
    beq_self_eq_true, if_true, Bool.false_eq_true, if_false, hrl, hit, hjoin, hcss, hrest]

/-- `PrimitiveOrConstructedType.decode` on a string encoding the reference decoder accepts, primitive
or constructed, given the same for the segments read with fuel `fuel` -/
theorem pcDecode_of_stringChunks_aux (hprim : ∀ c rest, good c → prim c rest = .ok (g [c]))
    (hjoin : ∀ css : List (List Bytes), join (css.map g) = g css.flatten)
    (tag ctag : Bytes) (hlen : tag.length = ctag.length)
    {fuel : Nat}
    (hS : SegSim prim join g good u fuel)
    {bs rest : Bytes} {cs : List Bytes}
    (h : stringChunks u fuel tag ctag bs = some (cs, rest)) (hg : ∀ c ∈ cs, good c)
    (extra : Bytes) (fuelC : Nat) (hf : (bs ++ extra).length < fuelC) :
    ∃ k, pcDecode prim join [u] [u + 0x20] fuelC tag ctag (bs ++ extra) = .ok (some (g cs, k, rest ++ extra)) ∧
      bs.length = k + rest.length ∧ tag.length < k := by
  obtain ⟨fC, rfl⟩ : ∃ fC, fuelC = fC + 1 := ⟨fuelC - 1, by omega⟩
  unfold stringChunks at h
  split at h
  · rename_i r hs
    split at h
    · rename_i c r' hp
      simp only [Option.some.injEq, Prod.mk.injEq] at h
      obtain ⟨rfl, rfl⟩ := h
      have hbs := stripPrefix_some hs
      obtain ⟨k, hk, hl, hk0⟩ := pcDecode_of_primitiveContents prim join [u] [u + 0x20] fC tag ctag (r ++ extra) c
        (r' ++ extra) (g [c]) (primitiveContents_append_right extra hp) (hprim c _ (hg c (by simp)))
      refine ⟨k, ?_, ?_, hk0⟩
      · rw [hbs, List.append_assoc]; exact hk
      · rw [hbs]; simp only [List.length_append] at hl ⊢; omega
    · cases h
  · rename_i hs
    split at h
    · rename_i r hs2
      have hbs := stripPrefix_some hs2
      have hne : ctag ≠ tag := by
        intro e; rw [hbs, e, stripPrefix_append] at hs; cases hs
      obtain ⟨k, hk, hl, hk0⟩ := pcDecode_constructed prim join g good u hjoin fuel hS tag ctag hlen hne h hg extra fC
        (by rw [hbs] at hf; simp only [List.length_append] at hf ⊢; omega)
      exact ⟨k, by rw [hbs, List.append_assoc]; exact hk, by rw [hbs]; exact hl, hk0⟩
    · cases h

/-- by induction on the fuel of the reference decoder: a constructed segment is made of segments read
with less -/
theorem segSim_all (hprim : ∀ c rest, good c → prim c rest = .ok (g [c]))
    (hjoin : ∀ css : List (List Bytes), join (css.map g) = g css.flatten) :
    ∀ F, SegSim prim join g good u F := by
  intro F
  induction F using Nat.strongRecOn with
  | _ F IH =>
    intro x cs x' tail fC ⟨hg, f, hfF, h⟩ hf
    obtain ⟨k, hk, hlen, hk0⟩ := pcDecode_of_stringChunks_aux prim join g good u hprim hjoin [u] [u + 0x20] rfl
      (IH f hfF) h hg tail fC hf
    exact ⟨k, hk, hlen, by omega⟩

theorem pcDecode_of_stringChunks (hprim : ∀ c rest, good c → prim c rest = .ok (g [c]))
    (hjoin : ∀ css : List (List Bytes), join (css.map g) = g css.flatten)
    (tag ctag : Bytes) (hlen : tag.length = ctag.length)
    {fuel : Nat} {bs rest : Bytes} {cs : List Bytes}
    (h : stringChunks u fuel tag ctag bs = some (cs, rest)) (hg : ∀ c ∈ cs, good c)
    (extra : Bytes) (fuelC : Nat) (hf : (bs ++ extra).length < fuelC) :
    ∃ k, pcDecode prim join [u] [u + 0x20] fuelC tag ctag (bs ++ extra) = .ok (some (g cs, k, rest ++ extra)) ∧
      bs.length = k + rest.length ∧ tag.length < k :=
  pcDecode_of_stringChunks_aux prim join g good u hprim hjoin tag ctag hlen
    (segSim_all prim join g good u hprim hjoin fuel) h hg extra fuelC hf
end core

theorem mkTag_length_eq (u : Nat) (tg : Option Nat) :
    (mkTag u false tg).length = (mkTag u true tg).length := by
  cases tg <;> simp only [mkTag, Der.encTag_length_der]

theorem decOctets_of_stringChunks (uu : Nat) (tg : Option Nat)
    {fuel : Nat} {bs rest : Bytes} {cs : List Bytes}
    (h : stringChunks 4 fuel (mkTag uu false tg) (mkTag uu true tg) bs = some (cs, rest))
    (extra : Bytes) (fuelC : Nat) (hf : (bs ++ extra).length < fuelC) :
    ∃ k, BerCodec.decOctets fuelC (mkTag uu false tg) (mkTag uu true tg) (bs ++ extra)
        = .ok (some (cs.flatten, k, rest ++ extra)) ∧ bs.length = k + rest.length ∧
          (mkTag uu false tg).length < k :=
  pcDecode_of_stringChunks (fun content _ => .ok content) List.flatten
    (fun cs => cs.flatten) (fun _ => True) 4 (by intros; simp) (by intro css; exact List.flatten_flatten.symm)
    (mkTag uu false tg) (mkTag uu true tg) (mkTag_length_eq uu tg) h (by intros; trivial) extra fuelC hf

theorem comp_octetString (c : SizeC) : COMP (.octetString c) := by
  intro tg fuel fuelC bs rest extra v h hf
  rw [decVS_octetString, decV_octetString, header_eq_mkTag, header_eq_mkTag] at h
  split at h
  · rename_i cs r hsc
    cases h
    obtain ⟨k, hk, hl, hk0⟩ := decOctets_of_stringChunks 4 tg hsc extra fuelC hf
    refine ⟨k, ?_, hl, Nat.lt_of_le_of_lt (tagLen_le _ _ tg) hk0⟩
    rw [BerCodec.dec_octetString, hk]; rfl
  · cases h

theorem comp_charString (k : StrKind) (c : SizeC) : COMP (.charString k c) := by
  intro tg fuel fuelC bs rest extra v h hf
  rw [decVS_charString, decV_charString, header_eq_mkTag, header_eq_mkTag] at h
  split at h
  · rename_i cs r hsc
    split at h
    · rename_i cps hcps
      cases h
      obtain ⟨k', hk, hl, hk0⟩ := decOctets_of_stringChunks _ tg hsc extra fuelC hf
      refine ⟨k', ?_, hl, Nat.lt_of_le_of_lt (tagLen_le _ _ tg) hk0⟩
      rw [BerCodec.dec_charString, hk]
      simp only [bind, Except.bind, decodeStr_of_charsOf hcps]
    · cases h
  · cases h

/-- data octets and number of bits of a list of chunks, the way the code adds them up -/
def bitsG (cs : List Bytes) : Bytes × Nat :=
  ((cs.map List.tail).flatten, (cs.map (fun c => 8 * c.tail.length - c.headD 0)).sum)

/-- a chunk the code's `decode_primitive_contents` turns into a value of the universe -/
def bitsGood (c : Bytes) : Prop := c ≠ [] ∧ c.headD 0 ≤ 8 * c.tail.length

theorem bitsG_prim (c rest : Bytes) (h : bitsGood c) : Der.bitsOfContent c rest = .ok (bitsG [c]) := by
  cases c with
  | nil => exact absurd rfl h.1
  | cons u body =>
    have h2 : ¬ (8 * body.length < u) := by
      have := h.2; simp only [List.headD_cons, List.tail_cons] at this; omega
    simp [Der.bitsOfContent, if_neg h2, bitsG]

theorem bitsG_join (css : List (List Bytes)) :
    (fun segs : List (Bytes × Nat) => ((segs.map (·.1)).flatten, (segs.map (·.2)).sum)) (css.map bitsG)
      = bitsG css.flatten := by
  induction css with
  | nil => rfl
  | cons cs css ih =>
    simp only [bitsG, List.map_cons, List.flatten_cons, List.sum_cons, List.map_append,
      List.flatten_append, List.sum_append, Prod.mk.injEq] at ih ⊢
    exact ⟨by rw [ih.1], by rw [ih.2]⟩

theorem bitsOfChunks_spec (cs : List Bytes) : ∀ (data : Bytes) (n : Nat), bitsOfChunks cs = some (data, n) →
    (∀ c ∈ cs, bitsGood c) ∧ bitsG cs = (data, n) := by
  induction cs with
  | nil =>
    intro data n h
    simp only [bitsOfChunks, Option.some.injEq, Prod.mk.injEq] at h
    obtain ⟨rfl, rfl⟩ := h
    exact ⟨by simp, rfl⟩
  | cons c cs ih =>
    intro data n h
    cases cs with
    | nil =>
      cases c with
      | nil => simp [bitsOfChunks] at h
      | cons u body =>
        simp only [bitsOfChunks] at h
        split at h
        · rename_i hu
          simp only [Option.some.injEq, Prod.mk.injEq] at h
          obtain ⟨rfl, rfl⟩ := h
          refine ⟨?_, by simp [bitsG]⟩
          intro c hc
          simp only [List.mem_singleton] at hc
          subst hc
          refine ⟨by simp, ?_⟩
          exact unusedBits_le hu
        · cases h
    | cons c' cs' =>
      unfold bitsOfChunks at h
      split at h
      · rename_i body
        split at h
        · rename_i d m hd
          simp only [Option.some.injEq, Prod.mk.injEq] at h
          obtain ⟨rfl, rfl⟩ := h
          obtain ⟨hgood, hG⟩ := ih d m hd
          constructor
          · intro x hx
            rcases List.mem_cons.mp hx with rfl | hx
            · exact ⟨by simp, by simp⟩
            · exact hgood x hx
          · simp only [bitsG, Prod.mk.injEq] at hG ⊢
            simp only [List.map_cons, List.flatten_cons, List.sum_cons, List.tail_cons, List.headD_cons] at hG ⊢
            exact ⟨by rw [hG.1], by rw [hG.2]; omega⟩
        · cases h
      · cases h

theorem comp_bitString (c : SizeC) : COMP (.bitString c) := by
  intro tg fuel fuelC bs rest extra v h hf
  rw [decVS_bitString, header_eq_mkTag, header_eq_mkTag] at h
  split at h
  · rename_i cs r hsc
    split at h
    · rename_i data n hbits
      split at h
      · cases h
        obtain ⟨hgood, hG⟩ := bitsOfChunks_spec cs data n hbits
        obtain ⟨k, hk, hl, hk0⟩ := pcDecode_of_stringChunks Der.bitsOfContent
          (fun segs : List (Bytes × Nat) => ((segs.map (·.1)).flatten, (segs.map (·.2)).sum))
          bitsG bitsGood 3 bitsG_prim bitsG_join
          (mkTag 3 false tg) (mkTag 3 true tg) (mkTag_length_eq 3 tg) hsc hgood extra fuelC hf
        refine ⟨k, ?_, hl, Nat.lt_of_le_of_lt (tagLen_le _ _ tg) hk0⟩
        rw [hG] at hk
        rw [BerCodec.dec_bitString, BerCodec.decBits, hk]; rfl
      · cases h
    · cases h
  · cases h

end Asn1.X690

#print axioms Asn1.X690.comp_octetString
#print axioms Asn1.X690.comp_charString
#print axioms Asn1.X690.comp_bitString
