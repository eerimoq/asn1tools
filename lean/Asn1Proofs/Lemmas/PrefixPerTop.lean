import Asn1Proofs.Lemmas.PrefixPerTypes
import Asn1Proofs.Lemmas.PerRoundtrip
/-
  C16 for the ALIGNED PER model: every strict byte prefix of a valid encoding is rejected with
  `decodeError`.  `Per.roundtrip_partial` says that the decoder consumes exactly the encoding,
  `Per.dec_prefix` that success on a prefix would be success with the same consumption on the whole.
-/
namespace Asn1.Per

theorem truncated_bits (t : Ty) (v : Val) (pos : Nat) (bits q x : Bits) (f' : Nat)
    (hwf : t.wf = true) (hd : t.defaultsOk = true) (ht : hasType t v = true)
    (hf : fragFree t v = true) (hns : t.nsOk = true) (he : enc t pos v = .ok bits)
    (hq : bits = q ++ x) (hx : x ≠ []) (hal : (pos + q.length) % 8 = 0) (hfuel : q.length < f') :
    dec t f' ⟨pos, q⟩ = .error .decodeError := by
  have hrt := roundtrip_partial t v pos bits [] (bits.length + 2) hwf hd ht hf hns he (by simp)
  rw [List.append_nil, hq] at hrt
  exact dec_cut t _ f' pos q x _ _ hal hfuel hrt (List.length_pos_iff.mpr hx)

theorem truncated (t : Ty) (v : Val) (bytes : Bytes) (k : Nat)
    (hwf : t.wf = true) (hd : t.defaultsOk = true) (ht : hasType t v = true)
    (hf : fragFree t v = true) (hns : t.nsOk = true)
    (he : encode t v = .ok bytes) (hk : k < bytes.length) :
    decode t (bytes.take k) = .error .decodeError := by
  obtain ⟨bits, hb, hE⟩ := encode_total t v hwf ht
  rw [hE] at he
  cases he
  obtain ⟨pad, hsplit, hr⟩ := packBits_cut bits hk
  have hrt := roundtrip_partial t v 0 bits pad (bits.length + pad.length + 2) hwf hd ht hf hns hb
    (Nat.le_refl _)
  rw [← hsplit] at hrt
  have hql := bytesToBits_length ((packBits bits).take k)
  unfold decode
  rw [dec_cut t _ _ 0 _ _ _ _ (by rw [hql]; omega) (by rw [hql]; omega) hrt hr]
  rfl

/-! The octet-boundary hypothesis of the bit-level statements is necessary.  `OCTET STRING (SIZE(0..5))`,
empty value: three bits of length, then `align_always`, then no contents; the encoding is one zero
octet.  Cut after four BITS, the decoder reads the length, "aligns" by dropping the one bit that is
left, and returns the value.  With more bits behind the cut, `align` eats four of them. -/

def cxaTy : Ty := .octetString ⟨0, some 5, false⟩
def cxaBits : Bits := List.replicate 8 false

theorem truncated_bits_unaligned_counterexample :
    cxaTy.wf = true ∧ cxaTy.defaultsOk = true ∧ hasType cxaTy (.bytes []) = true ∧
    fragFree cxaTy (.bytes []) = true ∧ cxaTy.nsOk = true ∧
    enc cxaTy 0 (.bytes []) = .ok cxaBits ∧
    cxaBits = List.replicate 4 false ++ List.replicate 4 false ∧
    dec cxaTy 6 ⟨0, List.replicate 4 false⟩ = .ok (.bytes [], ⟨8, []⟩) := by
  refine ⟨by decide, by decide, by decide, by decide, by decide, ?_, rfl, ?_⟩ <;> rfl

/-- `dec_prefix` without `(pos + q.length) % 8 = 0`: the value is the same, but the remaining input
on `q ++ x` is not (remaining input on `q`) `++ x` -/
theorem dec_prefix_unaligned_counterexample :
    ∃ (q x : Bits) (r : St), dec cxaTy 20 ⟨0, q ++ x⟩ = .ok (.bytes [], r) ∧
      (∀ f', ∃ r', dec cxaTy (f' + 1) ⟨0, q⟩ = .ok (.bytes [], ⟨r.pos, r'⟩) ∧ r.bs ≠ r' ++ x) := by
  refine ⟨List.replicate 4 false, List.replicate 4 false ++ [true], ⟨8, [true]⟩, rfl, ?_⟩
  intro f'
  exact ⟨[], rfl, by decide⟩

end Asn1.Per

#print axioms Asn1.Per.dec_prefix
#print axioms Asn1.Per.truncated_bits
#print axioms Asn1.Per.truncated
#print axioms Asn1.Per.truncated_bits_unaligned_counterexample
#print axioms Asn1.Per.dec_prefix_unaligned_counterexample
