import Asn1Proofs.Lemmas.CostDefs
import Asn1Proofs.Lemmas.DerDefs
/-
  C08 for the DER / BER models: the constant `KD`; what a success of a framing function both decoders share
  (`Asn1Model/Der.lean`) means for the lengths (`splitAux_len` … `bitsOfContent_len`: they stand here because only
  the cost development needs them); the allocation bound `CP`/`CT` of the item loop of SEQUENCE OF
  (`BerCodec.items`; `derElems` is its definite-length case) and of the shared SEQUENCE / CHOICE decoder
  (`gPass` … `gChoice` of `DerDefs.lean`), over an arbitrary decoder.
-/
namespace Asn1.Cost
open Asn1.Der
open Asn1.Oer (splitAux readBytes decodeStr)

mutual
  /-- `KD` (the constant `K` of DER and BER): nodes allocated per octet consumed, a function of the type only
  (`KDm`, `KDa`: of a member list, of a list of alternatives; `KDm = MS + KT`).  `2 +` at CHOICE: an unknown
  extension alternative is returned as `.choice "" .absent`, two nodes. -/
  def KD : Ty → Nat
    | .sequence root _ adds => 1 + KDm root + KDm adds
    | .sequenceOf e _ => 1 + KD e
    | .choice root _ adds => 2 + KDa root + KDa adds
    | _ => 1
  def KDm : Members → Nat
    | .nil => 0
    | .cons _ p t rest => 1 + presenceNodes p + KD t + KDm rest
  def KDa : Alts → Nat
    | .nil => 0
    | .cons _ t rest => KD t + KDa rest
end

theorem splitAux_len {n : Nat} {bs a r : Bytes} (h : splitAux n bs [] = some (a, r)) :
    bs.length = r.length + n ∧ a.length = n := by
  rw [Oer.splitAux_eq] at h
  split at h
  · cases h
    simp only [List.reverse_nil, List.nil_append, List.length_drop, List.length_take]
    omega
  · cases h

theorem readBytes_len {n : Nat} {bs a r : Bytes} (h : readBytes n bs = .ok (a, r)) :
    bs.length = r.length + n ∧ a.length = n := by
  obtain ⟨hk, rfl, rfl⟩ := Oer.readBytes_ok h
  simp only [List.length_drop, List.length_take]
  omega

theorem encTag_pos (n fl : Nat) : 1 ≤ (Ber.encTag n fl).length := by
  unfold Ber.encTag
  split <;> simp

theorem mkTag_pos (u : Nat) (c : Bool) (tg : Option Nat) : 1 ≤ (mkTag u c tg).length := by
  unfold mkTag
  cases tg <;> exact encTag_pos _ _

theorem matchTag_len {tag bs r : Bytes} (h : matchTag tag bs = .ok (some r)) :
    bs.length = r.length + tag.length := by
  unfold matchTag at h
  split at h
  · cases h
  · rename_i t r' hs
    split at h
    · cases h
      exact (splitAux_len hs).1
    · cases h

theorem readLen_spec {d : Bool} {bs r : Bytes} {len : Option Nat} {h : Nat}
    (hr : readLen d bs = .ok (len, h, r)) :
    1 ≤ h ∧ bs.length = r.length + h ∧ (∀ n, len = some n → n ≤ r.length) ∧
      (d = true → len.isSome = true) := by
  unfold readLen at hr
  split at hr
  · cases hr
  · rename_i l r0
    split at hr
    · split at hr
      · rename_i hN
        cases hr
        rw [hasN_eq] at hN
        simp only [decide_eq_true_eq] at hN
        refine ⟨Nat.le_refl _, by simp, ?_, fun _ => rfl⟩
        intro n hn; cases hn; exact hN
      · cases hr
    · split at hr
      · split at hr
        · cases hr
        · rename_i hd
          cases hr
          refine ⟨Nat.le_refl _, by simp, ?_, ?_⟩
          · intro n hn; cases hn
          · intro hd'; exact absurd hd' hd
      · split at hr
        · cases hr
        · rename_i ds r' hs
          dsimp only at hr
          split at hr
          · rename_i hN
            cases hr
            rw [hasN_eq] at hN
            simp only [decide_eq_true_eq] at hN
            have := (splitAux_len hs).1
            refine ⟨by omega, by simp only [List.length_cons]; omega, ?_, fun _ => rfl⟩
            intro n hn; cases hn; exact hN
          · cases hr

theorem readPrim_spec {tag bs content r : Bytes} {k : Nat}
    (h : readPrim tag bs = .ok (some (content, k, r))) :
    bs.length = r.length + k ∧ tag.length + 1 + content.length ≤ k := by
  unfold readPrim at h
  obtain ⟨o, h1, h⟩ := bind_ok h
  cases o with
  | none => cases h
  | some r0 =>
    dsimp only at h
    obtain ⟨⟨len, hh, r1⟩, h2, h⟩ := bind_ok h
    dsimp only at h
    cases len with
    | none => cases h
    | some n =>
      dsimp only at h
      obtain ⟨⟨c, r2⟩, h3, h⟩ := bind_ok h
      cases h
      have a1 := matchTag_len h1
      obtain ⟨a2, a3, _, _⟩ := readLen_spec h2
      obtain ⟨a4, a5⟩ := readBytes_len h3
      dsimp only
      omega

theorem tagRest_spec {bs t r : Bytes} (h : tagRest bs = some (t, r)) :
    bs.length = r.length + t.length ∧ 1 ≤ t.length := by
  induction bs generalizing t r with
  | nil => simp [tagRest] at h
  | cons b bs ih =>
    simp only [tagRest] at h
    split at h
    · split at h
      · rename_i t' r' hr
        cases h
        have := ih hr
        simp only [List.length_cons]; omega
      · cases h
    · cases h; simp

theorem readTag_spec {bs t r : Bytes} (h : readTag bs = .ok (t, r)) :
    bs.length = r.length + t.length ∧ 1 ≤ t.length ∧ 1 ≤ r.length := by
  unfold readTag at h
  split at h
  · cases h
  · rename_i b r0
    dsimp only at h
    split at h
    · cases h
    · rename_i t' r' hres
      split at h
      · cases h
      · rename_i hne
        cases h
        have hr1 : 1 ≤ r.length := by
          cases r with
          | nil => simp at hne
          | cons _ _ => simp
        split at hres
        · split at hres
          · rename_i t2 r2 hr
            cases hres
            have := tagRest_spec hr
            simp only [List.length_cons]; omega
          · cases hres
        · cases hres
          exact ⟨by simp, by simp, hr1⟩

theorem skipTLV_spec {bs r : Bytes} {k : Nat} (h : skipTLV bs = .ok (k, r)) :
    r.length + 2 ≤ bs.length ∧ 2 ≤ k := by
  unfold skipTLV at h
  obtain ⟨⟨t, r0⟩, h1, h⟩ := bind_ok h
  dsimp only at h
  obtain ⟨⟨len, hh, r1⟩, h2, h⟩ := bind_ok h
  dsimp only at h
  cases len with
  | none => cases h
  | some n =>
    cases h
    obtain ⟨a1, a2, _⟩ := readTag_spec h1
    obtain ⟨a3, a4, _, _⟩ := readLen_spec h2
    simp only [List.length_drop]
    omega

theorem isEnd_spec {c c' : Cur} {b : Bool} (h : isEnd c = .ok (b, c')) :
    c'.bs.length ≤ c.bs.length ∧ c.k ≤ c'.k := by
  unfold isEnd at h
  split at h
  · cases h; exact ⟨Nat.le_refl _, Nat.le_refl _⟩
  · split at h
    · rename_i rest hbs
      cases h
      rw [hbs]
      simp only [List.length_cons]
      omega
    · cases h; exact ⟨Nat.le_refl _, Nat.le_refl _⟩
    · cases h

theorem eoc_spec {bs : Bytes} {b : Bool} (h : eoc bs = .ok b) : 2 ≤ bs.length := by
  unfold eoc at h
  split at h
  · simp
  · simp
  · cases h

theorem decodeStr_len {k : StrKind} {bs cps : Bytes} (h : decodeStr k bs = .ok cps) :
    cps.length ≤ bs.length := by
  unfold decodeStr at h
  split at h
  · split at h
    · rename_i c hc
      cases h
      exact utf8Dec_length _ _ _ hc
    · cases h
  · split at h
    · cases h; exact Nat.le_refl _
    · cases h

theorem bitsOfContent_len {content rest body : Bytes} {n : Nat}
    (h : bitsOfContent content rest = .ok (body, n)) : body.length + 1 = content.length := by
  unfold bitsOfContent at h
  split at h
  · split at h <;> cases h
  · split at h
    · cases h
    · cases h; simp

/-- products are opaque to `omega` -/
theorem mul_split {a b K c1 c2 c : Nat} (h1 : a ≤ K * c1) (h2 : b ≤ K * c2) (hc : c1 + c2 ≤ c) :
    a + b ≤ K * c := by
  have := Nat.mul_le_mul_left K hc
  rw [Nat.mul_add] at this
  omega

/-- a SEQUENCE: the root members (`X` nodes, constant `A`, `cx` octets) and the additions (`Y`, `B`, `cy`),
both lifted to the `C` octets of the whole, with the `1 + m1 + m2` nodes that cost no input paid by `1 ≤ C` -/
theorem seq_arith {X Y A B cx cy C m1 m2 : Nat} (hX : X ≤ A * cx) (hY : Y ≤ B * cy)
    (hcx : cx ≤ C) (hcy : cy ≤ C) (hC : 1 ≤ C) :
    1 + (m1 + X + (m2 + Y)) ≤ (1 + (m1 + A) + (m2 + B)) * C := by
  have a1 : A * cx ≤ A * C := Nat.mul_le_mul_left _ hcx
  have a2 : B * cy ≤ B * C := Nat.mul_le_mul_left _ hcy
  have a3 : m1 * 1 ≤ m1 * C := Nat.mul_le_mul_left _ hC
  have a4 : m2 * 1 ≤ m2 * C := Nat.mul_le_mul_left _ hC
  simp only [Nat.add_mul, Nat.one_mul]
  omega

/-- `CP` ("cost of a parse"): a successful parse consumes input, reports an octet count `k ≥ 1`, and its value has at
most `K` nodes per octet consumed -/
def CP (K : Nat) (p : Bytes → DecM (Option Res)) : Prop :=
  ∀ bs v k r, p bs = .ok (some (v, k, r)) →
    r.length < bs.length ∧ 1 ≤ k ∧ v.nodes ≤ K * (bs.length - r.length)

/-- `CT` ("cost, type"): the decoder of `t` satisfies `CP` with the constant `KD t`, under every tag override `tg` and
for every fuel -/
def CT (D : Decoder) (t : Ty) : Prop := ∀ tg f, CP (KD t) (D t tg f)

theorem CP.mono {K K' : Nat} {p : Bytes → DecM (Option Res)} (h : CP K p) (hK : K ≤ K') : CP K' p := by
  intro bs v k r hp
  obtain ⟨a, b, c⟩ := h bs v k r hp
  exact ⟨a, b, bm_mono c hK (Nat.le_refl _)⟩

theorem cp_of_readPrim {tag bs content r : Bytes} {k K : Nat} (v : Val)
    (hK : 1 ≤ K) (h : readPrim tag bs = .ok (some (content, k, r)))
    (hv : v.nodes ≤ 1 + content.length) :
    r.length < bs.length ∧ 1 ≤ k ∧ v.nodes ≤ K * (bs.length - r.length) := by
  obtain ⟨a1, a2⟩ := readPrim_spec h
  refine ⟨by omega, by omega, Nat.le_trans ?_ (Nat.mul_le_mul_right _ hK)⟩
  omega

/-- `MS` ("member slots"): nodes a member list contributes without consuming input: one per field, plus
the DEFAULTs -/
def MS : Members → Nat
  | .nil => 0
  | .cons _ p _ rest => 1 + presenceNodes p + MS rest

/-- the `K` of the member types -/
def KT : Members → Nat
  | .nil => 0
  | .cons _ _ t rest => KD t + KT rest

theorem KDm_eq (ms : Members) : KDm ms = MS ms + KT ms := by
  induction ms using Members.ind with
  | nil => simp [KDm, MS, KT]
  | cons name p t rest ih => simp only [KDm, MS, KT, ih]; omega

/-- size of the values decoded so far -/
def slotsNodes : List (Option Val) → Nat
  | [] => 0
  | none :: r => slotsNodes r
  | some v :: r => v.nodes + slotsNodes r

theorem slotsNodes_tail_le (slots : List (Option Val)) : slotsNodes slots.tail ≤ slotsNodes slots := by
  cases slots with
  | nil => exact Nat.le_refl _
  | cons x r => cases x <;> simp only [List.tail_cons, slotsNodes] <;> omega

theorem slotsNodes_head {slots : List (Option Val)} {v : Val} (h : slots.headD none = some v) :
    slotsNodes slots = v.nodes + slotsNodes slots.tail := by
  cases slots with
  | nil => cases h
  | cons x r =>
    simp only [List.headD_cons] at h
    subst h
    simp only [List.tail_cons, slotsNodes]

theorem slotsNodes_replicate (n : Nat) : slotsNodes (List.replicate n none) = 0 := by
  induction n with
  | zero => rfl
  | succ n ih => simp only [List.replicate_succ, slotsNodes, ih]

theorem derElems_eq (p : Bytes → DecM (Option Res)) (fuel toEnd : Nat) (bs : Bytes) :
    derElems p fuel toEnd bs = BerCodec.items p fuel (some toEnd) bs := by
  induction fuel generalizing toEnd bs with
  | zero => rfl
  | succ f ih =>
    simp only [derElems, BerCodec.items, ih, derElemMismatch]
    by_cases h : toEnd = 0
    · simp [h]
    · have hb : (toEnd == 0) = false := by simpa using h
      simp only [if_neg h, hb, Option.map_some]
      cases p bs with
      | error e => rfl
      | ok o =>
        rcases o with _ | ⟨v, k, r⟩
        · rfl
        · dsimp only
          cases BerCodec.items p f (some (toEnd - k)) r <;> rfl

/-- one item, then the loop: the body of `BerCodec.items` behind its end test -/
def itemStep {α : Type} (p : Bytes → DecM (Option (α × Nat × Bytes))) (f : Nat) (te : Option Nat) (bs : Bytes) :
    DecM (List α × Nat × Bytes) :=
  match p bs with
  | .error e => .error e
  | .ok none => .error .decodeError
  | .ok (some (a, k, r)) =>
    match BerCodec.items p f (te.map (· - k)) r with
    | .error e => .error e
    | .ok (as, k', r') => .ok (a :: as, k + k', r')

theorem items_succ {α : Type} (p : Bytes → DecM (Option (α × Nat × Bytes))) (f : Nat) (te : Option Nat) (bs : Bytes) :
    BerCodec.items p (f + 1) te bs =
      match te with
      | some n => if n == 0 then .ok ([], 0, bs) else itemStep p f te bs
      | none =>
        match eoc bs with
        | .error e => .error e
        | .ok true => .ok ([], 2, bs.drop 2)
        | .ok false => itemStep p f te bs := by
  cases te with
  | some n =>
    simp only [BerCodec.items]
    by_cases hn : (n == 0) = true <;> simp only [hn] <;> rfl
  | none =>
    simp only [BerCodec.items]
    cases he : eoc bs with
    | error e => rfl
    | ok b => cases b <;> rfl

theorem items_cost {α : Type} (size : α → Nat) {K : Nat} {p : Bytes → DecM (Option (α × Nat × Bytes))}
    (hp : ∀ bs a k r, p bs = .ok (some (a, k, r)) →
      r.length < bs.length ∧ size a ≤ K * (bs.length - r.length)) :
    ∀ (fuel : Nat) (toEnd : Option Nat) (bs : Bytes) (as : List α) (k : Nat) (r : Bytes),
      BerCodec.items p fuel toEnd bs = .ok (as, k, r) →
      r.length ≤ bs.length ∧ sumSize size as ≤ K * (bs.length - r.length) := by
  intro fuel
  induction fuel with
  | zero => intro toEnd bs as k r h; simp [BerCodec.items] at h
  | succ f ih =>
    intro toEnd bs as k r h
    have step : ∀ te, itemStep p f te bs = .ok (as, k, r) →
        r.length ≤ bs.length ∧ sumSize size as ≤ K * (bs.length - r.length) := by
      intro te h
      unfold itemStep at h
      split at h
      · cases h
      · cases h
      · rename_i a k1 r1 hp1
        split at h
        · cases h
        · rename_i as' k' r' hrec
          cases h
          obtain ⟨a1, a3⟩ := hp _ _ _ _ hp1
          obtain ⟨b1, b2⟩ := ih _ _ _ _ _ hrec
          refine ⟨by omega, ?_⟩
          simp only [sumSize]
          exact mul_split a3 b2 (by omega)
    rw [items_succ] at h
    split at h
    · split at h
      · cases h; simp [sumSize]
      · exact step _ h
    · split at h
      · cases h
      · cases h; simp [sumSize]
      · exact step _ h

theorem items_cost_nodes {K : Nat} {p : Bytes → DecM (Option Res)} (hp : CP K p) {fuel : Nat}
    {toEnd : Option Nat} {bs r : Bytes} {vs : List Val} {k : Nat}
    (h : BerCodec.items p fuel toEnd bs = .ok (vs, k, r)) :
    r.length ≤ bs.length ∧ Val.nodesList vs ≤ K * (bs.length - r.length) := by
  have := items_cost Val.nodes (fun b a k r hb => ⟨(hp b a k r hb).1, (hp b a k r hb).2.2⟩) _ _ _ _ _ _ h
  rwa [sumSize_nodes] at this

/-- one pass of `decode_members` over the members never moves the cursor back, never lowers the octet
count `k`, and the values it adds to the slots cost at most `K` nodes per octet it consumed -/
def PassOK (K : Nat) (pass : List (Option Val) → MSt → DecM (List (Option Val) × MSt)) : Prop :=
  ∀ slots st slots' st', pass slots st = .ok (slots', st') →
    st'.cur.bs.length ≤ st.cur.bs.length ∧ st.cur.k ≤ st'.cur.k ∧
    slotsNodes slots' ≤ slotsNodes slots + K * (st.cur.bs.length - st'.cur.bs.length)

/-- what one member does in a successful pass: the slot `o` it leaves, and the state `st2` from which
the pass goes on over the other members.  Filled before; skipped (out of data, or another member's
tag); or decoded now, and then the element decoder and `isEnd` ran. -/
inductive PassStep (D : Decoder) (t : Ty) (i f : Nat) (slots : List (Option Val)) (st : MSt) :
    Option Val → MSt → Prop
  | filled {v} : slots.headD none = some v → PassStep D t i f slots st (some v) st
  | skipped : slots.headD none = none → PassStep D t i f slots st none st
  | decoded {v k r ood c} : slots.headD none = none → D t (some i) f st.cur.bs = .ok (some (v, k, r)) →
      isEnd (st.cur.advance k r) = .ok (ood, c) → PassStep D t i f slots st (some v) ⟨c, ood, true⟩

theorem gPass_ok_cons {D : Decoder} {n : String} {p : Presence} {t : Ty} {rest : Members} {i f : Nat}
    {slots slots' : List (Option Val)} {st st' : MSt}
    (h : gPass D (.cons n p t rest) i f slots st = .ok (slots', st')) :
    ∃ o r st2, PassStep D t i f slots st o st2 ∧ gPass D rest (i + 1) f slots.tail st2 = .ok (r, st') ∧
      slots' = o :: r := by
  rw [gPass] at h
  split at h
  · rename_i v hv
    split at h
    · cases h
    · rename_i r st2 hrec
      cases h
      exact ⟨_, _, _, .filled hv, hrec, rfl⟩
  · rename_i hn
    split at h
    · split at h
      · cases h
      · rename_i r st2 hrec
        cases h
        exact ⟨_, _, _, .skipped hn, hrec, rfl⟩
    · split at h
      · cases h
      · split at h
        · cases h
        · rename_i r st2 hrec
          cases h
          exact ⟨_, _, _, .skipped hn, hrec, rfl⟩
      · rename_i v k r hdec
        split at h
        · cases h
        · rename_i ood c hend
          split at h
          · cases h
          · rename_i r' st2 hrec
            cases h
            exact ⟨_, _, _, .decoded hn hdec hend, hrec, rfl⟩

theorem gPass_cost (D : Decoder) (ms : Members) (hms : Members.All (CT D) ms) :
    ∀ (i f : Nat), PassOK (KT ms) (gPass D ms i f) := by
  induction ms using Members.ind with
  | nil =>
    intro i f slots st slots' st' h
    rw [gPass] at h
    cases h
    exact ⟨Nat.le_refl _, Nat.le_refl _, by simp [slotsNodes]⟩
  | cons name p t rest ih =>
    intro i f slots st slots' st' h
    obtain ⟨ht, hrest⟩ := hms
    obtain ⟨o, r, st2, hstep, hrec, rfl⟩ := gPass_ok_cons h
    obtain ⟨a1, a2, a3⟩ := ih hrest (i + 1) f _ _ _ _ hrec
    have htl := slotsNodes_tail_le slots
    simp only [KT, Nat.add_mul]
    cases hstep with
    | filled hv =>
      rw [slotsNodes, slotsNodes_head hv]
      exact ⟨a1, a2, by omega⟩
    | skipped _ =>
      rw [slotsNodes]
      exact ⟨a1, a2, by omega⟩
    | @decoded v k r ood c _ hdec hend =>
      obtain ⟨d1, d2, d3⟩ := ht (some i) f _ _ _ _ hdec
      obtain ⟨e1, e2⟩ := isEnd_spec hend
      simp only [Cur.advance] at e1 e2
      dsimp only at a1 a2 a3
      have b1 := Nat.mul_le_mul_left (KD t) (show st.cur.bs.length - r.length ≤ st.cur.bs.length - st'.cur.bs.length by omega)
      have b2 := Nat.mul_le_mul_left (KT rest) (show c.bs.length - st'.cur.bs.length ≤ st.cur.bs.length - st'.cur.bs.length by omega)
      rw [slotsNodes]
      exact ⟨by omega, by omega, by omega⟩

theorem retry_cost {K : Nat} {pass : List (Option Val) → MSt → DecM (List (Option Val) × MSt)}
    (hp : PassOK K pass) :
    ∀ (fuel : Nat) (slots : List (Option Val)) (c : Cur) (slots' : List (Option Val)) (c' : Cur) (ood : Bool),
      retry pass fuel slots c = .ok (slots', c', ood) →
      c'.bs.length ≤ c.bs.length ∧ c.k ≤ c'.k ∧
        slotsNodes slots' ≤ slotsNodes slots + K * (c.bs.length - c'.bs.length) := by
  intro fuel
  induction fuel with
  | zero => intro slots c slots' c' ood h; simp [retry] at h
  | succ f ih =>
    intro slots c slots' c' ood h
    simp only [retry] at h
    split at h
    · cases h
    · rename_i ood0 c0 hend
      obtain ⟨e1, e2⟩ := isEnd_spec hend
      split at h
      · cases h
      · rename_i slots1 st1 hpass
        obtain ⟨p1, p2, p3⟩ := hp _ _ _ _ hpass
        dsimp only at p1 p2 p3
        split at h
        · cases h
          refine ⟨by omega, by omega, ?_⟩
          exact Nat.le_trans p3 (Nat.add_le_add_left (Nat.mul_le_mul_left _ (by omega)) _)
        · obtain ⟨r1, r2, r3⟩ := ih _ _ _ _ _ h
          refine ⟨by omega, by omega, ?_⟩
          have := mul_split (K := K) (a := K * (c0.bs.length - st1.cur.bs.length))
            (b := K * (st1.cur.bs.length - c'.bs.length)) (c := c.bs.length - c'.bs.length)
            (Nat.le_refl _) (Nat.le_refl _) (by omega)
          omega

theorem decodedOnly_cost (ms : Members) : ∀ (slots : List (Option Val)),
    Val.nodesFields (decodedOnly ms slots) ≤ MS ms + slotsNodes slots := by
  induction ms using Members.ind with
  | nil => intro slots; simp [decodedOnly, Val.nodesFields]
  | cons name p t rest ih =>
    intro slots
    have htl := slotsNodes_tail_le slots
    have := ih slots.tail
    simp only [decodedOnly]
    split
    · rename_i v hv
      rw [slotsNodes_head hv]
      simp only [Val.nodesFields, MS]
      omega
    · simp only [MS]; omega

theorem fill_cost (ms : Members) : ∀ (slots : List (Option Val)) (ign : Bool) (fs : List (String × Val)),
    fill ms slots ign = .ok fs → Val.nodesFields fs ≤ MS ms + slotsNodes slots := by
  induction ms using Members.ind with
  | nil => intro slots ign fs h; simp only [fill] at h; cases h; simp [Val.nodesFields]
  | cons name p t rest ih =>
    intro slots ign fs h
    have htl := slotsNodes_tail_le slots
    simp only [fill] at h
    split at h
    · rename_i v hv
      rw [slotsNodes_head hv]
      split at h
      · rename_i r hr
        cases h
        have := ih _ _ _ hr
        simp only [Val.nodesFields, MS]
        omega
      · cases h
    · split at h
      · have := ih _ _ _ h
        simp only [MS, presenceNodes]; omega
      · rename_i d
        split at h
        · rename_i r hr
          cases h
          have := ih _ _ _ hr
          simp only [Val.nodesFields, MS, presenceNodes]
          omega
        · cases h
      · split at h
        · cases h
          have := decodedOnly_cost rest slots.tail
          simp only [MS]; omega
        · cases h

theorem finishMembers_spec {fs : List (String × Val)} {c : Cur} {ood : Bool} {v : Val} {k : Nat} {r : Bytes}
    (h : finishMembers fs c ood = .ok (some (v, k, r))) :
    v = .record fs ∧ r.length ≤ c.bs.length ∧ c.k ≤ k := by
  unfold finishMembers at h
  split at h
  · cases h; exact ⟨rfl, Nat.le_refl _, Nat.le_refl _⟩
  · split at h
    · cases h
    · cases h
      refine ⟨rfl, ?_, by omega⟩
      simp only [List.length_drop]; omega

theorem gSeq_cost (D : Decoder) (root adds : Members) (hr : Members.All (CT D) root)
    (ha : Members.All (CT D) adds) (tg : Option Nat) (f : Nat) :
    CP (1 + KDm root + KDm adds) (gSeq D root adds tg f) := by
  intro bs v k r h
  rw [KDm_eq, KDm_eq]
  unfold gSeq at h
  split at h
  · cases h
  · cases h
  · rename_i r0 hm
    have m1 := matchTag_len hm
    have m2 := mkTag_pos 16 true tg
    split at h
    · cases h
    · rename_i len hh r1 hl
      obtain ⟨l1, l2, _, _⟩ := readLen_spec hl
      split at h
      · cases h
      · rename_i slots c1 ood1 hret
        obtain ⟨q1, q2, q3⟩ := retry_cost (gPass_cost D root hr 0 f) _ _ _ _ _ _ hret
        rw [slotsNodes_replicate] at q3
        dsimp only at q1 q2 q3
        split at h
        · cases h
        · rename_i fs hfill
          have f1 := fill_cost root _ _ _ hfill
          split at h
          · obtain ⟨rfl, g2, g3⟩ := finishMembers_spec h
            -- everything linear is settled here (tag, length, passes and end are consecutive parts of the
            -- input); `seq_arith` then lifts the products to the octets of the whole
            have hc : r.length < bs.length ∧ 1 ≤ k ∧ slotsNodes slots ≤ KT root * (r1.length - c1.bs.length) ∧
                r1.length - c1.bs.length ≤ bs.length - r.length := by omega
            refine ⟨hc.1, hc.2.1, ?_⟩
            simp only [Val.nodes]
            have := seq_arith (Y := 0) (B := KT adds) (cy := 0) (m1 := MS root) (m2 := MS adds)
              hc.2.2.1 (Nat.zero_le _) hc.2.2.2 (Nat.zero_le _) (Nat.succ_le_of_lt (Nat.sub_pos_of_lt hc.1))
            omega
          · split at h
            · cases h
            · rename_i slots2 c2 ood2 hret2
              split at h
              · cases h
              · rename_i fs2 hfill2
                have f2 := fill_cost adds _ _ _ hfill2
                obtain ⟨rfl, g2, g3⟩ := finishMembers_spec h
                have key : c2.bs.length ≤ c1.bs.length ∧ c1.k ≤ c2.k ∧
                    slotsNodes slots2 ≤ KT adds * (c1.bs.length - c2.bs.length) := by
                  split at hret2
                  · cases hret2
                    rw [slotsNodes_replicate]
                    exact ⟨Nat.le_refl _, Nat.le_refl _, Nat.zero_le _⟩
                  · obtain ⟨w1, w2, w3⟩ :=
                      retry_cost (gPass_cost D adds ha root.length f) _ _ _ _ _ _ hret2
                    rw [slotsNodes_replicate] at w3
                    exact ⟨w1, w2, by omega⟩
                obtain ⟨w1, w2, w3⟩ := key
                -- the same linear facts, with the pass over the additions
                have hc : r.length < bs.length ∧ 1 ≤ k ∧
                    slotsNodes slots ≤ KT root * (r1.length - c1.bs.length) ∧
                    r1.length - c1.bs.length ≤ bs.length - r.length ∧
                    c1.bs.length - c2.bs.length ≤ bs.length - r.length := by omega
                refine ⟨hc.1, hc.2.1, ?_⟩
                simp only [Val.nodes, nodesFields_append]
                have := seq_arith (m1 := MS root) (m2 := MS adds) hc.2.2.1 w3 hc.2.2.2.1 hc.2.2.2.2
                  (Nat.succ_le_of_lt (Nat.sub_pos_of_lt hc.1))
                omega

theorem gAlt_cost (D : Decoder) (test : Ty → Nat → Bytes → Bool) (as : Alts) (has : Alts.All (CT D) as) :
    ∀ (i : Nat) (tag : Bytes) (f : Nat) (bs : Bytes) (res : DecM (Option Res)) (v : Val) (k : Nat) (r : Bytes),
      gAlt D test as i tag f bs = some res → res = .ok (some (v, k, r)) →
      r.length < bs.length ∧ 1 ≤ k ∧ v.nodes ≤ (1 + KDa as) * (bs.length - r.length) := by
  induction as using Alts.ind with
  | nil => intro i tag f bs res v k r h; simp [gAlt] at h
  | cons n t rest ih =>
    intro i tag f bs res v k r h hres
    obtain ⟨ht, hrest⟩ := has
    rw [gAlt] at h
    split at h
    · cases h
      split at hres
      · cases hres
      · cases hres
      · rename_i v' k' r' hdec
        cases hres
        obtain ⟨d1, d2, d3⟩ := ht (some i) f _ _ _ _ hdec
        refine ⟨d1, d2, bm_mono (bm_succ d3 (by omega) (Nat.le_refl _)) ?_ (Nat.le_refl _)⟩
        simp only [KDa]; omega
    · obtain ⟨a1, a2, a3⟩ := ih hrest _ _ _ _ _ _ _ _ h hres
      refine ⟨a1, a2, ?_⟩
      exact bm_mono a3 (by simp only [KDa]; omega) (Nat.le_refl _)

theorem gBare_cost (D : Decoder) (test : Ty → Nat → Bytes → Bool) (root : Alts) (e : Bool) (adds : Alts)
    (hr : Alts.All (CT D) root) (ha : Alts.All (CT D) adds) (f : Nat) :
    CP (2 + KDa root + KDa adds) (gBare D test root e adds f) := by
  intro bs v k r h
  unfold gBare at h
  split at h
  · cases h
  · rename_i tag x ht
    split at h
    · rename_i res h1
      obtain ⟨a1, a2, a3⟩ := gAlt_cost D test root hr _ _ _ _ _ _ _ _ h1 h
      exact ⟨a1, a2, bm_mono a3 (by omega) (Nat.le_refl _)⟩
    · split at h
      · rename_i res h1
        obtain ⟨a1, a2, a3⟩ := gAlt_cost D test adds ha _ _ _ _ _ _ _ _ h1 h
        exact ⟨a1, a2, bm_mono a3 (by omega) (Nat.le_refl _)⟩
      · split at h
        · split at h
          · cases h
          · rename_i k' r' hs
            cases h
            obtain ⟨s1, s2⟩ := skipTLV_spec hs
            refine ⟨by omega, by omega, ?_⟩
            simp only [Val.nodes]
            have : 2 * 1 ≤ 2 * (bs.length - r.length) := Nat.mul_le_mul_left _ (by omega)
            exact bm_mono (K := 2) (c := bs.length - r.length) (by omega) (by omega) (Nat.le_refl _)
        · cases h

theorem gChoice_cost (D : Decoder) (test : Ty → Nat → Bytes → Bool) (root : Alts) (e : Bool) (adds : Alts)
    (hr : Alts.All (CT D) root) (ha : Alts.All (CT D) adds) (tg : Option Nat) (f : Nat) :
    CP (2 + KDa root + KDa adds) (gChoice D test root e adds tg f) := by
  intro bs v k r h
  unfold gChoice at h
  split at h
  · exact gBare_cost D test root e adds hr ha f bs v k r h
  · rename_i j
    split at h
    · cases h
    · cases h
    · rename_i r0 hm
      have m1 := matchTag_len hm
      split at h
      · cases h
      · rename_i len hh r1 hl
        obtain ⟨l1, l2, _, _⟩ := readLen_spec hl
        split at h
        · cases h
        · cases h
        · rename_i v' k' r2 hb
          obtain ⟨b1, b2, b3⟩ := gBare_cost D test root e adds hr ha f _ _ _ _ hb
          split at h
          · cases h
            exact ⟨by omega, by omega, bm_mono b3 (Nat.le_refl _) (by omega)⟩
          · split at h
            · cases h
            · cases h
              simp only [List.length_drop]
              exact ⟨by omega, by omega, bm_mono b3 (Nat.le_refl _) (by omega)⟩
            · cases h

/-- `heq` is the equation of the decoder at SEQUENCE OF -- tag, length (`d`: definite only), the item loop
up to `te len` -- (`Der.dec` by `derElems_eq`, `BerCodec.dec` by `rfl`) -/
theorem gSeqOf_cost {D : Decoder} {e : Ty} {c : SizeC} {d : Bool} {te : Option Nat → Option Nat}
    (heq : ∀ tg f bs, D (.sequenceOf e c) tg f bs =
      matchTag (mkTag 16 true tg) bs >>= fun o => match o with
        | none => .ok none
        | some r0 => readLen d r0 >>= fun x =>
            BerCodec.items (D e none f) f (te x.1) x.2.2 >>= fun y =>
              .ok (some (.list y.1, (mkTag 16 true tg).length + x.2.1 + y.2.1, y.2.2)))
    (ih : CT D e) : CT D (.sequenceOf e c) := by
  intro tg f bs v k r h
  rw [heq] at h
  obtain ⟨o, h1, h⟩ := bind_ok h
  cases o with
  | none => cases h
  | some r0 =>
    dsimp only at h
    obtain ⟨⟨len, hh, r1⟩, h2, h⟩ := bind_ok h
    obtain ⟨⟨vs, k', r2⟩, h3, h⟩ := bind_ok h
    cases h
    have a1 := matchTag_len h1
    obtain ⟨a2, a3, _, _⟩ := readLen_spec h2
    have := mkTag_pos 16 true tg
    obtain ⟨b1, b2⟩ := items_cost_nodes (ih none f) h3
    dsimp only at b1 b2 ⊢
    exact ⟨by omega, by omega, bm_succ b2 (by omega) (by omega)⟩

end Asn1.Cost
