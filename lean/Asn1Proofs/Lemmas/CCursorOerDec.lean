import Asn1Proofs.Lemmas.CCursorOerBase
/-
  C10, decoder layer: every decoder helper of the OER C library model equals an explicitly given
  value and cursor (`d.adv`), from which absence of faults, preservation of the invariant, the
  frozen latch and termination of the `do … while` loop of `decoder_read_tag` follow.
-/
namespace Asn1.C10
open Asn1.CCursor Asn1.CCursorOer

/-- the uninitialised automatic objects have their declared sizes -/
def _root_.Asn1.CCursorOer.Junk.Pre (j : Junk) : Prop :=
  j.j1.size = 1 ∧ j.j2.size = 2 ∧ j.j4.size = 4 ∧ j.j8.size = 8

/-- the values `decoder_read_uint8/16/32/64` assemble from the bytes `decoder_read_bytes` leaves in the
automatic array, in the C text's own operations on the promoted types: the input bytes, or zeros when
the read fails (`rd`) -/
def _root_.Asn1.CCursorOer.ODec.u8 (d : ODec) : UInt8 := d.rd 1 0

def _root_.Asn1.CCursorOer.ODec.u16 (d : ODec) : UInt16 :=
  UInt16.ofNat ((d.rd 2 0).toNat <<< 8 ||| (d.rd 2 1).toNat)

def _root_.Asn1.CCursorOer.ODec.u32 (d : ODec) : UInt32 :=
  (d.rd 4 0).toUInt32 <<< 24 ||| (d.rd 4 1).toUInt32 <<< 16 ||| (d.rd 4 2).toUInt32 <<< 8 |||
    (d.rd 4 3).toUInt32

def _root_.Asn1.CCursorOer.ODec.u64 (d : ODec) : UInt64 :=
  (d.rd 8 0).toUInt64 <<< 56 ||| (d.rd 8 1).toUInt64 <<< 48 ||| (d.rd 8 2).toUInt64 <<< 40 |||
    (d.rd 8 3).toUInt64 <<< 32 ||| (d.rd 8 4).toUInt64 <<< 24 ||| (d.rd 8 5).toUInt64 <<< 16 |||
    (d.rd 8 6).toUInt64 <<< 8 ||| (d.rd 8 7).toUInt64

theorem u8_latched {d : ODec} (h : d.size < 0) : d.u8 = 0 := rd_latched h 1 0

theorem u16_latched {d : ODec} (h : d.size < 0) : d.u16 = 0 := by
  simp [ODec.u16, rd_latched h]

theorem u32_latched {d : ODec} (h : d.size < 0) : d.u32 = 0 := by
  simp [ODec.u32, rd_latched h]

theorem u64_latched {d : ODec} (h : d.size < 0) : d.u64 = 0 := by
  simp [ODec.u64, rd_latched h]

theorem readBytes_full {d : ODec} (h : DInv d) (dst : Mem) (n : UInt64)
    (hn : n.toNat < 4611686018427387904) (hs : dst.size = n.toNat) :
    d.readBytes dst n = .ok (((List.range n.toNat).map (d.rd n.toNat)).toArray, d.adv n.toNat) := by
  rw [readBytes_eq h dst n hn (by omega), write_full _ _ (by simp [hs])]

theorem readU8_eq {d : ODec} (h : DInv d) (j : Junk) (hj : j.Pre) :
    d.readU8 j = .ok (d.u8, d.adv 1) := by
  unfold ODec.readU8
  rw [readBytes_full h _ 1 (by decide) hj.1, ok_bind]
  simp [Mem.load, List.range_succ, ODec.u8, ok_bind]

/-- `buf[0] << 8` is computed in `int`: it stays below 2^31 -/
theorem shl8_lt (b : UInt8) : b.toNat <<< 8 < 2147483648 := by
  have := b.toNat_lt
  rw [Nat.shiftLeft_eq]
  omega

theorem readU16_eq {d : ODec} (h : DInv d) (j : Junk) (hj : j.Pre) :
    d.readU16 j = .ok (d.u16, d.adv 2) := by
  unfold ODec.readU16
  rw [readBytes_full h _ 2 (by decide) hj.2.1, ok_bind]
  simp [Mem.load, List.range_succ, ODec.u16, shlS32, shl8_lt, ok_bind]

theorem readU32_eq {d : ODec} (h : DInv d) (j : Junk) (hj : j.Pre) :
    d.readU32 j = .ok (d.u32, d.adv 4) := by
  unfold ODec.readU32
  rw [readBytes_full h _ 4 (by decide) hj.2.2.1, ok_bind]
  simp [Mem.load, List.range_succ, ODec.u32, shlU32, ok_bind]

theorem readU64_eq {d : ODec} (h : DInv d) (j : Junk) (hj : j.Pre) :
    d.readU64 j = .ok (d.u64, d.adv 8) := by
  unfold ODec.readU64
  rw [readBytes_full h _ 8 (by decide) hj.2.2.2, ok_bind]
  simp [Mem.load, List.range_succ, ODec.u64, shlU64, ok_bind]

/-- `d'` is reached from `d` by calls of `decoder_free`; every decoder helper other than
`decoder_abort` moves the cursor in this way only -/
inductive Adv : ODec → ODec → Prop
  | refl (d : ODec) : Adv d d
  | step (n : Nat) {d d' : ODec} : Adv (d.adv n) d' → Adv d d'

theorem Adv.inv {d d' : ODec} (a : Adv d d') (h : DInv d) : DInv d' := by
  induction a with
  | refl => exact h
  | step n _ ih => exact ih (adv_inv h n)

theorem Adv.latched {d d' : ODec} (a : Adv d d') (hl : d.size < 0) : d' = d := by
  induction a with
  | refl => rfl
  | step n _ ih => rw [adv_latched hl] at ih; exact ih hl

/-- `switch (number_of_bytes)` with the cases 1, 2, 3, 4 and `default`, as in `decoder_read_uint`,
`decoder_read_int` and the long form of `decoder_read_length_determinant` -/
def sw {α} (k : Nat) (a b c e f : α) : α :=
  if k = 1 then a else if k = 2 then b else if k = 3 then c else if k = 4 then e else f

theorem sw_congr {α} {k : Nat} {a a' b b' c c' e e' f f' : α} (ha : a = a') (hb : b = b') (hc : c = c')
    (he : e = e') (hf : f = f') : sw k a b c e f = sw k a' b' c' e' f' := by
  rw [ha, hb, hc, he, hf]

theorem apply_sw {α β} (g : α → β) (k : Nat) (a b c e f : α) :
    g (sw k a b c e f) = sw k (g a) (g b) (g c) (g e) (g f) := by
  simp only [sw, apply_ite g]

theorem sw_ind {α} {P : α → Prop} (k : Nat) {a b c e f : α} (ha : P a) (hb : P b) (hc : P c) (he : P e)
    (hf : P f) : P (sw k a b c e f) := by
  unfold sw
  split
  · exact ha
  split
  · exact hb
  split
  · exact hc
  split
  · exact he
  · exact hf

/-- `decoder_read_uint(k)` -/
def uintSpec (d : ODec) (k : Nat) : UInt32 × ODec :=
  sw k (d.u8.toUInt32, d.adv 1) (d.u16.toUInt32, d.adv 2)
    (d.u8.toUInt32 <<< 16 ||| (d.adv 1).u16.toUInt32, (d.adv 1).adv 2) (d.u32, d.adv 4) (0xffffffff, d)

/-- the three-octet case of `decoder_read_uint`, `decoder_read_int` and the length determinant; `g` is what each
does with the value -/
theorem read24_eq {d : ODec} (h : DInv d) (j : Junk) (hj : j.Pre) {α} (g : UInt32 → ODec → C α) :
    (do let (a, d) ← d.readU8 j
        let x ← shlU32 a.toUInt32 16
        let (b, d) ← d.readU16 j
        g (x ||| b.toUInt32) d) =
      g (d.u8.toUInt32 <<< 16 ||| (d.adv 1).u16.toUInt32) ((d.adv 1).adv 2) := by
  rw [readU8_eq h j hj]
  simp only [ok_bind, shlU32_ok (show 16 < 32 by decide)]
  rw [readU16_eq (adv_inv h 1) j hj]
  rfl

theorem readUint_eq {d : ODec} (h : DInv d) (n : UInt8) (j : Junk) (hj : j.Pre) :
    d.readUint n j = .ok (uintSpec d n.toNat) := by
  unfold ODec.readUint
  simp only [← UInt8.toNat_inj, UInt8.reduceToNat]
  rw [uintSpec, apply_sw Except.ok]
  refine sw_congr ?_ ?_ (read24_eq h j hj fun v d => .ok (v, d)) (readU32_eq h j hj) rfl
  · rw [readU8_eq h j hj]; rfl
  · rw [readU16_eq h j hj]; rfl

/-- a `switch` whose cases consume 1, 2, 1 + 2, 4 and 0 bytes moves the cursor by `decoder_free` only -/
theorem adv_sw {α} (d : ODec) (k : Nat) (a b c e f : α) :
    Adv d (sw k (a, d.adv 1) (b, d.adv 2) (c, (d.adv 1).adv 2) (e, d.adv 4) (f, d)).2 :=
  sw_ind (P := fun r : α × ODec => Adv d r.2) k (.step 1 (.refl _)) (.step 2 (.refl _))
    (.step 1 (.step 2 (.refl _))) (.step 4 (.refl _)) (.refl _)

theorem adv_uintSpec (d : ODec) (k : Nat) : Adv d (uintSpec d k).2 := adv_sw d k ..

/-- the sign extension of the 3 byte case of `decoder_read_int` -/
def sext24 (tmp : UInt32) : UInt32 := if tmp &&& 0x800000 = 0x800000 then tmp + 0xff000000 else tmp

/-- `decoder_read_int(k)` -/
def intSpec (d : ODec) (k : Nat) : Int32 × ODec :=
  sw k (d.u8.toInt8.toInt32, d.adv 1) (d.u16.toInt16.toInt32, d.adv 2)
    ((sext24 (d.u8.toUInt32 <<< 16 ||| (d.adv 1).u16.toUInt32)).toInt32, (d.adv 1).adv 2)
    (d.u32.toInt32, d.adv 4) (2147483647, d)

theorem readInt_eq {d : ODec} (h : DInv d) (n : UInt8) (j : Junk) (hj : j.Pre) :
    d.readInt n j = .ok (intSpec d n.toNat) := by
  unfold ODec.readInt ODec.readI8 ODec.readI16 ODec.readI32
  simp only [← UInt8.toNat_inj, UInt8.reduceToNat]
  rw [intSpec, apply_sw Except.ok]
  refine sw_congr ?_ ?_ (read24_eq h j hj fun v d => .ok ((sext24 v).toInt32, d)) ?_ rfl
  · rw [readU8_eq h j hj]; rfl
  · rw [readU16_eq h j hj]; rfl
  · rw [readU32_eq h j hj]; rfl

theorem adv_intSpec (d : ODec) (k : Nat) : Adv d (intSpec d k).2 := adv_sw d k ..

/-- `decoder_read_long_uint` -/
def luintSpec : Nat → UInt64 → ODec → UInt64 × ODec
  | 0, value, d => (value, d)
  | n + 1, value, d => luintSpec n (d.u8.toUInt64 ||| value <<< 8) (d.adv 1)

theorem dlongUintLoop_eq (j : Junk) (hj : j.Pre) (n : Nat) : ∀ (value : UInt64) {d : ODec}, DInv d →
    ODec.longUintLoop j n value d = .ok (luintSpec n value d) := by
  induction n with
  | zero => intro value d _; rfl
  | succ n ih =>
    intro value d h
    unfold ODec.longUintLoop luintSpec
    rw [readU8_eq h j hj]
    simp only [ok_bind, shlU64_ok (show 8 < 64 by decide)]
    exact ih _ (adv_inv h 1)

theorem adv_luintSpec (n : Nat) : ∀ (value : UInt64) (d : ODec), Adv d (luintSpec n value d).2 := by
  induction n with
  | zero => intro _ d; exact .refl d
  | succ n ih => intro value d; exact .step 1 (ih _ _)

theorem and_128 (x : Nat) : x &&& 128 = if x / 128 % 2 = 1 then 128 else 0 := by
  have h128 : ∀ i, Nat.testBit 128 i = decide (7 = i) := fun i => Nat.testBit_two_pow (n := 7)
  apply Nat.eq_of_testBit_eq
  intro i
  rw [Nat.testBit_and, h128]
  by_cases hi : 7 = i
  · subst hi; rw [Nat.testBit_eq_decide_div_mod_eq]; split <;> simp [*]
  · split <;> simp [hi, h128]

/-- `length & 0x80u`: the long form -/
theorem mask80 (b : UInt8) : (b.toUInt32 &&& 0x80 ≠ 0) ↔ 128 ≤ b.toNat := by
  have := b.toNat_lt
  rw [Ne, ← UInt32.toNat_inj, UInt32.toNat_and, UInt8.toNat_toUInt32, show (0x80 : UInt32).toNat = 128 from rfl,
    show (0 : UInt32).toNat = 0 from rfl, and_128]
  split <;> omega

/-- `length & 0x7fu`: the number of length octets -/
theorem mask7f (b : UInt8) : (b.toUInt32 &&& 0x7f).toNat = b.toNat % 128 := by
  rw [UInt32.toNat_and, UInt8.toNat_toUInt32, show (0x7f : UInt32).toNat = 2 ^ 7 - 1 from rfl,
    Nat.and_two_pow_sub_one_eq_mod]

/-- `decoder_read_length_determinant`: the short form, or `decoder_read_uint` of the low seven bits
of the first octet -/
def lenDetSpec (d : ODec) : UInt32 × ODec :=
  if 128 ≤ d.u8.toNat then uintSpec (d.adv 1) (d.u8.toNat % 128) else (d.u8.toUInt32, d.adv 1)

theorem lenDetSpec_short {d : ODec} (hb : d.u8.toNat < 128) : lenDetSpec d = (d.u8.toUInt32, d.adv 1) :=
  if_neg (by omega)

theorem lenDetSpec_long {d : ODec} (hb : 128 ≤ d.u8.toNat) :
    lenDetSpec d = uintSpec (d.adv 1) (d.u8.toNat % 128) :=
  if_pos hb

theorem readLengthDeterminant_eq {d : ODec} (h : DInv d) (j : Junk) (hj : j.Pre) :
    d.readLengthDeterminant j = .ok (lenDetSpec d) := by
  have h1 := adv_inv h 1
  unfold ODec.readLengthDeterminant
  rw [readU8_eq h j hj]
  simp only [ok_bind, mask80, ← UInt32.toNat_inj, mask7f, UInt32.reduceToNat]
  rw [lenDetSpec, apply_ite Except.ok, uintSpec, apply_sw Except.ok]
  refine ite_congr rfl (fun _ => sw_congr ?_ ?_ (read24_eq h1 j hj fun v d => .ok (v, d)) (readU32_eq h1 j hj) rfl)
    fun _ => rfl
  · rw [readU8_eq h1 j hj]; rfl
  · rw [readU16_eq h1 j hj]; rfl

theorem adv_lenDetSpec (d : ODec) : Adv d (lenDetSpec d).2 := by
  unfold lenDetSpec
  split
  · exact .step 1 (adv_uintSpec _ _)
  · exact .step 1 (.refl _)

/-- `lenDetSpec` with the two reads of case 3 in the other order (`ODec.readLengthDeterminantRL`) -/
def lenDetSpecRL (d : ODec) : UInt32 × ODec :=
  let length := d.u8.toUInt32
  let d1 := d.adv 1
  if length &&& 0x80 ≠ 0 then
    let k := length &&& 0x7f
    if k = 1 then (d1.u8.toUInt32, d1.adv 1)
    else if k = 2 then (d1.u16.toUInt32, d1.adv 2)
    else if k = 3 then ((d1.adv 2).u8.toUInt32 <<< 16 ||| d1.u16.toUInt32, (d1.adv 2).adv 1)
    else if k = 4 then (d1.u32, d1.adv 4)
    else (0xffffffff, d1)
  else (length, d1)

theorem readLengthDeterminantRL_eq {d : ODec} (h : DInv d) (j : Junk) (hj : j.Pre) :
    d.readLengthDeterminantRL j = .ok (lenDetSpecRL d) := by
  have h1 := adv_inv h 1
  unfold ODec.readLengthDeterminantRL lenDetSpecRL
  rw [readU8_eq h j hj]
  simp only [ok_bind, mask80, ← UInt32.toNat_inj, mask7f, UInt32.reduceToNat, apply_ite Except.ok]
  refine ite_congr rfl (fun _ => sw_congr (k := d.u8.toNat % 128) ?_ ?_ ?_ (readU32_eq h1 j hj) rfl) fun _ => rfl
  · rw [readU8_eq h1 j hj]; rfl
  · rw [readU16_eq h1 j hj]; rfl
  · rw [readU16_eq h1 j hj]
    simp only [ok_bind]
    rw [readU8_eq (adv_inv h1 2) j hj]
    simp only [ok_bind, shlU32_ok (show 16 < 32 by decide)]
    rfl

/-- the `do … while` loop of `decoder_read_tag` -/
def tagLoopSpec : Nat → UInt32 → ODec → Option UInt32 × ODec
  | 0, _, d => (none, d)
  | fuel + 1, tag, d =>
    let tag := tag <<< 8 ||| d.u8.toUInt32
    if tag &&& 0x80 = 0x80 then tagLoopSpec fuel tag (d.adv 1) else (some tag, d.adv 1)

theorem readTagLoop_eq (j : Junk) (hj : j.Pre) (fuel : Nat) : ∀ (tag : UInt32) {d : ODec}, DInv d →
    ODec.readTagLoop j fuel tag d = .ok (tagLoopSpec fuel tag d) := by
  induction fuel with
  | zero => intro tag d _; rfl
  | succ fuel ih =>
    intro tag d h
    unfold ODec.readTagLoop tagLoopSpec
    rw [shlU32_ok (show 8 < 32 by decide), ok_bind, readU8_eq h j hj]
    simp only [ok_bind, UInt32.reduceOfNat]
    split
    · exact ih _ (adv_inv h 1)
    · rfl

theorem adv_tagLoopSpec (fuel : Nat) : ∀ (tag : UInt32) (d : ODec), Adv d (tagLoopSpec fuel tag d).2 := by
  induction fuel with
  | zero => intro _ d; exact .refl d
  | succ fuel ih =>
    intro tag d
    unfold tagLoopSpec
    simp only []
    split
    · exact .step 1 (ih _ _)
    · exact .step 1 (.refl _)

/-- input bytes after the cursor (0 in the error state) -/
def _root_.Asn1.CCursorOer.ODec.remaining (d : ODec) : Nat := (d.size - d.pos).toNat

/-- `decoder_read_tag`.  The fuel is the one the model supplies: an iteration per input byte left, one for
the read that runs out of data (it returns 0, which ends the loop) and one to spare
(`tagLoopSpec_isSome` asks for `remaining + 1`). -/
def tagSpec (d : ODec) : Option UInt32 × ODec :=
  let tag := d.u8.toUInt32
  let d1 := d.adv 1
  if tag &&& 0x3f = 0x3f then tagLoopSpec (d1.remaining + 2) tag d1 else (some tag, d1)

theorem readTag_eq {d : ODec} (h : DInv d) (j : Junk) (hj : j.Pre) :
    d.readTag j = .ok (tagSpec d) := by
  unfold ODec.readTag tagSpec
  rw [readU8_eq h j hj]
  simp only [ok_bind]
  split
  · exact readTagLoop_eq j hj _ _ (adv_inv h 1)
  · rfl

theorem adv_tagSpec (d : ODec) : Adv d (tagSpec d).2 := by
  unfold tagSpec
  simp only []
  split
  · exact .step 1 (adv_tagLoopSpec _ _ _)
  · exact .step 1 (.refl _)

theorem tag_continue_iff (tag : UInt32) (b : UInt8) :
    ((tag <<< 8 ||| b.toUInt32) &&& 0x80 = 0x80) ↔ 128 ≤ b.toNat := by
  have hb := b.toNat_lt
  rw [← UInt32.toNat_inj, UInt32.toNat_and, UInt32.toNat_or, UInt32.toNat_shiftLeft, UInt8.toNat_toUInt32,
    show (8 : UInt32).toNat % 32 = 8 from rfl, show (0x80 : UInt32).toNat = 128 from rfl,
    Nat.and_or_distrib_right, and_128, and_128 b.toNat, Nat.shiftLeft_eq]
  rw [if_neg (by omega)]
  split <;> simp <;> omega

theorem remaining_adv_fits {d : ODec} (hf : d.fits 1) : (d.adv 1).remaining + 1 = d.remaining := by
  rw [adv_fits hf]
  obtain ⟨h0, h1⟩ := hf
  unfold ODec.remaining
  simp only
  omega

/-- termination of the `do … while` loop of `decoder_read_tag`: fuel exceeding the number of remaining input
bytes never runs out, because a read in the error state yields 0, whose bit 7 is clear -/
theorem tagLoopSpec_isSome (fuel : Nat) : ∀ (tag : UInt32) {d : ODec}, DInv d →
    d.remaining + 1 ≤ fuel → (tagLoopSpec fuel tag d).1.isSome := by
  induction fuel with
  | zero => intro _ d _ hf; omega
  | succ fuel ih =>
    intro tag d h hf
    unfold tagLoopSpec
    simp only []
    split
    · rename_i hc
      rw [tag_continue_iff] at hc
      have hfit : d.fits 1 := Decidable.byContradiction fun hn => by simp [ODec.u8, ODec.rd, hn] at hc
      have := remaining_adv_fits hfit
      exact ih _ (adv_inv h 1) (by omega)
    · rfl

theorem remaining_adv_le {d : ODec} (h : DInv d) (n : Nat) : (d.adv n).remaining ≤ d.remaining := by
  unfold ODec.adv ODec.remaining
  rcases h.2 with h | h
  · split
    · omega
    · split
      · simp only; omega
      · simp
  · simp [h.1]

theorem tagSpec_isSome {d : ODec} (h : DInv d) : (tagSpec d).1.isSome := by
  unfold tagSpec
  simp only []
  split
  · exact tagLoopSpec_isSome _ _ (adv_inv h 1) (by omega)
  · rfl

/-- argument preconditions of the decoder helpers: the automatic arrays have their declared sizes, the
destination of `decoder_read_bytes` holds `size` bytes, an error code is positive and at most 2^62 -/
def _root_.Asn1.CCursorOer.ODecOp.Pre : ODecOp → Prop
  | .bool j | .u8 j | .u16 j | .u32 j | .u64 j | .i8 j | .i16 j | .i32 j | .i64 j
  | .uint _ j | .luint _ j | .int _ j | .f32 j | .f64 j | .lendet j | .tag j => j.Pre
  | .bytes dst n => n.toNat ≤ dst.size ∧ n.toNat < 4611686018427387904
  | .abort err => 0 < err ∧ err ≤ 4611686018427387904

/-- the operation is an explicit `decoder_abort`: the one helper that does not move the cursor through `decoder_free` -/
def _root_.Asn1.CCursorOer.ODecOp.isAbort : ODecOp → Prop
  | .abort _ => True
  | _ => False

/-- what one decoder helper call hands back and the struct it leaves, in every cursor state (`abort` included):
the right-hand side of `drun_eq` -/
def decSpec (d : ODec) : ODecOp → ODecVal × ODec
  | .bool _ => (.int (if d.u8 != 0 then 1 else 0), d.adv 1)
  | .bytes dst n => (.mem (write dst 0 ((List.range n.toNat).map (d.rd n.toNat))), d.adv n.toNat)
  | .u8 _ => (.int d.u8.toNat, d.adv 1)
  | .u16 _ => (.int d.u16.toNat, d.adv 2)
  | .u32 _ => (.int d.u32.toNat, d.adv 4)
  | .u64 _ => (.int d.u64.toNat, d.adv 8)
  | .i8 _ => (.int d.u8.toInt8.toInt, d.adv 1)
  | .i16 _ => (.int d.u16.toInt16.toInt, d.adv 2)
  | .i32 _ => (.int d.u32.toInt32.toInt, d.adv 4)
  | .i64 _ => (.int d.u64.toInt64.toInt, d.adv 8)
  | .uint n _ => (.int (uintSpec d n.toNat).1.toNat, (uintSpec d n.toNat).2)
  | .luint n _ => (.int (luintSpec n.toNat 0 d).1.toNat, (luintSpec n.toNat 0 d).2)
  | .int n _ => (.int (intSpec d n.toNat).1.toInt, (intSpec d n.toNat).2)
  | .f32 _ => (.int d.u32.toNat, d.adv 4)
  | .f64 _ => (.int d.u64.toNat, d.adv 8)
  | .lendet _ => (.int (lenDetSpec d).1.toNat, (lenDetSpec d).2)
  | .tag _ =>
    (match (tagSpec d).1 with
     | some v => .int v.toNat
     | none => .fuelExhausted, (tagSpec d).2)
  | .abort err => (.unit, if d.size ≥ 0 then d.latch err else d)

theorem dabort_eq {d : ODec} (err : Int) (hp : 0 < err ∧ err ≤ 4611686018427387904) :
    d.abort err = .ok (if d.size ≥ 0 then d.latch err else d) := by
  unfold ODec.abort
  split
  · rw [ssz_ok (by omega) (by omega)]; rfl
  · rfl

theorem drun_eq {d : ODec} (h : DInv d) (op : ODecOp) (hp : op.Pre) :
    d.run op = .ok (decSpec d op) := by
  cases op with
  | bytes dst n => simp [ODec.run, readBytes_eq h dst n hp.2 hp.1, ok_bind, decSpec]
  | tag j =>
    simp only [ODec.run, readTag_eq h j hp, ok_bind, decSpec]
    cases (tagSpec d).1 <;> rfl
  | abort err => simp [ODec.run, dabort_eq err hp, ok_bind, decSpec]
  | _ =>
    simp [ODec.run, ODec.readBool, ODec.readI8, ODec.readI16, ODec.readI32, ODec.readI64, ODec.readFloat,
      ODec.readDouble, ODec.readLongUint, readU8_eq h _ hp, readU16_eq h _ hp, readU32_eq h _ hp,
      readU64_eq h _ hp, readUint_eq h _ _ hp, readInt_eq h _ _ hp, dlongUintLoop_eq _ hp _ 0 h,
      readLengthDeterminant_eq h _ hp, ok_bind, decSpec]

theorem adv_decSpec (d : ODec) (op : ODecOp) (hna : ¬ op.isAbort) : Adv d (decSpec d op).2 := by
  cases op with
  | uint n j => exact adv_uintSpec d _
  | luint n j => exact adv_luintSpec _ _ d
  | int n j => exact adv_intSpec d _
  | lendet j => exact adv_lenDetSpec d
  | tag j => exact adv_tagSpec d
  | abort err => exact absurd trivial hna
  | _ => exact .step _ (.refl _)

theorem DInv_decSpec {d : ODec} (h : DInv d) (op : ODecOp) (hp : op.Pre) : DInv (decSpec d op).2 := by
  cases op with
  | abort err =>
    simp only [decSpec]
    split
    · exact dlatch_inv h hp
    · exact h
  | _ => exact (adv_decSpec d _ id).inv h

theorem decSpec_ne_fuelExhausted {d : ODec} (h : DInv d) (op : ODecOp) :
    (decSpec d op).1 ≠ .fuelExhausted := by
  cases op with
  | tag j =>
    have := tagSpec_isSome h
    simp only [decSpec]
    cases hv : (tagSpec d).1 with
    | none => simp [hv] at this
    | some v => simp
  | _ => simp [decSpec]

theorem decSpec_latched {d : ODec} (hl : d.size < 0) (op : ODecOp) : (decSpec d op).2 = d := by
  cases op with
  | abort err => exact if_neg (by omega)
  | _ => exact (adv_decSpec d _ id).latched hl

theorem dinit_eq (buf : Mem) (size : UInt64) (h : size.toNat < 4611686018427387904) :
    ODec.init buf size = .ok { buf := buf, size := size.toNat, pos := 0 } := by
  simp [ODec.init, toSsize_small (n := size) (by omega)]

theorem DInv_init (buf : Mem) (size : UInt64) (h : size.toNat = buf.size)
    (hb : buf.size < 4611686018427387904) :
    DInv { buf := buf, size := size.toNat, pos := 0 } :=
  ⟨hb, Or.inl ⟨by simp, by simp only; omega, by simp only; omega⟩⟩

end Asn1.C10
