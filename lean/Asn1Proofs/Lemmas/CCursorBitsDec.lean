import Asn1Proofs.Lemmas.CCursorBitsEnc
/-
  C09, functional part, decoder side: the values `readBitVal`, `readNnbiVal`, `readBytesVal` and
  `valU16/32/64` compute from the bits at the cursor; what they read back from a buffer written by the pure
  encoder functions; the offset binary (`value + 2^(N-1)`) of `encoder_append_int8..64` / `decoder_read_int8..64`.
-/
namespace Asn1.CCursor
open Asn1

theorem readBitVal_eq (buf : Mem) (p : Nat) : readBitVal buf p = if getBit buf p then 1 else 0 :=
  shr_and_one _ _

theorem readBitVal_le (buf : Mem) (p : Nat) : readBitVal buf p ≤ 1 := by
  rw [readBitVal_eq]; split <;> omega

theorem nnbi_step (v : UInt64) (b : Nat) (hb : b ≤ 1) :
    ((v <<< 1) ||| UInt64.ofNat b).toNat = (2 * v.toNat + b) % 2 ^ 64 := by
  rw [UInt64.toNat_or, UInt64.toNat_shiftLeft, UInt64.toNat_ofNat', ← Nat.or_mod_two_pow,
    show (1 : UInt64).toNat % 64 = 1 from rfl, ← Nat.shiftLeft_add_eq_or_of_lt (show b < 2 ^ 1 by omega),
    Nat.shiftLeft_eq, Nat.mul_comm]

theorem readNnbiVal_acc (buf : Mem) :
    ∀ (n : Nat) (v : UInt64) (p : Nat),
      (readNnbiVal buf n v p).toNat = (v.toNat * 2 ^ n + bitsToNat (bitsFrom buf p n)) % 2 ^ 64 := by
  intro n
  induction n with
  | zero =>
    intro v p
    simp only [readNnbiVal, bitsFrom_zero, bitsToNat_nil, Nat.pow_zero, Nat.mul_one, Nat.add_zero]
    exact (Nat.mod_eq_of_lt v.toNat_lt).symm
  | succ n ih =>
    intro v p
    rw [readNnbiVal, ih, nnbi_step v _ (readBitVal_le buf p), readBitVal_eq, bitsFrom_succ',
      bitsToNat_cons, bitsFrom_length]
    generalize bitsToNat (bitsFrom buf (p + 1) n) = X
    generalize (if getBit buf p = true then 1 else 0) = b
    rw [Nat.add_mod, Nat.mul_mod, Nat.mod_mod, ← Nat.mul_mod, ← Nat.add_mod]
    congr 1
    rw [Nat.pow_succ, Nat.add_mul, Nat.add_assoc]
    congr 1
    rw [Nat.mul_comm 2 v.toNat, Nat.mul_assoc, Nat.mul_comm 2 (2 ^ n)]

theorem readNnbiVal_spec (buf : Mem) (n p : Nat) :
    (readNnbiVal buf n 0 p).toNat = bitsToNat (bitsFrom buf p n) % 2 ^ 64 := by
  rw [readNnbiVal_acc]
  simp

theorem readNnbiVal_spec_le (buf : Mem) (n p : Nat) (hn : n ≤ 64) :
    (readNnbiVal buf n 0 p).toNat = bitsToNat (bitsFrom buf p n) := by
  rw [readNnbiVal_spec]
  apply Nat.mod_eq_of_lt
  have h1 := bitsToNat_lt (bitsFrom buf p n)
  rw [bitsFrom_length] at h1
  exact Nat.lt_of_lt_of_le h1 (Nat.pow_le_pow_right (by omega) hn)

theorem getByte_unaligned (src : Mem) (B pib : Nat) (h8 : pib < 8) :
    natToBits 8 (UInt8.ofNat (src[B]!.toNat <<< pib)
        ||| UInt8.ofNat (src[B + 1]!.toNat >>> (8 - pib))).toNat
      = bitsFrom src (8 * B + pib) 8 := by
  apply List.ext_getElem
  · simp
  · intro k h1 h2
    have hk : k < 8 := by simpa using h2
    rw [bitsFrom_getElem, natToBits_getElem, UInt8.toNat_or, Nat.testBit_or, UInt8.toNat_ofNat',
      UInt8.toNat_ofNat', Nat.testBit_mod_two_pow, Nat.testBit_mod_two_pow, Nat.testBit_shiftLeft,
      Nat.testBit_shiftRight, getBit_def]
    have : decide (8 - 1 - k < 8) = true := by simp; omega
    rw [this, Bool.true_and, Bool.true_and]
    by_cases hlo : pib + k < 8
    · have e1 : (8 * B + pib + k) / 8 = B := by omega
      have e2 : decide (8 - 1 - k ≥ pib) = true := by simp; omega
      rw [e1, e2, Bool.true_and, byte_testBit_ge src[B + 1]! (8 - pib + (8 - 1 - k)) (by omega),
        Bool.or_false]
      congr 1; omega
    · have e1 : (8 * B + pib + k) / 8 = B + 1 := by omega
      have e2 : decide (8 - 1 - k ≥ pib) = false := by simp; omega
      rw [e1, e2, Bool.false_and, Bool.false_or]
      congr 1; omega

theorem pureReadBytesLoop_succ (src : Mem) (bytePos pib n i : Nat) (dst : Mem) (hi : i < dst.size) :
    pureReadBytesLoop src bytePos pib (n + 1) i dst
      = pureReadBytesLoop src bytePos pib n (i + 1)
          (dst.set! i (UInt8.ofNat (src[bytePos + i]!.toNat <<< pib)
            ||| UInt8.ofNat (src[bytePos + i + 1]!.toNat >>> (8 - pib)))) := by
  simp only [pureReadBytesLoop]
  rw [get_set!_same _ _ _ hi]
  congr 1
  apply Array.ext
  · simp
  · intro j h1 h2
    simp

theorem pureReadBytesLoop_spec (src : Mem) (bytePos pib : Nat) (h8 : pib < 8) :
    ∀ (n i : Nat) (dst : Mem), i + n ≤ dst.size →
      (∀ k, k < n → natToBits 8 (pureReadBytesLoop src bytePos pib n i dst)[i + k]!.toNat
            = bitsFrom src (8 * (bytePos + i + k) + pib) 8)
      ∧ (∀ j, j < i ∨ i + n ≤ j → (pureReadBytesLoop src bytePos pib n i dst)[j]! = dst[j]!) := by
  intro n
  induction n with
  | zero => intro i dst _; simp [pureReadBytesLoop]
  | succ n ih =>
    intro i dst hsz
    rw [pureReadBytesLoop_succ _ _ _ _ _ _ (by omega)]
    generalize hb : (UInt8.ofNat (src[bytePos + i]!.toNat <<< pib)
            ||| UInt8.ofNat (src[bytePos + i + 1]!.toNat >>> (8 - pib))) = b
    have hbits := getByte_unaligned src (bytePos + i) pib h8
    rw [hb] at hbits
    obtain ⟨h2, h3⟩ := ih (i + 1) (dst.set! i b) (by rw [Mem.size_set!]; omega)
    refine ⟨?_, ?_⟩
    · intro k hk
      cases k with
      | zero =>
        show natToBits 8 (pureReadBytesLoop src bytePos pib n (i + 1) (dst.set! i b))[i]!.toNat
          = bitsFrom src (8 * (bytePos + i) + pib) 8
        rw [h3 i (by omega), get_set!_same _ _ _ (by omega), hbits]
      | succ k =>
        have := h2 k (by omega)
        rw [show i + 1 + k = i + (k + 1) by omega,
          show bytePos + (i + 1) + k = bytePos + i + (k + 1) by omega] at this
        exact this
    · intro j hj
      rw [h3 j (by omega), get_set!_ne _ _ _ _ (by omega)]

/-- No assumption on the size of `buf` is needed at this level: `getBit` and the unchecked reads agree
outside the buffer as well. -/
theorem readBytesVal_spec (buf : Mem) (p : Nat) (dst : Mem) (n : Nat) (hn : n ≤ dst.size) (i : Nat) (hi : i < n) :
    natToBits 8 (readBytesVal buf p dst n)[i]!.toNat = bitsFrom buf (p + 8 * i) 8 := by
  unfold readBytesVal
  split
  · have := (pureMemcpy_spec buf n dst 0 (p / 8) (by omega)).1 i hi
    rw [Nat.zero_add] at this
    rw [this, ← bitsFrom_byte]
    congr 1; omega
  · have := (pureReadBytesLoop_spec buf (p / 8) (p % 8) (by omega) n 0 dst (by omega)).1 i hi
    rw [Nat.zero_add] at this
    rw [this]
    congr 1; omega

theorem readBytesVal_bits_range (buf : Mem) (p : Nat) (dst : Mem) (n : Nat) (hn : n ≤ dst.size) :
    bytesToBits ((List.range n).map fun i => (readBytesVal buf p dst n)[i]!.toNat)
      = bitsFrom buf p (8 * n) := by
  exact (bitsFrom_of_bytes buf p (fun i => (readBytesVal buf p dst n)[i]!.toNat) n
    (fun i hi => (readBytesVal_spec buf p dst n hn i hi).symm)).symm

theorem readBytesVal_bits (buf : Mem) (p : Nat) (dst : Mem) (n : Nat) (hn : n ≤ dst.size) :
    bytesToBits (((readBytesVal buf p dst n).toList.take n).map UInt8.toNat) = bitsFrom buf p (8 * n) := by
  rw [bytes_take_eq _ n (by rw [readBytesVal_size]; exact hn), readBytesVal_bits_range buf p dst n hn]

theorem bitsToNat_bytesToBits (bs : List UInt8) :
    bitsToNat (bytesToBits (bs.map UInt8.toNat)) = bytesToNat (bs.map UInt8.toNat) :=
  Asn1.bitsToNat_bytesToBits _ fun b hb => by
    obtain ⟨x, _, rfl⟩ := List.mem_map.1 hb
    exact x.toNat_lt

theorem valU16_toNat (m : Mem) :
    (valU16 m).toNat = bitsToNat (bytesToBits [m[0]!.toNat, m[1]!.toNat]) :=
  (u16_bytes _ _).trans (bitsToNat_bytesToBits [m[0]!, m[1]!]).symm

theorem valU32_toNat (m : Mem) :
    (valU32 m).toNat = bitsToNat (bytesToBits [m[0]!.toNat, m[1]!.toNat, m[2]!.toNat, m[3]!.toNat]) :=
  (u32_bytes _ _ _ _).trans (bitsToNat_bytesToBits [m[0]!, m[1]!, m[2]!, m[3]!]).symm

theorem valU64_toNat (m : Mem) :
    (valU64 m).toNat
      = bitsToNat (bytesToBits [m[0]!.toNat, m[1]!.toNat, m[2]!.toNat, m[3]!.toNat,
          m[4]!.toNat, m[5]!.toNat, m[6]!.toNat, m[7]!.toNat]) :=
  (u64_bytes _ _ _ _ _ _ _ _).trans
    (bitsToNat_bytesToBits [m[0]!, m[1]!, m[2]!, m[3]!, m[4]!, m[5]!, m[6]!, m[7]!]).symm

theorem readNnbiVal_writeNnbi (value : UInt64) (size : Nat) (hsize : size ≤ 64) (buf : Mem) (p : Nat)
    (hsz : (p + size + 7) / 8 ≤ buf.size) (hpad : Padded buf p) :
    (readNnbiVal (writeNnbi value size size 0 buf p) size 0 p).toNat = value.toNat % 2 ^ size := by
  rw [readNnbiVal_spec_le _ _ _ hsize,
    (writeNnbi_appends value size hsize size 0 buf p (by omega) hsz hpad).here_eq (natToBits_length _ _),
    bitsToNat_natToBits]

theorem readNnbiVal_of_bits (buf : Mem) (n p x : Nat) (hn : n ≤ 64) (hx : x < 2 ^ n)
    (h : bitsFrom buf p n = natToBits n x) : (readNnbiVal buf n 0 p).toNat = x := by
  rw [readNnbiVal_spec_le _ _ _ hn, h, bitsToNat_natToBits_of_lt hx]

theorem readBytesVal_toNat (buf : Mem) (p : Nat) (dst : Mem) (n : Nat) (hn : n ≤ dst.size) {x : Nat}
    (h : bitsFrom buf p (8 * n) = natToBits (8 * n) x) :
    bitsToNat (bytesToBits ((List.range n).map fun i => (readBytesVal buf p dst n)[i]!.toNat))
      = x % 2 ^ (8 * n) := by
  rw [readBytesVal_bits_range buf p dst n hn, h, bitsToNat_natToBits]

theorem readU8_of_bits (buf : Mem) (p : Nat) (junk : Mem) (v : UInt8) (hj : 1 ≤ junk.size)
    (h : bitsFrom buf p 8 = natToBits 8 v.toNat) : (readBytesVal buf p junk 1)[0]! = v :=
  UInt8.toNat_inj.1 (((bitsToNat_bytesToBits [(readBytesVal buf p junk 1)[0]!]).trans (by simp [bytesToNat])).symm.trans
    ((readBytesVal_toNat buf p junk 1 hj h).trans (Nat.mod_eq_of_lt v.toNat_lt)))

theorem readU16_of_bits (buf : Mem) (p : Nat) (junk : Mem) (v : UInt16) (hj : 2 ≤ junk.size)
    (h : bitsFrom buf p 16 = natToBits 16 v.toNat) : valU16 (readBytesVal buf p junk 2) = v :=
  UInt16.toNat_inj.1 ((valU16_toNat _).trans
    ((readBytesVal_toNat buf p junk 2 hj h).trans (Nat.mod_eq_of_lt v.toNat_lt)))

theorem readU32_of_bits (buf : Mem) (p : Nat) (junk : Mem) (v : UInt32) (hj : 4 ≤ junk.size)
    (h : bitsFrom buf p 32 = natToBits 32 v.toNat) : valU32 (readBytesVal buf p junk 4) = v :=
  UInt32.toNat_inj.1 ((valU32_toNat _).trans
    ((readBytesVal_toNat buf p junk 4 hj h).trans (Nat.mod_eq_of_lt v.toNat_lt)))

theorem readU64_of_bits (buf : Mem) (p : Nat) (junk : Mem) (v : UInt64) (hj : 8 ≤ junk.size)
    (h : bitsFrom buf p 64 = natToBits 64 v.toNat) : valU64 (readBytesVal buf p junk 8) = v :=
  UInt64.toNat_inj.1 ((valU64_toNat _).trans
    ((readBytesVal_toNat buf p junk 8 hj h).trans (Nat.mod_eq_of_lt v.toNat_lt)))

theorem readU8_writeU8 (buf : Mem) (p : Nat) (v : UInt8) (junk : Mem) (hj : 1 ≤ junk.size)
    (hsz : (p + 8 + 7) / 8 ≤ buf.size) (hpad : Padded buf p) :
    (readBytesVal (writeBytes buf p #[v] 1) p junk 1)[0]! = v :=
  readU8_of_bits _ _ _ _ hj ((bitsFrom_writeBytes_all buf p #[v] hsz hpad).trans (bytesToBits_u8 v))

theorem readU16_writeU16 (buf : Mem) (p : Nat) (v : UInt16) (junk : Mem) (hj : 2 ≤ junk.size)
    (hsz : (p + 16 + 7) / 8 ≤ buf.size) (hpad : Padded buf p) :
    valU16 (readBytesVal (writeBytes buf p (bytesU16 v) 2) p junk 2) = v :=
  readU16_of_bits _ _ _ _ hj ((bitsFrom_writeBytes_all buf p (bytesU16 v) hsz hpad).trans (bytesToBits_bytesU16 v))

theorem readU32_writeU32 (buf : Mem) (p : Nat) (v : UInt32) (junk : Mem) (hj : 4 ≤ junk.size)
    (hsz : (p + 32 + 7) / 8 ≤ buf.size) (hpad : Padded buf p) :
    valU32 (readBytesVal (writeBytes buf p (bytesU32 v) 4) p junk 4) = v :=
  readU32_of_bits _ _ _ _ hj ((bitsFrom_writeBytes_all buf p (bytesU32 v) hsz hpad).trans (bytesToBits_bytesU32 v))

theorem readU64_writeU64 (buf : Mem) (p : Nat) (v : UInt64) (junk : Mem) (hj : 8 ≤ junk.size)
    (hsz : (p + 64 + 7) / 8 ≤ buf.size) (hpad : Padded buf p) :
    valU64 (readBytesVal (writeBytes buf p (bytesU64 v) 8) p junk 8) = v :=
  readU64_of_bits _ _ _ _ hj ((bitsFrom_writeBytes_all buf p (bytesU64 v) hsz hpad).trans (bytesToBits_bytesU64 v))

theorem bv_offset {w : Nat} (b : BitVec (w + 1)) :
    (b.toNat + 2 ^ w) % 2 ^ (w + 1) = (b.toInt + (2 ^ w : Nat)).toNat
    ∧ (((b.toNat + 2 ^ w) % 2 ^ (w + 1) : Nat) : Int) = b.toInt + (2 ^ w : Nat) := by
  have hM : 2 ^ (w + 1) = 2 * 2 ^ w := by rw [Nat.pow_succ]; omega
  have hn := b.isLt
  rw [BitVec.toInt_eq_toNat_cond, hM] at *
  generalize 2 ^ w = M at *
  generalize b.toNat = n at *
  split
  · rw [Nat.mod_eq_of_lt (by omega)]; omega
  · rw [Nat.mod_eq_sub_mod (by omega), Nat.mod_eq_of_lt (by omega)]; omega

theorem bv_offset_back {w : Nat} (b : BitVec (w + 1)) :
    BitVec.ofInt (w + 1) ((BitVec.ofNat (w + 1) (b.toNat + 2 ^ w)).toInt - (2 ^ w : Nat)) = b := by
  apply BitVec.eq_of_toInt_eq
  rw [BitVec.toInt_ofInt, BitVec.toInt_eq_toNat_bmod, BitVec.toNat_ofNat, (bv_offset b).2,
    Int.bmod_sub_bmod, Int.add_sub_cancel, BitVec.toInt_bmod_cancel]

theorem i8_offset_roundtrip (v : Int8) :
    Int8.ofInt ((UInt8.ofNat (v.toUInt8.toNat + 128)).toInt8.toInt - 128) = v :=
  congrArg Int8.ofBitVec (bv_offset_back (w := 7) v.toBitVec)

theorem i16_offset_roundtrip (v : Int16) :
    Int16.ofInt ((UInt16.ofNat (v.toUInt16.toNat + 32768)).toInt16.toInt - 32768) = v :=
  congrArg Int16.ofBitVec (bv_offset_back (w := 15) v.toBitVec)

theorem i32_offset_roundtrip (v : Int32) :
    Int32.ofInt ((UInt32.ofNat (v.toUInt32.toNat + 2147483648)).toInt32.toInt - 2147483648) = v :=
  congrArg Int32.ofBitVec (bv_offset_back (w := 31) v.toBitVec)

theorem i64_offset_roundtrip (v : Int64) :
    ((v.toUInt64 + 9223372036854775808) - 9223372036854775808).toInt64 = v := by
  rw [UInt64.add_sub_cancel]
  rfl

end Asn1.CCursor
