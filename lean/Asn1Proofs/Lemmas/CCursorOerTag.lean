import Asn1Proofs.Lemmas.CCursorOerFunDec
/-
  C10, functional layer: `decoder_read_tag` against the Python-codec model `Oer.readTag`.
  The C function returns the tag octets packed big endian into a `uint32_t` (wrapping modulo 2^32
  for tags longer than four octets); the Python model returns the octets themselves.
-/
namespace Asn1.C10
open Asn1 Asn1.CCursor Asn1.CCursorOer

/-- one step of big-endian accumulation -/
def accStep (a b : Nat) : Nat := 256 * a + b

theorem bytesToNat_eq_foldl (bs : Bytes) : bytesToNat bs = bs.foldl accStep 0 := rfl

theorem foldl_accStep_mod (t : Bytes) : ∀ a : Nat,
    (t.foldl accStep (a % 4294967296)) % 4294967296 = (t.foldl accStep a) % 4294967296 := by
  induction t with
  | nil => intro a; simp
  | cons x t ih =>
    intro a
    simp only [List.foldl_cons]
    rw [← ih (accStep (a % 4294967296) x), ← ih (accStep a x)]
    congr 2
    unfold accStep
    omega

/-- `tag <<= 8; tag |= (uint32_t)octet` -/
theorem tag_step_toNat (tag : UInt32) (b : UInt8) :
    (tag <<< 8 ||| b.toUInt32).toNat = accStep tag.toNat b.toNat % 4294967296 := by
  have hb : b.toNat < 2 ^ 8 := b.toNat_lt
  have e : tag.toNat <<< 8 % 2 ^ 32 = (tag.toNat % 2 ^ 24) <<< 8 := by
    simp only [Nat.shiftLeft_eq]; omega
  rw [UInt32.toNat_or, UInt32.toNat_shiftLeft, UInt8.toNat_toUInt32, show (8 : UInt32).toNat % 32 = 8 from rfl, e,
    ← Nat.shiftLeft_add_eq_or_of_lt hb, Nat.shiftLeft_eq, accStep]
  omega

theorem tagLoop_readTagRest (f : Nat) : ∀ (fuel : Nat) (tag : UInt32) {d : ODec} {t r : Bytes},
    DInv d → 0 ≤ d.size → d.remaining + 1 ≤ fuel → Oer.readTagRest f d.rest = .ok (t, r) →
    ∃ v d', tagLoopSpec fuel tag d = (some v, d') ∧
      v.toNat = (t.foldl accStep tag.toNat) % 4294967296 ∧ d'.rest = r ∧ 0 ≤ d'.size ∧ DInv d' := by
  induction f with
  | zero => intro fuel tag d t r _ _ _ hr; cases hr
  | succ f ih =>
    intro fuel tag d t r h h0 hfuel hr
    obtain ⟨fuel', rfl⟩ : ∃ k, fuel = k + 1 := ⟨fuel - 1, by omega⟩
    obtain ⟨f', b, r0, hf', hrest, hcase⟩ := Oer.readTagRest_ok hr
    cases hf'
    obtain ⟨hf1, hb, ht⟩ := rest_cons h h0 hrest
    have h1 := adv_inv h 1
    have h10 := size_adv_of_fits hf1
    have hrem := remaining_adv_fits hf1
    rw [hb, ht] at hcase
    unfold tagLoopSpec
    simp only []
    rcases hcase with ⟨hlt, ht', hr'⟩ | ⟨hge, t', hrr, ht'⟩
    · rw [if_neg (by rw [tag_continue_iff]; omega), ht', hr']
      exact ⟨_, _, rfl, tag_step_toNat tag d.u8, rfl, h10, h1⟩
    · obtain ⟨v, d', hv, hval, hd'⟩ := ih fuel' (tag <<< 8 ||| d.u8.toUInt32) h1 h10 (by omega) hrr
      rw [if_pos (by rw [tag_continue_iff]; omega), ht']
      exact ⟨v, d', hv, by rw [hval, tag_step_toNat, foldl_accStep_mod]; rfl, hd'⟩

theorem mask3f (b : UInt8) : (b.toUInt32 &&& 0x3f = 0x3f) ↔ b.toNat % 64 = 63 := by
  rw [← UInt32.toNat_inj, UInt32.toNat_and, UInt8.toNat_toUInt32, show (0x3f : UInt32).toNat = 2 ^ 6 - 1 from rfl,
    Nat.and_two_pow_sub_one_eq_mod]

theorem readTag_readTag {d : ODec} (h : DInv d) (h0 : 0 ≤ d.size) (j : Junk) (hj : j.Pre)
    {tb r : Bytes} (hr : Oer.readTag d.rest = .ok (tb, r)) :
    ∃ v d', d.readTag j = .ok (some v, d') ∧ v.toNat = bytesToNat tb % 4294967296 ∧
      d'.rest = r ∧ 0 ≤ d'.size ∧ DInv d' := by
  rw [readTag_eq h j hj]
  cases hrest : d.rest with
  | nil => rw [hrest] at hr; cases hr
  | cons b r0 =>
    obtain ⟨hf1, hb, ht⟩ := rest_cons h h0 hrest
    have h1 := adv_inv h 1
    have h10 := size_adv_of_fits hf1
    rw [hrest, hb, ht] at hr
    simp only [Oer.readTag, Oer.readByte_cons, ok_bind] at hr
    unfold tagSpec
    simp only []
    by_cases hm : d.u8.toNat % 64 = 63
    · rw [if_pos hm] at hr
      rw [if_pos ((mask3f _).mpr hm)]
      obtain ⟨⟨t', r'⟩, hrr, hr⟩ := bind_ok hr
      cases hr
      obtain ⟨v, d', hv, hval, hd'⟩ :=
        tagLoop_readTagRest _ ((d.adv 1).remaining + 2) d.u8.toUInt32 h1 h10 (by omega) hrr
      refine ⟨v, d', congrArg Except.ok hv, ?_, hd'⟩
      rw [hval, bytesToNat_eq_foldl, List.foldl_cons, UInt8.toNat_toUInt32,
        show accStep 0 d.u8.toNat = d.u8.toNat by unfold accStep; omega]
    · rw [if_neg hm] at hr
      cases hr
      rw [if_neg (mt (mask3f _).mp hm)]
      refine ⟨_, _, rfl, ?_, rfl, h10, h1⟩
      rw [UInt8.toNat_toUInt32, bytesToNat_eq_foldl]
      simp [accStep]

end Asn1.C10
