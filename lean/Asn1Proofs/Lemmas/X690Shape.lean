import Asn1Proofs.Lemmas.X690Enc
/-
  C03, shape of every DER encoding, of the code model (`Der.enc`) and of the specification (`X690.encV`):
  a single definite-length TLV -- valid identifier octets (X.690 8.1.2), length octets in the
  definite form with the minimum number of octets (10.1), contents -- which the framing probe
  `decode_full_length` (`Ber.fullLength`) measures exactly (`tlv_singleTLV`; for the specification
  `encV_tlv_shape`, for the code model `C03.der_tlv_shape`).
-/
namespace Asn1.X690

/-- `l` are definite length octets for `n`, and no valid definite length octets for `n` *made of
octets* are shorter.

The restriction `∀ b ∈ l', b < 256` is needed: `Bytes = List Nat` and `Ber.validLen` does not bound
the digits of a long form, so without it `[0x81, 256]` would be "length octets" for 256 shorter
than `[0x82, 1, 0]` (`C03.minimal_len_needs_bytes`). -/
def MinimalLen (l : Bytes) (n : Nat) : Prop :=
  Ber.validLen l n ∧ ∀ l', (∀ b ∈ l', b < 256) → Ber.validLen l' n → l.length ≤ l'.length

theorem encLength_length_long (n : Nat) (hn : ¬ n ≤ 127) : (Ber.encLength n).length = byteLength n + 1 := by
  simp [Ber.encLength, hn, natToBytesMin, natToBytesN_length]

/-- `encode_length_definite` uses the minimum number of octets (X.690 10.1) -/
theorem encLength_minimal (n : Nat) (hn : n < 256 ^ 127) : MinimalLen (Ber.encLength n) n := by
  refine ⟨(Ber.encLength_valid_iff n).mpr hn, ?_⟩
  intro l' hb hl'
  by_cases h : n ≤ 127
  · have hne := Ber.validLen_ne_nil hl'
    have : (Ber.encLength n).length = 1 := by simp [Ber.encLength, h]
    rw [this]
    cases l' with
    | nil => exact absurd rfl hne
    | cons a r => simp
  · rw [encLength_length_long n h]
    rcases hl' with ⟨_, hlt⟩ | ⟨k, ds, rfl, _, _, hk, hval⟩
    · omega
    · have hds : ∀ b ∈ ds, b < 256 := fun b hb' => hb b (by simp [hb'])
      have hlt := bytesToNat_lt ds hds
      rw [← pow256, hval, hk] at hlt
      have := (byteLength_le_iff n k).mpr hlt
      simp only [List.length_cons, hk]
      omega

/-- "valid" length octets are `Ber.validLen`, which admits one subsequent length octet more than
X.690 (see `C15.encLength_valid`) -/
def SingleTLV (bytes : Bytes) : Prop :=
  ∃ tag len content, bytes = tag ++ len ++ content ∧ Ber.validTag tag ∧ MinimalLen len content.length ∧
    Ber.fullLength bytes = .known bytes.length

theorem tlv_singleTLV (tag content : Bytes) (ht : Ber.validTag tag)
    (hlen : (Der.tlv tag content).length < 256 ^ 127) : SingleTLV (Der.tlv tag content) := by
  have hc : content.length < 256 ^ 127 := by
    simp only [Der.tlv, List.length_append] at hlen
    omega
  have hmin := encLength_minimal content.length hc
  refine ⟨tag, Ber.encLength content.length, content, rfl, ht, hmin, ?_⟩
  unfold Der.tlv
  rw [Ber.fullLength_tlv tag _ content content.length ht hmin.1]
  simp only [List.length_append]

theorem spec_tlv_singleTLV (t : Ty) (tg : Option Nat) (c : Bool) (content : Bytes)
    (hlen : (tlv (header t tg c) content).length < 256 ^ 127) : SingleTLV (tlv (header t tg c) content) := by
  rw [tlv_eq_der, header_eq_mkTag] at hlen ⊢
  exact tlv_singleTLV _ _ (Der.mkTag_valid _ _ _) hlen

theorem encV_tlv_shape (t : Ty) (tg : Option Nat) (v : Val) (bytes : Bytes)
    (h : encV t tg v = .ok bytes) (hlen : bytes.length < 256 ^ 127) : SingleTLV bytes := by
  rcases encV_cases h with ⟨c, content, rfl⟩ | ⟨_, t', j, v', h'⟩
  · exact spec_tlv_singleTLV _ _ _ _ hlen
  · rcases encV_cases h' with ⟨c, content, rfl⟩ | ⟨hn, _⟩
    · exact spec_tlv_singleTLV _ _ _ _ hlen
    · cases hn

end Asn1.X690

#print axioms Asn1.X690.encLength_minimal
#print axioms Asn1.X690.encV_tlv_shape
