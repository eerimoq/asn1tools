import Asn1Proofs.Lemmas.Typed
/-
  Records: from the "fields in declaration order" typing (`hasMembers`) to per-member lookups (`lookup`,
  `membersOk`).  The SEQUENCE proofs of every codec start from `membersOk_of_hasType`.
-/
namespace Asn1

theorem lookup_nil {α : Type} (name : String) : lookup name ([] : List (String × α)) = none := rfl

theorem lookup_cons {α : Type} (name n : String) (v : α) (r : List (String × α)) :
    lookup name ((n, v) :: r) = if n == name then some v else lookup name r := rfl

theorem lookup_append {α : Type} (name : String) (a b : List (String × α)) :
    lookup name (a ++ b) = (lookup name a).or (lookup name b) := by
  induction a with
  | nil => rfl
  | cons x r ih =>
    obtain ⟨n, v⟩ := x
    rw [List.cons_append, lookup_cons, lookup_cons, ih]
    split <;> rfl

theorem lookup_none_of_not_mem (name : String) (fs : List (String × Val))
    (h : name ∉ fieldNames fs) : lookup name fs = none := by
  induction fs with
  | nil => rfl
  | cons x r ih =>
    obtain ⟨n, v⟩ := x
    simp only [fieldNames, List.map_cons, List.mem_cons, not_or] at h
    rw [lookup_cons, if_neg (by simpa using Ne.symm h.1)]
    exact ih h.2

theorem lookup_append_of_not_mem (name : String) (pre fs : List (String × Val))
    (h : name ∉ fieldNames pre) : lookup name (pre ++ fs) = lookup name fs := by
  rw [lookup_append, lookup_none_of_not_mem name pre h, Option.none_or]

theorem lookup_append_of_not_mem_right (name : String) (fs post : List (String × Val))
    (h : name ∉ fieldNames post) : lookup name (fs ++ post) = lookup name fs := by
  rw [lookup_append, lookup_none_of_not_mem name post h, Option.or_none]

/-- per-member typing against the whole field list -/
def membersOk : Members → List (String × Val) → Bool
  | .nil, _ => true
  | .cons name p t rest, fs =>
    (match lookup name fs with
     | some v => hasType t v
     | none => match p with
       | .mandatory => false
       | _ => true) && membersOk rest fs

theorem membersOk_congr (ms : Members) {fs fs' : List (String × Val)}
    (h : ∀ n ∈ ms.names, lookup n fs = lookup n fs') : membersOk ms fs = membersOk ms fs' := by
  induction ms using Members.ind with
  | nil => rfl
  | cons name p t ms ih =>
    simp only [membersOk, h name (List.mem_cons_self ..),
      ih fun n hn => h n (List.mem_cons_of_mem _ hn)]

theorem hasMembers_cons_nil (name : String) (p : Presence) (t : Ty) (rest : Members) :
    hasMembers (.cons name p t rest) [] =
      (match p with | .mandatory => none | _ => hasMembers rest []) := by
  cases p <;> rfl

theorem hasMembers_cons_cons (name : String) (p : Presence) (t : Ty) (rest : Members)
    (n : String) (v : Val) (fs' : List (String × Val)) :
    hasMembers (.cons name p t rest) ((n, v) :: fs') =
      if n == name then (if hasType t v then hasMembers rest fs' else none)
      else (match p with | .mandatory => none | _ => hasMembers rest ((n, v) :: fs')) := by
  cases p <;> rfl

theorem Presence.skip_some {α : Type} {p : Presence} {x : Option α} {r : α}
    (h : (match p with | .mandatory => none | _ => x) = some r) : p ≠ .mandatory ∧ x = some r := by
  cases p <;> simp_all

theorem hasMembers_cons_some {name : String} {p : Presence} {t : Ty} {ms : Members}
    {fs rest : List (String × Val)} (h : hasMembers (.cons name p t ms) fs = some rest) :
    (∃ v fs', fs = (name, v) :: fs' ∧ hasType t v = true ∧ hasMembers ms fs' = some rest) ∨
      (p ≠ .mandatory ∧ hasMembers ms fs = some rest) := by
  cases fs with
  | nil => exact .inr (Presence.skip_some (hasMembers_cons_nil .. ▸ h))
  | cons x fs' =>
    obtain ⟨n, v⟩ := x
    rw [hasMembers_cons_cons] at h
    by_cases hn : (n == name) = true
    · rw [if_pos hn] at h
      by_cases ht : hasType t v = true
      · rw [if_pos ht] at h
        exact .inl ⟨v, fs', by rw [eq_of_beq hn], ht, h⟩
      · rw [if_neg ht] at h
        cases h
    · rw [if_neg hn] at h
      exact .inr (Presence.skip_some h)

theorem hasMembers_prefix (ms : Members) (fs rest : List (String × Val))
    (h : hasMembers ms fs = some rest) :
    ∃ pre, fs = pre ++ rest ∧ (∀ n ∈ fieldNames pre, n ∈ ms.names) ∧
      (ms.names.Nodup → membersOk ms pre = true) := by
  induction ms using Members.ind generalizing fs with
  | nil =>
    rw [hasMembers] at h
    cases h
    exact ⟨[], rfl, fun _ hn => (nomatch hn), fun _ => rfl⟩
  | cons name p t ms ih =>
    rcases hasMembers_cons_some h with ⟨v, fs', rfl, ht, h'⟩ | ⟨hp, h'⟩
    · obtain ⟨pre, rfl, hsub, hok⟩ := ih fs' h'
      refine ⟨(name, v) :: pre, rfl, ?_, fun hnd => ?_⟩
      · intro n hn
        rcases List.mem_cons.1 hn with rfl | hn
        · exact List.mem_cons_self ..
        · exact List.mem_cons_of_mem _ (hsub n hn)
      · obtain ⟨hname, hnd⟩ := List.nodup_cons.1 hnd
        have : membersOk ms ((name, v) :: pre) = membersOk ms pre :=
          membersOk_congr ms fun n hn => by
            rw [lookup_cons, if_neg (by simpa using fun e : name = n => hname (e ▸ hn))]
        simp only [membersOk, lookup_cons, beq_self_eq_true, if_true, ht, this, hok hnd,
          Bool.and_self]
    · obtain ⟨pre, rfl, hsub, hok⟩ := ih fs h'
      refine ⟨pre, rfl, fun n hn => List.mem_cons_of_mem _ (hsub n hn), fun hnd => ?_⟩
      obtain ⟨hname, hnd⟩ := List.nodup_cons.1 hnd
      -- `p` is not mandatory (`hp`), so both remaining arms of the match on `p` are `true`
      simp only [membersOk, lookup_none_of_not_mem name pre fun hm => hname (hsub _ hm), hok hnd,
        Bool.and_true]

theorem hasMembers_split (ms : Members) (fs rest : List (String × Val))
    (h : hasMembers ms fs = some rest) :
    ∃ pre, fs = pre ++ rest ∧ ∀ n ∈ fieldNames pre, n ∈ ms.names :=
  let ⟨pre, e, hsub, _⟩ := hasMembers_prefix ms fs rest h
  ⟨pre, e, hsub⟩

theorem membersOk_of_hasType (root adds : Members) (ext : Bool) (fs : List (String × Val))
    (hnd : (root.names ++ adds.names).Nodup)
    (h : hasType (.sequence root ext adds) (.record fs) = true) :
    membersOk root fs = true ∧ membersOk adds fs = true := by
  obtain ⟨nd1, nd2, disj⟩ := List.nodup_append.1 hnd
  rw [hasType] at h
  split at h
  · rename_i rest h1
    split at h
    · rename_i rest' h2
      cases List.isEmpty_iff.1 h
      obtain ⟨pre1, rfl, m1, ok1⟩ := hasMembers_prefix root fs rest h1
      obtain ⟨pre2, rfl, m2, ok2⟩ := hasMembers_prefix adds rest [] h2
      rw [List.append_nil]
      constructor
      · rw [← ok1 nd1]
        exact membersOk_congr root fun n hn =>
          lookup_append_of_not_mem_right n pre1 pre2 fun hm => disj n hn n (m2 n hm) rfl
      · rw [← ok2 nd2]
        exact membersOk_congr adds fun n hn =>
          lookup_append_of_not_mem n pre1 pre2 fun hm => disj n (m1 n hm) n hn rfl
    · cases h
  · cases h

theorem record_of_hasType {root adds : Members} {ext : Bool} {v : Val}
    (hwf : (Ty.sequence root ext adds).wf = true) (ht : hasType (.sequence root ext adds) v = true) :
    ∃ fs, v = .record fs ∧ root.wf = true ∧ adds.wf = true ∧
      membersOk root fs = true ∧ membersOk adds fs = true := by
  obtain ⟨fs, rfl, hfs⟩ := hasType_sequence ht
  obtain ⟨hwr, hwa, hnd, -, -⟩ := wf_sequence hwf
  obtain ⟨hokr, hoka⟩ := membersOk_of_hasType root adds ext fs hnd hfs
  exact ⟨fs, rfl, hwr, hwa, hokr, hoka⟩

end Asn1
