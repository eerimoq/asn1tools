import Asn1Proofs.Lemmas.ExtPerBase
/-
  C07, ALIGNED PER: CHOICE.  An alternative the decoder does not know is skipped by the open type
  length behind the octet alignment (`Per.fragFree` bounds that length); a known addition is decoded at
  the octet boundary and the rest of the open type is skipped.
-/
namespace Asn1.Ext.PerX
open Asn1 Asn1.Per Asn1.Ext
open Asn1.Uper (smallLen lenDet encNsnnwn DecM padToByte_eq padToByte_length_div)

theorem skipFreeAlt_find {P : Ty → Ty → Prop} (name : String) (v : Val) (aE : Alts) :
    ∀ (aD : Alts), PairA P aD aE → ∀ (j : Nat) (tD' tE' : Ty), aD.find name = some (j, tD') →
      aE.find name = some (j, tE') → skipFreeAlt aD aE name v = skipFree tD' tE' v := by
  induction aE using Alts.ind with
  | nil => intro aD _ j tD' tE' _ hE; simp [Alts.find] at hE
  | cons n tE rest ih =>
    intro aD hx j tD' tE' hD hE
    cases aD with
    | nil => simp [Alts.find] at hD
    | cons n' tD restD =>
      obtain ⟨hn, _, hx'⟩ := hx
      subst hn
      simp only [Alts.find, skipFreeAlt] at hD hE ⊢
      by_cases hname : (n == name) = true
      · simp only [hname, if_true, Option.some.injEq, Prod.mk.injEq] at hD hE ⊢
        rw [hD.2, hE.2]
      · simp only [hname, if_false, Bool.false_eq_true, Option.map_eq_some_iff] at hD hE ⊢
        obtain ⟨⟨jD, tD''⟩, hD1, hD2⟩ := hD
        obtain ⟨⟨jE, tE''⟩, hE1, hE2⟩ := hE
        cases hD2
        cases hE2
        exact ih restD hx' jD _ _ hD1 hE1

theorem xt_choice {rD rE aD aE : Alts} (x : Bool)
    (ihr : PairA XT rD rE) (hlenr : rD.length = rE.length) (iha : PairA XT aD aE) :
    XT (.choice rD x aD) (.choice rE x aE) := by
  intro v pos pos' bits rest fuel hwf hd hns hdok ht hf hsk hp he hfuel
  obtain ⟨name, w, rfl, hav⟩ := hasType_choice ht
  obtain ⟨idx, t, sel, hwt, hty⟩ := Alts.sel_of_hasType hwf hav
  obtain ⟨hrwf, hawf, _, _, hext⟩ := wf_choice hwf
  have hdt := sel.all (Alts.all_defaultsOk rE (by rw [Ty.defaultsOk, Bool.and_eq_true] at hd; exact hd.1))
    (Alts.all_defaultsOk aE (by rw [Ty.defaultsOk, Bool.and_eq_true] at hd; exact hd.2))
  simp only [Ty.nsOk, Bool.and_eq_true] at hns
  have hnt := sel.all (Alts.all_nsOk rE hns.1.1) (Alts.all_nsOk aE hns.1.2)
  simp only [fragFree, Bool.and_eq_true, fragFreeAlt_find] at hf
  simp only [skipFree, Bool.and_eq_true] at hsk
  rw [enc] at he
  simp only [nameIdx_find, encAlt_find] at he
  rw [dec]
  simp only [dOk] at hdok
  simp only [view]
  rcases sel with hfr | ⟨hfr, j, hfa, rfl⟩
  · have hj := Alts.find_lt hfr
    obtain ⟨tD', hfD, hx, hdk, hview⟩ :=
      (pairA_find false name w rE rD ihr hdok.1 idx t hfr).resolve_right (fun h => by omega)
    simp only [hfr, Option.map_some, Bool.not_false, Bool.true_or, Bool.and_true] at hf he
    split at he
    · rename_i body hbody
      simp only [Option.some.injEq] at hbody
      cases he
      have hpre := readExt_pre x pos'
      generalize hpl : (if x = true then [false] else ([] : Bits)) = pre at *
      have hrt := fun q hq => hx w _ q body rest fuel
        hwt hdt hnt hdk hty hf.1
        (by rw [← skipFreeAlt_find name w rE rD ihr idx tD' t hfD hfr]; exact hsk.1) hq hbody
        (by simp only [List.length_append] at hfuel; omega)
      simp only [hview, List.append_assoc, bind, Except.bind, hpre, Bool.false_eq_true, if_false]
      by_cases h1 : rE.length > 1
      · simp only [hlenr, h1, if_true] at hbody hrt ⊢
        rw [decConstrainedInt_enc _ _ _ _ _ _ (mod8_add hp _) (by omega) (by omega)]
        simp only [Int.toNat_natCast]
        rw [decAlt_find rD name idx tD' hfD]
        simp only [bind, Except.bind]
        rw [hrt _ (mod8_add (mod8_add hp _) _)]
        simp only [List.length_append, Nat.add_assoc]
      · simp only [hlenr, h1, if_false, List.nil_append, List.length_nil, Nat.add_zero] at hbody hrt ⊢
        have : idx = 0 := by omega
        subst this
        simp only [Int.toNat_zero]
        rw [decAlt_find rD name 0 tD' hfD]
        simp only [bind, Except.bind]
        rw [hrt _ (mod8_add hp _)]
        simp only [List.length_append, Nat.add_assoc]
    · cases he
    · rename_i hnone
      simp at hnone
  · rw [pairA_find_none false name w rE rD ihr hfr]
    have hj := Alts.find_lt hfa
    have hext' : x = true := hext.resolve_right (by omega)
    subst hext'
    simp only [hfr, hfa, if_true, Option.map_none, Option.map_some, Bool.not_true, Bool.false_or,
      Bool.and_eq_true] at hf he ⊢
    split at he
    · rename_i body hbody
      simp only [Option.some.injEq] at hbody
      cases he
      rw [hbody] at hf
      simp only [smallLen, decide_eq_true_eq] at hf
      have hnl := Uper.lenDet_snd_of_lt (n := (body.length + 7) / 8) hf.2.2
      have hal : (pos' + 1 + (encNsnnwn j).length) % 8 = (pos + ((encNsnnwn j).length + 1)) % 8 := by
        rw [Nat.add_assoc, Nat.add_comm 1]
        exact mod8_add hp _
      simp only [openType, padToByte_length, List.length_append,
        List.length_cons, List.length_nil, alignBits_length] at hfuel
      simp only [openType, padToByte_length_div, List.append_assoc, bind, Except.bind,
        List.cons_append, List.nil_append, readBit_cons, if_true]
      rw [decNsnnwn_enc _ j _ (nsIndexOk_lt hns.2 hj)]
      simp only
      rw [align_alignBits _ _ _ (by
        simp only [List.length_cons]; exact hal)]
      rw [readLenDet_lenDet, hnl]
      simp only [List.length_cons, List.length_append]
      rcases pairA_find false name w aE aD iha hdok.2 j t hfa with ⟨tD', hfD, hx, hdk, hview⟩ | ⟨hle, hview⟩
      · have hrt := fun q hq => hx w 0 q body
          (List.replicate (8 * ((body.length + 7) / 8) - body.length) false ++ rest) fuel
          hwt hdt hnt hdk hty hf.2.1
          (by rw [← skipFreeAlt_find name w aE aD iha j tD' t hfD hfa]; exact hsk.2) hq hbody
          (by simp only [List.length_append, List.length_replicate]; omega)
        rw [decAlt_find aD name j tD' hfD, hview]
        simp only [bind, Except.bind]
        rw [padToByte_eq, List.append_assoc,
          hrt _ (mod8_zero_add (add_padLen_mod_of hal) (lenDet_length_mod _))]
        simp only
        generalize hq : pos' + 1 + (encNsnnwn j).length + padLen (pos + ((encNsnnwn j).length + 1)) +
          (lenDet ((body.length + 7) / 8)).1.length = q
        have hc : ¬ (q + body.length - q > 8 * ((body.length + 7) / 8)) := by
          rw [Nat.add_sub_cancel_left]; omega
        simp only [hc, if_false]
        rw [readBits_append _ _ _ (by rw [List.length_replicate, Nat.add_sub_cancel_left])]
        simp only [List.length_append, alignBits_length, List.length_replicate,
          Except.ok.injEq, Prod.mk.injEq, true_and]
        exact St.eq_of_pos _ (by rw [Nat.add_sub_cancel_left, ← hq]; ac_rfl)
      · rw [decAlt_none aD j hle, hview]
        simp only
        rw [readBits_append _ _ _ (padToByte_length body)]
        simp only [alignBits_length, padToByte_length,
          Except.ok.injEq, Prod.mk.injEq, true_and]
        exact St.eq_of_pos _ (by ac_rfl)
    · cases he
    · rename_i hnone
      simp at hnone

end Asn1.Ext.PerX

#print axioms Asn1.Ext.PerX.xt_choice
