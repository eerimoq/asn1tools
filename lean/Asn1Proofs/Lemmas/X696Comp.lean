import Asn1Proofs.Lemmas.X696Leaf
/-
  C06 at SEQUENCE OF and CHOICE; the specification's search by name and its deviation list in the
  terms of `Alts.find`.
-/
namespace Asn1.X696

theorem ref_sequenceOf (e : Ty) (c : SizeC) (ih : REF e) : REF (.sequenceOf e c) := by
  intro v hwf ht hdev
  obtain ⟨vs, rfl, hty, -⟩ := hasType_sequenceOf ht
  have hall := List.flatMap_eq_nil_iff.1 (show vs.flatMap (devs e) = [] from hdev)
  have h := fun x hx => ih x (wf_sequenceOf hwf) (hty x hx) (hall x hx)
  have hm : vs.mapM (Oer.enc e) = vs.mapM (enc e) := Uper.mapM_congr _ _ _ (fun x hx => (h x hx).1)
  simp only [Oer.utf8Ok, Oer.noSwallow, List.all_eq_true]
  refine ⟨?_, fun x hx => (h x hx).2.1, fun x hx => (h x hx).2.2⟩
  rw [Oer.enc, enc, hm, varUnsigned_eq]
  cases List.mapM (enc e) vs <;> cases Oer.encUnsigned vs.length <;> rfl

theorem encAlt_find (as : Alts) (name : String) (v : Val) (i : Nat) :
    encAlt as name v i = (as.find name).map (fun x => (i + x.1, enc x.2 v)) :=
  Alts.search_idx_map name (f := fun i as => encAlt as name v i) (fun _ _ _ _ => rfl) (fun _ => rfl) i as

theorem devsAlt_find (as : Alts) (name : String) (v : Val) :
    devsAlt as name v = (match as.find name with | some x => devs x.2 v | none => []) :=
  Alts.search_eq name (f := fun as => devsAlt as name v) (fun _ _ _ => rfl) as

theorem ref_choice (root : Alts) (ext : Bool) (adds : Alts)
    (ihr : root.All REF) (iha : adds.All REF) : REF (.choice root ext adds) := by
  intro v hwf ht hdev
  obtain ⟨name, w, rfl, ht⟩ := hasType_choice ht
  obtain ⟨_, _, _, hnd, _⟩ := wf_choice hwf
  have hdev' : devsAlt root name w ++ devsAlt adds name w = [] := hdev
  rw [List.append_eq_nil_iff, devsAlt_find, devsAlt_find] at hdev'
  simp only [Oer.utf8Ok, Oer.noSwallow, Oer.utf8OkAlt_find, Oer.noSwallowAlt_find, Bool.and_eq_true]
  rw [Oer.enc_choice, enc, Oer.encAlt_find, Oer.encAlt_find, encAlt_find, encAlt_find]
  obtain ⟨_, t, sel, hwt, hty⟩ := Alts.sel_of_hasType hwf ht
  have ih := sel.all ihr iha w hwt hty
  rcases sel with hf | ⟨hf, j, hfa, rfl⟩
  · have hdt : devs t w = [] := by simpa [hf] using hdev'.1
    obtain ⟨e, u, n⟩ := ih hdt
    simp only [hf, Alts.find_disjoint hnd hf, Option.map_some, e, u, n, tagOctets_eq, and_self, and_true]
    cases enc t w <;> rfl
  · have hdt : devs t w = [] := by simpa [hfa] using hdev'.2
    obtain ⟨e, u, n⟩ := ih hdt
    simp only [hf, hfa, Option.map_none, Option.map_some, e, u, n, tagOctets_eq, openType_eq, and_self,
      and_true]
    cases enc t w with
    | error e => rfl
    | ok body =>
      show (Oer.lenDet _ >>= _) = (match Oer.lenPrefixed _ _ with | .ok o => _ | .error e => _)
      unfold Oer.lenPrefixed
      cases Oer.lenDet body.length <;> simp [ok_bind, error_bind]

end Asn1.X696
