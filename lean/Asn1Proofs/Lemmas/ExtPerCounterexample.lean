import Asn1Proofs.Lemmas.PerRoundtrip
import Asn1Proofs.Lemmas.X691Prim
/-
  C07, ALIGNED PER: the hypothesis `Per.skipFree` of the forward theorem is necessary -- a
  machine-checked pair of versions on which the aligned PER code model (like the real codec) is NOT
  forward compatible although every hypothesis of the aligned PER round-trip theorem (`Per.fragFree`
  included) holds and V2 decodes its own encoding.

      V1:  O ::= SEQUENCE { i SEQUENCE { a BOOLEAN, ... },                          z BOOLEAN }
      V2:  O ::= SEQUENCE { i SEQUENCE { a BOOLEAN, ..., b OCTET STRING OPTIONAL }, z BOOLEAN }
      value  { i { a TRUE, b '00'H * 16384 }, z TRUE }

  The encoding of `b` (fragmented correctly: `c1`, 16384 octets, `00`) has 16386 octets.  The encoder
  writes the open type length with `append_length_determinant(16386)`, i.e. the single fragment marker
  `c1` followed by ALL 16386 octets.  The V2 decoder ignores the open type length of an addition it
  knows, so V2 -> V2 works.  The V1 decoder skips the unknown addition by that length: it takes `c1`
  for 16384 octets, stops two octets early, and reads `z` from the left-over octet `00`:
  V1 sees `z = FALSE`.
-/
namespace Asn1.Ext.PerCx
open Asn1 Asn1.Per Asn1.Ext
open Asn1.Uper (lenDet)

def cxOct : Ty := .octetString ⟨0, none, false⟩
/-- V1 / V2 of the inner SEQUENCE -/
def cxI1 : Ty := .sequence (.cons "a" .mandatory .boolean .nil) true .nil
def cxI2 : Ty := .sequence (.cons "a" .mandatory .boolean .nil) true (.cons "b" .optional cxOct .nil)
/-- V1 / V2 of the outer SEQUENCE -/
def cxT1 : Ty := .sequence (.cons "i" .mandatory cxI1 (.cons "z" .mandatory .boolean .nil)) false .nil
def cxT2 : Ty := .sequence (.cons "i" .mandatory cxI2 (.cons "z" .mandatory .boolean .nil)) false .nil

def cxData : Bytes := List.replicate 16384 0
def cxVI (d : Bytes) : Val := .record [("a", .bool true), ("b", .bytes d)]
def cxVof (d : Bytes) : Val := .record [("i", cxVI d), ("z", .bool true)]
def cxV : Val := cxVof cxData
def cxExpected : Val := .record [("i", .record [("a", .bool true)]), ("z", .bool true)]
def cxSeen : Val := .record [("i", .record [("a", .bool true)]), ("z", .bool false)]

/-- extension bit, `a`, number of additions (1), presence bitmap, 6 padding bits -/
def cxHdr : Bits := [true, true, false, false, false, false, false, false, false, true,
  false, false, false, false, false, false]
/-- the octet `c1`: "16384 items follow, then more fragments" -/
def c1 : Bits := [true, true, false, false, false, false, false, true]
def z8 : Bits := [false, false, false, false, false, false, false, false]
def z15 : Bits := [false, false, false, false, false, false, false, false, false, false, false, false,
  false, false, false]

/-- the encoding of the addition `b` in its own buffer -/
def cxE : Bits := c1 ++ bytesToBits cxData ++ z8
def cxBits : Bits := cxHdr ++ (c1 ++ cxE) ++ [true]

theorem cxData_length : cxData.length = 16384 := List.length_replicate ..

/-- stated for arbitrary contents, so that the 16384 octets are never evaluated -/
theorem enc_oct (d : Bytes) (h : d.length = 16384) :
    enc cxOct 0 (.bytes d) = .ok (c1 ++ bytesToBits d ++ z8) := by
  unfold cxOct
  rw [enc_octetString]
  simp only [encExt, encRoot, Bool.false_eq_true, if_false, Uper.sizeBits]
  rw [X691.encChunked_16384 _ (by rw [List.length_map, h]), flatten_map_natToBits8]
  rfl

theorem cx_enc_oct : enc cxOct 0 (.bytes cxData) = .ok cxE := enc_oct cxData cxData_length

theorem cxE_length : cxE.length = 8 * 16386 := by
  unfold cxE
  rw [List.length_append, List.length_append, bytesToBits_length, cxData_length]
  rfl

theorem cxBits_length : cxBits.length = 131113 := by
  unfold cxBits
  rw [List.length_append, List.length_append, List.length_append, cxE_length]
  rfl

theorem lenDet_16386 : lenDet 16386 = (c1, 16384) := by simp [lenDet, c1]; rfl

theorem cx_openType : openType cxE = c1 ++ cxE := by
  rw [openType_eq, cxE_length]
  simp [lenDet_16386]

theorem enc_inner (d : Bytes) (e : Bits) (he : enc cxOct 0 (.bytes d) = .ok e) :
    enc cxI2 0 (cxVI d) = .ok (cxHdr ++ openType e) := by
  simp only [cxI2, cxVI, enc_sequence, lookup, encMembers, encPreamble, encAdditions]
  simp [he, enc, Members.length, Uper.encNsLength]
  rfl

theorem enc_outer (d : Bytes) (e : Bits) (he : enc cxOct 0 (.bytes d) = .ok e) :
    enc cxT2 0 (cxVof d) = .ok (cxHdr ++ openType e ++ [true]) := by
  have hi := enc_inner d e he
  simp only [cxT2, cxVof, enc_sequence, lookup,
    encMembers, encPreamble]
  simp [hi, enc]

theorem cx_enc : enc cxT2 0 cxV = .ok cxBits := by
  unfold cxV cxBits
  rw [enc_outer cxData cxE cx_enc_oct, cx_openType]

/-- the V1 decoder of the inner SEQUENCE takes the fragment marker `c1` for an open type length of
16384 octets (stated for arbitrary contents) -/
theorem dec_inner (D1 D2 : Bits) (hD : D1.length = 8 * 16384) (fuel : Nat) :
    dec cxI1 fuel ⟨0, cxHdr ++ (c1 ++ (D1 ++ D2))⟩ =
      .ok (.record [("a", .bool true)], ⟨131096, D2⟩) := by
  have h1 := readLenDet_lenDet 16 16386 (D1 ++ D2)
  rw [lenDet_16386] at h1
  simp only at h1
  have e1 : ∀ X : Bits, decNsLength ⟨0 + 1 + 1,
      false :: false :: false :: false :: false :: false :: false :: X⟩ = .ok (1, ⟨9, X⟩) :=
    fun X => rfl
  have e2 : ∀ X : Bits, readBits 1 ⟨9, true :: X⟩ = .ok ([true], ⟨10, X⟩) := fun X => rfl
  have e3 : ∀ X : Bits,
      align ⟨10, false :: false :: false :: false :: false :: false :: X⟩ = ⟨16, X⟩ := by
    intro X; simp [align, padLen]
  simp only [cxI1, cxHdr, dec, decMembers, decAdditions, skipUnknown, optionalCount, bind,
    Except.bind, List.cons_append, List.nil_append, readBit_cons, if_true, readBits_zero, e1, e2, e3,
    h1]
  rw [readBits_append _ _ _ hD]
  rfl

theorem dec_outer (D1 D2 : Bits) (hD : D1.length = 8 * 16384) (fuel : Nat) :
    dec cxT1 fuel ⟨0, cxHdr ++ (c1 ++ (D1 ++ false :: D2))⟩ = .ok (cxSeen, ⟨131097, D2⟩) := by
  have hi := dec_inner D1 (false :: D2) hD fuel
  simp only [cxT1, dec, decMembers, optionalCount, bind, Except.bind, readBits_zero, if_false,
    Bool.false_eq_true]
  rw [hi]
  rfl

theorem cxData_split : bytesToBits cxData = bytesToBits (List.replicate 16383 0) ++ z8 := by
  have : cxData = List.replicate 16383 0 ++ [0] := by
    unfold cxData
    rw [show (16384 : Nat) = 16383 + 1 from rfl, List.replicate_succ']
  rw [this, bytesToBits_append]
  rfl

/-- the V1 decoder stops 15 bits before the end of the addition, having read `z` from its last but
one octet -/
theorem cx_dec (rest : Bits) (fuel : Nat) :
    dec cxT1 fuel ⟨0, cxBits ++ rest⟩ =
      .ok (cxSeen, ⟨131097, z15 ++ true :: rest⟩) := by
  have h := dec_outer (c1 ++ bytesToBits (List.replicate 16383 0))
    (z15 ++ true :: rest)
    (by rw [List.length_append, bytesToBits_length, List.length_replicate]; rfl) fuel
  have hb : cxBits ++ rest = cxHdr ++ (c1 ++ ((c1 ++ bytesToBits (List.replicate 16383 0)) ++
      false :: (z15 ++ true :: rest))) := by
    unfold cxBits cxE
    rw [cxData_split]
    simp only [List.append_assoc, z8, z15, List.cons_append, List.nil_append]
  rw [hb]
  exact h

theorem cx_extends : Extends cxT1 cxT2 := (extendsB_iff _ _).1 (by rfl)
theorem cx_wf : cxT2.wf = true := by decide
theorem cx_defaultsOk1 : cxT1.defaultsOk = true := by decide
theorem cx_defaultsOk2 : cxT2.defaultsOk = true := by decide
theorem cx_nsOk : cxT2.nsOk = true := by decide
theorem hasType_cxVof (d : Bytes) (h : allBytes d = true) : hasType cxT2 (cxVof d) = true := by
  simp [cxT2, cxI2, cxOct, cxVof, cxVI, hasType, hasMembers, sizeOk, h]
theorem cx_hasType : hasType cxT2 cxV = true :=
  hasType_cxVof _ (List.all_eq_true.2 fun x hx => by rw [List.eq_of_mem_replicate hx]; rfl)
theorem cx_fragFree : fragFree cxT2 cxV = true := by decide +kernel
theorem cx_expected : canon cxT1 (project cxT1 cxT2 cxV) = cxExpected := by rfl

theorem cx_not_skipFree : skipFree cxT1 cxT2 cxV = false := by
  have hs : Uper.smallLen ((cxE.length + 7) / 8) = false := by
    rw [cxE_length]; decide
  simp [cxT1, cxT2, cxI1, cxI2, cxV, cxVof, cxVI, skipFree, skipFreeMembers, skipFreeAdds, openSmall,
    lookup, cx_enc_oct, hs]

theorem cx_seen_ne : cxSeen ≠ cxExpected := by
  intro h
  simp [cxSeen, cxExpected] at h

theorem cx_forward_fails (rest : Bits) (fuel : Nat) :
    dec cxT1 fuel ⟨0, cxBits ++ rest⟩ ≠
      .ok (canon cxT1 (project cxT1 cxT2 cxV), ⟨0 + cxBits.length, rest⟩) := by
  intro h
  rw [cx_dec, cx_expected] at h
  simp only [Except.ok.injEq, Prod.mk.injEq] at h
  exact cx_seen_ne h.1

theorem cx_encode : encode cxT2 cxV = .ok (packBits cxBits) := by
  obtain ⟨bits, hb, hE⟩ := encode_total cxT2 cxV cx_wf cx_hasType
  rw [cx_enc] at hb
  cases hb
  exact hE

theorem cx_decode_v2 : decode cxT2 (packBits cxBits) = .ok cxV :=
  decode_encode cxT2 cxV _ cx_wf cx_defaultsOk2 cx_hasType cx_fragFree cx_nsOk cx_encode

theorem cx_decode_v1 : decode cxT1 (packBits cxBits) = .ok cxSeen :=
  Per.decode_packBits cxT1 cxBits cxSeen (fun rest fuel _ => ⟨_, cx_dec rest fuel⟩)

end Asn1.Ext.PerCx

#print axioms Asn1.Ext.PerCx.cx_forward_fails
#print axioms Asn1.Ext.PerCx.cx_decode_v1
#print axioms Asn1.Ext.PerCx.cx_decode_v2
