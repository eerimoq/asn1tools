import Asn1Model.X691
import Asn1Proofs.Lemmas.UperComp
/-
  The primitives of the X.691 specification model (`Asn1Model/X691.lean`) in the terms of the code
  models: the searches `leastFrom` as closed forms with their minimality, length determinants and
  chunks, what a success of `sizedM` / `extSizedM` says, the character tables, which values a type
  encodes, and the loops over items that do not look at the position.
-/
namespace Asn1.X691
open Asn1.Uper (lenDet encChunks encChunked)

theorem leastFrom_eq (p : Nat → Bool) (fuel k r : Nat) (hk : k ≤ r) (hr : p r = true)
    (hmin : ∀ m, k ≤ m → p m = true → r ≤ m) (hf : r ≤ k + fuel) : leastFrom p fuel k = r := by
  induction fuel generalizing k with
  | zero => exact Nat.le_antisymm hk hf
  | succ fuel ih =>
    rw [leastFrom]
    by_cases hpk : p k = true
    · rw [if_pos hpk]
      exact Nat.le_antisymm hk (hmin k (Nat.le_refl _) hpk)
    · rw [if_neg hpk]
      have hkr : k ≠ r := fun h => hpk (h ▸ hr)
      exact ih (k + 1) (by omega) (fun m h1 h2 => hmin m (by omega) h2) (by omega)

/-- 10.5.6 / 10.5.7.1 "the minimum number of bits necessary to represent the range": a field of `w`
bits holds `range` values iff `w` is at least `bitLength (range - 1)` -/
theorem cwn_width_minimal (range w : Nat) : range ≤ 2 ^ w ↔ bitLength (range - 1) ≤ w := by
  have := Nat.two_pow_pos w
  rw [bitLength_le_iff]
  omega

theorem minBits_eq (range : Nat) : minBits range = bitLength (range - 1) :=
  leastFrom_eq _ _ _ _ (Nat.zero_le _)
    (by simpa using (cwn_width_minimal range _).2 (Nat.le_refl _))
    (fun m _ hm => (cwn_width_minimal range m).1 (by simpa using hm))
    (by have := bitLength_le_self (range - 1); omega)

/-- 10.5.6 / 10.5.7.1: UNALIGNED, or a range of at most 255 values: the bit-field of minimal width -/
theorem cwnSmall_bits (al : Bool) (pos v range : Nat) (h : al = false ∨ range ≤ 255) :
    cwnSmall al pos v range = natToBits (bitLength (range - 1)) v := by
  unfold cwnSmall
  by_cases h1 : range ≤ 1
  · rw [if_pos h1, show range - 1 = 0 by omega]; rfl
  · have hc : (!al || decide (range ≤ 255)) = true := by
      rcases h with rfl | h
      · rfl
      · simp [h]
    rw [if_neg h1, if_pos hc, minBits_eq]

theorem cwn_bits (al : Bool) (pos v range : Nat) (h : al = false ∨ range ≤ 255) :
    cwn al pos v range = natToBits (bitLength (range - 1)) v := by
  unfold cwn
  rw [if_pos (by rcases h with rfl | h <;> simp <;> omega)]
  exact cwnSmall_bits al pos v range h

/-- `r` is the code's `size_as_number_of_bytes n` -/
theorem octets_minimal (n r : Nat) (hr : r = if n = 0 then 1 else (bitLength n + 7) / 8) :
    1 ≤ r ∧ n < 256 ^ r ∧ ∀ k, 1 ≤ k → n < 256 ^ k → r ≤ k := by
  simp only [pow256, ← bitLength_le_iff]
  by_cases h : n = 0
  · subst h; subst hr; simp [bitLength]
  · rw [if_neg h] at hr
    have := bitLength_pos h
    exact ⟨by omega, by omega, fun k _ hk => by omega⟩

theorem minOctets_eq (n : Nat) : minOctets n = if n = 0 then 1 else (bitLength n + 7) / 8 := by
  obtain ⟨h1, h2, h3⟩ := octets_minimal n _ rfl
  refine leastFrom_eq _ _ _ _ h1 (by simpa using h2) (fun m hm hp => h3 m hm (by simpa using hp)) ?_
  have := bitLength_le_self n
  split <;> omega

theorem fits2c_iff (k : Nat) (i : Int) :
    fits2c k i = true ↔
      (if 0 ≤ i then i.toNat else (-i - 1).toNat) < 2 ^ (8 * k - 1) := by
  unfold fits2c
  split <;> simp

theorem intByteLength_eq (i : Int) :
    intByteLength i = bitLength (if 0 ≤ i then i.toNat else (-i - 1).toNat) / 8 + 1 := by
  unfold intByteLength
  by_cases h : 0 ≤ i
  · rw [if_pos h, if_pos h]
  · rw [if_neg h, if_neg h]

theorem intByteLength_minimal (i : Int) :
    fits2c (intByteLength i) i = true ∧ ∀ k, 1 ≤ k → fits2c k i = true → intByteLength i ≤ k := by
  simp only [fits2c_iff, intByteLength_eq]
  generalize (if 0 ≤ i then i.toNat else (-i - 1).toNat) = m
  refine ⟨lt_two_pow_octets m, fun k hk hf => ?_⟩
  have := bitLength_le_of_lt_pow hf
  omega

theorem minOctets2c_eq (i : Int) : minOctets2c i = intByteLength i := by
  refine leastFrom_eq _ _ _ _ (intByteLength_pos i) (intByteLength_minimal i).1
    (intByteLength_minimal i).2 ?_
  unfold intByteLength
  split
  · have := bitLength_le_self i.toNat
    omega
  · have := bitLength_le_self (-i - 1).toNat
    omega

@[simp] theorem pad_false (pos : Nat) : pad false pos = [] := rfl

theorem lengthOctets_eq (n : Nat) : lengthOctets n = lenDet n := by
  unfold lengthOctets lenDet
  by_cases h1 : n ≤ 127
  · have h1' : n < 128 := by omega
    rw [if_pos h1, if_pos h1', natToBits_succ_of_lt (w := 7) (by omega)]
  · have h1' : ¬ n < 128 := by omega
    rw [if_neg h1, if_neg h1']
    by_cases h2 : n < 16384
    · rw [if_pos h2, if_pos h2]
      rw [natToBits_succ_of_ge (w := 15) (by omega) (by omega)]
      have : 32768 + n - 2 ^ 15 = n := by omega
      rw [this, natToBits_succ_of_lt (w := 14) (by omega)]
    · rw [if_neg h2, if_neg h2]
      by_cases h3 : n < 32768
      · have : min 4 (n / 16384) = 1 := by omega
        rw [if_pos h3]; simp only [this]; rfl
      · rw [if_neg h3]
        by_cases h4 : n < 49152
        · have : min 4 (n / 16384) = 2 := by omega
          rw [if_pos h4]; simp only [this]; rfl
        · rw [if_neg h4]
          by_cases h5 : n < 65536
          · have : min 4 (n / 16384) = 3 := by omega
            rw [if_pos h5]; simp only [this]; rfl
          · have : min 4 (n / 16384) = 4 := by omega
            rw [if_neg h5]; simp only [this]; rfl

theorem encChunked_small (items : List Bits) (h : items.length < 16384) :
    encChunked items = (lenDet items.length).1 ++ items.flatten := by
  unfold encChunked
  simp only [encChunks]
  have h2 : (lenDet items.length).2 = items.length := Uper.lenDet_snd_of_lt h
  rw [h2, if_pos h, List.take_length]

/-- exactly one 16K fragment: the zero length determinant of 10.9.3.8.3 follows it -/
theorem encChunked_16384 (items : List Bits) (h : items.length = 16384) :
    encChunked items = natToBits 8 0xc1 ++ items.flatten ++ natToBits 8 0 := by
  unfold encChunked
  rw [h]
  have h1 := Uper.lenDet_c1 16384 (Nat.le_refl _) (by decide)
  have h0 := Uper.lenDet_short 0 (by decide)
  simp only [encChunks, h, h1, Nat.lt_irrefl, if_false]
  have ht : List.take 16384 items = items := by rw [← h, List.take_length]
  have hd : List.drop 16384 items = [] := by rw [← h, List.drop_length]
  rw [ht, hd]
  simp [h0]

theorem inRoot_eq_sizeOk (c : SizeC) (n : Nat) : inRoot c n = sizeOk c n := rfl

theorem inRoot_eq_inSize (c : SizeC) (n : Nat) : inRoot c n = Uper.inSize c n :=
  Uper.sizeOk_eq_inSize c n

/-- length field and padding in front of the contents of a type whose size is constrained to
`lo .. ub`, `ub < 64K` (the first two cases of `sizedM`).  `af` / `av` are `sizedM`'s `alignFixed` /
`alignVar`: whether the contents are octet-aligned when the size is fixed / when a length precedes -/
def sizedPrefix (al : Bool) (lo ub : Nat) (af av : Bool) (pos n : Nat) : Bits :=
  if lo = ub then (if af then pad al pos else [])
  else cwn al pos (n - lo) (ub - lo + 1) ++
    (if av then pad al (pos + (cwn al pos (n - lo) (ub - lo + 1)).length) else [])

section generic
variable {α : Type} {al : Bool} {f : Nat → α → EncM Bits}

theorem sizedM_inv {lo : Nat} {hi : Option Nat} {af av : Bool} {vs : List α} {pos : Nat}
    {bits : Bits} (h : sizedM al f lo hi af av pos vs = .ok bits) :
    lo ≤ vs.length ∧ (∀ ub, hi = some ub → vs.length ≤ ub) ∧
    ((∀ ub, hi = some ub → 65536 ≤ ub) → genLenM al f pos vs = .ok bits) ∧
    (∀ ub, hi = some ub → ub < 65536 →
      ∃ body, seqM f (pos + (sizedPrefix al lo ub af av pos vs.length).length) vs = .ok body ∧
        bits = sizedPrefix al lo ub af av pos vs.length ++ body) := by
  unfold sizedM at h
  simp only at h
  by_cases hlo : vs.length < lo
  · rw [if_pos hlo] at h; cases h
  rw [if_neg hlo] at h
  refine ⟨Nat.le_of_not_lt hlo, ?_⟩
  cases hi with
  | none => exact ⟨nofun, fun _ => h, nofun⟩
  | some ub =>
    simp only at h
    by_cases hub : ub < vs.length
    · rw [if_pos hub] at h; cases h
    rw [if_neg hub] at h
    refine ⟨fun _ hu => by cases hu; exact Nat.le_of_not_lt hub, fun h64 => ?_, fun u hu h64 => ?_⟩
    · rw [if_neg (Nat.not_lt.mpr (h64 ub rfl))] at h
      exact h
    · cases hu
      rw [if_pos h64] at h
      unfold sizedPrefix
      by_cases heq : lo = ub
      · rw [if_pos heq] at h ⊢
        split at h <;> cases h
        rename_i body hb
        exact ⟨body, hb, rfl⟩
      · rw [if_neg heq] at h ⊢
        split at h <;> cases h
        rename_i body hb
        exact ⟨body, by rw [List.length_append, ← Nat.add_assoc]; exact hb, by simp⟩

theorem extSizedM_inv {c : SizeC} {af av : Bool} {vs : List α} {pos : Nat} {bits : Bits}
    (h : extSizedM al f c af av pos vs = .ok bits) :
    (c.ext = true ∧ inRoot c vs.length = false ∧
      ∃ b, genLenM al f (pos + 1) vs = .ok b ∧ bits = true :: b) ∨
    (c.ext = true ∧ inRoot c vs.length = true ∧
      ∃ b, sizedM al f c.lo c.hi af av (pos + 1) vs = .ok b ∧ bits = false :: b) ∨
    (c.ext = false ∧ sizedM al f c.lo c.hi af av pos vs = .ok bits) := by
  unfold extSizedM at h
  cases hext : c.ext with
  | false =>
    rw [hext] at h
    exact .inr (.inr ⟨rfl, h⟩)
  | true =>
    rw [hext] at h
    simp only [if_true] at h
    cases hin : inRoot c vs.length <;> rw [hin] at h <;>
      simp only [Bool.false_eq_true, if_false, if_true] at h <;> split at h <;> cases h
    · rename_i b hb
      exact .inl ⟨rfl, rfl, b, hb, rfl⟩
    · rename_i b hb
      exact .inr (.inl ⟨rfl, rfl, b, hb, rfl⟩)

end generic

theorem idxOf?_eq_indexOf? (x : Nat) (l : List Nat) : l.idxOf? x = Uper.indexOf? x l := by
  induction l with
  | nil => rfl
  | cons y r ih =>
    rw [List.idxOf?_cons, Uper.indexOf?, ih]
    simp only [beq_iff_eq, eq_comm (a := x)]

theorem alphabet_eq (k : StrKind) (hk : k ≠ .printable) : alphabet k = Uper.alphabetOf k := by
  cases k <;> first | contradiction | decide +kernel

/-- the two tables hold the same characters; the code lists PrintableString in another order -/
theorem contains_alphabet (k : StrKind) (cp : Nat) :
    (alphabet k).contains cp = (Uper.alphabetOf k).contains cp := by
  by_cases hk : k = .printable
  · subst hk
    have hsub : (alphabet .printable).all (Uper.alphabetOf .printable).contains = true ∧
        (Uper.alphabetOf .printable).all (alphabet .printable).contains = true := by decide +kernel
    rw [Bool.eq_iff_iff]
    exact ⟨fun h => List.all_eq_true.mp hsub.1 cp (List.contains_iff_mem.mp h),
      fun h => List.all_eq_true.mp hsub.2 cp (List.contains_iff_mem.mp h)⟩
  · rw [alphabet_eq k hk]

/-- 27.5.4 on the four alphabets, in both variants: only NumericString has a character (`'9'` = 57)
that does not fit in its field, so it alone is re-indexed.  That is the table
`permitted_alphabet.encode` uses. -/
theorem charValue_eq (al : Bool) (k : StrKind) (cp : Nat) :
    charValue al k cp = Uper.charCode k cp := by
  unfold charValue Uper.charCode
  simp only [contains_alphabet]
  by_cases hk : k = .numeric
  · subst hk
    have hbig : ¬ (alphabet .numeric).foldl max 0 ≤ 2 ^ charBits al .numeric - 1 := by
      cases al <;> decide
    rw [if_neg hbig, idxOf?_eq_indexOf?, alphabet_eq .numeric (by decide)]
    cases hc : (Uper.alphabetOf .numeric).contains cp with
    | true =>
      obtain ⟨i, hi, _⟩ := Uper.indexOf?_of_contains cp _ hc
      simp only [hi, if_true]
    | false =>
      have : Uper.indexOf? cp (Uper.alphabetOf .numeric) = none := by
        rw [← idxOf?_eq_indexOf?, List.idxOf?_eq_none_iff, ← List.contains_iff_mem, hc]
        simp
      simp only [this, Bool.false_eq_true, if_false]
      rfl
  · have hfit : (alphabet k).foldl max 0 ≤ 2 ^ charBits al k - 1 := by
      cases al <;> cases k <;> first | contradiction | decide +kernel
    rw [if_pos hfit]
    cases k <;> first | (simp only [invalid]; done) | exact absurd rfl hk

theorem alphabet_lt (k : StrKind) : ∀ c ∈ alphabet k, c < 128 := by
  cases k <;> decide +kernel

theorem ite_cons_eq_nil {α : Type} {p : Prop} [Decidable p] {a : α} {l : List α} :
    (if p then a :: l else []) = [] ↔ ¬ p := by
  split <;> simp [*]

section
variable {al : Bool} {pos : Nat} {v : Val} {bits : Bits}

theorem enc_boolean_ok (h : enc al .boolean pos v = .ok bits) : ∃ b, v = .bool b ∧ bits = [b] := by
  cases v <;> first | (cases h; exact ⟨_, rfl, rfl⟩) | cases h

theorem enc_null_ok (h : enc al .null pos v = .ok bits) : v = .null ∧ bits = [] := by
  cases v <;> first | (cases h; exact ⟨rfl, rfl⟩) | cases h

theorem enc_integer_ok {c : IntC} (h : enc al (.integer c) pos v = .ok bits) :
    ∃ i, v = .int i ∧ encInteger al c pos i = .ok bits := by
  cases v <;> first | exact ⟨_, rfl, h⟩ | cases h

theorem enc_enumerated_ok {root : List (String × Int)} {ext : Option (List (String × Int))}
    (h : enc al (.enumerated root ext) pos v = .ok bits) :
    ∃ name, v = .enum name ∧ encEnumerated al root ext pos name = .ok bits := by
  cases v <;> first | exact ⟨_, rfl, h⟩ | cases h

theorem enc_octetString_ok {c : SizeC} (h : enc al (.octetString c) pos v = .ok bits) :
    ∃ data, v = .bytes data ∧ encOctetString al c pos data = .ok bits := by
  cases v <;> first | exact ⟨_, rfl, h⟩ | cases h

theorem enc_bitString_ok {c : SizeC} (h : enc al (.bitString c) pos v = .ok bits) :
    ∃ data n, v = .bits data n ∧ encBitString al c pos data n = .ok bits := by
  cases v <;> first | exact ⟨_, _, rfl, h⟩ | cases h

theorem enc_charString_ok {k : StrKind} {c : SizeC} (h : enc al (.charString k c) pos v = .ok bits) :
    ∃ cps, v = .str cps ∧
      (if k = .utf8 then encUtf8 al pos cps else encKnownMultiplier al k c pos cps) = .ok bits := by
  cases k <;> cases v <;> first | exact ⟨_, rfl, h⟩ | cases h

theorem enc_sequenceOf_ok {e : Ty} {c : SizeC} (h : enc al (.sequenceOf e c) pos v = .ok bits) :
    ∃ vs, v = .list vs ∧ extSizedM al (enc al e) c false false pos vs = .ok bits := by
  cases v <;> first | exact ⟨_, rfl, h⟩ | cases h

theorem enc_sequence_ok {root adds : Members} {x : Bool}
    (h : enc al (.sequence root x adds) pos v = .ok bits) : ∃ fs, v = .record fs := by
  cases v <;> first | exact ⟨_, rfl⟩ | cases h

theorem enc_choice_ok {root adds : Alts} {x : Bool}
    (h : enc al (.choice root x adds) pos v = .ok bits) : ∃ name w, v = .choice name w := by
  cases v <;> first | exact ⟨_, _, rfl⟩ | cases h

end

theorem length_map_take_bytesToBits {data : Bytes} {n : Nat} (hn : n ≤ 8 * data.length) :
    (((bytesToBits data).take n).map fun b => [b]).length = n := by
  rw [List.length_map, List.length_take, bytesToBits_length]; omega

theorem seqM_leaf (pos : Nat) (items : List Bits) : seqM leaf pos items = .ok items.flatten := by
  induction items generalizing pos with
  | nil => rfl
  | cons a r ih =>
    rw [seqM]
    simp only [leaf, ih, List.flatten_cons]

theorem fragM_leaf (al : Bool) (fuel pos : Nat) (items : List Bits) :
    fragM al leaf fuel pos items = .ok (frag al fuel pos items) := by
  induction fuel generalizing pos items with
  | zero => rfl
  | succ fuel ih =>
    rw [fragM, frag]
    simp only [seqM_leaf, ih]
    split <;> rfl

theorem genLenM_leaf (al : Bool) (pos : Nat) (items : List Bits) :
    genLenM al leaf pos items = .ok (genLen al pos items) := by
  unfold genLenM genLen
  exact fragM_leaf _ _ _ _

end Asn1.X691
