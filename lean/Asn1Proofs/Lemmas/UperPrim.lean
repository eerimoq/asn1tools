import Asn1Model.Typing
import Asn1Proofs.Lemmas.ExceptLemmas
/-
  Bit vectors (`natToBits`, `bitsToNat`, `bitLength`), the UPER bit readers in closed form and on an
  encoding, and the length determinant `lenDet`: the base of every development about the bit codecs
  and of the octet arithmetic of `UperNum` / `OerBits`.
-/
namespace Asn1

@[simp] theorem natToBits_length (w n : Nat) : (natToBits w n).length = w := by
  induction w generalizing n with
  | zero => rfl
  | succ w ih => simp [natToBits, ih]

theorem bitsToNat_nil : bitsToNat [] = 0 := rfl

theorem foldl_bits_acc (bs : Bits) (a : Nat) :
    bs.foldl (fun acc b => 2 * acc + (if b then 1 else 0)) a
      = a * 2 ^ bs.length + bs.foldl (fun acc b => 2 * acc + (if b then 1 else 0)) 0 := by
  induction bs generalizing a with
  | nil => simp
  | cons b r ih =>
    simp only [List.foldl_cons, List.length_cons]
    rw [ih (2 * a + _), ih (2 * 0 + _)]
    rw [Nat.pow_succ]
    simp only [Nat.mul_zero, Nat.zero_add, Nat.add_mul]
    rw [Nat.mul_comm 2 a, Nat.mul_assoc, Nat.mul_comm 2 (2 ^ r.length)]
    omega

theorem bitsToNat_append (a b : Bits) :
    bitsToNat (a ++ b) = bitsToNat a * 2 ^ b.length + bitsToNat b := by
  unfold bitsToNat
  rw [List.foldl_append, foldl_bits_acc]

theorem bitsToNat_single (b : Bool) : bitsToNat [b] = if b then 1 else 0 := by
  cases b <;> rfl

theorem bitsToNat_natToBits (w n : Nat) : bitsToNat (natToBits w n) = n % 2 ^ w := by
  induction w generalizing n with
  | zero => simp [natToBits, bitsToNat, Nat.mod_one]
  | succ w ih =>
    rw [natToBits, bitsToNat_append, ih, bitsToNat_single, Nat.pow_succ, Nat.mul_comm (2 ^ w) 2,
      Nat.mod_mul]
    rcases Nat.mod_two_eq_zero_or_one n with h | h <;> simp [h, Nat.mul_comm, Nat.add_comm]

theorem bitsToNat_natToBits_of_lt {w n : Nat} (h : n < 2 ^ w) : bitsToNat (natToBits w n) = n := by
  rw [bitsToNat_natToBits, Nat.mod_eq_of_lt h]

theorem bitsToNat_cons (b : Bool) (r : Bits) :
    bitsToNat (b :: r) = (if b then 1 else 0) * 2 ^ r.length + bitsToNat r := by
  simpa [bitsToNat_single] using bitsToNat_append [b] r

theorem bitsToNat_lt (bs : Bits) : bitsToNat bs < 2 ^ bs.length := by
  induction bs with
  | nil => simp [bitsToNat]
  | cons b r ih =>
    rw [bitsToNat_cons]
    simp only [List.length_cons, Nat.pow_succ]
    cases b <;> simp <;> omega

theorem natToBits_add (w1 w2 n : Nat) :
    natToBits (w1 + w2) n = natToBits w1 (n / 2 ^ w2) ++ natToBits w2 n := by
  induction w2 generalizing n with
  | zero => simp [natToBits]
  | succ w2 ih =>
    rw [← Nat.add_assoc, natToBits, ih, natToBits, List.append_assoc]
    rw [Nat.div_div_eq_div_mul, Nat.pow_succ, Nat.mul_comm 2]

theorem natToBits_mod (w n : Nat) : natToBits w (n % 2 ^ w) = natToBits w n := by
  induction w generalizing n with
  | zero => rfl
  | succ w ih =>
    rw [natToBits, natToBits, Nat.pow_succ, Nat.mul_comm, Nat.mod_mul_right_div_self,
      Nat.mod_mul_right_mod, ih]

theorem natToBits_succ_of_lt {w n : Nat} (h : n < 2 ^ w) :
    natToBits (w + 1) n = false :: natToBits w n := by
  rw [Nat.add_comm w 1, natToBits_add 1 w, Nat.div_eq_of_lt h]
  rfl

theorem natToBits_succ_of_ge {w n : Nat} (h : 2 ^ w ≤ n) (h2 : n < 2 ^ (w + 1)) :
    natToBits (w + 1) n = true :: natToBits w (n - 2 ^ w) := by
  rw [Nat.pow_succ] at h2
  have hd : n / 2 ^ w = 1 := Nat.div_eq_of_lt_le (by omega) (by omega)
  have hm : n % 2 ^ w = n - 2 ^ w := by
    rw [Nat.mod_eq_sub_mod h, Nat.mod_eq_of_lt (by omega)]
  rw [Nat.add_comm w 1, natToBits_add 1 w, hd, ← natToBits_mod w n, hm]
  rfl

theorem natToBits_zero (w : Nat) : natToBits w 0 = List.replicate w false := by
  induction w with
  | zero => rfl
  | succ w ih => rw [natToBits, ih, List.replicate_succ']; rfl

theorem natToBits_shift_add (a n x v : Nat) (hv : v < 2 ^ n) :
    natToBits (a + n) (x * 2 ^ n + v) = natToBits a x ++ natToBits n v := by
  rw [natToBits_add]
  have hp : 0 < 2 ^ n := Nat.two_pow_pos n
  have h1 : (x * 2 ^ n + v) / 2 ^ n = x := by
    rw [Nat.add_comm, Nat.add_mul_div_right _ _ hp, Nat.div_eq_of_lt hv, Nat.zero_add]
  have h2 : (x * 2 ^ n + v) % 2 ^ n = v := by
    rw [Nat.add_comm, Nat.add_mul_mod_self_right, Nat.mod_eq_of_lt hv]
  rw [h1, ← natToBits_mod n, h2]

theorem shift_add_lt {x a v n : Nat} (hx : x < 2 ^ a) (hv : v < 2 ^ n) : x * 2 ^ n + v < 2 ^ (a + n) := by
  have h1 : (x + 1) * 2 ^ n ≤ 2 ^ a * 2 ^ n := Nat.mul_le_mul_right _ (by omega)
  rw [Nat.add_mul, Nat.one_mul] at h1
  rw [Nat.pow_add]; omega

theorem natToBits_pad (w p x : Nat) :
    natToBits (w + p) (x * 2 ^ p) = natToBits w x ++ List.replicate p false := by
  have := natToBits_shift_add w p x 0 (Nat.two_pow_pos p)
  rw [Nat.add_zero, natToBits_zero] at this
  exact this

theorem natToBits_front (N V n : Nat) (hn : n ≤ N) :
    natToBits N V = natToBits n (V / 2 ^ (N - n) % 2 ^ n) ++ natToBits (N - n) V := by
  conv => lhs; rw [← Nat.add_sub_of_le hn, natToBits_add]
  rw [natToBits_mod]

theorem natToBits_take_drop (N V n : Nat) (hn : n ≤ N) :
    bitsToNat ((natToBits N V).take n) = V / 2 ^ (N - n) % 2 ^ n ∧ (natToBits N V).drop n = natToBits (N - n) V := by
  rw [natToBits_front N V n hn]
  constructor
  · rw [List.take_left' (natToBits_length _ _), bitsToNat_natToBits_of_lt (Nat.mod_lt _ (Nat.two_pow_pos n))]
  · rw [List.drop_left' (natToBits_length _ _)]

theorem bitLength_le_iff (n k : Nat) : bitLength n ≤ k ↔ n < 2 ^ k := by
  unfold bitLength
  split
  · subst_vars; simp [Nat.two_pow_pos]
  · rename_i h
    have := Nat.log2_lt (n := n) (k := k) h
    omega

theorem pow256 (k : Nat) : 256 ^ k = 2 ^ (8 * k) := by
  rw [Nat.pow_mul]

theorem byteLength_le_iff (n k : Nat) : byteLength n ≤ k ↔ n < 256 ^ k := by
  rw [pow256, ← bitLength_le_iff]
  unfold byteLength; omega

theorem lt_two_pow_bitLength (n : Nat) : n < 2 ^ bitLength n :=
  (bitLength_le_iff n _).1 (Nat.le_refl _)

theorem lt_two_pow_bitLength_of_le {m n : Nat} (h : m ≤ n) : m < 2 ^ bitLength n :=
  Nat.lt_of_le_of_lt h (lt_two_pow_bitLength n)

theorem bitLength_le_of_lt_pow {n w : Nat} (h : n < 2 ^ w) : bitLength n ≤ w :=
  (bitLength_le_iff n w).2 h

theorem bitLength_mono {m n : Nat} (h : m ≤ n) : bitLength m ≤ bitLength n :=
  bitLength_le_of_lt_pow (Nat.lt_of_le_of_lt h (lt_two_pow_bitLength n))

theorem bitLength_pos {n : Nat} (h : n ≠ 0) : 0 < bitLength n :=
  Nat.lt_of_not_le fun hle => h (Nat.lt_one_iff.1 ((bitLength_le_iff n 0).1 hle))

theorem bitLength_two_pow (n : Nat) : bitLength (2 ^ n) = n + 1 := by
  unfold bitLength
  rw [if_neg (Nat.ne_of_gt (Nat.pow_pos (by omega))), Nat.log2_two_pow]

theorem bitLength_le_self (n : Nat) : bitLength n ≤ n :=
  bitLength_le_of_lt_pow Nat.lt_two_pow_self

theorem two_pow_le_of_bitLength {n : Nat} (hn : n ≠ 0) : 2 ^ (bitLength n - 1) ≤ n :=
  Nat.le_of_not_lt fun h => by
    have := (bitLength_le_iff n _).2 h
    have := bitLength_pos hn
    omega

namespace Uper

theorem splitAux_eq (n : Nat) (bs acc : Bits) :
    splitAux n bs acc =
      if n ≤ bs.length then some (acc.reverse ++ bs.take n, bs.drop n) else none := by
  induction n generalizing bs acc with
  | zero => simp [splitAux]
  | succ n ih =>
    cases bs with
    | nil => simp [splitAux]
    | cons b t =>
      simp only [splitAux, ih, List.length_cons, Nat.add_le_add_iff_right, List.reverse_cons,
        List.take_succ_cons, List.drop_succ_cons, List.append_assoc, List.singleton_append]

theorem readBits_eq (n : Nat) (bs : Bits) :
    readBits n bs = if n ≤ bs.length then .ok (bs.take n, bs.drop n) else .error .decodeError := by
  simp only [readBits, splitExact, splitAux_eq]
  by_cases h : n ≤ bs.length <;> simp [h]

theorem readNat_eq (n : Nat) (bs : Bits) :
    readNat n bs =
      if n ≤ bs.length then .ok (bitsToNat (bs.take n), bs.drop n) else .error .decodeError := by
  simp only [readNat, splitExact, splitAux_eq]
  by_cases h : n ≤ bs.length <;> simp [h]

theorem splitAux_append (a b acc : Bits) :
    splitAux a.length (a ++ b) acc = some (acc.reverse ++ a, b) := by
  rw [splitAux_eq, if_pos (List.length_append ▸ Nat.le_add_right _ _), List.take_left' rfl, List.drop_left' rfl]

theorem splitExact_append {n : Nat} (a b : Bits) (h : a.length = n) :
    splitExact n (a ++ b) = some (a, b) := by
  subst h; unfold splitExact; rw [splitAux_append]; simp

theorem readBits_append {n : Nat} (a b : Bits) (h : a.length = n) :
    readBits n (a ++ b) = .ok (a, b) := by
  unfold readBits; rw [splitExact_append a b h]

theorem readBits_zero (b : Bits) : readBits 0 b = .ok ([], b) := rfl

theorem readNat_append {n : Nat} (a b : Bits) (h : a.length = n) :
    readNat n (a ++ b) = .ok (bitsToNat a, b) := by
  unfold readNat; rw [splitExact_append a b h]

theorem readNat_natToBits {w n : Nat} (rest : Bits) (h : n < 2 ^ w) :
    readNat w (natToBits w n ++ rest) = .ok (n, rest) := by
  rw [readNat_append _ _ (natToBits_length w n), bitsToNat_natToBits_of_lt h]

theorem readBit_cons (b : Bool) (r : Bits) : readBit (b :: r) = .ok (b, r) := rfl

theorem lenDet_cases (n : Nat) :
    (n < 128 ∧ lenDet n = (natToBits 8 n, n)) ∨
    (128 ≤ n ∧ n < 16384 ∧ lenDet n = (natToBits 16 (0x8000 + n), n)) ∨
    (16384 ≤ n ∧ ∃ m, 1 ≤ m ∧ m ≤ 4 ∧ 16384 * m ≤ n ∧
      lenDet n = (natToBits 8 (0xc0 + m), 16384 * m)) := by
  by_cases h1 : n < 128
  · exact .inl ⟨h1, if_pos h1⟩
  by_cases h2 : n < 16384
  · exact .inr (.inl ⟨Nat.le_of_not_lt h1, h2, by rw [lenDet, if_neg h1, if_pos h2]⟩)
  refine .inr (.inr ⟨Nat.le_of_not_lt h2, ?_⟩)
  rw [lenDet, if_neg h1, if_neg h2]
  by_cases h3 : n < 32768
  · exact ⟨1, by omega, by omega, by omega, by rw [if_pos h3]⟩
  by_cases h4 : n < 49152
  · exact ⟨2, by omega, by omega, by omega, by rw [if_neg h3, if_pos h4]⟩
  by_cases h5 : n < 65536
  · exact ⟨3, by omega, by omega, by omega, by rw [if_neg h3, if_neg h4, if_pos h5]⟩
  · exact ⟨4, by omega, by omega, by omega, by rw [if_neg h3, if_neg h4, if_neg h5]⟩

theorem lenDet_snd_eq_of_snd_lt {n : Nat} (h : (lenDet n).2 < 16384) : (lenDet n).2 = n := by
  rcases lenDet_cases n with ⟨_, e⟩ | ⟨_, _, e⟩ | ⟨_, m, _, _, _, e⟩
  · rw [e]
  · rw [e]
  · rw [e] at h
    omega

theorem lenDet_snd_le (n : Nat) : (lenDet n).2 ≤ n := by
  rcases lenDet_cases n with ⟨_, e⟩ | ⟨_, _, e⟩ | ⟨_, m, _, _, hm, e⟩
  · rw [e]; exact Nat.le_refl n
  · rw [e]; exact Nat.le_refl n
  · rw [e]; exact hm

theorem lenDet_snd_of_lt {n : Nat} (h : n < 16384) : (lenDet n).2 = n :=
  lenDet_snd_eq_of_snd_lt (Nat.lt_of_le_of_lt (lenDet_snd_le n) h)

theorem lenDet_length_ge (n : Nat) : 8 ≤ (lenDet n).1.length := by
  rcases lenDet_cases n with ⟨_, e⟩ | ⟨_, _, e⟩ | ⟨_, m, _, _, _, e⟩
  · rw [e, natToBits_length]; exact Nat.le_refl 8
  · rw [e, natToBits_length]; decide
  · rw [e, natToBits_length]; exact Nat.le_refl 8

theorem lenDet_short (n : Nat) (h : n < 128) : lenDet n = (natToBits 8 n, n) := by
  unfold lenDet
  rw [if_pos h]

theorem lenDet_c1 (n : Nat) (h1 : 16384 ≤ n) (h2 : n < 32768) : lenDet n = (natToBits 8 0xc1, 16384) := by
  unfold lenDet
  rw [if_neg (by omega), if_neg (by omega), if_pos h2]

theorem lenDet_16385 : lenDet 16385 = (natToBits 8 0xc1, 16384) :=
  lenDet_c1 16385 (by decide) (by decide)

theorem lenDet_snd_mod (n : Nat) (h : ¬ (lenDet n).2 < 16384) : (lenDet n).2 % 8 = 0 := by
  rcases lenDet_cases n with ⟨h1, e⟩ | ⟨_, h2, e⟩ | ⟨_, m, _, _, _, e⟩ <;> rw [e] at h ⊢
  · exact absurd (show n < 16384 by omega) h
  · exact absurd h2 h
  · show 16384 * m % 8 = 0
    omega

theorem readLenDet_lenDet (n : Nat) (rest : Bits) :
    readLenDet ((lenDet n).1 ++ rest) = .ok ((lenDet n).2, rest) := by
  rcases lenDet_cases n with ⟨h, e⟩ | ⟨h1, h2, e⟩ | ⟨_, m, m1, m4, _, e⟩
  · rw [e]
    simp only [readLenDet, readNat_natToBits rest (show n < 2 ^ 8 by omega), ok_bind, h, if_true]
  · have h3 : ¬ (0x8000 + n) / 2 ^ 8 < 128 := by omega
    have h4 : (0x8000 + n) / 2 ^ 8 < 192 := by omega
    rw [e, natToBits_add 8 8, List.append_assoc]
    simp only [readLenDet, readNat_natToBits _ (show (0x8000 + n) / 2 ^ 8 < 2 ^ 8 by omega), ok_bind,
      h3, h4, if_true, if_false, readNat_append _ _ (natToBits_length ..), bitsToNat_natToBits,
      Except.ok.injEq, Prod.mk.injEq, and_true]
    omega
  · rw [e]
    obtain rfl | rfl | rfl | rfl : m = 1 ∨ m = 2 ∨ m = 3 ∨ m = 4 := by omega
    all_goals rfl

end Uper

end Asn1
