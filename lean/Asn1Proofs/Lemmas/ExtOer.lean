import Asn1Proofs.Lemmas.ExtOerSeq
/-
  C07, OER: the decoder for `tD` on an encoding under `tE` (`Compat tD tE`) returns `view false tD tE v`
  and leaves exactly the octets that follow the encoding; by induction on `Compat tD tE`.  A tag
  beyond the decoder's alternatives and additions it does not know are skipped by their length
  prefixes; a bitmap shorter than the decoder's additions just ends.
-/
namespace Asn1.Ext.OerX
open Asn1 Asn1.Oer Asn1.Ext

theorem xt_all {tD tE : Ty} (h : Compat tD tE) : XT tD tE :=
  Compat.induct (P := XT) (Q := XT) (PM := XTM) (PAd := XTA) (alt := fun _ h => h)
    (boolean := xt_same rt_boolean) (null := xt_same rt_null)
    (integer := fun c => xt_same (rt_integer c)) (octetString := fun c => xt_same (rt_octetString c))
    (bitString := fun c => xt_same (rt_bitString c)) (charString := fun k c => xt_same (rt_charString k c))
    (enumerated := fun root => xt_same (rt_enumerated root none))
    (enumeratedD := xt_enumeratedD) (enumeratedE := xt_enumeratedE)
    (sequence := fun x _ _ ihr iha => xt_sequence x ihr iha)
    (sequenceOf := fun c _ ih => xt_sequenceOf c ih)
    (choice := fun x hcr _ ihr iha => xt_choice x ihr (compatAlts_length hcr) iha)
    (membersNil := xtm_nil) (membersCons := fun name p hc _ iht ihm => xtm_cons name p hc iht ihm)
    (addsNilD := xta_nilD) (addsNilE := fun ms _ => xta_nilE ms)
    (addsCons := fun name p _ _ iht iha => xta_cons name p iht iha) h

end Asn1.Ext.OerX

#print axioms Asn1.Ext.OerX.xt_all
