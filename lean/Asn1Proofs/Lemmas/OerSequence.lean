import Asn1Proofs.Lemmas.OerSeqExt
/-
  SEQUENCE of the OER model: the decoder on a preamble followed by the members it announces
  (`dec_sequence_ok`), totality of the encoder.
-/
namespace Asn1.Oer

theorem dec_sequence_ok (root : Members) (ext : Bool) (adds : Members) (pre : Bits) (b : Bool)
    (body tail : Bytes) (fields : List (String × Val))
    (hlen : pre.length = optionalCount root)
    (hdec : decMembers root pre (body ++ tail) = .ok (fields, tail)) :
    dec (.sequence root ext adds) (packBits (if ext then b :: pre else pre) ++ (body ++ tail))
      = if (ext && b) then decExtBlock adds fields tail else .ok (.record fields, tail) := by
  rw [dec_sequence]
  cases ext with
  | false =>
    simp only [Bool.false_eq_true, if_false, Nat.add_zero, Bool.false_and, bind, Except.bind]
    rw [withPre_packBits pre _ hlen, hdec]
  | true =>
    simp only [if_true, Bool.true_and, bind, Except.bind]
    rw [withPre_packBits (b :: pre) (optionalCount root + 1) (by simp [hlen])]
    simp only [List.drop_succ_cons, List.drop_zero, List.head?_cons, Option.getD_some]
    rw [hdec]
    rfl

theorem et_sequence (root : Members) (ext : Bool) (adds : Members)
    (ihr : root.All ET) : ET (.sequence root ext adds) := by
  intro v hwf ht
  obtain ⟨fs, rfl, hwr, -, hokr, -⟩ := record_of_hasType hwf ht
  obtain ⟨pre, hpre⟩ := encPreamble_ok fs root
  rw [enc_sequence, hpre, ok_bind]
  refine (et_members fs false root ihr hwr hokr).bind fun body => ?_
  by_cases hx : (ext && !(encAdditions adds fs).2.1.isEmpty) = true
  · rw [if_pos hx]
    exact (lenDet_total _).bind fun _ =>
      (mapM_total wrap _ fun _ _ => lenPrefixed_total _ _).bind fun _ => .ok _
  · rw [if_neg hx]
    exact .ok _

end Asn1.Oer
