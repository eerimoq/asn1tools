import Asn1Model.BerFraming
import Asn1Proofs.Lemmas.OerBits
/-
  The BER framing helpers of C15 (`skipTag`, `decodeLength`, `encLength`) on valid identifier and
  length octets, and the probe `fullLength` on a whole TLV (`fullLength_tlv`); the base-128 digits of
  a tag number, where `Ber.base128` and `Oer.base128` are one function (`base128_eq_oer`).
-/
namespace Asn1.Ber

theorem skipTagRest_cont (mid x : Bytes) (hm : ∀ m ∈ mid, 128 ≤ m ∧ m < 256) :
    skipTagRest (mid ++ x) = (skipTagRest x).map (· + mid.length) := by
  induction mid with
  | nil => simp
  | cons m mid ih =>
    have : m % 256 ≥ 128 := by have := hm m (.head _); omega
    rw [List.cons_append, skipTagRest, if_pos this, ih fun m' h' => hm m' (.tail _ h')]
    cases skipTagRest x <;> simp [Nat.add_assoc]

theorem skipTagRest_mid (mid : Bytes) (last : Nat) (x : Bytes)
    (hm : ∀ m ∈ mid, 128 ≤ m ∧ m < 256) (hl : last < 128) :
    skipTagRest (mid ++ last :: x) = some (mid.length + 1) := by
  have : ¬ last % 256 ≥ 128 := by omega
  simp [skipTagRest_cont mid _ hm, skipTagRest, this, Nat.add_comm]

theorem skipTagRest_all_cont (mid : Bytes) (hm : ∀ m ∈ mid, 128 ≤ m ∧ m < 256) :
    skipTagRest mid = none := by
  simpa [skipTagRest] using skipTagRest_cont mid [] hm

theorem validLen_ne_nil {l : Bytes} {n : Nat} (hl : validLen l n) : l ≠ [] := by
  rcases hl with ⟨h, _⟩ | ⟨k, ds, h, _⟩ <;> simp [h]

theorem skipTag_complete (t x : Bytes) (ht : validTag t) (hx : x ≠ []) :
    skipTag (t ++ x) = some t.length := by
  have hxl : 0 < x.length := List.length_pos_iff.mpr hx
  rcases ht with ⟨b, rfl, _, hb⟩ | ⟨b, mid, last, rfl, _, hb, hm, hl⟩
  · simp only [skipTag, List.cons_append, List.nil_append, hb, if_false, List.length_cons,
      List.length_nil]
    have : ¬ (1 ≥ x.length + 1) := by omega
    simp [this]
  · have h := skipTagRest_mid mid last x hm hl
    simp only [skipTag, List.cons_append, List.append_assoc, List.nil_append, hb, if_true, h,
      Option.map_some, List.length_cons, List.length_append, List.length_nil]
    have : ¬ (mid.length + 1 + 1 ≥ mid.length + (x.length + 1) + 1) := by omega
    simp [this]

/-- also for `k ≥ t.length`: `skipTag` wants something behind the identifier octets (remark at
`Ber.skipTag`); the same reason gives `hx : x ≠ []` in `skipTag_complete` -/
theorem skipTag_prefix (t : Bytes) (k : Nat) (ht : validTag t) :
    skipTag (t.take k) = none := by
  rcases ht with ⟨b, rfl, _, hb⟩ | ⟨b, mid, last, rfl, _, hb, hm, hl⟩
  · cases k with
    | zero => simp [skipTag]
    | succ k => simp [skipTag, hb]
  · cases k with
    | zero => simp [skipTag]
    | succ k =>
      simp only [List.take_succ_cons, skipTag, hb, if_true]
      by_cases hk : k ≤ mid.length
      · have h1 : (mid ++ [last]).take k = mid.take k := by
          rw [List.take_append_of_le_length hk]
        have h2 : skipTagRest (mid.take k) = none :=
          skipTagRest_all_cont _ (fun m h' => hm m (List.mem_of_mem_take h'))
        simp [h1, h2]
      · have h1 : (mid ++ [last]).take k = mid ++ [last] := by
          apply List.take_of_length_le; simp; omega
        have h2 := skipTagRest_mid mid last [] hm hl
        simp [h1, h2]

theorem decodeLength_long (k : Nat) (r : Bytes) (hk1 : 1 ≤ k) (hk2 : k ≤ 127) :
    decodeLength ((128 + k) :: r) =
      if r.length < k then .outOfData else .ok (bytesToNat (r.take k)) (k + 1) := by
  have e : (128 + k) % 256 = 128 + k := by omega
  have h1 : ¬ (128 + k < 128) := by omega
  have h2 : ¬ (128 + k = 128) := by omega
  simp only [decodeLength, e, h1, h2, if_false, Nat.add_sub_cancel_left]

theorem decodeLength_complete (l rest : Bytes) (n : Nat) (hl : validLen l n) :
    decodeLength (l ++ rest) = .ok n l.length := by
  rcases hl with ⟨rfl, hn⟩ | ⟨k, ds, rfl, hk1, hk2, rfl, rfl⟩
  · have : n % 256 < 128 := by omega
    simp [decodeLength, this]
  · rw [List.cons_append, decodeLength_long _ _ hk1 hk2, if_neg (by simp), List.take_left]
    rfl

theorem decodeLength_prefix (l : Bytes) (n j : Nat) (hl : validLen l n) (hj : j < l.length) :
    decodeLength (l.take j) = .outOfData := by
  rcases hl with ⟨rfl, hn⟩ | ⟨k, ds, rfl, hk1, hk2, rfl, hv⟩
  · have : j = 0 := by simpa using hj
    subst this; rfl
  · cases j with
    | zero => rfl
    | succ j =>
      rw [List.take_succ_cons, decodeLength_long _ _ hk1 hk2, if_pos]
      simp at hj ⊢; omega

theorem fullLength_tlv (t l rest : Bytes) (n : Nat) (ht : validTag t) (hl : validLen l n) :
    fullLength (t ++ l ++ rest) = .known (t.length + l.length + n) := by
  have hne : l ++ rest ≠ [] := by simp [validLen_ne_nil hl]
  rw [List.append_assoc]
  simp only [fullLength, skipTag_complete t (l ++ rest) ht hne, List.drop_left,
    decodeLength_complete l rest n hl]

/-- the digit functions of ber.py's and oer.py's `encode_tag` are the same function, modelled twice -/
theorem base128_eq_oer (f n : Nat) : base128 f n = Oer.base128 f n := by
  induction f generalizing n with
  | zero => rfl
  | succ f ih => simp only [base128, Oer.base128, ih]

/-- `bitLength n + 1` digits are enough fuel for the base-128 digits of `n` -/
theorem _root_.Asn1.lt_pow128 (n : Nat) : n < 128 ^ (bitLength n + 1) := by
  have h1 := lt_two_pow_bitLength n
  have h2 : 2 ^ bitLength n ≤ 128 ^ bitLength n := Nat.pow_le_pow_left (by omega) _
  have h3 : 128 ^ bitLength n ≤ 128 ^ (bitLength n + 1) := Nat.pow_le_pow_right (by omega) (by omega)
  omega

theorem base128_lt (fuel n : Nat) : ∀ d ∈ base128 fuel n, d < 128 := by
  induction fuel generalizing n with
  | zero => simp [base128]
  | succ fuel ih =>
    intro d hd
    unfold base128 at hd
    split at hd
    · simp at hd; omega
    · rcases List.mem_append.mp hd with h | h
      · exact ih _ d h
      · simp at h; omega

theorem one_le_byteLength (n : Nat) (hn : 128 ≤ n) : 1 ≤ byteLength n :=
  byteLength_pos (by omega)

/-- `encode_length_definite` yields valid length octets exactly when the value needs at most
127 base-256 digits; beyond that the first octet would be `128 + 128 = 256`, not a byte. -/
theorem encLength_valid_iff (n : Nat) : validLen (encLength n) n ↔ n < 256 ^ 127 := by
  unfold encLength
  split
  · rename_i h
    have : n < 256 ^ 127 :=
      Nat.lt_of_lt_of_le (show n < 256 ^ 1 by omega) (Nat.pow_le_pow_right (by decide) (by decide))
    simp only [this, iff_true]
    exact Or.inl ⟨rfl, by omega⟩
  · rename_i h
    have hlen : (natToBytesMin n).length = byteLength n := natToBytesN_length _ _
    rw [← byteLength_le_iff n 127]
    constructor
    · rintro (⟨h1, h2⟩ | ⟨k, ds, h1, hk1, hk2, hl, _⟩)
      · omega
      · simp only [List.cons.injEq] at h1
        obtain ⟨h1, rfl⟩ := h1
        omega
    · intro hb
      exact Or.inr ⟨byteLength n, natToBytesMin n, by simp only [hlen], one_le_byteLength n (by omega),
        hb, hlen, bytesToNat_natToBytesMin n⟩

theorem encTag_validTag (number flags : Nat) (hf : flags < 256) (hf' : flags % 32 = 0) :
    validTag (encTag number flags) := by
  unfold encTag
  split
  · exact Or.inl ⟨_, rfl, by omega, by omega⟩
  · refine Or.inr ⟨_, _, _, rfl, by omega, by omega, ?_, ?_⟩
    · intro m hm
      obtain ⟨d, hd, rfl⟩ := List.mem_map.mp hm
      have := base128_lt _ _ d (List.dropLast_subset _ hd)
      omega
    · cases hds : (base128 (bitLength number + 1) number).getLast? with
      | none => simp
      | some d =>
        have := base128_lt _ _ d (List.mem_of_getLast? hds)
        simpa using this

end Asn1.Ber
