import Asn1Proofs.Lemmas.UperDefs
/-
  The UPER round trip (`roundtrip_partial` in UperRoundtrip) is false without its hypothesis
  `t.nsOk = true`: `roundtrip_original_false`.

  The counterexample is an extensible ENUMERATED with one root item and `2^131072 + 1` additions; the
  value is the last addition (index `2^131072`).  `encNsnnwn` needs `16385` octets for that index
  and `lenDet 16385` is the fragment marker `0xc1` standing for `16384`, so the decoder reads one
  octet too few.  The witness is far too large to `#eval`; it is handled symbolically.
-/
namespace Asn1.Uper

def cxName (i : Nat) : String := String.ofList (List.replicate (i + 1) 'a')

theorem cxName_inj {i j : Nat} (h : cxName i = cxName j) : i = j := by
  have := congrArg (fun s => s.toList.length) h
  simpa [cxName] using this

def cxAdds : Nat → Nat → List (String × Int)
  | _, 0 => []
  | s, c + 1 => (cxName s, (s : Int)) :: cxAdds (s + 1) c

theorem cxName_not_mem (i s c : Nat) (h : i < s) : cxName i ∉ namesOf (cxAdds s c) := by
  induction c generalizing s with
  | zero => simp [cxAdds, namesOf]
  | succ c ih =>
    simp only [cxAdds, namesOf, List.map_cons, List.mem_cons, not_or]
    exact ⟨fun e => by have := cxName_inj e; omega, ih (s + 1) (by omega)⟩

theorem cxAdds_nodup (s c : Nat) : (namesOf (cxAdds s c)).Nodup := by
  induction c generalizing s with
  | zero => simp [cxAdds, namesOf]
  | succ c ih =>
    simp only [cxAdds, namesOf, List.map_cons, List.nodup_cons]
    exact ⟨cxName_not_mem s (s + 1) c (by omega), ih (s + 1)⟩

theorem cxAdds_nameIndex (s c i : Nat) (h1 : s ≤ i) (h2 : i < s + c) :
    nameIndex (cxName i) (cxAdds s c) = some (i - s) := by
  induction c generalizing s with
  | zero => omega
  | succ c ih =>
    simp only [cxAdds, nameIndex]
    by_cases hs : s = i
    · subst hs; simp
    · have : ¬ cxName s = cxName i := fun e => hs (cxName_inj e)
      simp only [beq_iff_eq, this, if_false]
      rw [ih (s + 1) (by omega) (by omega)]
      simp only [Option.map_some, Option.some.injEq]
      omega

theorem cxAdds_mem_name (s c i : Nat) (h1 : s ≤ i) (h2 : i < s + c) :
    cxName i ∈ namesOf (cxAdds s c) := by
  refine Decidable.of_not_not fun h => ?_
  have := nameIndex_none _ _ h
  rw [cxAdds_nameIndex s c i h1 h2] at this
  cases this

def cxTy (I : Nat) : Ty := .enumerated [(cxName 0, 0)] (some (cxAdds 1 (I + 1)))
def cxVal (I : Nat) : Val := .enum (cxName (I + 1))
def cxBits (I : Nat) : Bits := [true] ++ ([true] ++ natToBits 8 0xc1 ++ natToBits (8 * 16385) I)

theorem cx_enc (I : Nat) (hI : bitLength I = 131073) : enc (cxTy I) (cxVal I) = .ok (cxBits I) := by
  have h64 : ¬ I < 64 := by
    intro h
    have := bitLength_le_of_lt_pow (n := I) (w := 6) (by omega)
    omega
  have hk : (bitLength I + 7) / 8 = 16385 := by rw [hI]
  unfold cxTy cxVal cxBits
  rw [enc]
  have h0 : nameIndex (cxName (I + 1)) (sortByVal [(cxName 0, 0)]) = none := by
    apply nameIndex_none
    show cxName (I + 1) ∉ namesOf [(cxName 0, 0)]
    simp only [namesOf, List.map_cons, List.map_nil, List.mem_singleton]
    intro e
    have := cxName_inj e
    omega
  have h1 := cxAdds_nameIndex 1 (I + 1) (I + 1) (by omega) (by omega)
  simp only [Nat.add_sub_cancel] at h1
  simp only [h0, h1, encNsnnwn, h64, if_false, hk, lenDet_16385]

theorem cx_wf (I : Nat) : (cxTy I).wf = true := by
  unfold cxTy
  simp only [Ty.wf, Bool.and_eq_true, decide_eq_true_eq, Bool.not_eq_true']
  refine ⟨⟨rfl, ?_⟩, by simp⟩
  show (cxName 0 :: namesOf (cxAdds 1 (I + 1))).Nodup
  rw [List.nodup_cons]
  exact ⟨cxName_not_mem 0 1 _ (by omega), cxAdds_nodup _ _⟩

theorem cx_hasType (I : Nat) : hasType (cxTy I) (cxVal I) = true := by
  unfold cxTy cxVal
  simp only [hasType, Bool.or_eq_true, List.contains_iff_mem]
  exact .inr (cxAdds_mem_name 1 (I + 1) (I + 1) (by omega) (by omega))

theorem cx_dec_general (root adds : List (String × Int)) (Y Z : Bits) (n : Nat) (hlen : Y.length = n)
    (hn : n = 8 * 16384) (hz : Z.length = 8) (fuel : Nat) (w : Val) :
    dec (.enumerated root (some adds)) fuel ([true] ++ ([true] ++ natToBits 8 0xc1 ++ (Y ++ Z)) ++ []) ≠
      .ok (w, []) := by
  intro this
  rw [dec] at this
  simp only [List.append_nil, bind, Except.bind, List.cons_append, List.nil_append, readBit_cons,
    Bool.not_true, Bool.false_eq_true, if_false, decNsnnwn] at this
  have hr := readLenDet_lenDet 16385 (Y ++ Z)
  rw [lenDet_16385] at hr
  simp only at hr
  simp only [hr] at this
  have hrn := readNat_append Y Z hlen
  rw [hn] at hrn
  simp only [hrn] at this
  split at this
  · simp only [Except.ok.injEq, Prod.mk.injEq] at this
    have := congrArg List.length this.2
    simp [hz] at this
  · simp only [Except.ok.injEq, Prod.mk.injEq] at this
    have := congrArg List.length this.2
    simp [hz] at this

theorem cx_dec (I : Nat) (fuel : Nat) (w : Val) : dec (cxTy I) fuel (cxBits I ++ []) ≠ .ok (w, []) := by
  unfold cxTy cxBits
  rw [show natToBits (8 * 16385) I = _ from natToBits_add (8 * 16384) 8 I]
  exact cx_dec_general _ _ _ _ _ (natToBits_length _ _) rfl (natToBits_length _ _) fuel w

theorem roundtrip_original_false :
    ¬ (∀ (t : Ty) (v : Val) (bits rest : Bits) (fuel : Nat),
        t.wf = true → t.defaultsOk = true → hasType t v = true → fragFree t v = true →
        enc t v = .ok bits → bits.length + rest.length + 2 ≤ fuel →
        dec t fuel (bits ++ rest) = .ok (canon t v, rest)) := by
  intro hall
  -- `2 ^ 131072` stays behind a variable: nothing below may evaluate it
  obtain ⟨I, hI⟩ : ∃ I, bitLength I = 131073 := ⟨2 ^ 131072, bitLength_two_pow 131072⟩
  exact cx_dec I _ _ (hall (cxTy I) (cxVal I) (cxBits I) [] ((cxBits I).length + 2)
    (cx_wf I) rfl (cx_hasType I) rfl (cx_enc I hI) (by simp))

end Asn1.Uper

#print axioms Asn1.Uper.roundtrip_original_false
