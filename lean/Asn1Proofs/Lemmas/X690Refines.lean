import Asn1Proofs.Lemmas.X690Enc
import Asn1Proofs.Lemmas.DerCheckTypes
/-
  C03, refinement M = S for the DER encoder: on well-typed values of well-formed types, outside the
  named deviation `default-valued-component-not-elided` (`X690.elisionOk`), the code-level model
  `Der.enc` / `Der.encode` computes the X.690 distinguished encoding `X690.encV` / `X690.derEncode`.
  The link lemmas of this file (`isDefaultB_eq`, `enumValue_eq`, `encodeStr_eq`) read code = spec,
  like `REF`; those of X690Tag read spec = code.
-/
namespace Asn1.X690

/-- C03 `der_refines` for `t`, in every tagging context: on a well-typed value outside the deviation
`elisionOk` the code's DER encoder and the X.690 specification encoder give the same result (an
equation, errors included; typed values, no other side condition) -/
def REF (t : Ty) : Prop :=
  ∀ (tg : Option Nat) (v : Val), t.wf = true → hasType t v = true → elisionOk t v = true →
    Der.enc t tg v = encV t tg v

theorem isDefaultB_eq (t : Ty) (v d : Val) : Der.isDefaultB t v d = writtenLikeDefault t v d := by
  cases t <;> rfl

theorem enumValue_eq (name : String) (l : List (String × Int)) :
    Oer.enumValue name l = enumNumber name l := by
  induction l with
  | nil => rfl
  | cons x r ih =>
    obtain ⟨n, v⟩ := x
    simp only [Oer.enumValue, enumNumber, ih]

/-- on the characters of the type, the code's `str.encode` is the contents of 8.23 -/
theorem encodeStr_eq {k : StrKind} {c : SizeC} {cps : List Nat}
    (ht : hasType (.charString k c) (.str cps) = true) :
    Oer.encodeStr k cps = charContents k cps := by
  cases k
  case utf8 =>
    simp only [hasType] at ht
    simp only [Oer.encodeStr, charContents, ht, if_true]
  all_goals
    simp only [hasType, Bool.and_eq_true] at ht
    have hlt := Oer.all_lt_of_alphabet _ _ ht.1
    simp only [Oer.encodeStr, charContents, ht.1, hlt, if_true]

theorem ref_boolean : REF .boolean := by
  intro tg v hwf ht hdev
  obtain ⟨b, rfl⟩ := hasType_boolean ht
  rw [Der.enc, encV_boolean, header_eq_mkTag]
  rfl

theorem ref_null : REF .null := by
  intro tg v hwf ht hdev
  obtain rfl := hasType_null ht
  rw [Der.enc, encV_null, header_eq_mkTag]
  simp [tlv, lengthOctets, Der.univNumber]

theorem ref_integer (c : IntC) : REF (.integer c) := by
  intro tg v hwf ht hdev
  obtain ⟨i, rfl, _⟩ := hasType_integer ht
  rw [Der.enc, encV_integer, header_eq_mkTag]
  rfl

theorem ref_enumerated (root : List (String × Int)) (ext : Option (List (String × Int))) :
    REF (.enumerated root ext) := by
  intro tg v hwf ht hdev
  obtain ⟨name, rfl, _⟩ := hasType_enumerated ht
  rw [Der.enc, encV_enumerated, header_eq_mkTag, enumValue_eq]
  cases enumNumber name (root ++ ext.getD []) <;> rfl

theorem ref_octetString (c : SizeC) : REF (.octetString c) := by
  intro tg v hwf ht hdev
  obtain ⟨data, rfl, _⟩ := hasType_octetString ht
  rw [Der.enc, encV_octetString, header_eq_mkTag]
  rfl

theorem ref_bitString (c : SizeC) : REF (.bitString c) := by
  intro tg v hwf ht hdev
  obtain ⟨data, n, rfl, _⟩ := hasType_bitString ht
  rw [Der.enc, encV_bitString, header_eq_mkTag]
  rfl

theorem ref_charString (k : StrKind) (c : SizeC) : REF (.charString k c) := by
  intro tg v hwf ht hdev
  obtain ⟨cps, rfl, ht⟩ := hasType_charString ht
  rw [Der.enc, encV_charString, header_eq_mkTag, encodeStr_eq ht]
  cases charContents k cps <;> rfl

/-- `elisionOkMembers` for one member: a present DEFAULT component is written like its default exactly
when it denotes it, and the value is `elisionOk` inside -/
def elisionOkHere (name : String) (p : Presence) (t : Ty) (fs : List (String × Val)) : Bool :=
  match lookup name fs with
  | some v =>
    (match p with
     | .default d => writtenLikeDefault t v d == isDefaultValue t v d
     | _ => true) && elisionOk t v
  | none => true

theorem elisionOkMembers_cons (name : String) (p : Presence) (t : Ty) (rest : Members)
    (fs : List (String × Val)) :
    elisionOkMembers (.cons name p t rest) fs = (elisionOkHere name p t fs && elisionOkMembers rest fs) := by
  cases p <;> rw [elisionOkMembers] <;> first | rfl | (intros; contradiction)

/-- one member: `encode_member` of the code = the component encoding of the standard.  The first
hypothesis is the head conjunct of `Der.membersOk_cons`. -/
theorem encHere_refines {name : String} {p : Presence} {t : Ty} {fs : List (String × Val)}
    (href : REF t) (hwf : t.wf = true) (i : Nat) :
    (match lookup name fs with
     | some v => hasType t v
     | none => match p with | .mandatory => false | _ => true) = true →
    elisionOkHere name p t fs = true →
    Der.encHere name p t i fs = compHere name p t i fs := by
  intro hok hdev
  unfold Der.encHere compHere
  cases hl : lookup name fs with
  | none => cases p <;> rfl
  | some v =>
    simp only [elisionOkHere, hl] at hok hdev
    rw [Bool.and_eq_true] at hdev
    have he := href (some i) v hwf hok hdev.2
    cases p with
    | mandatory => exact he
    | optional => exact he
    | default d =>
      have h1 := hdev.1
      simp only [beq_iff_eq] at h1
      simp only [isDefaultB_eq, h1, he]

theorem encMembers_refines (fs : List (String × Val)) (ms : Members) :
    ms.All REF → ms.wf = true → membersOk ms fs = true → elisionOkMembers ms fs = true →
    ∀ (i : Nat), Der.encMembers ms i fs = encComponents ms i fs := by
  induction ms using Members.ind with
  | nil => intro _ _ _ _ i; rw [Der.encMembers, encComponents_nil]
  | cons name p t rest ih =>
    intro hall hwf hok hdev i
    rw [Members.wf, Bool.and_eq_true] at hwf
    rw [Der.membersOk_cons, Bool.and_eq_true] at hok
    rw [elisionOkMembers_cons, Bool.and_eq_true] at hdev
    rw [Der.encMembers_cons, encComponents_cons, ih hall.2 hwf.2 hok.2 hdev.2 (i + 1),
      encHere_refines hall.1 hwf.1 i hok.1 hdev.1]
    cases compHere name p t i fs <;> cases encComponents rest (i + 1) fs <;> rfl

theorem ref_sequence (root : Members) (ext : Bool) (adds : Members)
    (ihr : root.All REF) (iha : adds.All REF) : REF (.sequence root ext adds) := by
  intro tg v hwf ht hdev
  obtain ⟨fs, rfl, hwr, hwa, hokr, hoka⟩ := record_of_hasType hwf ht
  rw [elisionOk, Bool.and_eq_true] at hdev
  rw [Der.enc, encV_sequence,
    Der.encAdditions_eq fs adds (Members.All.of_forall Der.et_all adds) hwa hoka,
    encMembers_refines fs root ihr hwr hokr hdev.1, encMembers_refines fs adds iha hwa hoka hdev.2,
    header_eq_mkTag]
  cases encComponents root 0 fs with
  | error e => rfl
  | ok a => cases encComponents adds root.length fs <;> rfl

theorem ref_sequenceOf (e : Ty) (c : SizeC) (ih : REF e) : REF (.sequenceOf e c) := by
  intro tg v hwf ht hdev
  obtain ⟨vs, rfl, hel, -⟩ := hasType_sequenceOf ht
  rw [elisionOk, List.all_eq_true] at hdev
  have hm : vs.mapM (Der.enc e none) = vs.mapM (encV e none) :=
    Uper.mapM_congr _ _ vs (fun x hx => ih none x (wf_sequenceOf hwf) (hel x hx) (hdev x hx))
  rw [Der.enc, encV_sequenceOf, hm, header_eq_mkTag]
  cases vs.mapM (encV e none) <;> rfl

theorem elisionOkAlt_find (as : Alts) (name : String) (v : Val) :
    elisionOkAlt as name v = (match as.find name with | some x => elisionOk x.2 v | none => true) :=
  Alts.search_eq name (f := fun as => elisionOkAlt as name v) (fun _ _ _ => rfl) as

theorem ref_choice (root : Alts) (ext : Bool) (adds : Alts)
    (ihr : root.All REF) (iha : adds.All REF) : REF (.choice root ext adds) := by
  intro tg v hwf ht hdev
  obtain ⟨name, v, rfl, ht⟩ := hasType_choice ht
  obtain ⟨idx, t, sel, hwt, hty⟩ := Alts.sel_of_hasType hwf ht
  have href : REF t := sel.all ihr iha
  rw [elisionOk, Bool.and_eq_true, elisionOkAlt_find, elisionOkAlt_find] at hdev
  simp only [Der.enc]
  rw [encV_choice, encChosen, Der.encAlt_find, Der.encAlt_find, encAlternative_find, encAlternative_find]
  rcases sel with hf | ⟨hf, j, hfa, rfl⟩
  · simp only [hf, Option.map_some, Nat.zero_add] at hdev ⊢
    rw [href (some idx) v hwt hty hdev.1]
    cases tg with
    | none => rfl
    | some i =>
      simp only [explicitTag, identifier_context 0]
      cases encV t (some idx) v <;> rfl
  · simp only [hf, hfa, Option.map_some, Option.map_none] at hdev ⊢
    rw [href (some (root.length + j)) v hwt hty hdev.2]
    cases tg with
    | none => rfl
    | some i =>
      simp only [explicitTag, identifier_context 0]
      cases encV t (some (root.length + j)) v <;> rfl

theorem ref_all (t : Ty) : REF t :=
  Ty.induct ref_boolean ref_null ref_integer ref_enumerated ref_octetString ref_bitString ref_charString
    ref_sequence ref_sequenceOf ref_choice t

theorem enc_refines (t : Ty) (tg : Option Nat) (v : Val)
    (hwf : t.wf = true) (ht : hasType t v = true) (hdev : elisionOk t v = true) :
    Der.enc t tg v = encV t tg v :=
  ref_all t tg v hwf ht hdev

/-- `Specification.encode` (type checker, then the DER codec) = `derEncode` of X.690, on every
well-typed value of a well-formed type for which no deviation is reported -/
theorem der_refines (t : Ty) (v : Val)
    (hwf : t.wf = true) (ht : hasType t v = true) (hdev : deviations t v = []) :
    Der.encode t v = derEncode t v := by
  have hel : elisionOk t v = true := by
    unfold deviations at hdev
    cases h : elisionOk t v with
    | true => rfl
    | false => simp [h] at hdev
  unfold Der.encode derEncode
  rw [Der.checkTypes_of_hasType t v hwf ht, if_pos rfl]
  exact enc_refines t none v hwf ht hel

end Asn1.X690

#print axioms Asn1.X690.enc_refines
#print axioms Asn1.X690.der_refines
