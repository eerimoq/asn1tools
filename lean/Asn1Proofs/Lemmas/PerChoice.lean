import Asn1Proofs.Lemmas.PerSeqOf
/-
  Aligned PER CHOICE: what encoder and decoder do at a named alternative, totality of the encoder.
-/
namespace Asn1.Per
open Asn1.Uper (smallLen padToByte padToByte_eq)

theorem nameIdx_find (name : String) (as : Alts) :
    nameIdx name as.names = (as.find name).map (·.1) := by
  induction as using Alts.ind with
  | nil => rfl
  | cons n t rest ih =>
    simp only [Alts.names, nameIdx, Alts.find]
    split
    · rfl
    · rw [ih]
      cases rest.find name <;> rfl

theorem encAlt_find (as : Alts) (name : String) (pos : Nat) (v : Val) :
    encAlt as name pos v = (as.find name).map (fun x => enc x.2 pos v) :=
  Alts.search_map name (f := fun as => encAlt as name pos v) (fun _ _ _ => rfl) rfl as

theorem fragFreeAlt_find (as : Alts) (name : String) (v : Val) (o : Bool) :
    fragFreeAlt as name v o = (match as.find name with
      | some x => fragFree x.2 v &&
          (!o || (match enc x.2 0 v with | .ok e => smallLen ((e.length + 7) / 8) | .error _ => true))
      | none => true) :=
  Alts.search_eq name (f := fun as => fragFreeAlt as name v o) (fun _ _ _ => rfl) as

theorem decAlt_nth (as : Alts) (fuel i : Nat) (s : St) : decAlt as fuel i s =
    match as.nth i with
    | some nt => some (do let (v, r) ← dec nt.2 fuel s; .ok (.choice nt.1 v, r))
    | none => none :=
  Alts.lookup_eq (f := fun as i => decAlt as fuel i s) (fun _ => rfl) (fun _ _ _ i => by cases i <;> rfl) as i

theorem decAlt_find (as : Alts) (name : String) (j : Nat) (t : Ty) (h : as.find name = some (j, t))
    (fuel : Nat) (s : St) :
    decAlt as fuel j s = some (do let (v, r) ← dec t fuel s; .ok (.choice name v, r)) := by
  rw [decAlt_nth, Alts.nth_of_find h]

theorem decAlt_none (aD : Alts) (j : Nat) (hj : aD.length ≤ j) (fuel : Nat) (s : St) :
    decAlt aD fuel j s = none := by
  rw [decAlt_nth, Alts.nth_none hj]

theorem padToByte_length (bs : Bits) : (padToByte bs).length = 8 * ((bs.length + 7) / 8) := by
  rw [padToByte_eq, List.length_append, List.length_replicate]
  omega

theorem et_choice (root : Alts) (ext : Bool) (adds : Alts)
    (ihr : root.All ET) (iha : adds.All ET) : ET (.choice root ext adds) := by
  intro v pos hwf ht
  obtain ⟨name, w, rfl, hor⟩ := hasType_choice ht
  obtain ⟨_, _, _, _, hext⟩ := wf_choice hwf
  obtain ⟨idx, t, sel, hwt, hty⟩ := Alts.sel_of_hasType hwf hor
  have ih := sel.all ihr iha w
  unfold enc
  simp only [nameIdx_find, encAlt_find]
  rcases sel with hf | ⟨hf, j, hfa, _⟩
  · simp only [hf, Option.map_some]
    obtain ⟨body, hbody⟩ := ih
      (pos + (if ext = true then [false] else ([] : Bits)).length +
        (if root.length > 1 then
          encConstrainedInt (pos + (if ext = true then [false] else ([] : Bits)).length) 0
            ((root.length : Int) - 1) (idx : Int)
         else []).length) hwt hty
    rw [hbody]
    exact ⟨_, rfl⟩
  · have hj := Alts.find_lt hfa
    obtain ⟨body, hbody⟩ := ih 0 hwt hty
    simp only [hf, hfa, Option.map_none, hext.resolve_right (by omega), if_true, Option.map_some, hbody]
    exact ⟨_, rfl⟩

end Asn1.Per
