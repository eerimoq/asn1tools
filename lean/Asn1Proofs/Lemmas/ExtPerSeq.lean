import Asn1Proofs.Lemmas.ExtPerChoice
/-
  C07, ALIGNED PER: SEQUENCE.  An addition both sides know is decoded at the octet boundary and padded; those
  only the encoder knows are skipped by their open type length.
-/
namespace Asn1.Ext.PerX
open Asn1 Asn1.Per Asn1.Ext
open Asn1.Uper (smallLen lenDet encNsLength_small)

/-- `XT` for the root members of a SEQUENCE: `decMembers` on the encoder's preamble and the member
encodings; the preamble has one bit per omissible member of the decoder's list. -/
def XTM (mD mE : Members) : Prop :=
  ∀ (fs : List (String × Val)), mE.wf = true → mE.defaultsOk = true → mE.nsOk = true →
    dOkMembers false mD mE → membersOk mE fs = true → fragFreeMembers mE fs = true →
    skipFreeMembers mD mE fs = true →
    ∀ (pos pos' : Nat) (body rest : Bits) (fuel : Nat), pos' % 8 = pos % 8 →
      encMembers mE fs false pos = .ok body → body.length + rest.length + 2 ≤ fuel →
      decMembers mD fuel (encPreamble mE fs) ⟨pos', body ++ rest⟩ =
        .ok (viewMembers false mD mE fs true, ⟨pos' + body.length, rest⟩) ∧
        (encPreamble mE fs).length = optionalCount mD

theorem xtm_nil : XTM .nil .nil := by
  intro fs _ _ _ _ _ _ _ pos pos' body rest fuel _ hb _
  cases hb
  exact ⟨rfl, rfl⟩

theorem xtm_cons {tD tE : Ty} {mD mE : Members} (name : String) (p : Presence)
    (hc : Compat tD tE) (hx : XT tD tE) (ih : XTM mD mE) :
    XTM (.cons name p tD mD) (.cons name p tE mE) := by
  intro fs hwf hd hns hdok hok hff hsk pos pos' body rest fuel hp hb hfuel
  simp only [Members.wf, Members.defaultsOk, Members.nsOk, membersOk, fragFreeMembers,
    skipFreeMembers, Bool.and_eq_true] at hwf hd hns hok hff hsk
  simp only [dOkMembers] at hdok
  rw [encMembers_cons] at hb
  cases ha : encHere p tE (lookup name fs) false pos with
  | error e => rw [ha] at hb; cases hb
  | ok a =>
  rw [ha] at hb
  simp only at hb
  cases hb' : encMembers mE fs false (pos + a.length) with
  | error e => rw [hb'] at hb; cases hb
  | ok b =>
  rw [hb'] at hb
  cases hb
  simp only [List.length_append] at hfuel
  obtain ⟨ihd, ihl⟩ := ih fs hwf.2 hd.2 hns.2 hdok.2.2 hok.2 hff.2 hsk.2 (pos + a.length)
    (pos' + a.length) b rest fuel (mod8_add hp _) hb' (by omega)
  refine ⟨?_, by
    rw [encPreamble_length] at ihl ⊢
    rw [optionalCount_cons, optionalCount_cons, ihl]⟩
  rw [encPreamble_cons]
  have present : ∀ v, lookup name fs = some v → enc tE pos v = .ok a →
      decHere name tD mD fuel (encPreamble mE fs) ⟨pos', a ++ b ++ rest⟩ =
        .ok (viewMembers false (.cons name p tD mD) (.cons name p tE mE) fs true,
          ⟨pos' + (a ++ b).length, rest⟩) := by
    intro v hl hav
    simp only [hl] at hok hff hsk
    have := hx v pos pos' a (b ++ rest) fuel hwf.1 hd.1.2 hns.1 hdok.2.1 hok.1 hff.1 hsk.1 hp hav
      (by simp only [List.length_append]; omega)
    simp only [decHere, bind, Except.bind, List.append_assoc, this, ihd]
    rw [viewMembers_cons_cons, hl]
    simp only [List.length_append, Nat.add_assoc]
  cases hl : lookup name fs with
  | some v =>
    simp only [hl, encHere] at ha
    cases p with
    | mandatory =>
      simp only at ha ⊢
      rw [decMembers_mandatory, present v hl ha]
    | optional =>
      simp only [Option.isSome_some] at ha ⊢
      rw [decMembers_optional_true, present v hl ha]
    | default d =>
      simp only [Bool.or_false] at ha ⊢
      cases hdef : isDefault tE v d with
      | false =>
        simp only [hdef, Bool.not_false, if_true] at ha ⊢
        rw [decMembers_default_true, present v hl ha]
      | true =>
        simp only [hdef, Bool.not_true, Bool.false_eq_true, if_false] at ha ⊢
        cases ha
        have hcan := view_of_isDefault false hc v d hdok.1 hdef
        rw [decMembers_default_false, viewMembers_cons_cons, hl]
        simp only [List.length_nil, Nat.add_zero] at ihd
        simp only [List.nil_append, bind, Except.bind, ihd, hcan]
  | none =>
    simp only [hl, encHere] at ha hok
    rw [viewMembers_cons_cons, hl]
    cases p with
    | mandatory => simp at hok
    | optional =>
      simp only at ha ⊢
      cases ha
      simp only [List.length_nil, Nat.add_zero] at ihd
      simp only [Option.isSome_none]
      rw [decMembers_optional_false]
      simp only [List.nil_append, ihd]
    | default d =>
      simp only at ha ⊢
      cases ha
      simp only [List.length_nil, Nat.add_zero] at ihd
      rw [decMembers_default_false]
      simp only [List.nil_append, bind, Except.bind, ihd, if_true]

/-- `XT` for the extension additions of a SEQUENCE: `decAdditions`, started at an octet boundary, on the
presence bitmap and the open types.  The first conjunct, nothing present means the decoder sees no
addition, is for the encoder that then writes no extension bit, so that `decAdditions` never runs. -/
def XTA (aD aE : Members) : Prop :=
  ∀ (fs : List (String × Val)), aE.wf = true → aE.defaultsOk = true → aE.nsOk = true →
    dOkMembers false aD aE → membersOk aE fs = true → fragFreeMembers aE fs = true →
    skipFreeAdds aD aE fs = true →
    ∀ (present : Bits) (encs : List Bits), encAdditions aE fs = .ok (present, encs) →
    (encs = [] → viewMembers false aD aE fs false = []) ∧
    ∀ (pos' : Nat) (rest : Bits) (fuel : Nat), pos' % 8 = 0 →
      (encs.flatMap openType).length + rest.length + 2 ≤ fuel →
      decAdditions aD fuel present ⟨pos', encs.flatMap openType ++ rest⟩ =
        .ok (viewMembers false aD aE fs false, ⟨pos' + (encs.flatMap openType).length, rest⟩)

theorem skipUnknown_enc (fs : List (String × Val)) (ms : Members) :
    ms.wf = true → membersOk ms fs = true → openSmall ms fs = true →
    ∀ (present : Bits) (encs : List Bits), encAdditions ms fs = .ok (present, encs) →
    ∀ (pos' : Nat) (rest : Bits),
      skipUnknown present ⟨pos', encs.flatMap openType ++ rest⟩ =
        .ok ⟨pos' + (encs.flatMap openType).length, rest⟩ := by
  induction ms using Members.ind with
  | nil =>
    intro _ _ _ present encs henc pos' rest
    cases henc
    rfl
  | cons name p t ms ih =>
    intro hwf hok hsm present encs henc pos' rest
    simp only [Members.wf, membersOk, openSmall, Bool.and_eq_true] at hwf hok hsm
    rw [encAdditions_cons] at henc
    cases hl : lookup name fs with
    | some v =>
      simp only [hl] at hok hsm henc
      obtain ⟨e, he⟩ := et_all t v 0 hwf.1 hok.1
      rw [he] at hsm
      simp only [smallLen, decide_eq_true_eq] at hsm
      simp only [addHere, he] at henc
      cases hr : encAdditions ms fs with
      | error err => rw [hr] at henc; cases henc
      | ok pe =>
        obtain ⟨present', encs'⟩ := pe
        rw [hr] at henc
        simp only [Option.isSome_some, or_true, if_true] at henc
        cases henc
        have ih' := ih hwf.2 hok.2 hsm.2 present' encs' hr
        rw [List.flatMap_cons, skipUnknown]
        simp only [if_true, openType, Uper.padToByte_length_div, bind, Except.bind, List.append_assoc]
        rw [readLenDet_lenDet, Uper.lenDet_snd_of_lt hsm.1]
        simp only
        rw [readBits_append _ _ _ (padToByte_length e)]
        simp only
        rw [ih']
        simp only [List.length_append, padToByte_length, Except.ok.injEq]
        exact St.eq_of_pos _ (by ac_rfl)
    | none =>
      simp only [hl] at hok henc
      have hah : addHere p t none = .ok [] := by
        cases p with
        | mandatory => simp at hok
        | optional | default d => rfl
      rw [hah] at henc
      cases hr : encAdditions ms fs with
      | error err => rw [hr] at henc; cases henc
      | ok pe =>
        obtain ⟨present', encs'⟩ := pe
        rw [hr] at henc
        simp only [List.length_nil, Nat.lt_irrefl, Option.isSome_none, Bool.false_eq_true,
          or_self, if_false, Except.ok.injEq, Prod.mk.injEq] at henc
        obtain ⟨hp1, hp2⟩ := henc
        subst hp1 hp2
        rw [skipUnknown]
        simp only [Bool.false_eq_true, if_false]
        exact ih hwf.2 hok.2 hsm.2 present' encs' hr pos' rest

theorem xta_nilD (ms : Members) : XTA .nil ms := by
  intro fs hwf _ _ _ hok _ hsk present encs henc
  refine ⟨fun _ => rfl, fun pos' rest fuel _ _ => ?_⟩
  have hsm : openSmall ms fs = true := by
    cases ms <;> simpa only [skipFreeAdds] using hsk
  simp only [decAdditions, bind, Except.bind,
    skipUnknown_enc fs ms hwf hok hsm present encs henc pos' rest]
  rfl

theorem xta_nilE (ms : Members) : XTA ms .nil := by
  intro fs _ _ _ _ _ _ _ present encs henc
  cases henc
  refine ⟨fun _ => viewMembers_nilE_false _ ms fs, fun pos' rest fuel _ _ => ?_⟩
  rw [viewMembers_nilE_false]
  cases ms <;> rfl

theorem xta_cons {tD tE : Ty} {mD mE : Members} (name : String) (p : Presence)
    (hx : XT tD tE) (ih : XTA mD mE) : XTA (.cons name p tD mD) (.cons name p tE mE) := by
  intro fs hwf hd hns hdok hok hff hsk present encs henc
  simp only [Members.wf, Members.defaultsOk, Members.nsOk, membersOk, fragFreeMembers,
    skipFreeAdds, Bool.and_eq_true] at hwf hd hns hok hff hsk
  simp only [dOkMembers] at hdok
  rw [encAdditions_cons] at henc
  rw [viewMembers_cons_cons]
  cases hl : lookup name fs with
  | some v =>
    simp only [hl] at hok hff hsk henc
    obtain ⟨e, he⟩ := et_all tE v 0 hwf.1 hok.1
    simp only [addHere, he] at henc
    cases hr : encAdditions mE fs with
    | error err => rw [hr] at henc; cases henc
    | ok pe =>
      obtain ⟨present', encs'⟩ := pe
      rw [hr] at henc
      simp only [Option.isSome_some, or_true, if_true] at henc
      cases henc
      obtain ⟨ih2, ih3⟩ := ih fs hwf.2 hd.2 hns.2 hdok.2.2 hok.2 hff.2 hsk.2 present' encs' hr
      refine ⟨by simp, ?_⟩
      intro pos' rest fuel hp8 hfuel
      have hal := mod8_zero_add hp8 (lenDet_length_mod ((e.length + 7) / 8))
      rw [List.flatMap_cons, openType_eq] at hfuel ⊢
      simp only [List.length_append, List.length_replicate] at hfuel
      have hrt := hx v 0 (pos' + (lenDet ((e.length + 7) / 8)).1.length) e
        (List.replicate (8 * ((e.length + 7) / 8) - e.length) false ++
          (encs'.flatMap openType ++ rest)) fuel hwf.1 hd.1.2 hns.1 hdok.2.1 hok.1 hff.1 hsk.1
        hal he
        (by simp only [List.length_append, List.length_replicate]; omega)
      rw [decAdditions_cons_true]
      simp only [bind, Except.bind, List.append_assoc]
      rw [readLenDet_lenDet]
      simp only
      rw [hrt]
      simp only
      -- the decoder pads by what it consumed behind the length determinant, the encoder by the length
      -- of the encoding: the same number
      have hpl : padLen (pos' + (lenDet ((e.length + 7) / 8)).1.length + e.length -
          (pos' + (lenDet ((e.length + 7) / 8)).1.length)) = 8 * ((e.length + 7) / 8) - e.length := by
        rw [Nat.add_sub_cancel_left, padLen_eq]
      rw [hpl, readBits_append _ _ _ (List.length_replicate ..)]
      simp only
      rw [ih3 _ rest fuel (mod8_padded hal _) (by omega)]
      simp only [List.length_append, List.length_replicate, Except.ok.injEq, Prod.mk.injEq, true_and]
      exact St.eq_of_pos _ (by ac_rfl)
  | none =>
    simp only [hl] at hok henc
    have hah : addHere p tE none = .ok [] := by
      cases p with
      | mandatory => simp at hok
      | optional | default d => rfl
    rw [hah] at henc
    cases hr : encAdditions mE fs with
    | error err => rw [hr] at henc; cases henc
    | ok pe =>
      obtain ⟨present', encs'⟩ := pe
      rw [hr] at henc
      simp only [List.length_nil, Nat.lt_irrefl, Option.isSome_none, Bool.false_eq_true,
        or_self, if_false, Except.ok.injEq, Prod.mk.injEq] at henc
      obtain ⟨hp1, hp2⟩ := henc
      subst hp1 hp2
      obtain ⟨ih2, ih3⟩ := ih fs hwf.2 hd.2 hns.2 hdok.2.2 hok.2 hff.2 hsk.2 present' encs' hr
      cases p <;> simp only [Bool.false_eq_true, if_false] <;>
        exact ⟨ih2, fun pos' rest fuel hp8 hfuel => by
          rw [decAdditions_cons_false]; exact ih3 pos' rest fuel hp8 hfuel⟩

theorem xt_sequence {rD rE aD aE : Members} (x : Bool) (hm : XTM rD rE) (ha : XTA aD aE) :
    XT (.sequence rD x aD) (.sequence rE x aE) := by
  intro v pos pos' bits rest fuel hwf hd hns hdok ht hf hsk hp he hfuel
  obtain ⟨fs, rfl, -⟩ := hasType_sequence ht
  obtain ⟨hrwf, hawf, hnd, hext, h64⟩ := wf_sequence hwf
  rw [Ty.defaultsOk] at hd
  rw [Ty.nsOk] at hns
  rw [fragFree] at hf
  rw [skipFree] at hsk
  simp only [dOk] at hdok
  simp only [Bool.and_eq_true] at hd hns hf hsk
  obtain ⟨hokr, hoka⟩ := membersOk_of_hasType rE aE x fs hnd ht
  simp only [view]
  rw [enc_sequence] at he
  generalize hpre : encPreamble rE fs = pre at *
  cases hbody : encMembers rE fs false (pos + (if x = true then 1 else 0) + pre.length) with
  | error e => rw [hbody] at he; cases he
  | ok body =>
  rw [hbody] at he
  simp only at he
  have hm := fun q hq rest' fuel hfu => hm fs hrwf hd.1 hns.1 hdok.1 hokr hf.1 hsk.1
    (pos + (if x = true then 1 else 0) + pre.length) q body rest' fuel hq hbody hfu
  rw [hpre] at hm
  have hplen := (hm _ rfl [] (body.length + 2) (Nat.le_refl _)).2
  replace hm := fun q hq rest' hfu => (hm q hq rest' fuel hfu).1
  obtain ⟨present, encs, a0, a1⟩ := encAdditions_ok fs aE (Members.All.of_forall et_all aE) hawf hoka
  obtain ⟨a2, a3⟩ := ha fs hawf hd.2 hns.2 hdok.2 hoka hf.2 hsk.2 present encs a0
  -- no addition reaches the decoder: no extension marker, no additions, or none present
  have plain : ∀ bits : Bits, bits = (if x = true then [false] else []) ++ (pre ++ body) →
      viewMembers false aD aE fs false = [] → bits.length + rest.length + 2 ≤ fuel →
      dec (.sequence rD x aD) fuel ⟨pos', bits ++ rest⟩ =
        .ok (.record (viewMembers false rD rE fs true ++ viewMembers false aD aE fs false),
          ⟨pos' + bits.length, rest⟩) := by
    intro bits hb hc hfu
    subst hb
    rw [dec]
    have hxl : (if x = true then [false] else ([] : Bits)).length = if x = true then 1 else 0 := by
      cases x <;> rfl
    simp only [bind, Except.bind, List.append_assoc, readExt_pre]
    simp only [List.length_append, hxl] at hfu ⊢
    rw [readBits_append _ _ _ hplen]
    simp only
    rw [← hplen, hm _ (mod8_add (mod8_add hp _) _) rest (by omega)]
    simp only [hc, List.append_nil, Bool.false_eq_true, if_false, Except.ok.injEq, Prod.mk.injEq,
      true_and]
    exact St.eq_of_pos _ (by ac_rfl)
  cases x with
  | false =>
    simp only [Bool.false_eq_true, if_false, false_or] at he hext
    cases he
    obtain rfl := Members.eq_nil_of_length hext
    cases a0
    exact plain _ (by simp) (a2 rfl) hfuel
  | true =>
    simp only [if_true] at he
    split at he
    · cases he
      cases a0
      exact plain _ (by simp) (a2 rfl) hfuel
    · rename_i hnn
      rw [a0] at he
      simp only at he
      split at he
      · rename_i hemp
        cases he
        exact plain _ (by simp) (a2 (by simpa using hemp)) hfuel
      · rename_i hemp
        have hlen1 : 1 ≤ aE.length := by
          cases aE with
          | nil => exact absurd rfl (hnn)
          | cons _ _ _ _ => simp [Members.length]
        rw [encNsLength_small h64] at he
        simp only [a1, Nat.sub_self, List.replicate_zero, List.append_nil, natToBits_length] at he
        cases he
        simp only [List.length_append, List.length_cons, List.length_nil, natToBits_length,
          alignBits_length, if_true] at hfuel hm
        -- decoder and encoder agree modulo 8 behind the presence bitmap of the additions
        have hal :=
          mod8_add (mod8_add (mod8_add (mod8_add (mod8_add hp 1) pre.length) body.length) 7) aE.length
        have hdm := hm (pos' + 1 + pre.length) (mod8_add (mod8_add hp 1) _)
          (natToBits 7 (aE.length - 1) ++ (present ++
            (alignBits (pos + 1 + pre.length + body.length + 7 + aE.length) ++
              (encs.flatMap openType ++ rest))))
          (by simp only [List.length_append, natToBits_length, alignBits_length]; omega)
        rw [dec]
        simp only [List.append_assoc, bind, Except.bind, List.cons_append, List.nil_append,
          readBit_cons, if_true]
        rw [readBits_append _ _ _ hplen]
        simp only
        rw [← hplen, hdm]
        simp only []
        rw [decNsLength_enc _ _ hlen1 h64]
        simp only
        rw [readBits_append _ _ _ a1]
        simp only
        rw [align_alignBits _ _ _ hal]
        rw [a3 _ rest fuel (add_padLen_mod_of hal) (by omega)]
        simp only [List.length_cons, List.length_append, natToBits_length, alignBits_length,
          Except.ok.injEq, Prod.mk.injEq, true_and]
        exact St.eq_of_pos _ (by rw [a1]; ac_rfl)

end Asn1.Ext.PerX

#print axioms Asn1.Ext.PerX.xt_sequence
#print axioms Asn1.Ext.PerX.skipUnknown_enc
