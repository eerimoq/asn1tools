import Asn1Model.SpecDict
/-
  "Every descriptor inside this descriptor satisfies P" and its preservation by the passes that
  rewrite attributes in place.
-/
namespace Asn1.SpecDict

mutual
  def Desc.All (P : Attrs → Prop) : Desc → Prop
    | .mk a b => P a ∧ Body.All P b
  termination_by structural d => d
  def Body.All (P : Attrs → Prop) : Body → Prop
    | .leaf => True
    | .members ms => ItemsAll P ms
    | .element e => Desc.All P e
  termination_by structural b => b
  def ItemsAll (P : Attrs → Prop) : List Item → Prop
    | [] => True
    | i :: t => Item.All P i ∧ ItemsAll P t
  termination_by structural l => l
  def Item.All (P : Attrs → Prop) : Item → Prop
    | .marker => True
    | .compOf _ => True
    | .group g => DescsAll P g
    | .desc d => Desc.All P d
  termination_by structural i => i
  def DescsAll (P : Attrs → Prop) : List Desc → Prop
    | [] => True
    | d :: t => Desc.All P d ∧ DescsAll P t
  termination_by structural l => l
end

section
variable {P Q : Attrs → Prop}

mutual
  theorem Desc.All.imp (h : ∀ a, P a → Q a) (d : Desc) (hd : d.All P) : d.All Q :=
    match d, hd with
    | .mk a b, ⟨ha, hb⟩ => ⟨h a ha, Body.All.imp h b hb⟩
  theorem Body.All.imp (h : ∀ a, P a → Q a) (b : Body) (hb : b.All P) : b.All Q :=
    match b with
    | .leaf => trivial
    | .members ms => ItemsAll.imp h ms hb
    | .element e => Desc.All.imp h e hb
  theorem ItemsAll.imp (h : ∀ a, P a → Q a) (l : List Item) (hl : ItemsAll P l) : ItemsAll Q l :=
    match l, hl with
    | [], _ => trivial
    | i :: t, ⟨hi, ht⟩ => ⟨Item.All.imp h i hi, ItemsAll.imp h t ht⟩
  theorem Item.All.imp (h : ∀ a, P a → Q a) (i : Item) (hi : i.All P) : i.All Q :=
    match i with
    | .marker => trivial
    | .compOf _ => trivial
    | .group g => DescsAll.imp h g hi
    | .desc d => Desc.All.imp h d hi
  theorem DescsAll.imp (h : ∀ a, P a → Q a) (l : List Desc) (hl : DescsAll P l) : DescsAll Q l :=
    match l, hl with
    | [], _ => trivial
    | d :: t, ⟨hd, ht⟩ => ⟨Desc.All.imp h d hd, DescsAll.imp h t ht⟩
end

mutual
  theorem Desc.All.of_forall (h : ∀ a, P a) (d : Desc) : d.All P :=
    match d with
    | .mk a b => ⟨h a, Body.All.of_forall h b⟩
  theorem Body.All.of_forall (h : ∀ a, P a) (b : Body) : b.All P :=
    match b with
    | .leaf => trivial
    | .members ms => ItemsAll.of_forall h ms
    | .element e => Desc.All.of_forall h e
  theorem ItemsAll.of_forall (h : ∀ a, P a) (l : List Item) : ItemsAll P l :=
    match l with
    | [] => trivial
    | i :: t => ⟨Item.All.of_forall h i, ItemsAll.of_forall h t⟩
  theorem Item.All.of_forall (h : ∀ a, P a) (i : Item) : i.All P :=
    match i with
    | .marker => trivial
    | .compOf _ => trivial
    | .group g => DescsAll.of_forall h g
    | .desc d => Desc.All.of_forall h d
  theorem DescsAll.of_forall (h : ∀ a, P a) (l : List Desc) : DescsAll P l :=
    match l with
    | [] => trivial
    | d :: t => ⟨Desc.All.of_forall h d, DescsAll.of_forall h t⟩
end

theorem Desc.All.head {d : Desc} (h : d.All P) : P d.attrs :=
  match d, h with
  | .mk _ _, ⟨ha, _⟩ => ha

theorem ItemsAll_append {l₁ l₂ : List Item} :
    ItemsAll P (l₁ ++ l₂) ↔ ItemsAll P l₁ ∧ ItemsAll P l₂ := by
  induction l₁ with
  | nil => simp [ItemsAll]
  | cons i t ih => simp [ItemsAll, ih, and_assoc]

theorem ItemsAll_addMarker {l : List Item} (h : ItemsAll P l) : ItemsAll P (addMarker l) := by
  unfold addMarker; split
  · exact h
  · exact ItemsAll_append.2 ⟨h, trivial, trivial⟩

theorem ItemsAll_takeRoot {l : List Item} (h : ItemsAll P l) : ItemsAll P (takeRoot l) :=
  match l, h with
  | [], _ => trivial
  | .marker :: _, _ => trivial
  | .compOf _ :: _, ⟨hi, ht⟩ => ⟨hi, ItemsAll_takeRoot ht⟩
  | .group _ :: _, ⟨hi, ht⟩ => ⟨hi, ItemsAll_takeRoot ht⟩
  | .desc _ :: _, ⟨hi, ht⟩ => ⟨hi, ItemsAll_takeRoot ht⟩

/- `.ext` is the EXTENSIBILITY IMPLIED pass `extDesc`, not extensionality; likewise `.tag` below and
`.dflt` (PrepDefault) for the tag pass and the DEFAULT pass. -/
mutual
  theorem Desc.All.ext (d : Desc) (hd : d.All P) : (extDesc d).All P :=
    match d, hd with
    | .mk _ b, ⟨ha, hb⟩ => ⟨ha, Body.All.ext b hb⟩
  theorem Body.All.ext (b : Body) (hb : b.All P) : (extBody b).All P :=
    match b with
    | .leaf => trivial
    | .members ms => ItemsAll_addMarker (ItemsAll.ext ms hb)
    | .element e => Desc.All.ext e hb
  theorem ItemsAll.ext (l : List Item) (hl : ItemsAll P l) : ItemsAll P (extItems l) :=
    match l, hl with
    | [], _ => trivial
    | i :: t, ⟨hi, ht⟩ => ⟨Item.All.ext i hi, ItemsAll.ext t ht⟩
  theorem Item.All.ext (i : Item) (hi : i.All P) : (extItem i).All P :=
    match i with
    | .marker => trivial
    | .compOf _ => trivial
    | .group g => DescsAll.ext g hi
    | .desc d => Desc.All.ext d hi
  theorem DescsAll.ext (l : List Desc) (hl : DescsAll P l) : DescsAll P (extDescs l) :=
    match l, hl with
    | [], _ => trivial
    | d :: t, ⟨hd, ht⟩ => ⟨Desc.All.ext d hd, DescsAll.ext t ht⟩
end

section
variable (sk : Skel) (mt mn : String)
  (hP : ∀ a k, P a → P (kindAttrs sk mt mn (numAttrs k a)))
include hP

mutual
  theorem Desc.All.tag (k : Option Nat) (d : Desc) (hd : d.All P) :
      (tagDesc sk mt mn k d).All P :=
    match d, hd with
    | .mk a b, ⟨ha, hb⟩ => ⟨hP a k ha, Body.All.tag b hb⟩
  theorem Body.All.tag (b : Body) (hb : b.All P) : (tagBody sk mt mn b).All P :=
    match b with
    | .leaf => trivial
    | .members ms => ItemsAll.tag _ ms hb
    | .element e => Desc.All.tag none e hb
  theorem ItemsAll.tag (k : Option Nat) (l : List Item) (hl : ItemsAll P l) :
      ItemsAll P (tagItems sk mt mn k l) :=
    match l, hl with
    | [], _ => trivial
    | .marker :: t, ⟨_, ht⟩ => ⟨trivial, ItemsAll.tag k t ht⟩
    | .compOf _ :: t, ⟨_, ht⟩ => ⟨trivial, ItemsAll.tag k t ht⟩
    | .group g :: t, ⟨hg, ht⟩ => ⟨DescsAll.tag k g hg, ItemsAll.tag _ t ht⟩
    | .desc d :: t, ⟨hd, ht⟩ => ⟨Desc.All.tag k d hd, ItemsAll.tag _ t ht⟩
  theorem DescsAll.tag (k : Option Nat) (l : List Desc) (hl : DescsAll P l) :
      DescsAll P (tagDescs sk mt mn k l) :=
    match l, hl with
    | [], _ => trivial
    | d :: t, ⟨hd, ht⟩ => ⟨Desc.All.tag k d hd, DescsAll.tag _ t ht⟩
end
end

end

end Asn1.SpecDict
