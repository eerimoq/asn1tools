import Asn1Proofs.Lemmas.PerChunks
/-
  The fragmentation-free predicate of the aligned PER code model (`fragFree`, a hypothesis of the
  theorems of C01p and C07p) and the statements proved per type: `RT` (round trip) and `ET` (the
  encoder is total).
-/
namespace Asn1.Per
open Asn1.Uper (smallLen inSize)

mutual
  /-- no length determinant that the aligned PER code writes *without* fragmentation
  (`append_length_determinant` called directly) and that its decoder actually uses reaches 16384:
  the octet count of an unconstrained INTEGER, the length of an extensible OCTET STRING /
  SEQUENCE OF outside the root, the open type of a CHOICE addition.  (The open type length of a
  SEQUENCE addition is ignored by the decoder, so no condition is needed there.) -/
  def fragFree : Ty → Val → Bool
    | .integer c, .int i =>
      (match c.lo, c.hi with
       | some lo, some hi => (decide (lo ≤ i) && decide (i ≤ hi)) || smallLen (intByteLength i)
       | _, _ => smallLen (intByteLength i))
    | .octetString c, .bytes bs => !c.ext || inSize c bs.length || smallLen bs.length
    | .sequence root _ adds, .record fs => fragFreeMembers root fs && fragFreeMembers adds fs
    | .sequenceOf e c, .list vs =>
      vs.all (fragFree e) && (!c.ext || inSize c vs.length || smallLen vs.length)
    | .choice root _ adds, .choice n v => fragFreeAlt root n v false && fragFreeAlt adds n v true
    | _, _ => true
  def fragFreeMembers : Members → List (String × Val) → Bool
    | .nil, _ => true
    | .cons name _ t rest, fs =>
      (match lookup name fs with
       | some v => fragFree t v
       | none => true) && fragFreeMembers rest fs
  -- `openType`: the alternatives are extension additions, which are written as open types
  def fragFreeAlt : Alts → String → Val → Bool → Bool
    | .nil, _, _, _ => true
    | .cons n t rest, name, v, openType =>
      if n == name then
        fragFree t v &&
          (!openType || (match enc t 0 v with
            | .ok e => smallLen ((e.length + 7) / 8)
            | .error _ => true))
      else fragFreeAlt rest name v openType
end

/-- `Uper.RT` with positions: the encoder ran at `pos`, the decoder runs at any `pos'` that agrees
with `pos` modulo 8 and reports the position behind the encoding.  For `fuel` and its margin `+ 2`
see `Uper.RT` (`Per.decode` runs with `8 * bs.length + 2` as well). -/
def RT (t : Ty) : Prop :=
  ∀ (v : Val) (pos pos' : Nat) (bits rest : Bits) (fuel : Nat),
    t.wf = true → t.defaultsOk = true → t.nsOk = true → hasType t v = true → fragFree t v = true →
    pos' % 8 = pos % 8 → enc t pos v = .ok bits → bits.length + rest.length + 2 ≤ fuel →
    dec t fuel ⟨pos', bits ++ rest⟩ = .ok (canon t v, ⟨pos' + bits.length, rest⟩)

def ET (t : Ty) : Prop :=
  ∀ (v : Val) (pos : Nat), t.wf = true → hasType t v = true → ∃ bits, enc t pos v = .ok bits

end Asn1.Per
