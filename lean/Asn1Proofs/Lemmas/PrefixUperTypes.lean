import Asn1Proofs.Lemmas.PrefixUper
import Asn1Proofs.Lemmas.UperComp
import Asn1Proofs.Lemmas.TyInduct
/-
  The UPER decoder on a cut input (`pt_all`): no hypothesis on the type, only enough fuel for the prefix.
  With something cut off the decoder is prefix deterministic (`dec_prefix`, `dec_cut`: C16); with nothing
  cut off its outcome does not depend on the fuel (`dec_fuel`: C08).
-/
namespace Asn1.Uper
variable {x : Bits} {B : Prop}

/-- the decoder of `t` on a cut input: the run on the prefix may use any fuel `f'` larger than the prefix;
errors of the run on the whole input are claimed when its fuel `f` exceeds the whole input -/
def PT (x : Bits) (t : Ty) : Prop :=
  ∀ (f f' N : Nat), N < f' → PF x (N + x.length < f) N (dec t f) (dec t f')

theorem pt_boolean : PT x .boolean :=
  fun _ _ _ _ q _ => .bind (pf_readBit q) fun _ _ _ _ => .pure trivial

theorem pt_null : PT x .null :=
  fun _ _ _ _ _ _ => .pure trivial

theorem pt_integer (c : IntC) : PT x (.integer c) := by
  intro f f' N hf q hN
  obtain ⟨lo, hi, e⟩ := c
  cases lo <;> cases hi
  case some.some lo hi =>
    refine .ite (fun _ => ?_) fun _ => .bind (pf_readNat _ q) fun i r2 _ _ => .pure trivial
    refine .bind (pf_readBit q) fun b r1 _ _ => ?_
    exact .ite (fun _ => .bind (pf_decUnconstrained r1) fun i r2 _ _ => .pure trivial)
      fun _ => .bind (pf_readNat _ r1) fun i r2 _ _ => .pure trivial
  all_goals
    refine .ite (fun _ => ?_) fun _ => .bind (pf_decUnconstrained q) fun i r2 _ _ => .pure trivial
    refine .bind (pf_readBit q) fun b r1 _ _ => ?_
    exact .bind (pf_decUnconstrained r1) fun i r2 _ _ => .pure trivial

theorem pt_enumerated (root : List (String × Int)) (ext : Option (List (String × Int))) :
    PT x (.enumerated root ext) := by
  intro f f' N hf q hN
  have hroot : Mono x (N + x.length < f) (fun bs => do
      let (i, r) ← readNat (bitLength ((sortByVal root).length - 1)) bs
      match (sortByVal root)[i]? with
      | some (n, _) => .ok (.enum n, r)
      | none => .error .decodeError : Bits → DecM (Val × Bits)) := by
    intro q
    refine .bind (pf_readNat _ q) fun i r1 _ _ => ?_
    dsimp only
    split
    · exact .pure trivial
    · exact .error
  cases ext with
  | none => exact hroot q
  | some adds =>
    refine .bind (pf_readBit q) fun b r1 _ _ => ?_
    refine .ite (fun _ => hroot r1) fun _ => ?_
    refine .bind (pf_decNsnnwn r1) fun i r2 _ _ => ?_
    dsimp only
    split <;> exact .pure trivial

theorem pt_octetString (c : SizeC) : PT x (.octetString c) := by
  intro f f' N hf q hN
  refine .bind (pf_optBit c.ext q) fun ext r0 hl0 _ => ?_
  refine .ite (fun _ => ?_) fun _ => ?_
  · refine .bind (pf_readLenDet r0) fun len r1 _ _ => ?_
    exact .bind (pf_readBits _ r1) fun body r2 _ _ => .pure trivial
  · dsimp only
    split
    · exact .bind (pf_decChunks f f' N (fun q _ => pf_readNat 8 q) hf id r0 (by omega))
        fun xs r1 _ _ => .pure trivial
    · refine .bind (pf_readSize c _ r0) fun len r1 _ _ => ?_
      exact .bind (pf_readBits _ r1) fun body r2 _ _ => .pure trivial

theorem pt_bitString (c : SizeC) : PT x (.bitString c) := by
  intro f f' N hf q hN
  refine .bind (pf_optBit c.ext q) fun ext r0 hl0 _ => ?_
  refine .ite (fun _ => .error) fun _ => ?_
  dsimp only
  split
  · exact .bind (pf_decChunks f f' N (fun q _ => pf_readBit q) hf id r0 (by omega))
      fun xs r1 _ _ => .pure trivial
  · refine .bind (pf_readSize c _ r0) fun len r1 _ _ => ?_
    exact .bind (pf_readBits _ r1) fun body r2 _ _ => .pure trivial

theorem pf_oneChar (k : StrKind) : Mono x B (oneChar k) :=
  fun q => .bind (pf_readNat _ q) fun _ _ _ _ => .bind_val fun _ => .pure trivial

theorem pt_utf8 (c : SizeC) : PT x (.charString .utf8 c) := by
  intro f f' N hf q hN
  refine .bind (pf_decChunks f f' N (fun q _ => pf_readNat 8 q) hf id q hN) fun xs r1 _ _ => ?_
  dsimp only
  split
  · exact .pure trivial
  · exact .error

theorem pt_charString (k : StrKind) (hk : k ≠ .utf8) (c : SizeC) : PT x (.charString k c) := by
  intro f f' N hf q hN
  refine .of_eq (dec_charString k hk c f _) (dec_charString k hk c f' _) ?_
  refine .bind (pf_optBit c.ext q) fun ext r0 hl0 _ => ?_
  refine .ite (fun _ => .error) fun _ => ?_
  generalize sizeBits c = w
  cases w
  · exact .bind (pf_decChunks f f' N (fun q _ => pf_oneChar k q) hf id r0 (by omega))
      fun xs r1 _ _ => .pure trivial
  · refine .bind (pf_readSize c _ r0) fun len r1 hl1 _ => ?_
    exact .bind (pf_decRepeat (fun q _ => pf_oneChar k q) len r1 (by omega)) fun body r2 _ _ => .pure trivial

theorem pt_sequenceOf (e : Ty) (c : SizeC) (ih : PT x e) : PT x (.sequenceOf e c) := by
  intro f f' N hf q hN
  refine .bind (pf_optBit c.ext q) fun ext r0 hl0 _ => ?_
  refine .ite (fun _ => ?_) fun _ => ?_
  · refine .bind (pf_readLenDet r0) fun len r1 hl1 _ => ?_
    exact .bind (pf_decRepeat (ih f f' N hf) len r1 (by omega)) fun xs r2 _ _ => .pure trivial
  · dsimp only
    split
    · exact .bind (pf_decChunks f f' N (ih f f' N hf) hf id r0 (by omega)) fun xs r1 _ _ => .pure trivial
    · refine .bind (pf_readSize c _ r0) fun len r1 hl1 _ => ?_
      exact .bind (pf_decRepeat (ih f f' N hf) len r1 (by omega)) fun xs r2 _ _ => .pure trivial

theorem pf_decMembers (ms : Members) : ms.All (PT x) → ∀ (f f' N : Nat), N < f' → ∀ flags,
    PF x (N + x.length < f) N (decMembers ms f flags) (decMembers ms f' flags) := by
  induction ms using Members.ind with
  | nil => exact fun _ _ _ _ _ _ _ _ => .pure trivial
  | cons name p t rest ih =>
    intro ⟨ht, hrest⟩ f f' N hf flags q hN
    -- a member that is present is decoded like a mandatory one
    have present : ∀ fl, CutL x (N + x.length < f) q.length (decMembers (.cons name .mandatory t rest) f fl (q ++ x))
        (decMembers (.cons name .mandatory t rest) f' fl q) := fun fl =>
      .bind (ht f f' N hf q hN) fun v r1 hl _ =>
        .bind (ih hrest f f' N hf fl r1 (by omega)) fun fs r2 _ _ => .pure trivial
    cases p with
    | mandatory => exact present flags
    | optional =>
      rcases flags with _ | ⟨_ | _, fl⟩
      · exact .error
      · exact ih hrest f f' N hf fl q hN
      · exact present fl
    | default d =>
      rcases flags with _ | ⟨_ | _, fl⟩
      · exact .error
      · exact .bind (ih hrest f f' N hf fl q hN) fun fs r1 _ _ => .pure trivial
      · exact present fl

theorem pf_decAdditions (ms : Members) : ms.All (PT x) → ∀ (f f' N : Nat), N < f' → ∀ bitmap,
    PF x (N + x.length < f) N (decAdditions ms f bitmap) (decAdditions ms f' bitmap) := by
  induction ms using Members.ind with
  | nil =>
    exact fun _ _ _ _ _ bitmap q _ => .bind_stateFirst (pf_skipUnknown bitmap q) fun r1 _ _ => .pure trivial
  | cons name p t rest ih =>
    intro ⟨ht, hrest⟩ f f' N hf bitmap q hN
    rcases bitmap with _ | ⟨present, bitmap⟩
    · exact .pure trivial
    · refine .ite (fun _ => ?_) fun _ => ih hrest f f' N hf bitmap q hN
      refine .bind (pf_readLenDet q) fun len r1 hl1 _ => ?_
      refine .bind (ht f f' N hf r1 (by omega)) fun v r2 hl2 _ => ?_
      refine .bind_stateFirst (pf_skipPad r1 r2) fun r3 hl3 _ => ?_
      exact .bind (ih hrest f f' N hf bitmap r3 (by omega)) fun fs r4 _ _ => .pure trivial

theorem pt_sequence (root : Members) (ext : Bool) (adds : Members)
    (ihr : root.All (PT x)) (iha : adds.All (PT x)) : PT x (.sequence root ext adds) := by
  intro f f' N hf q hN
  refine .bind (pf_optBit ext q) fun e r0 hl0 _ => ?_
  refine .bind (pf_readBits _ r0) fun flags r1 hl1 _ => ?_
  refine .bind (pf_decMembers root ihr f f' N hf flags r1 (by omega)) fun fields r2 hl2 _ => ?_
  refine .ite (fun _ => ?_) fun _ => .pure trivial
  refine .bind (pf_decNsLength r2) fun n r3 hl3 _ => ?_
  refine .bind (pf_readBits _ r3) fun bitmap r4 hl4 _ => ?_
  exact .bind (pf_decAdditions adds iha f f' N hf bitmap r4 (by omega)) fun more r5 _ _ => .pure trivial

theorem pt_choice (root : Alts) (ext : Bool) (adds : Alts)
    (ihr : root.All (PT x)) (iha : adds.All (PT x)) : PT x (.choice root ext adds) := by
  intro f f' N hf q hN
  refine .bind (pf_optBit ext q) fun e r0 hl0 _ => ?_
  refine .ite (fun _ => ?_) fun _ => ?_
  · refine .bind (pf_decNsnnwn r0) fun idx r1 hl1 _ => ?_
    refine .bind (pf_readLenDet r1) fun len r2 hl2 _ => ?_
    dsimp only
    rw [decAlt_nth, decAlt_nth]
    cases e : adds.nth idx with
    | none => exact .bind (pf_readBits _ r2) fun body r3 _ _ => .pure trivial
    | some nt =>
      refine .bind (.bind (iha.nth e f f' N hf r2 (by omega)) fun v r _ _ => .pure trivial) fun v r3 hl3 _ => ?_
      -- an alternative that read beyond its open type is rejected, on the prefix as well: what it
      -- consumed is the same on both sides
      simp only [List.length_append, Nat.add_sub_add_right]
      refine .ite (fun _ => .error) fun _ => ?_
      exact .bind (pf_readBits _ r3) fun body r4 _ _ => .pure trivial
  · refine .bind (?_ : CutL x _ r0.length _ _) fun idx r1 hl1 _ => ?_
    · exact .ite (fun _ => pf_readNat _ r0) fun _ => .pure trivial
    dsimp only
    rw [decAlt_nth, decAlt_nth]
    cases e : root.nth idx with
    | none => exact .error
    | some nt => exact .bind (ihr.nth e f f' N hf r1 (by omega)) fun v r _ _ => .pure trivial

theorem pt_all (t : Ty) : PT x t :=
  Ty.induct pt_boolean pt_null pt_integer pt_enumerated pt_octetString pt_bitString
    (fun k c => if hk : k = .utf8 then hk ▸ pt_utf8 c else pt_charString k hk c) pt_sequence pt_sequenceOf pt_choice t

theorem dec_prefix (t : Ty) (f f' : Nat) (q x : Bits) (a : Val) (r : Bits) (hf : q.length < f')
    (h : dec t f (q ++ x) = .ok (a, r)) :
    (∃ r', dec t f' q = .ok (a, r') ∧ r = r' ++ x) ∨ dec t f' q = .error .decodeError :=
  ((pt_all t f f' q.length hf q (Nat.le_refl _)).value h).imp (fun ⟨r', h1, h2, _⟩ => ⟨r', h1, h2⟩) And.right

theorem dec_cut (t : Ty) (f f' : Nat) (q x : Bits) (a : Val) (r : Bits) (hf : q.length < f')
    (h : dec t f (q ++ x) = .ok (a, r)) (hr : r.length < x.length) :
    dec t f' q = .error .decodeError := by
  rcases dec_prefix t f f' q x a r hf h with ⟨r', _, h2⟩ | h1
  · rw [h2, List.length_append] at hr; omega
  · exact h1

theorem dec_fuel (t : Ty) (f f' : Nat) (bs : Bits) (hf : bs.length < f) (hf' : bs.length < f') :
    dec t f bs = dec t f' bs := by
  have := pt_all (x := []) t f f' bs.length hf' bs (Nat.le_refl _)
  rw [List.append_nil] at this
  exact (CutL.eq_nil this (by simpa using hf)).symm

/-- `8 * bs.length + 2` is the fuel of `Uper.decode`: it is never exhausted -/
theorem decode_fuel (t : Ty) (bs : Bytes) (f : Nat) (hf : 8 * bs.length + 2 ≤ f) :
    dec t f (bytesToBits bs) = dec t (8 * bs.length + 2) (bytesToBits bs) :=
  dec_fuel t _ _ _ (by rw [bytesToBits_length]; omega) (by rw [bytesToBits_length]; omega)

theorem dec_ni (t : Ty) (f : Nat) (bs : Bits) (a : Val) (r : Bits) (h : dec t f bs = .ok (a, r)) :
    r.length ≤ bs.length := by
  have := pt_all (x := []) t f (max f (bs.length + 1)) bs.length (by omega) bs (Nat.le_refl _)
  rw [List.append_nil] at this
  rcases this.value h with ⟨s', _, h2, h3, _⟩ | ⟨h1, _⟩
  · rw [h2, List.append_nil]; exact h3
  · exact absurd rfl h1

end Asn1.Uper
