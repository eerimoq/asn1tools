import Asn1Proofs.Lemmas.DerTag
import Asn1Model.X690
/-
  C03 / C04: the identifier and length octets of the S-level X.690 model (`X690.identifier`,
  `X690.lengthOctets`, `X690.header`) are the ones the code model writes (`Ber.encTag` via
  `Der.mkTag`, `Ber.encLength`).  Every equation here reads spec = code.
-/
namespace Asn1.X690
open Asn1.Der (mkTag tagOf univNumber isConstructed)

theorem digits128_eq_base128 (f n : Nat) : digits128 f n = Ber.base128 f n := by
  induction f generalizing n with
  | zero => rfl
  | succ f ih => simp only [digits128, Ber.base128, ih]

theorem base128_fuel (f g n : Nat) (hf : n < 128 ^ (f + 1)) (hg : n < 128 ^ (g + 1)) :
    Ber.base128 (f + 1) n = Ber.base128 (g + 1) n := by
  induction f generalizing g n with
  | zero =>
    have : n < 128 := by simpa using hf
    simp [Ber.base128, this]
  | succ f ih =>
    unfold Ber.base128
    split
    · rfl
    · rename_i hn
      cases g with
      | zero => exact absurd (by simpa using hg) hn
      | succ g =>
        rw [ih g (n / 128) (by rw [Nat.pow_succ] at hf; omega) (by rw [Nat.pow_succ] at hg; omega)]

theorem lt_pow128_succ (n : Nat) : n < 128 ^ (n + 1) := by
  have h1 : n < 2 ^ n := Nat.lt_two_pow_self
  have h2 : 2 ^ n ≤ 128 ^ n := Nat.pow_le_pow_left (by decide) n
  have h3 : 128 ^ n ≤ 128 ^ (n + 1) := Nat.pow_le_pow_right (by decide) (by omega)
  omega

theorem subsequentOctets_concat (xs : Bytes) (y : Nat) :
    subsequentOctets (xs ++ [y]) = xs.map (· + 0x80) ++ [y] := by
  induction xs with
  | nil => rfl
  | cons x r ih =>
    cases r with
    | nil => rfl
    | cons x' r' =>
      simp only [List.cons_append, subsequentOctets, List.map_cons] at ih ⊢
      rw [ih]

/-- 8.1.2 as written here = `encode_tag` of the code -/
theorem identifier_eq_encTag (cls : TagClass) (c : Bool) (n : Nat) :
    identifier cls c n = Ber.encTag n (cls.bits + (if c then 0x20 else 0)) := by
  unfold identifier
  simp only []
  by_cases h : n < 31
  · rw [if_pos h, Der.encTag_short_der _ _ h]
  · rw [if_neg h]
    obtain ⟨xs, y, hxy, _, _, _, he⟩ := Der.encTag_long_der n (cls.bits + (if c then 0x20 else 0)) h
    rw [he, digits128_eq_base128,
      base128_fuel n (bitLength n) n (lt_pow128_succ n) (lt_pow128 n), hxy, subsequentOctets_concat]

/-- under a context tag `mkTag` ignores the universal number: `u` is free, callers pass whatever
number the other side of their equation has (often `0`) -/
theorem identifier_context (u : Nat) (c : Bool) (i : Nat) : identifier .context c i = mkTag u c (some i) := by
  rw [identifier_eq_encTag]; rfl

theorem identifier_universal (u : Nat) (c : Bool) : identifier .universal c u = mkTag u c none := by
  rw [identifier_eq_encTag]
  cases c <;> simp [mkTag, TagClass.bits]

theorem universalTag_eq (t : Ty) : universalTag t = univNumber t := by
  cases t with
  | charString k c => cases k <;> rfl
  | _ => rfl

theorem derConstructed_eq (t : Ty) : derConstructed t = isConstructed t := by
  cases t <;> rfl

theorem header_eq_mkTag (t : Ty) (tg : Option Nat) (c : Bool) : header t tg c = mkTag (univNumber t) c tg := by
  cases tg with
  | none => simp only [header]; rw [universalTag_eq, identifier_universal]
  | some i => simp only [header]; rw [identifier_context (univNumber t)]

theorem header_eq_tagOf (t : Ty) (tg : Option Nat) : header t tg (derConstructed t) = tagOf t tg := by
  rw [header_eq_mkTag, derConstructed_eq]; rfl

theorem lengthOctets_eq (n : Nat) : lengthOctets n = Ber.encLength n := rfl

theorem tlv_eq_der (ident contents : Bytes) : tlv ident contents = Der.tlv ident contents := rfl

end Asn1.X690
