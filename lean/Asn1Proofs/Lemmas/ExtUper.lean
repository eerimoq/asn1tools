import Asn1Proofs.Lemmas.ExtView
import Asn1Proofs.Lemmas.ExtLemmas
import Asn1Proofs.Lemmas.UperSeq
/-
  C07, UPER, by induction on `Compat tD tE`.  Additions the decoder does not know are skipped by exactly their
  open-type length; ENUMERATED goes by position in the additions (`Ext.EnumAdds`, `xt_enum_gen`).
-/
namespace Asn1.Ext.UperX
open Asn1 Asn1.Uper Asn1.Ext

/-- the UPER decoder for `tD`, run on an encoding under `tE` followed by any bits `rest`, returns what `tD`
sees of the value (`view`) and exactly `rest`, under the side conditions of the UPER round trip for `tE` and
the value -/
def XT (tD tE : Ty) : Prop :=
  ∀ (v : Val) (bits rest : Bits) (fuel : Nat),
    tE.wf = true → tE.defaultsOk = true → tE.nsOk = true → dOk false tD tE →
    hasType tE v = true → fragFree tE v = true →
    enc tE v = .ok bits → bits.length + rest.length + 2 ≤ fuel →
    dec tD fuel (bits ++ rest) = .ok (view false tD tE v, rest)

theorem xt_same {t : Ty} (hrt : RT t) : XT t t := by
  intro v bits rest fuel hwf hd hns _ ht hf he hfuel
  rw [view_self false hwf ht, canonG_false]
  exact hrt v bits rest fuel hwf hd hns ht hf he hfuel

theorem xt_enum_gen (root aD aE : List (String × Int)) (hrel : EnumAdds aD aE) :
    XT (.enumerated root (some aD)) (.enumerated root (some aE)) := by
  intro v bits rest fuel hwf _ hns _ ht hf he _
  obtain ⟨name, rfl, ht⟩ := hasType_enumerated ht
  rw [enc] at he
  rw [dec]
  simp only at he ⊢
  split at he
  · rename_i i hi
    cases he
    obtain ⟨h1, x, h2⟩ := nameIndex_spec _ _ _ hi
    have hmem : name ∈ namesOf root := (mem_namesOf_sortByVal _ _).1 (mem_namesOf_of_getElem? h2)
    rw [view_enum_known false _ (by simp [hasType, hmem])]
    simp only [bind, Except.bind, List.cons_append, List.nil_append, readBit_cons,
      Bool.not_false, if_true]
    rw [readNat_natToBits _ (lt_two_pow_bitLength_of_le (by omega))]
    simp only [h2]
  · rename_i hroot
    have hnr : name ∉ namesOf root := fun hm =>
      (nameIndex_eq_none_iff _ _).1 hroot ((mem_namesOf_sortByVal _ _).2 hm)
    split at he
    · rename_i i hi
      cases he
      obtain ⟨h1, x, h2⟩ := nameIndex_spec _ _ _ hi
      simp only [Ty.nsOk] at hns
      simp only [bind, Except.bind, List.cons_append, List.nil_append, readBit_cons,
        Bool.not_true, Bool.false_eq_true, if_false]
      rw [decNsnnwn_enc i rest (nsIndexOk_lt hns h1)]
      rcases hrel name i hi with ⟨y, hy⟩ | ⟨hy, hnot⟩
      · simp only [hy]
        have hm := mem_namesOf_of_getElem? hy
        simp only [view]
        rw [if_pos (by simp [hm])]
      · simp only [hy]
        simp only [view]
        rw [if_neg (by simp [hnr, hnot])]
    · cases he

theorem xt_enumeratedD (root adds new : List (String × Int)) :
    XT (.enumerated root (some adds)) (.enumerated root (some (adds ++ new))) :=
  xt_enum_gen _ _ _ (enumAddsD adds new)

theorem xt_enumeratedE (root adds new : List (String × Int)) :
    XT (.enumerated root (some (adds ++ new))) (.enumerated root (some adds)) :=
  xt_enum_gen _ _ _ (enumAddsE adds new)

theorem xt_sequenceOf {eD eE : Ty} (c : SizeC) (ih : XT eD eE) : XT (.sequenceOf eD c) (.sequenceOf eE c) := by
  intro v bits rest fuel hwf hd hns hdok ht hf he hfuel
  obtain ⟨vs, rfl, hall, hsz⟩ := hasType_sequenceOf ht
  rw [view]
  simp only [dOk] at hdok
  rw [Ty.wf] at hwf
  rw [Ty.defaultsOk] at hd
  rw [Ty.nsOk] at hns
  rw [fragFree] at hf
  simp only [Bool.or_eq_true, sizeOk_eq_inSize] at hsz
  simp only [Bool.and_eq_true] at hwf
  simp only [Bool.and_eq_true, List.all_eq_true] at hf
  obtain ⟨hewf, hcwf⟩ := hwf
  obtain ⟨hfall, hfsz⟩ := hf
  rw [enc] at he
  rw [dec]
  split at he
  · cases he
  rename_i items hitems
  have hall2 : ∀ vs items, All2 (fun v item => enc eE v = .ok item) vs items →
      (∀ v ∈ vs, hasType eE v = true) → (∀ v ∈ vs, fragFree eE v = true) →
      All2 (ItemRT (dec eD fuel) (fuel - 2)) items (vs.map (view false eD eE)) := by
    intro vs items h
    induction h with
    | nil => intros; exact .nil
    | @cons v item vs items hx _ ih2 =>
      intro h1 h2
      refine .cons ?_ (ih2 (fun x hx => h1 x (List.mem_cons_of_mem _ hx))
        (fun x hx => h2 x (List.mem_cons_of_mem _ hx)))
      intro rest' hr
      exact ih v item rest' fuel hewf hd hns hdok (h1 v (List.mem_cons_self ..))
        (h2 v (List.mem_cons_self ..)) hx (by omega)
  have hitems := all2_of_mapM _ _ _ hitems
  have hall2 := hall2 vs items hitems hall hfall
  have hlen : items.length = vs.length := (All2.length_eq hitems).symm
  -- the three bodies of `rt_sized`: outside the root, unbounded (fragments), size field
  refine rt_sized hcwf hsz ?_ ?_ ?_ he
  · intro hext hin hout
    cases hout
    refine ⟨(lenDet vs.length).1 ++ items.flatten, rfl, ?_⟩
    have hs : vs.length < 16384 := by
      simpa [hext, hin, smallLen] using hfsz
    simp only [List.length_append, List.length_cons] at hfuel
    simp only [ok_bind, List.append_assoc, readLenDet_lenDet, lenDet_snd_of_lt hs]
    rw [← hlen, decRepeat_flatten _ (fuel - 2) _ _ hall2 rest (by omega)]
    rfl
  · intro hl
    simp only [decChunks_encChunked _ (fuel - 2) _ _ hall2 rest (by omega) fuel (by omega), ok_bind]
  · intro hl
    simp only [← hlen, decRepeat_flatten _ (fuel - 2) _ _ hall2 rest (by omega), ok_bind]

theorem xt_choice {rD rE aD aE : Alts} (x : Bool)
    (ihr : PairA XT rD rE) (hlenr : rD.length = rE.length) (iha : PairA XT aD aE) : XT (.choice rD x aD) (.choice rE x aE) := by
  intro v bits rest fuel hwf hd hns hdok ht hf he hfuel
  obtain ⟨name, w, idx, t, rfl, hwt, hty, sel⟩ := alt_of_hasType hwf ht
  obtain ⟨hrwf, hawf, _, _, hext⟩ := wf_choice hwf
  have hdt := sel.all (Alts.all_defaultsOk rE (by rw [Ty.defaultsOk, Bool.and_eq_true] at hd; exact hd.1))
    (Alts.all_defaultsOk aE (by rw [Ty.defaultsOk, Bool.and_eq_true] at hd; exact hd.2))
  simp only [Ty.nsOk, Bool.and_eq_true] at hns
  have hnt := sel.all (Alts.all_nsOk rE hns.1.1) (Alts.all_nsOk aE hns.1.2)
  simp only [fragFree, Bool.and_eq_true, fragFreeAlt_find] at hf
  rw [enc, encAlt_find, encAlt_find] at he
  rw [dec]
  simp only [dOk] at hdok
  simp only [view]
  rcases sel with hfr | ⟨hfr, j, hfa, rfl⟩
  · have hj := Alts.find_lt hfr
    obtain ⟨tD, hfD, hx, hdk, hview⟩ :=
      (pairA_find false name w rE rD ihr hdok.1 idx t hfr).resolve_right (fun h => by omega)
    simp only [hfr, Option.map_some, Nat.zero_add, Bool.not_false, Bool.true_or, Bool.and_true] at hf he
    split at he
    · cases he
    rename_i body hbody
    cases he
    have hrt := hx w body rest fuel hwt hdt hnt hdk hty hf.1 hbody
      (by simp only [List.length_append] at hfuel; omega)
    have hdec := decAlt_find rD name idx tD hfD
    simp only [hview, List.append_assoc, bind, Except.bind, readExt_pre, Bool.false_eq_true, if_false,
      hlenr]
    by_cases h1 : rE.length > 1
    · simp only [h1, if_true]
      rw [readNat_natToBits _ (lt_two_pow_bitLength_of_le (by omega))]
      simp only [hdec, bind, Except.bind, hrt]
    · have : idx = 0 := by omega
      subst this
      simp only [h1, if_false, List.nil_append, hdec, bind, Except.bind, hrt]
  · rw [pairA_find_none false name w rE rD ihr hfr]
    have hj := Alts.find_lt hfa
    have hext' : x = true := hext.resolve_right (by omega)
    subst hext'
    simp only [hfr, hfa, if_true, Option.map_none, Option.map_some, Nat.zero_add, Bool.not_true,
      Bool.false_or, Bool.and_eq_true] at hf he ⊢
    split at he
    · cases he
    rename_i body hbody
    cases he
    rw [hbody] at hf
    simp only [smallLen, decide_eq_true_eq] at hf
    simp only [List.append_assoc, bind, Except.bind, List.cons_append, List.nil_append,
      readBit_cons, if_true]
    rw [decNsnnwn_enc j _ (nsIndexOk_lt hns.2 hj)]
    simp only
    rw [readLenDet_lenDet, lenDet_snd_of_lt (by rw [padToByte_length_div]; exact hf.2.2)]
    simp only
    rcases pairA_find false name w aE aD iha hdok.2 j t hfa with ⟨tD, hfD, hx, hdk, hview⟩ | ⟨hle, hview⟩
    · have hrt := hx w body
        (List.replicate (8 * ((body.length + 7) / 8) - body.length) false ++ rest) fuel
        hwt hdt hnt hdk hty hf.2.1 hbody
        (by
          simp only [List.length_append, List.length_cons, List.length_replicate] at hfuel ⊢
          rw [padToByte_eq] at hfuel
          simp only [List.length_append, List.length_replicate] at hfuel
          omega)
      rw [decAlt_find aD name j tD hfD, hview]
      simp only [bind, Except.bind]
      rw [padToByte_length_div, padToByte_eq, List.append_assoc, hrt]
      simp only [List.length_append, List.length_replicate]
      -- the decoder's test that the alternative did not read beyond its open type (`consumed > 8 * len`)
      have hc : ¬ (body.length + (8 * ((body.length + 7) / 8) - body.length + rest.length) -
          (8 * ((body.length + 7) / 8) - body.length + rest.length) > 8 * ((body.length + 7) / 8)) := by
        omega
      simp only [hc, if_false]
      rw [readBits_append _ _ (by simp only [List.length_replicate]; omega)]
    · rw [decAlt_none aD j hle, hview]
      simp only
      rw [readBits_append _ _ (by
        rw [padToByte_length_div, padToByte_eq, List.length_append, List.length_replicate]; omega)]

/-- `XT` for the root members of a SEQUENCE: `decMembers` on the preamble and the member encodings; the
preamble has one bit per omissible member of the decoder's list. -/
def XTM (mD mE : Members) : Prop :=
  ∀ (fs : List (String × Val)), mE.wf = true → mE.defaultsOk = true → mE.nsOk = true →
    dOkMembers false mD mE → membersOk mE fs = true → fragFreeMembers mE fs false = true →
    ∀ (pre body rest : Bits) (fuel : Nat), encPreamble mE fs = .ok pre →
      encMembers mE fs false = .ok body → body.length + rest.length + 2 ≤ fuel →
      decMembers mD fuel pre (body ++ rest) = .ok (viewMembers false mD mE fs true, rest) ∧
        pre.length = optionalCount mD

theorem xtm_nil : XTM .nil .nil := by
  intro fs _ _ _ _ _ _ pre body rest fuel hp hb _
  cases hp; cases hb
  exact ⟨rfl, rfl⟩

theorem xtm_cons {tD tE : Ty} {mD mE : Members} (name : String) (p : Presence)
    (hc : Compat tD tE) (hx : XT tD tE) (ih : XTM mD mE) :
    XTM (.cons name p tD mD) (.cons name p tE mE) := by
  intro fs hwf hd hns hdok hok hff pre body rest fuel hp hb hfuel
  simp only [Members.wf, Members.defaultsOk, Members.nsOk, membersOk, fragFreeMembers,
    Bool.and_eq_true] at hwf hd hns hok hff
  simp only [dOkMembers] at hdok
  rw [encPreamble_cons] at hp
  rw [encMembers_cons] at hb
  rw [optionalCount_cons]
  cases hr : encPreamble mE fs with
  | error e => rw [hr] at hp; cases hp
  | ok r =>
  rw [hr] at hp
  simp only at hp
  cases ha : encHere p tE (lookup name fs) false with
  | error e => rw [ha] at hb; cases hb
  | ok a =>
  rw [ha] at hb
  cases hb' : encMembers mE fs false with
  | error e => rw [hb'] at hb; cases hb
  | ok b =>
  rw [hb'] at hb
  cases hb
  have hlen : b.length + rest.length + 2 ≤ fuel := by
    simp only [List.length_append] at hfuel; omega
  obtain ⟨ihd, ihl⟩ := ih fs hwf.2 hd.2 hns.2 hdok.2.2 hok.2 hff.2 r b rest fuel hr hb' hlen
  have present : ∀ v, lookup name fs = some v → enc tE v = .ok a →
      decHere name tD mD fuel r (a ++ b ++ rest) =
        .ok (viewMembers false (.cons name p tD mD) (.cons name p tE mE) fs true, rest) := by
    intro v hl hav
    simp only [hl] at hok hff
    simp only [Bool.and_eq_true] at hff
    have := hx v a (b ++ rest) fuel hwf.1 hd.1.2 hns.1 hdok.2.1 hok.1 hff.1.1 hav
      (by simp only [List.length_append] at hfuel ⊢; omega)
    simp only [decHere, bind, Except.bind, List.append_assoc, this, ihd]
    rw [viewMembers_cons_cons, hl]
  rw [viewMembers_cons_cons]
  cases hl : lookup name fs with
  | some v =>
    simp only [hl, encHere] at ha hp
    cases p with
    | mandatory =>
      simp only at ha hp
      cases hp
      rw [decMembers_mandatory, present v hl ha, viewMembers_cons_cons, hl]
      exact ⟨rfl, ihl⟩
    | optional =>
      simp only [Option.isSome_some] at ha hp
      cases hp
      rw [decMembers_optional_true, present v hl ha, viewMembers_cons_cons, hl]
      exact ⟨rfl, by simp [ihl]⟩
    | default d =>
      simp only [Bool.or_false] at ha hp
      cases hp
      cases hdef : isDefault tE v d with
      | false =>
        simp only [hdef, Bool.not_false, if_true] at ha ⊢
        rw [decMembers_default_true, present v hl ha, viewMembers_cons_cons, hl]
        exact ⟨rfl, by simp [ihl]⟩
      | true =>
        simp only [hdef, Bool.not_true, Bool.false_eq_true, if_false] at ha ⊢
        cases ha
        have hcan := view_of_isDefault false hc v d hdok.1 hdef
        rw [decMembers_default_false]
        simp only [List.nil_append, bind, Except.bind, ihd, hcan]
        exact ⟨trivial, by simp [ihl]⟩
  | none =>
    simp only [hl, encHere] at ha hp hok
    cases p with
    | mandatory => simp at hok
    | optional =>
      simp only at ha hp
      cases ha; cases hp
      simp only [Option.isSome_none]
      rw [decMembers_optional_false]
      simp only [List.nil_append, ihd]
      exact ⟨trivial, by simp [ihl]⟩
    | default d =>
      simp only at ha hp
      cases ha; cases hp
      rw [decMembers_default_false]
      simp only [List.nil_append, bind, Except.bind, ihd, if_true]
      exact ⟨trivial, by simp [ihl]⟩

/-- `XT` for the extension additions of a SEQUENCE: `decAdditions` on the presence bitmap and the open
types.  First conjunct: if the encoder has no addition encoding to write it writes no extension bit
and no bitmap, `decAdditions` does not run, and the decoder must see no addition (`xt_sequence`). -/
def XTA (aD aE : Members) : Prop :=
  ∀ (fs : List (String × Val)), aE.wf = true → aE.defaultsOk = true → aE.nsOk = true →
    dOkMembers false aD aE → membersOk aE fs = true → fragFreeMembers aE fs true = true →
    ((encAdditions aE fs).2 = [] → viewMembers false aD aE fs false = []) ∧
    ∀ (rest : Bits) (fuel : Nat), (wrapOpen (encAdditions aE fs).2).length + rest.length + 2 ≤ fuel →
      decAdditions aD fuel (encAdditions aE fs).1 (wrapOpen (encAdditions aE fs).2 ++ rest) =
        .ok (viewMembers false aD aE fs false, rest)

/-- No side condition beyond the round trip's is needed: `fragFreeMembers … true` bounds the open type of
every present addition (`hff.1.2`), known to the decoder or not; aligned PER's `fragFree` does not, hence its
`skipFree`. -/
theorem skipUnknown_enc (fs : List (String × Val)) (ms : Members) :
    ms.wf = true → membersOk ms fs = true → fragFreeMembers ms fs true = true →
    ∀ (rest : Bits),
      skipUnknown (encAdditions ms fs).1 (wrapOpen (encAdditions ms fs).2 ++ rest) = .ok rest := by
  induction ms using Members.ind with
  | nil => intro _ _ _ rest; rfl
  | cons name p t ms ih =>
    intro hwf hok hff rest
    simp only [Members.wf, membersOk, fragFreeMembers, Bool.and_eq_true] at hwf hok hff
    have ih' := ih hwf.2 hok.2 hff.2 rest
    rw [encAdditions_cons]
    cases hl : lookup name fs with
    | some v =>
      simp only [hl, Bool.and_eq_true] at hok hff
      obtain ⟨e, he⟩ := et_all t v hwf.1 hok.1
      simp only [addHere, he, Option.isSome_some, or_true, if_true]
      rw [he] at hff
      simp only [Bool.not_true, Bool.false_or, smallLen, decide_eq_true_eq] at hff
      rw [wrapOpen_cons, skipUnknown]
      simp only [if_true, bind, Except.bind, List.append_assoc]
      rw [readLenDet_lenDet, lenDet_snd_of_lt (by rw [padToByte_length_div]; exact hff.1.2)]
      simp only
      rw [readBits_append _ _ (by
        rw [padToByte_length_div, padToByte_eq, List.length_append, List.length_replicate]; omega)]
      exact ih'
    | none =>
      simp only [hl] at hok
      cases p with
      | mandatory => simp at hok
      | optional | default d =>
        simp only [addHere, List.length_nil, Nat.lt_irrefl, Option.isSome_none, Bool.false_eq_true,
          or_self, if_false]
        rw [skipUnknown]
        simp only [Bool.false_eq_true, if_false]
        exact ih'

theorem xta_nilD (ms : Members) : XTA .nil ms := by
  intro fs hwf _ _ _ hok hff
  refine ⟨fun _ => rfl, fun rest fuel _ => ?_⟩
  simp only [decAdditions, bind, Except.bind, skipUnknown_enc fs ms hwf hok hff rest]
  rfl

theorem xta_nilE (ms : Members) : XTA ms .nil := by
  intro fs _ _ _ _ _ _
  refine ⟨fun _ => viewMembers_nilE_false _ ms fs, fun rest fuel _ => ?_⟩
  rw [viewMembers_nilE_false]
  cases ms <;> rfl

theorem xta_cons {tD tE : Ty} {mD mE : Members} (name : String) (p : Presence)
    (hx : XT tD tE) (ih : XTA mD mE) : XTA (.cons name p tD mD) (.cons name p tE mE) := by
  intro fs hwf hd hns hdok hok hff
  simp only [Members.wf, Members.defaultsOk, Members.nsOk, membersOk, fragFreeMembers,
    Bool.and_eq_true] at hwf hd hns hok hff
  simp only [dOkMembers] at hdok
  obtain ⟨ih2, ih3⟩ := ih fs hwf.2 hd.2 hns.2 hdok.2.2 hok.2 hff.2
  rw [encAdditions_cons, viewMembers_cons_cons]
  cases hl : lookup name fs with
  | some v =>
    simp only [hl, Bool.and_eq_true] at hok hff
    obtain ⟨e, he⟩ := et_all tE v hwf.1 hok.1
    simp only [addHere, he, Option.isSome_some, or_true, if_true]
    refine ⟨by simp, ?_⟩
    intro rest fuel hfuel
    rw [wrapOpen_cons] at hfuel ⊢
    rw [padToByte_eq] at hfuel
    simp only [List.length_append, List.length_replicate] at hfuel
    have := hx v e
      (List.replicate (8 * ((e.length + 7) / 8) - e.length) false ++
        (wrapOpen (encAdditions mE fs).2 ++ rest)) fuel hwf.1 hd.1.2 hns.1 hdok.2.1 hok.1 hff.1.1 he
      (by simp only [List.length_append, List.length_replicate]; omega)
    rw [decAdditions_cons_true]
    simp only [bind, Except.bind, List.append_assoc]
    rw [readLenDet_lenDet]
    simp only
    have hsp := skipPad_pad e (wrapOpen (encAdditions mE fs).2 ++ rest)
    rw [padToByte_eq] at hsp ⊢
    simp only [List.append_assoc] at hsp ⊢
    rw [this]
    simp only [hsp]
    rw [ih3 rest fuel (by omega)]
  | none =>
    simp only [hl] at hok
    cases p with
    | mandatory => simp at hok
    | optional | default d =>
      simp only [addHere, List.length_nil, Nat.lt_irrefl, Option.isSome_none, Bool.false_eq_true,
        or_self, if_false]
      refine ⟨ih2, ?_⟩
      intro rest fuel hfuel
      rw [decAdditions_cons_false]
      exact ih3 rest fuel hfuel

theorem optionalCount_compat (rD : Members) : ∀ rE, CompatMembers rD rE → optionalCount rD = optionalCount rE := by
  induction rD using Members.ind with
  | nil => intro rE h; cases h; rfl
  | cons name p t rest ih =>
    intro rE h
    cases h with
    | cons _ _ h1 h2 => rw [optionalCount_cons, optionalCount_cons, ih _ h2]

theorem xt_sequence {rD rE aD aE : Members} (x : Bool) (hm : XTM rD rE) (ha : XTA aD aE) :
    XT (.sequence rD x aD) (.sequence rE x aE) := by
  intro v bits rest fuel hwf hd hns hdok ht hf he hfuel
  obtain ⟨fs, rfl, ht⟩ := hasType_sequence ht
  obtain ⟨hrwf, hawf, hnd, hext, h64⟩ := wf_sequence hwf
  rw [Ty.defaultsOk] at hd
  rw [Ty.nsOk] at hns
  rw [fragFree] at hf
  simp only [dOk] at hdok
  simp only [Bool.and_eq_true] at hd hns hf
  obtain ⟨hokr, hoka⟩ := membersOk_of_hasType rE aE x fs hnd ht
  simp only [view]
  rw [enc] at he
  obtain ⟨pre, hpre⟩ := encPreamble_ok fs rE
  rw [hpre] at he
  cases hbody : encMembers rE fs false with
  | error e => rw [hbody] at he; cases he
  | ok body =>
  rw [hbody] at he
  simp only at he
  have hm' := hm fs hrwf hd.1 hns.1 hdok.1 hokr hf.1 pre body
  have a1 := encAdditions_length fs aE hawf hoka
  obtain ⟨a2, a3⟩ := ha fs hawf hd.2 hns.2 hdok.2 hoka hf.2
  -- no extension block (no marker, no additions, or none present): extension bit `false` if any,
  -- preamble, root members
  have plain : ∀ bits : Bits, bits = (if x = true then [false] else []) ++ (pre ++ body) →
      viewMembers false aD aE fs false = [] → bits.length + rest.length + 2 ≤ fuel →
      dec (.sequence rD x aD) fuel (bits ++ rest) =
        .ok (.record (viewMembers false rD rE fs true ++ viewMembers false aD aE fs false), rest) := by
    intro bits hb hc hfu
    subst hb
    obtain ⟨hdm, hpl⟩ := hm' rest fuel hpre hbody (by
      simp only [List.length_append] at hfu; omega)
    rw [dec]
    simp only [List.append_assoc, bind, Except.bind, readExt_pre]
    rw [readBits_append _ _ hpl]
    simp only [hdm, Bool.false_eq_true, if_false, hc, List.append_nil]
  cases x with
  | false =>
    simp only [Bool.false_eq_true, if_false, false_or] at he hext
    cases he
    obtain rfl := Members.eq_nil_of_length hext
    exact plain _ (by simp) (a2 rfl) hfuel
  | true =>
    simp only [if_true] at he
    split at he
    · cases he
      exact plain _ (by simp) (a2 rfl) hfuel
    · rename_i hnn
      split at he
      · rename_i hemp
        cases he
        exact plain _ (by simp) (a2 (by simpa using hemp)) hfuel
      · rename_i hemp
        have hlen1 : 1 ≤ aE.length := by
          cases aE with
          | nil => exact absurd rfl (hnn)
          | cons _ _ _ _ => simp [Members.length]
        rw [encNsLength_small h64] at he
        simp only [a1, Nat.sub_self, List.replicate_zero, List.append_nil] at he
        rw [show List.flatMap _ _ = wrapOpen (encAdditions aE fs).2 from rfl] at he
        cases he
        simp only [List.length_append, List.length_cons, List.length_nil, natToBits_length] at hfuel
        obtain ⟨hdm, hpl⟩ := hm' (natToBits 7 (aE.length - 1) ++ ((encAdditions aE fs).1 ++
          (wrapOpen (encAdditions aE fs).2 ++ rest))) fuel hpre hbody (by
            simp only [List.length_append, natToBits_length]; omega)
        rw [dec]
        simp only [List.append_assoc, bind, Except.bind, List.cons_append, List.nil_append,
          readBit_cons, if_true]
        rw [readBits_append _ _ hpl]
        simp only [hdm]
        rw [decNsLength_enc _ hlen1 h64]
        simp only
        rw [readBits_append _ _ a1]
        simp only
        rw [a3 rest fuel (by omega)]

theorem xt_all {tD tE : Ty} (h : Compat tD tE) : XT tD tE :=
  Compat.induct (P := XT) (Q := XT) (PM := XTM) (PAd := XTA) (alt := fun _ h => h)
    (boolean := xt_same rt_boolean) (null := xt_same rt_null)
    (integer := fun c => xt_same (rt_integer c)) (octetString := fun c => xt_same (rt_octetString c))
    (bitString := fun c => xt_same (rt_bitString c))
    (charString := fun k c => xt_same (rt_charString k c))
    (enumerated := fun root => xt_same (rt_enumerated root))
    (enumeratedD := xt_enumeratedD) (enumeratedE := xt_enumeratedE)
    (sequence := fun x _ _ hm ha => xt_sequence x hm ha)
    (sequenceOf := fun c _ ih => xt_sequenceOf c ih)
    (choice := fun x hcr _ ihr iha => xt_choice x ihr (compatAlts_length hcr) iha)
    (membersNil := xtm_nil) (membersCons := fun name p hc _ hx ih => xtm_cons name p hc hx ih)
    (addsNilD := xta_nilD) (addsNilE := fun ms _ => xta_nilE ms)
    (addsCons := fun name p _ _ hx ih => xta_cons name p hx ih) h

end Asn1.Ext.UperX

#print axioms Asn1.Ext.UperX.xt_all
