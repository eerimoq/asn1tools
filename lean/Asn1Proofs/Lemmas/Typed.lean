import Asn1Proofs.Lemmas.TyInduct
import Asn1Proofs.Lemmas.UperBeq
/-
  What a well-typed value of a well-formed type looks like, independently of any codec: the constructor of
  the value and what `hasType` / `Ty.wf` say about its parts (`hasType_*`, `wf_*`); when a value counts as
  the DEFAULT (`isDefault_inv`); the alternative found
  under a name (`Alts.find`) or at an index (`Alts.nth`); and, for a CHOICE, the alternative the value
  selects, looked for among the root alternatives first and among the additions next (`Alts.Sel`), which
  every function of the models that searches the alternatives by name finds (`Alts.search_eq`).
-/
namespace Asn1

/-- `isDefault` is equality of values, except that two BIT STRING values of the same length count as equal
when they agree after their unused bits are cleared -/
theorem isDefault_inv {t : Ty} {v d : Val} (h : isDefault t v d = true) :
    v = d ∨ ∃ c a b n, t = .bitString c ∧ v = .bits a n ∧ d = .bits b n ∧ cleanBits a n = cleanBits b n := by
  unfold isDefault at h
  split at h
  · rename_i c a n b m
    simp only [Bool.and_eq_true, beq_iff_eq] at h
    obtain ⟨rfl, h2⟩ := h
    exact .inr ⟨c, a, b, n, rfl, rfl, rfl, h2⟩
  · exact .inl (Val.eq_of_beq _ _ h)

theorem hasType_boolean {v} (h : hasType .boolean v = true) : ∃ b, v = .bool b := by
  cases v with
  | bool b => exact ⟨b, rfl⟩
  | _ => cases h

theorem hasType_null {v} (h : hasType .null v = true) : v = .null := by
  cases v with
  | null => rfl
  | _ => cases h

theorem hasType_integer {c v} (h : hasType (.integer c) v = true) :
    ∃ i, v = .int i ∧ (c.ext || intInRange c i) = true := by
  cases v with
  | int i => exact ⟨i, rfl, h⟩
  | _ => cases h

theorem hasType_enumerated {root ext v} (h : hasType (.enumerated root ext) v = true) :
    ∃ n, v = .enum n ∧ hasType (.enumerated root ext) (.enum n) = true := by
  cases v with
  | enum n => exact ⟨n, rfl, h⟩
  | _ => cases h

theorem hasType_octetString {c v} (h : hasType (.octetString c) v = true) :
    ∃ bs, v = .bytes bs ∧ allBytes bs = true ∧ (c.ext || sizeOk c bs.length) = true := by
  cases v with
  | bytes bs => exact ⟨bs, rfl, Bool.and_eq_true _ _ ▸ h⟩
  | _ => cases h

theorem hasType_bitString {c v} (h : hasType (.bitString c) v = true) :
    ∃ data n, v = .bits data n ∧ allBytes data = true ∧ data.length = (n + 7) / 8 ∧ sizeOk c n = true := by
  cases v with
  | bits data n =>
    have h' : (allBytes data && decide (data.length = (n + 7) / 8) && sizeOk c n) = true := h
    rw [Bool.and_eq_true, Bool.and_eq_true, decide_eq_true_eq] at h'
    exact ⟨data, n, rfl, h'.1.1, h'.1.2, h'.2⟩
  | _ => cases h

/-- a UTF8String holds Unicode scalar values (no size constraint is checked); the other kinds hold
characters of their alphabet, in a number the size constraint admits -/
theorem hasType_charString {k c v} (h : hasType (.charString k c) v = true) :
    ∃ cps, v = .str cps ∧
      ((k = .utf8 ∧ ∀ cp ∈ cps, cp < 0x110000 ∧ ¬ (0xd800 ≤ cp ∧ cp < 0xe000)) ∨
       (k ≠ .utf8 ∧ (∀ cp ∈ cps, (Uper.alphabetOf k).contains cp = true) ∧ sizeOk c cps.length = true)) := by
  cases v with
  | str cps =>
    refine ⟨cps, rfl, ?_⟩
    cases k <;> simp only [hasType] at h
    case utf8 =>
      refine .inl ⟨rfl, fun cp hcp => ?_⟩
      simp only [List.all_eq_true, Bool.and_eq_true, decide_eq_true_eq, Bool.not_eq_true',
        Bool.and_eq_false_iff, decide_eq_false_iff_not] at h
      have := h cp hcp
      omega
    all_goals
      simp only [Bool.and_eq_true, List.all_eq_true] at h
      exact .inr ⟨by simp, h.1, h.2⟩
  | _ => cases h

theorem hasType_sequence {root adds ext v} (h : hasType (.sequence root ext adds) v = true) :
    ∃ fs, v = .record fs ∧ hasType (.sequence root ext adds) (.record fs) = true := by
  cases v with
  | record fs => exact ⟨fs, rfl, h⟩
  | _ => cases h

theorem hasType_sequenceOf {e c v} (h : hasType (.sequenceOf e c) v = true) :
    ∃ vs, v = .list vs ∧ (∀ x ∈ vs, hasType e x = true) ∧ (c.ext || sizeOk c vs.length) = true := by
  cases v with
  | list vs =>
    have h' : (vs.all (hasType e) && (c.ext || sizeOk c vs.length)) = true := h
    rw [Bool.and_eq_true, List.all_eq_true] at h'
    exact ⟨vs, rfl, h'⟩
  | _ => cases h

theorem hasType_choice {root adds ext v} (h : hasType (.choice root ext adds) v = true) :
    ∃ n w, v = .choice n w ∧ (hasAlt root n w || hasAlt adds n w) = true := by
  cases v with
  | choice n w => exact ⟨n, w, rfl, h⟩
  | _ => cases h

/-- an INTEGER constraint without both bounds has no extension marker -/
theorem wf_integer_ext {c : IntC} (hwf : (Ty.integer c).wf = true)
    (hno : ∀ lo hi, c.lo = some lo → c.hi = some hi → False) : c.ext = false := by
  rw [Ty.wf] at hwf
  split at hwf
  · rename_i lo hi hlo hhi; exact absurd hhi (hno lo hi hlo)
  · simpa using hwf

theorem wf_sequenceOf {e c} (h : (Ty.sequenceOf e c).wf = true) : e.wf = true := by
  rw [Ty.wf, Bool.and_eq_true] at h
  exact h.1

theorem wf_sequence_iff (root : Members) (ext : Bool) (adds : Members) :
    (Ty.sequence root ext adds).wf = true ↔
      root.wf = true ∧ adds.wf = true ∧ (root.names ++ adds.names).Nodup ∧ (ext = true ∨ adds.length = 0) ∧
        adds.length ≤ 64 := by
  simp only [Ty.wf, Bool.and_eq_true, decide_eq_true_eq, Bool.or_eq_true, beq_iff_eq, and_assoc]

theorem wf_choice_iff (root : Alts) (ext : Bool) (adds : Alts) :
    (Ty.choice root ext adds).wf = true ↔
      root.wf = true ∧ adds.wf = true ∧ 0 < root.length ∧ (root.names ++ adds.names).Nodup ∧
        (ext = true ∨ adds.length = 0) := by
  simp only [Ty.wf, Bool.and_eq_true, decide_eq_true_eq, Bool.or_eq_true, beq_iff_eq, and_assoc]

theorem wf_sequence {root adds ext} (h : (Ty.sequence root ext adds).wf = true) :
    root.wf = true ∧ adds.wf = true ∧ (root.names ++ adds.names).Nodup ∧ (ext = true ∨ adds.length = 0) ∧
      adds.length ≤ 64 :=
  (wf_sequence_iff root ext adds).mp h

theorem wf_choice {root adds ext} (h : (Ty.choice root ext adds).wf = true) :
    root.wf = true ∧ adds.wf = true ∧ 0 < root.length ∧ (root.names ++ adds.names).Nodup ∧
      (ext = true ∨ adds.length = 0) :=
  (wf_choice_iff root ext adds).mp h

/-- the item of a well-typed ENUMERATED value is one of the declared names.  The list is written as the body
of `Jer.enumNames root ext` (`Xer.enumNames root ext` is it after `cases ext`): Typed stands below both. -/
theorem mem_enumNames_of_hasType {root : List (String × Int)} {ext : Option (List (String × Int))} {n : String}
    (h : hasType (.enumerated root ext) (.enum n) = true) :
    n ∈ root.map (·.1) ++ (match (generalizing := false) ext with | some a => a.map (·.1) | none => []) := by
  simp only [hasType, Bool.or_eq_true, List.contains_iff_mem, namesOf] at h
  rw [List.mem_append]
  rcases h with h | h
  · exact .inl h
  · cases ext with
    | none => cases h
    | some a => exact .inr (List.contains_iff_mem.mp h)

/-! The models compare names as the code points of the `String` (`Jer.strCps`, `TypeCheck.strOfName`, `Xml.toCps`:
three definitions, each `fun s => s.toList.map Char.toNat`); that map is injective. -/

theorem cps_inj {a b : String} (h : a.toList.map Char.toNat = b.toList.map Char.toNat) : a = b :=
  String.toList_inj.1 ((List.map_inj_right (fun _ _ h => Char.toNat_inj.1 h)).1 h)

theorem cps_beq (a b : String) : (a.toList.map Char.toNat == b.toList.map Char.toNat) = (a == b) := by
  by_cases h : a = b
  · subst h; simp
  · rw [beq_eq_false_iff_ne.2 h, beq_eq_false_iff_ne.2 fun e => h (cps_inj e)]

theorem Alts.all_wf (as : Alts) (h : as.wf = true) : as.All (fun t => t.wf = true) :=
  Alts.all_of_and (fun _ _ _ => rfl) as h

theorem Alts.all_defaultsOk (as : Alts) (h : as.defaultsOk = true) : as.All (fun t => t.defaultsOk = true) :=
  Alts.all_of_and (fun _ _ _ => rfl) as h

/-- A function that walks the alternatives, counting from `i`, and answers `G i n t` at the first one called
`name` is `find`.  `hcons` is the function's own equation (`fun _ _ _ _ => rfl`); `f _ .nil` is its answer when
there is none. -/
theorem Alts.search_idx {γ : Type} (name : String) {f : Nat → Alts → γ} {G : Nat → String → Ty → γ}
    (hcons : ∀ i n t rest, f i (.cons n t rest) = if n == name then G i n t else f (i + 1) rest) (i : Nat)
    (as : Alts) :
    f i as = match as.find name with | some x => G (i + x.1) name x.2 | none => f (i + as.length) .nil := by
  induction as using Alts.ind generalizing i with
  | nil => rfl
  | cons n t rest ih =>
    rw [hcons, Alts.find]
    split
    · rename_i h
      rw [eq_of_beq h]
      rfl
    · rw [ih (i + 1), Alts.length, Nat.add_assoc, Nat.add_comm 1]
      cases rest.find name with
      | none => rfl
      | some x => exact congrArg (G · name x.2) (by simp only [Nat.add_assoc, Nat.add_comm 1])

theorem Alts.search_eq {γ : Type} (name : String) {f : Alts → γ} {G : String → Ty → γ}
    (hcons : ∀ n t rest, f (.cons n t rest) = if n == name then G n t else f rest) (as : Alts) :
    f as = match as.find name with | some x => G name x.2 | none => f .nil :=
  search_idx name (f := fun _ => f) (G := fun _ => G) (fun _ => hcons) 0 as

theorem Alts.search_idx_map {β : Type} (name : String) {f : Nat → Alts → Option β} {G : Nat → String → Ty → β}
    (hcons : ∀ i n t rest, f i (.cons n t rest) = if n == name then some (G i n t) else f (i + 1) rest)
    (hnil : ∀ i, f i .nil = none) (i : Nat) (as : Alts) :
    f i as = (as.find name).map fun x => G (i + x.1) name x.2 := by
  rw [search_idx name hcons i as]
  cases as.find name with
  | none => exact hnil _
  | some x => rfl

theorem Alts.search_map {β : Type} (name : String) {f : Alts → Option β} {G : String → Ty → β}
    (hcons : ∀ n t rest, f (.cons n t rest) = if n == name then some (G n t) else f rest)
    (hnil : f .nil = none) (as : Alts) : f as = (as.find name).map fun x => G name x.2 :=
  search_idx_map name (f := fun _ => f) (G := fun _ => G) (fun _ => hcons) (fun _ => hnil) 0 as

theorem hasAlt_find (as : Alts) (name : String) (v : Val) :
    hasAlt as name v = (match as.find name with | some x => hasType x.2 v | none => false) :=
  Alts.search_eq name (f := fun as => hasAlt as name v) (fun _ _ _ => rfl) as

theorem mem_names_of_hasAlt {as : Alts} {name : String} {v : Val} (h : hasAlt as name v = true) :
    name ∈ as.names := by
  rw [hasAlt_find] at h
  refine Decidable.byContradiction fun hn => ?_
  rw [(Alts.find_none_iff name as).2 hn] at h
  cases h

/-! The decoders of the bit codecs select an alternative by counting down an index (`Uper.decAlt`, `Per.decAlt`):
such a function is the lookup `Alts.nth` (`Alts.lookup_eq`), so what holds of every alternative holds of the
one selected (`Alts.All.nth`) without an induction of its own. -/

def Alts.nth : Alts → Nat → Option (String × Ty)
  | .nil, _ => none
  | .cons n t _, 0 => some (n, t)
  | .cons _ _ rest, i + 1 => rest.nth i

theorem Alts.All.nth {P : Ty → Prop} : ∀ {as : Alts} {i : Nat} {nt : String × Ty},
    as.All P → as.nth i = some nt → P nt.2
  | .cons _ _ _, 0, _, h, e => by cases e; exact h.1
  | .cons _ _ _, _ + 1, _, h, e => Alts.All.nth h.2 e

/-- A function that walks the alternatives, counting an index down, and answers `G n t` at the one it
reaches is the lookup.  `hcons` is the function's own equation (`fun _ _ _ i => by cases i <;> rfl`), `z` its
answer when the index is beyond the list. -/
theorem Alts.lookup_eq {γ : Type} {f : Alts → Nat → γ} {G : String → Ty → γ} {z : γ}
    (hnil : ∀ i, f .nil i = z)
    (hcons : ∀ n t rest i, f (.cons n t rest) i = match i with | 0 => G n t | i + 1 => f rest i) :
    ∀ (as : Alts) (i : Nat), f as i = match as.nth i with | some nt => G nt.1 nt.2 | none => z
  | .nil, i => hnil i
  | .cons n t rest, 0 => hcons n t rest 0
  | .cons n t rest, i + 1 => (hcons n t rest (i + 1)).trans (Alts.lookup_eq hnil hcons rest i)

theorem Alts.nth_of_find {name : String} {as : Alts} {j : Nat} {t : Ty} (h : as.find name = some (j, t)) :
    as.nth j = some (name, t) := by
  induction as using Alts.ind generalizing j with
  | nil => cases h
  | cons n t' rest ih =>
    rcases Alts.find_cons_some h with ⟨rfl, rfl, rfl⟩ | ⟨j', h1, rfl⟩
    · rfl
    · exact ih h1

theorem Alts.nth_none : ∀ {as : Alts} {j : Nat}, as.length ≤ j → as.nth j = none
  | .nil, _, _ => rfl
  | .cons _ _ rest, 0, h => by simp [Alts.length] at h
  | .cons _ _ rest, j + 1, h => Alts.nth_none (as := rest) (by simpa [Alts.length] using h)

/-- `name` selects the alternative of type `t` at position `idx`: one of the root, or else one of the
additions, which are counted after the root -/
def Alts.Sel (root adds : Alts) (name : String) (idx : Nat) (t : Ty) : Prop :=
  root.find name = some (idx, t) ∨
    root.find name = none ∧ ∃ j, adds.find name = some (j, t) ∧ idx = root.length + j

/-- the two cases without the existential, as rewrite rules for `find` -/
theorem Alts.Sel.finds {root adds : Alts} {name : String} {idx : Nat} {t : Ty} (h : Sel root adds name idx t) :
    root.find name = some (idx, t) ∨ root.find name = none ∧ adds.find name = some (idx - root.length, t) := by
  rcases h with h | ⟨hr, j, ha, rfl⟩
  · exact .inl h
  · exact .inr ⟨hr, by rw [Nat.add_sub_cancel_left]; exact ha⟩

theorem Alts.Sel.all {root adds : Alts} {name : String} {idx : Nat} {t : Ty} (h : Sel root adds name idx t)
    {P : Ty → Prop} (hr : root.All P) (ha : adds.All P) : P t := by
  rcases h with hf | ⟨_, j, hf, _⟩
  · exact find_all hf hr
  · exact find_all hf ha

theorem Alts.sel_of_hasAlt {root adds : Alts} {name : String} {v : Val} (hnd : (root.names ++ adds.names).Nodup)
    (ht : (hasAlt root name v || hasAlt adds name v) = true) :
    ∃ idx t, Sel root adds name idx t ∧ hasType t v = true := by
  rw [hasAlt_find, hasAlt_find] at ht
  cases hr : root.find name with
  | some x =>
    rw [hr, find_disjoint hnd hr, Bool.or_false] at ht
    exact ⟨x.1, x.2, .inl hr, ht⟩
  | none =>
    rw [hr, Bool.false_or] at ht
    cases ha : adds.find name with
    | none => rw [ha] at ht; cases ht
    | some y => rw [ha] at ht; exact ⟨root.length + y.1, y.2, .inr ⟨hr, y.1, ha, rfl⟩, ht⟩

/-- `sel_of_hasAlt` from `Ty.wf` of the CHOICE instead of the distinct names alone; the selected type is then
well formed too -/
theorem Alts.sel_of_hasType {root adds : Alts} {ext : Bool} {n : String} {v : Val}
    (hwf : (Ty.choice root ext adds).wf = true) (ht : (hasAlt root n v || hasAlt adds n v) = true) :
    ∃ idx t, Sel root adds n idx t ∧ t.wf = true ∧ hasType t v = true := by
  obtain ⟨hwr, hwa, _, hnd, _⟩ := wf_choice hwf
  obtain ⟨idx, t, sel, htv⟩ := sel_of_hasAlt hnd ht
  exact ⟨idx, t, sel, sel.all (all_wf root hwr) (all_wf adds hwa), htv⟩

theorem enum_hasType_mem {root : List (String × Int)} {ext : Option (List (String × Int))} {n : String}
    (ht : hasType (.enumerated root ext) (.enum n) = true) : n ∈ namesOf (root ++ ext.getD []) := by
  have := mem_enumNames_of_hasType ht
  cases ext <;> simpa [namesOf] using this

/-- a well-typed CHOICE value names an alternative of the type (root first, then additions), well formed, of
which its content is a value -/
theorem alt_of_hasType {root adds : Alts} {ext : Bool} {v : Val}
    (hwf : (Ty.choice root ext adds).wf = true) (ht : hasType (.choice root ext adds) v = true) :
    ∃ name w idx t, v = .choice name w ∧ t.wf = true ∧ hasType t w = true ∧ Alts.Sel root adds name idx t := by
  obtain ⟨name, w, rfl, hw⟩ := hasType_choice ht
  obtain ⟨idx, t, sel, hwt, hty⟩ := Alts.sel_of_hasType hwf hw
  exact ⟨name, w, idx, t, rfl, hwt, hty, sel⟩

/-! `canon` changes nothing at a leaf type other than BIT STRING. -/

theorem canon_boolean (v : Val) : canon .boolean v = v := by cases v <;> rfl
theorem canon_null (v : Val) : canon .null v = v := by cases v <;> rfl
theorem canon_integer (c : IntC) (v : Val) : canon (.integer c) v = v := by cases v <;> rfl
theorem canon_enumerated (r e) (v : Val) : canon (.enumerated r e) v = v := by cases v <;> rfl
theorem canon_octetString (c : SizeC) (v : Val) : canon (.octetString c) v = v := by cases v <;> rfl
theorem canon_charString (k : StrKind) (c : SizeC) (v : Val) : canon (.charString k c) v = v := by
  cases v <;> rfl

end Asn1
