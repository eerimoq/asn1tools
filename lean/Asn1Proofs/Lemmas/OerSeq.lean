import Asn1Proofs.Lemmas.OerComp
import Asn1Proofs.Lemmas.Records
/-
  SEQUENCE of the OER model: preamble and root members -- the equations of encoder and decoder per
  member, totality of the encoder.  The round trip of SEQUENCE OF, CHOICE and SEQUENCE is proved once,
  for two types, in ExtOerComp / ExtOerSeq (`Oer.rt_all` is its case decoder type = encoder type).
-/
namespace Asn1.Oer

/-- what `encMembers` writes for one root member, given the value the record has for it -/
def encHere (p : Presence) (t : Ty) (ov : Option Val) (encDefault : Bool) : EncM Bytes :=
  match ov with
  | some v =>
    match p with
    | .default d => if !(isDefault t v d) || encDefault then enc t v else .ok []
    | _ => enc t v
  | none =>
    match p with
    | .mandatory => .error .encodeError
    | _ => .ok []

theorem encMembers_cons (name : String) (p : Presence) (t : Ty) (rest : Members)
    (fs : List (String × Val)) (b : Bool) :
    encMembers (.cons name p t rest) fs b =
      (match encHere p t (lookup name fs) b, encMembers rest fs b with
       | .ok a, .ok b => .ok (a ++ b)
       | .error e, _ => .error e
       | _, .error e => .error e) := by
  cases p <;> rfl

theorem encPreamble_cons (name : String) (p : Presence) (t : Ty) (rest : Members)
    (fs : List (String × Val)) :
    encPreamble (.cons name p t rest) fs =
      (match encPreamble rest fs with
       | .error e => .error e
       | .ok r =>
         match p with
         | .mandatory => .ok r
         | .optional => .ok ((lookup name fs).isSome :: r)
         | .default d =>
           match lookup name fs with
           | some v => .ok ((!(isDefault t v d)) :: r)
           | none => .ok (false :: r)) := by
  cases p <;> rfl

theorem encPreamble_ok (fs : List (String × Val)) (ms : Members) :
    ∃ pre, encPreamble ms fs = .ok pre := by
  induction ms using Members.ind with
  | nil => exact ⟨[], rfl⟩
  | cons name p t rest ih =>
    obtain ⟨r, hr⟩ := ih
    rw [encPreamble_cons, hr]
    cases p with
    | default d => cases lookup name fs <;> exact ⟨_, rfl⟩
    | _ => exact ⟨_, rfl⟩

/-- `decMembers` at a member that is present: its value, then the remaining members -/
def decHere (name : String) (t : Ty) (rest : Members) (fl : Bits) (bs : Bytes) :
    DecM (List (String × Val) × Bytes) := do
  let (v, r) ← dec t bs
  let (fs, r') ← decMembers rest fl r
  .ok ((name, v) :: fs, r')

theorem decMembers_mandatory (name : String) (t : Ty) (rest : Members) (fl : Bits) (bs : Bytes) :
    decMembers (.cons name .mandatory t rest) fl bs = decHere name t rest fl bs := rfl

theorem decMembers_optional_true (name : String) (t : Ty) (rest : Members) (fl : Bits) (bs : Bytes) :
    decMembers (.cons name .optional t rest) (true :: fl) bs = decHere name t rest fl bs := rfl

theorem decMembers_optional_false (name : String) (t : Ty) (rest : Members) (fl : Bits) (bs : Bytes) :
    decMembers (.cons name .optional t rest) (false :: fl) bs = decMembers rest fl bs := rfl

theorem decMembers_default_true (name : String) (d : Val) (t : Ty) (rest : Members)
    (fl : Bits) (bs : Bytes) :
    decMembers (.cons name (.default d) t rest) (true :: fl) bs = decHere name t rest fl bs := rfl

theorem decMembers_default_false (name : String) (d : Val) (t : Ty) (rest : Members)
    (fl : Bits) (bs : Bytes) :
    decMembers (.cons name (.default d) t rest) (false :: fl) bs =
      (do let (fs, r') ← decMembers rest fl bs; .ok ((name, d) :: fs, r')) := rfl

theorem optionalCount_cons (name : String) (p : Presence) (t : Ty) (rest : Members) :
    optionalCount (.cons name p t rest) =
      (match p with | .mandatory => optionalCount rest | _ => optionalCount rest + 1) := by
  cases p <;> rfl

theorem decHere_ok {name : String} {t : Ty} {rest : Members} {fl : Bits} {a b tail : Bytes}
    {w : Val} {fs' : List (String × Val)}
    (h1 : dec t (a ++ (b ++ tail)) = .ok (w, b ++ tail))
    (h2 : decMembers rest fl (b ++ tail) = .ok (fs', tail)) :
    decHere name t rest fl ((a ++ b) ++ tail) = .ok ((name, w) :: fs', tail) := by
  unfold decHere
  simp only [bind, Except.bind, List.append_assoc]
  rw [h1]
  simp only
  rw [h2]

theorem et_members (fs : List (String × Val)) (b : Bool) (ms : Members) :
    ms.All ET → ms.wf = true → membersOk ms fs = true → Total (encMembers ms fs b) := by
  induction ms using Members.ind with
  | nil => intro _ _ _; exact Or.inl ⟨[], rfl⟩
  | cons name p t ms ih =>
    intro hall hwf hok
    simp only [Members.wf, Bool.and_eq_true] at hwf
    simp only [membersOk, Bool.and_eq_true] at hok
    rw [encMembers_cons]
    have hhere : Total (encHere p t (lookup name fs) b) := by
      cases hl : lookup name fs with
      | some v =>
        simp only [hl] at hok
        have := hall.1 v hwf.1 hok.1
        cases p with
        | default d =>
          simp only [encHere]
          split
          · exact this
          · exact .ok _
        | _ => exact this
      | none =>
        cases p with
        | mandatory => exact Or.inr rfl
        | _ => exact .ok _
    rcases hhere with ⟨a, ha⟩ | ha <;> rw [ha]
    · rcases ih hall.2 hwf.2 hok.2 with ⟨r, hr⟩ | hr <;> rw [hr]
      · exact .ok _
      · exact Or.inr rfl
    · exact Or.inr rfl

end Asn1.Oer
