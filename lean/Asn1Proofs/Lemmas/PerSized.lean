import Asn1Proofs.Lemmas.PerLeaf
/-
  Aligned PER: what the encoders and decoders of all size-constrained types have in common (`encExt`,
  `encRoot`, `decSized`) and its round trip `rt_sized`; round trip and totality for OCTET STRING,
  BIT STRING and UTF8String.

  The three shapes and `rt_sized` are UPER's (`UperSized`) with positions: alignment makes what is
  written depend on the number of bits in front, so `root` and `encRoot` take the bits `pre` written so
  far (`[false]` or `[]`) and `chunks`, `body` the position they start at.  `encRoot` refuses a size
  outside the root itself (`.error .unmodelled`), which UPER's does not: hence no hypothesis `hsz` in
  this `rt_sized`.
-/
namespace Asn1.Per
open Asn1.Uper (smallLen inSize sizeBits lenDet encChunked takeBits utf8Enc EncM DecM sizeOk_eq_inSize allBytes_iff)

theorem extRange_eq {c : SizeC} (hwf : sizeWf c = true) (hext : c.ext = true) (n : Nat) :
    extRange c n = if inSize c n = true then .inside else .outside := by
  unfold extRange inSize
  cases hhi : c.hi with
  | none => simp [sizeWf, hhi, hext] at hwf
  | some hi => simp only [Bool.and_eq_true, decide_eq_true_eq]

/-- the encoder of a type with a size constraint: with an extension marker one bit says whether
the size `n` is inside the root (`root`, which gets the bits written so far) or outside it (`out`) -/
def encExt (c : SizeC) (n : Nat) (out : EncM Bits) (root : Bits → EncM Bits) : EncM Bits :=
  if c.ext then
    match extRange c n with
    | .typeError => .error .foreign
    | .outside => out
    | .inside => root [false]
  else root []

/-- the encoder inside the root, behind the bits `pre` written so far: the fragmented form `chunks`
when the size has no usable upper bound, else the size field and `body`.  Both get the position they
start at (the elements of a SEQUENCE OF align themselves).  `av`, `af` are the two flags of
`sizePrefix`, which every type sets by a rule of its own: align behind a size field, align although
the size is fixed and has no field. -/
def encRoot (c : SizeC) (pos n : Nat) (av af : Bool) (chunks body : Nat → EncM Bits) (pre : Bits) :
    EncM Bits :=
  match sizeBits c with
  | none =>
    match chunks (pos + pre.length + (alignBits (pos + pre.length)).length) with
    | .error err => .error err
    | .ok b => .ok (pre ++ alignBits (pos + pre.length) ++ b)
  | some w =>
    if ¬ inSize c n then .error .unmodelled
    else
      match body (pos + pre.length + (sizePrefix c w (pos + pre.length) n av af).length) with
      | .error err => .error err
      | .ok b => .ok (pre ++ sizePrefix c w (pos + pre.length) n av af ++ b)

/-- the decoder of a type with a size constraint: the extension bit if there is one, then `dout`
outside the root; inside, `dchunks` (which starts by aligning) or the size field and `dbody`.
The continuations take the pair they are bound to, for the reason given at `Uper.decSized`. -/
def decSized (c : SizeC) (av : Nat → Bool) (af : Bool) (dout dchunks : Bool × St → DecM (Val × St))
    (dbody : Nat × St → DecM (Val × St)) (s : St) : DecM (Val × St) :=
  (if c.ext then readBit s else .ok (false, s)) >>= fun x =>
  if x.1 then dout x
  else
    match sizeBits c with
    | none => dchunks x
    | some w => readSize c w av af x.2 >>= dbody

/-- round trip of a size-constrained type from the round trips of its three forms, in this order:
outside the root (`true` is the extension bit that `out` writes first), fragmented, behind the size
field.  The bounds `b.length ≤ bits.length` are for the callers, whose decoders need fuel for `b`. -/
theorem rt_sized {c : SizeC} (hwf : sizeWf c = true) {pos pos' n : Nat} {av af : Bool}
    {av' : Nat → Bool} {chunks body : Nat → EncM Bits} {out : EncM Bits}
    {dout dchunks : Bool × St → DecM (Val × St)} {dbody : Nat × St → DecM (Val × St)}
    {bits rest : Bits} {v : Val} (hp : pos' % 8 = pos % 8) (hav : av' n = av)
    (hout : c.ext = true → inSize c n = false → out = .ok bits → ∃ X, bits = true :: X ∧
      dout (true, ⟨pos' + 1, X ++ rest⟩) = .ok (v, ⟨pos' + 1 + X.length, rest⟩))
    (hchunks : ∀ p p' b, p' % 8 = p % 8 → chunks (p + (alignBits p).length) = .ok b →
      b.length ≤ bits.length →
      dchunks (false, ⟨p', alignBits p ++ (b ++ rest)⟩) =
        .ok (v, ⟨p' + (alignBits p).length + b.length, rest⟩))
    (hbody : ∀ p p' b, p' % 8 = p % 8 → body p = .ok b → b.length ≤ bits.length →
      dbody (n, ⟨p', b ++ rest⟩) = .ok (v, ⟨p' + b.length, rest⟩))
    (he : encExt c n out (encRoot c pos n av af chunks body) = .ok bits) :
    decSized c av' af dout dchunks dbody ⟨pos', bits ++ rest⟩ = .ok (v, ⟨pos' + bits.length, rest⟩) := by
  have root : ∀ pre, encRoot c pos n av af chunks body pre = .ok bits → ∃ X, bits = pre ++ X ∧
      (match sizeBits c with
        | none => dchunks (false, ⟨pos' + pre.length, X ++ rest⟩)
        | some w => readSize c w av' af ⟨pos' + pre.length, X ++ rest⟩ >>= dbody) =
        .ok (v, ⟨pos' + pre.length + X.length, rest⟩) := by
    intro pre he
    have hq := mod8_add hp pre.length
    unfold encRoot at he
    split at he
    · rename_i hsb
      split at he
      · cases he
      rename_i b hb
      cases he
      refine ⟨_, List.append_assoc _ _ _, ?_⟩
      simp only [List.append_assoc]
      refine (hchunks _ _ b hq hb (by simp only [List.length_append, Nat.le_add_left])).trans ?_
      simp only [List.length_append, Nat.add_assoc]
    · rename_i w hsb
      split at he
      · cases he
      rename_i hin
      split at he
      · cases he
      rename_i b hb
      cases he
      refine ⟨_, List.append_assoc _ _ _, ?_⟩
      simp only [ok_bind, List.append_assoc,
        readSize_sizePrefix c w _ _ _ _ _ _ _ hq hsb (Decidable.not_not.1 hin) hav]
      refine (hbody _ _ b (mod8_add hq _) hb
        (by simp only [List.length_append, Nat.le_add_left])).trans ?_
      simp only [List.length_append, Nat.add_assoc]
  unfold encExt at he
  unfold decSized
  cases hext : c.ext with
  | false =>
    simp only [hext, Bool.false_eq_true, if_false] at he ⊢
    obtain ⟨X, rfl, hdec⟩ := root [] he
    exact hdec
  | true =>
    simp only [hext, if_true, extRange_eq hwf hext] at he ⊢
    cases hin : inSize c n with
    | true =>
      simp only [hin, if_true] at he
      obtain ⟨X, rfl, hdec⟩ := root [false] he
      simp only [List.cons_append, List.nil_append, readBit_cons, ok_bind, Bool.false_eq_true,
        if_false]
      exact hdec.trans (by
        simp only [List.length_cons, List.length_nil, Nat.zero_add, Nat.add_comm,
          Nat.add_left_comm])
    | false =>
      simp only [hin, Bool.false_eq_true, if_false] at he
      obtain ⟨X, rfl, hdec⟩ := hout hext hin he
      simp only [List.cons_append, readBit_cons, ok_bind, if_true]
      exact hdec.trans (by
        simp only [List.length_cons, Nat.add_comm,
          Nat.add_left_comm])

theorem encRoot_total {c : SizeC} {n : Nat} (hin : inSize c n = true) {pos : Nat} {av af : Bool}
    {chunks body : Nat → EncM Bits} (hchunks : ∀ p, ∃ b, chunks p = .ok b)
    (hbody : ∀ p, ∃ b, body p = .ok b) (pre : Bits) :
    ∃ bits, encRoot c pos n av af chunks body pre = .ok bits := by
  unfold encRoot
  split
  · obtain ⟨b, hb⟩ := hchunks (pos + pre.length + (alignBits (pos + pre.length)).length)
    rw [hb]
    exact ⟨_, rfl⟩
  · rename_i w _
    obtain ⟨b, hb⟩ := hbody (pos + pre.length + (sizePrefix c w (pos + pre.length) n av af).length)
    simp only [hin, not_true_eq_false, if_false, hb]
    exact ⟨_, rfl⟩

theorem encExt_total {c : SizeC} (hwf : sizeWf c = true) {n : Nat} {out : EncM Bits}
    {root : Bits → EncM Bits} (hsz : (c.ext || inSize c n) = true)
    (hroot : inSize c n = true → ∀ pre, ∃ bits, root pre = .ok bits)
    (hout : inSize c n = false → ∃ bits, out = .ok bits) :
    ∃ bits, encExt c n out root = .ok bits := by
  unfold encExt
  cases hext : c.ext with
  | false =>
    simp only [Bool.false_eq_true, if_false]
    exact hroot (by simpa [hext] using hsz) []
  | true =>
    simp only [if_true, extRange_eq hwf hext]
    cases hin : inSize c n with
    | true => exact hroot hin _
    | false => exact hout hin

theorem uniform_map_natToBits (w : Nat) (l : List Nat) :
    ∀ x ∈ l.map (natToBits w), x.length = w := by
  intro x hx
  obtain ⟨a, _, rfl⟩ := List.mem_map.1 hx
  exact natToBits_length w a

theorem uniform_map_singleton (l : Bits) : ∀ x ∈ l.map (fun b => [b]), x.length = 1 := by
  intro x hx
  obtain ⟨a, _, rfl⟩ := List.mem_map.1 hx
  rfl

theorem enc_octetString (c : SizeC) (pos : Nat) (data : Bytes) :
    enc (.octetString c) pos (.bytes data) =
      encExt c data.length
        (.ok ([true] ++ alignBits (pos + 1) ++ (lenDet data.length).1 ++ bytesToBits data))
        (encRoot c pos data.length true (decide (c.lo > 2))
          (fun _ => .ok (encChunked (data.map (natToBits 8)))) fun _ => .ok (bytesToBits data)) := by
  rfl

theorem enc_octetString_outside {c : SizeC} (hwf : sizeWf c = true) (hext : c.ext = true) (pos : Nat)
    (data : Bytes) (hout : inSize c data.length = false) :
    enc (.octetString c) pos (.bytes data) =
      .ok ([true] ++ alignBits (pos + 1) ++ (lenDet data.length).1 ++ bytesToBits data) := by
  rw [enc_octetString, encExt, hext, if_pos rfl, extRange_eq hwf hext, hout]
  rfl

theorem rt_octetString (c : SizeC) : RT (.octetString c) := by
  intro v pos pos' bits rest fuel hwf _ _ ht hf hp he hfuel
  obtain ⟨data, rfl, hb, hs⟩ := hasType_octetString ht
  rw [canon_octetString]
  rw [Ty.wf] at hwf
  rw [fragFree] at hf
  rw [allBytes_iff] at hb
  simp only [Bool.or_eq_true, sizeOk_eq_inSize] at hs
  have hpack := packBits_bytesToBits data hb
  rw [enc_octetString] at he
  refine rt_sized hwf hp rfl ?_ ?_ ?_ he
  · intro hext hin hout
    cases hout
    refine ⟨alignBits (pos + 1) ++ (lenDet data.length).1 ++ bytesToBits data, rfl, ?_⟩
    have hs : data.length < 16384 := by
      simpa [hext, hin, smallLen] using hf
    simp only [ok_bind, List.append_assoc, align_alignBits _ _ _ (mod8_add hp 1), readLenDet_lenDet,
      Uper.lenDet_snd_of_lt hs, readBits_append _ _ _ (bytesToBits_length data), hpack,
      List.length_append, alignBits_length, bytesToBits_length, Nat.add_assoc]
  · intro p p' b hq hb hl
    cases hb
    simp only [ok_bind, align_alignBits _ _ _ hq,
      decChunksBits_encChunked 8 _ (uniform_map_natToBits 8 data) _ _ fuel (by omega),
      flatten_map_natToBits8, hpack, alignBits_length, Nat.add_assoc]
  · intro p p' b _ hb _
    cases hb
    simp only [ok_bind, readBits_append _ _ _ (bytesToBits_length data), hpack, bytesToBits_length]

theorem et_octetString (c : SizeC) : ET (.octetString c) := by
  intro v pos hwf ht
  obtain ⟨data, rfl, -, hs⟩ := hasType_octetString ht
  rw [Ty.wf] at hwf
  simp only [Bool.or_eq_true, sizeOk_eq_inSize] at hs
  rw [enc_octetString]
  exact encExt_total hwf (by simpa using hs)
    (fun hin => encRoot_total hin (fun _ => ⟨_, rfl⟩) fun _ => ⟨_, rfl⟩) (fun _ => ⟨_, rfl⟩)

theorem enc_bitString (c : SizeC) (pos : Nat) (data : Bytes) (n : Nat)
    (hlen : data.length = (n + 7) / 8) :
    enc (.bitString c) pos (.bits data n) = encExt c n (.error .notImplemented)
      (encRoot c pos n true (decide (c.lo > 16))
        (fun _ => .ok (encChunked (((bytesToBits data).take n).map fun b => [b])))
        fun _ => .ok ((bytesToBits data).take n)) := by
  unfold enc
  rw [Uper.takeBits_eq hlen]
  rfl

theorem rt_bitString (c : SizeC) : RT (.bitString c) := by
  intro v pos pos' bits rest fuel hwf _ _ ht hf hp he hfuel
  obtain ⟨data, n, rfl, _, hlen, hin⟩ := hasType_bitString ht
  rw [canon]
  rw [Ty.wf] at hwf
  rw [sizeOk_eq_inSize] at hin
  have hblen : ((bytesToBits data).take n).length = n := by
    rw [List.length_take, bytesToBits_length]; omega
  rw [enc_bitString c pos data n hlen] at he
  unfold cleanBits
  generalize (bytesToBits data).take n = body at *
  refine rt_sized hwf hp rfl (fun _ _ h => by cases h) ?_ ?_ he
  · intro p p' b hq hb hl
    cases hb
    simp only [ok_bind, align_alignBits _ _ _ hq,
      decChunksBits_encChunked 1 _ (uniform_map_singleton body) _ _ fuel (by omega),
      flatten_map_singleton, hblen, alignBits_length, Nat.add_assoc]
  · intro p p' b _ hb _
    cases hb
    simp only [ok_bind, readBits_append _ _ _ hblen, hblen]

theorem et_bitString (c : SizeC) : ET (.bitString c) := by
  intro v pos hwf ht
  obtain ⟨data, n, rfl, _, hlen, hin⟩ := hasType_bitString ht
  rw [Ty.wf] at hwf
  rw [sizeOk_eq_inSize] at hin
  rw [enc_bitString c pos data n hlen]
  exact encExt_total hwf (by rw [hin, Bool.or_true])
    (fun _ => encRoot_total hin (fun _ => ⟨_, rfl⟩) fun _ => ⟨_, rfl⟩)
    (fun h => by rw [hin] at h; cases h)

theorem utf8Bytes_ok (cps : List Nat) (h : ∀ cp ∈ cps, ¬ (0xd800 ≤ cp ∧ cp < 0xe000)) :
    utf8Bytes cps = .ok (cps.flatMap utf8Enc) := by
  unfold utf8Bytes
  rw [if_neg]
  simp only [List.any_eq_true, Bool.and_eq_true, decide_eq_true_eq, not_exists, not_and]
  intro cp hcp h1
  have := h cp hcp
  omega

theorem rt_utf8 (c : SizeC) : RT (.charString .utf8 c) := by
  intro v pos pos' bits rest fuel hwf _ _ ht hf hp he hfuel
  obtain ⟨cps, rfl, h⟩ := hasType_charString ht
  rw [canon_charString]
  have hvalid := (h.resolve_right fun h => h.1 rfl).2
  have hbytes : ∀ b ∈ cps.flatMap utf8Enc, b < 256 := by
    intro b hb
    obtain ⟨cp, hcp, hb'⟩ := List.mem_flatMap.1 hb
    exact Uper.utf8Enc_lt_256 cp (hvalid cp hcp).1 b hb'
  unfold enc at he
  rw [utf8Bytes_ok cps (fun cp hcp => (hvalid cp hcp).2)] at he
  simp only at he
  cases he
  simp only [List.length_append] at hfuel
  unfold dec
  simp only [ok_bind, List.append_assoc, align_alignBits _ _ _ hp,
    decChunksBits_encChunked 8 _ (uniform_map_natToBits 8 (cps.flatMap utf8Enc)) _ _ fuel (by omega),
    flatten_map_natToBits8, packBits_bytesToBits _ hbytes,
    Uper.utf8Dec_flatMap_utf8Enc cps hvalid _ (Nat.le_refl _), List.length_append, alignBits_length,
    Nat.add_assoc]

theorem et_utf8 (c : SizeC) : ET (.charString .utf8 c) := by
  intro v pos hwf ht
  obtain ⟨cps, rfl, h⟩ := hasType_charString ht
  have hvalid := (h.resolve_right fun h => h.1 rfl).2
  unfold enc
  rw [utf8Bytes_ok cps (fun cp hcp => (hvalid cp hcp).2)]
  exact ⟨_, rfl⟩

end Asn1.Per
