import Asn1Proofs.Lemmas.X691Clauses
import Asn1Proofs.Lemmas.X691PerPrim
/-
  The ALIGNED specification encoder against the code model `Per.enc`: the types without
  components.
-/
namespace Asn1.X691
open Asn1.Uper (lenDet encChunked mapM_congr_ok mapM_length)
open Asn1.Per (alignBits)

/-- C05 at `t` for the ALIGNED variant and its code model `Per.enc` (`REF` is the unaligned sibling) -/
def PREF (t : Ty) : Prop := Ref true Per.enc t

theorem pref_boolean : PREF .boolean := by
  intro v pos bits _ he
  obtain ⟨b, rfl, rfl⟩ := enc_boolean_ok he
  rfl

theorem pref_null : PREF .null := by
  intro v pos bits _ he
  obtain ⟨rfl, rfl⟩ := enc_null_ok he
  rfl

theorem pref_integer (c : IntC) : PREF (.integer c) := by
  intro v pos bits hd he
  obtain ⟨i, rfl, h⟩ := enc_integer_ok he
  replace hd : devsInteger true c i = [] := hd
  unfold Per.enc
  obtain ⟨lo, hi, ext⟩ := c
  have hopen : lo = none ∨ hi = none →
      (if ext = true then (.error .foreign : EncM Bits)
        else .ok (alignBits pos ++ Uper.encUnconstrained i)) = .ok bits := by
    intro hb
    obtain ⟨hx, hk, rfl⟩ := encInteger_open hb hd h
    cases hx
    rw [unconstrained_pad _ _ _ hk, pad_true]
    rfl
  cases lo with
  | none => exact hopen (.inl rfl)
  | some lb =>
    cases hi with
    | none => exact hopen (.inr rfl)
    | some ub =>
      have hc := encInteger_closed hd h
      simp only
      by_cases hin : lb ≤ i ∧ i ≤ ub
      · rw [if_pos hin] at hc
        rw [hc.1, ← encConstrainedInt_eq _ _ _ _ (hc.2 rfl)]
        cases ext <;> simp [hin]
      · rw [if_neg hin] at hc
        obtain ⟨rfl, hk, rfl⟩ := hc
        rw [unconstrained_pad _ _ _ hk, pad_true]
        simp [hin]

theorem pref_enumerated (root : List (String × Int)) (ext : Option (List (String × Int))) :
    PREF (.enumerated root ext) :=
  enumerated_ref true Per.enc root ext (fun _ _ => by unfold Per.enc Uper.enc; rfl)

/-- The left side is the body of `Per.enc` at OCTET STRING, BIT STRING and the known-multiplier
strings after `unfold`, for `n` items of `u` bits; `out` is the code's answer to a size outside an
extensible root, `av'` / `af'` its alignment flags.  `h` is the raw `extSizedM` (all three users have
position-free items).  SEQUENCE OF threads positions through its components and has `seqOf_root`. -/
theorem per_sized (u : Nat) (c : SizeC) (af av af' av' unimpl : Bool) (out : EncM Bits)
    (items : List Bits) (n : Nat) (body : Bits) (pos : Nat) (bits : Bits)
    (hn : items.length = n) (hb : items.flatten = body)
    (hfix : c.hi = some c.lo → af = af') (hu : ∀ x ∈ items, x.length = u)
    (hvar : ∀ ub, c.hi = some ub → ub < 65536 → c.lo ≠ ub → inRoot c n = true → av = av')
    (hd : devsSize c n unimpl = [])
    (hout : unimpl = false → out = .ok ([true] ++ alignBits (pos + 1) ++ (lenDet n).1 ++ body))
    (h : extSizedM true leaf c af av pos items = .ok bits) :
    (if c.ext then
      match Per.extRange c n with
      | .typeError => (.error .foreign : EncM Bits)
      | .outside => out
      | .inside =>
        match Uper.sizeBits c with
        | none => .ok ([false] ++ alignBits (pos + 1) ++ encChunked items)
        | some w =>
          if ¬ Uper.inSize c n then .error .unmodelled
          else .ok ([false] ++ Per.sizePrefix c w (pos + 1) n av' af' ++ body)
    else
      match Uper.sizeBits c with
      | none => .ok ([] ++ alignBits pos ++ encChunked items)
      | some w =>
        if ¬ Uper.inSize c n then .error .unmodelled
        else .ok ([] ++ Per.sizePrefix c w pos n av' af' ++ body)) = .ok bits := by
  subst hn hb
  have hdv := devsSize_nil _ _ _ hd
  -- the arm of a size inside the root, behind the bits `pre` (the extension bit or nothing)
  have hroot : ∀ (p : Nat) (b pre : Bits), sizedM true leaf c.lo c.hi af av p items = .ok b →
      (match Uper.sizeBits c with
        | none => (.ok (pre ++ alignBits p ++ encChunked items) : EncM Bits)
        | some w =>
          if ¬ Uper.inSize c items.length then .error .unmodelled
          else .ok (pre ++ Per.sizePrefix c w p items.length av' af' ++ items.flatten))
        = .ok (pre ++ b) := by
    intro p b pre hb
    obtain ⟨hin, h1, h2⟩ := sizedM_true leaf c af av af' av' hfix items hvar p b hb
    cases hsb : Uper.sizeBits c with
    | none =>
      have := h1 hsb
      rw [genLenM_leaf, genLen_pad true _ _ (fun _ => hu), pad_true] at this
      cases this
      simp
    | some w =>
      obtain ⟨body, hb1, rfl⟩ := h2 w hsb
      rw [seqM_leaf] at hb1
      cases hb1
      simp [hin]
  rcases extSizedM_inv h with ⟨hext, hin, b, hb1, rfl⟩ | ⟨hext, hin, b, hb1, rfl⟩ | ⟨hext, hb⟩
  · obtain ⟨hhi, hout'⟩ := hdv hext
    obtain ⟨hun, hlt⟩ := hout' (by rw [← inRoot_eq_inSize]; exact hin)
    rw [genLenM_leaf, genLen_pad true _ _ (fun _ => hu), pad_true, encChunked_small _ hlt] at hb1
    cases hb1
    simp [hext, extRange_eq c _ hhi, hin, hout hun]
  · simp only [hext, if_true, extRange_eq c _ (hdv hext).1, hin]
    exact hroot _ b [false] hb1
  · simp only [hext, Bool.false_eq_true, if_false]
    exact hroot _ bits [] hb

theorem pref_octetString (c : SizeC) : PREF (.octetString c) := by
  intro v pos bits hd he
  obtain ⟨data, rfl, h⟩ := enc_octetString_ok he
  replace hd : devsSize c data.length false = [] := hd
  unfold encOctetString at h
  split at h
  case isFalse => cases h
  unfold Per.enc
  exact per_sized 8 c _ true _ true false _ _ _ _ pos bits (List.length_map _)
    (flatten_map_natToBits8 data) (fun hh => by rw [hh]; rfl) (Per.uniform_map_natToBits 8 data)
    (fun _ _ _ _ _ => rfl) hd (fun _ => rfl) h

theorem pref_bitString (c : SizeC) : PREF (.bitString c) := by
  intro v pos bits hd he
  obtain ⟨data, n, rfl, h⟩ := enc_bitString_ok he
  replace hd : devsSize c n true = [] := hd
  unfold encBitString at h
  split at h
  case isFalse => cases h
  rename_i hn
  have hlen := length_map_take_bytesToBits hn
  unfold Per.enc
  simp only [Uper.takeBits, if_pos hn]
  exact per_sized 1 c _ true _ true true _ _ _ _ pos bits hlen (flatten_map_singleton _)
    (fun hh => by rw [hh]; rfl) (Per.uniform_map_singleton _) (fun _ _ _ _ _ => rfl) hd
    (fun hf => nomatch hf) h

theorem pref_utf8 (c : SizeC) : PREF (.charString .utf8 c) := by
  intro v pos bits hd he
  obtain ⟨cps, rfl, h⟩ := enc_charString_ok he
  rw [if_pos rfl] at h
  unfold encUtf8 at h
  split at h
  case isFalse => cases h
  rename_i hall
  cases h
  have hany : cps.any (fun cp => decide (0xd800 ≤ cp) && decide (cp < 0xe000)) = false := by
    rw [List.any_eq_false]
    intro x hx
    have := List.all_eq_true.mp hall x hx
    simp only [Bool.and_eq_true, decide_eq_true_eq, Bool.not_eq_true', Bool.and_eq_false_iff,
      decide_eq_false_iff_not] at this ⊢
    omega
  unfold Per.enc Per.utf8Bytes
  rw [hany]
  simp only [Bool.false_eq_true, if_false]
  rw [lenOctets_pad, pad_true]

theorem charBits_true (k : StrKind) (hk : k ≠ .utf8) : charBits true k = Per.bitsPerChar k := by
  cases k <;> first | (exact absurd rfl hk) | decide +kernel

/-- a character the standard encodes is ASCII, so `Per.charCode` does not raise -/
theorem charValue_true (k : StrKind) (cp v : Nat) (h : charValue true k cp = .ok v) :
    Per.charCode k cp = .ok v := by
  have hlt : cp < 128 := by
    unfold charValue at h
    by_cases hc : (alphabet k).contains cp = true
    · exact alphabet_lt k cp (by simpa using hc)
    · simp only [hc, if_false, Bool.false_eq_true, invalid] at h
      cases h
  unfold Per.charCode
  rw [if_neg (by omega), ← charValue_eq true]
  exact h

theorem pref_knownMultiplier (k : StrKind) (hk : k ≠ .utf8) (c : SizeC) : PREF (.charString k c) := by
  intro v pos bits hd he
  obtain ⟨cps, rfl, h⟩ := enc_charString_ok he
  rw [if_neg hk] at h
  replace hd : devsKnownMultiplier true k c cps.length = [] := by
    cases k <;> first | exact hd | exact absurd rfl hk
  unfold devsKnownMultiplier at hd
  obtain ⟨hd1, hd2⟩ := List.append_eq_nil_iff.mp hd
  unfold encKnownMultiplier at h
  cases hm : cps.mapM (charValue true k) with
  | error e => rw [hm] at h; cases h
  | ok vals =>
    rw [hm] at h
    simp only at h
    have hm' := mapM_congr_ok _ (Per.charCode k) cps vals (fun a _ b hb => charValue_true k a b hb) hm
    rw [charBits_true k hk] at h hd2
    have hlen : (vals.map (natToBits (Per.bitsPerChar k))).length = cps.length := by
      rw [List.length_map]; exact mapM_length _ _ _ hm
    -- 27.5.7 aligns iff `ub * b ≥ 16`, the code iff `ub > 1` and the string is not empty
    have hvar : ∀ ub, c.hi = some ub → ub < 65536 → c.lo ≠ ub → inRoot c cps.length = true →
        strAlignVar (c.hi.getD 0) (Per.bitsPerChar k) = decide (c.hi.getD 0 > 1 ∧ cps.length > 0) := by
      intro ub hub h64 hne hin
      rw [hub] at hd2 ⊢
      simp only [true_and, Option.getD_some] at hd2 ⊢
      rw [if_pos ⟨h64, hne, hin⟩] at hd2
      split at hd2
      · split at hd2 <;> cases hd2
      · rename_i hx
        simp only [bne_iff_ne, ne_eq, Decidable.not_not] at hx
        rw [hx, Bool.decide_and]
    cases k with
    | utf8 => exact absurd rfl hk
    | _ =>
      unfold Per.enc
      rw [hm']
      exact per_sized _ c _ _ _ _ true _ _ _ _ pos bits hlen rfl (fun _ => rfl)
        (Per.uniform_map_natToBits _ vals) hvar hd1 (fun hf => nomatch hf) h

theorem pref_charString (k : StrKind) (c : SizeC) : PREF (.charString k c) := by
  by_cases hk : k = .utf8
  · subst hk; exact pref_utf8 c
  · exact pref_knownMultiplier k hk c

end Asn1.X691
