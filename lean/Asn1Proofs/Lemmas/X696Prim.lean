import Asn1Model.X696
import Asn1Proofs.Lemmas.OerRoundtrip
/-
  C06, primitives: the primitive encoders of the specification `X696` coincide with those of the
  code model `Oer`.
-/
namespace Asn1.X696

theorem lengthDet_eq (n : Nat) : lengthDet n = Oer.lenDet n := by
  rw [Oer.lenDet_def, lengthDet,
    show (natToBytesMin n).length = byteLength n from natToBytesN_length _ _]
  by_cases h : n < 128
  · rw [if_pos h, if_pos h]
  · rw [if_neg h, if_neg h]
    by_cases hk : byteLength n ≤ 127
    · rw [if_pos hk, if_neg (by omega)]; rfl
    · rw [if_neg hk, if_pos (by omega)]

theorem prefixed_eq (k : Nat) (body : Bytes) :
    (match lengthDet k with | .ok l => .ok (l ++ body) | .error e => .error e)
      = Oer.lenPrefixed k body := by
  rw [lengthDet_eq]
  cases h : Oer.lenDet k <;> simp only [Oer.lenPrefixed, h] <;> rfl

theorem varUnsigned_eq (n : Nat) : varUnsigned n = Oer.encUnsigned n := by
  have : unsignedOctets n = (max (bitLength n) 1 + 7) / 8 := by
    unfold unsignedOctets byteLength
    omega
  refine (prefixed_eq _ _).trans ?_
  rw [this]
  rfl

theorem varSigned_eq (i : Int) : varSigned i = Oer.encSigned i := prefixed_eq _ _

theorem openType_eq (e : Bytes) : openType e = Oer.wrap e := prefixed_eq _ _

theorem visibleFixedSize_eq (c : SizeC) : visibleFixedSize c = Oer.fixedSize c := rfl

theorem itemValue_eq (name : String) (l : List (String × Int)) : itemValue name l = Oer.enumValue name l := by
  induction l with
  | nil => rfl
  | cons x r ih =>
    obtain ⟨n, v⟩ := x
    simp only [itemValue, Oer.enumValue, ih]

theorem base128_eq (f n : Nat) : base128 f n = Oer.base128 f n := by
  induction f generalizing n with
  | zero => rfl
  | succ f ih => simp only [base128, Oer.base128, ih]

theorem tagOctets_eq (idx : Nat) : tagOctets contextClass idx = Oer.encTag idx 0x80 := by
  unfold tagOctets Oer.encTag contextClass
  simp only [base128_eq]

theorem enc_null : enc .null .null = .ok [] := by rw [enc]

theorem devs_sequenceOf (e : Ty) (c : SizeC) (vs : List Val) :
    devs (.sequenceOf e c) (.list vs) = vs.flatMap (devs e) := by rw [devs]

end Asn1.X696
