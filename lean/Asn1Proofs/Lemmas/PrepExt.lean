import Asn1Model.SpecDict
/-
  Pass 2 of the dictionary rewrite (`pre_process_extensibility_implied`): appending the missing
  marker, and idempotence of the pass.

  Every pass is defined by recursion over the five mutually nested types and unfolds
  definitionally on a constructor, so the constructor cases of the traversals below are
  congruences (`cons_congr` for the list cases).
-/
namespace Asn1.SpecDict

theorem cons_congr {α : Type} {x y : α} {s t : List α} (hx : x = y) (ht : s = t) :
    x :: s = y :: t := by
  rw [hx, ht]

theorem hasMarker_append_marker (l : List Item) : hasMarker (l ++ [.marker]) = true := by
  induction l with
  | nil => rfl
  | cons x t ih => cases x <;> simp [hasMarker, ih]

theorem addMarker_of_hasMarker {l : List Item} (h : hasMarker l = true) : addMarker l = l := by
  simp [addMarker, h]

theorem addMarker_rec {C : List Item → Prop} {l : List Item} (h₁ : C l) (h₂ : C (l ++ [.marker])) :
    C (addMarker l) := by
  unfold addMarker; split
  · exact h₁
  · exact h₂

theorem hasMarker_addMarker (l : List Item) : hasMarker (addMarker l) = true := by
  unfold addMarker; split
  · assumption
  · exact hasMarker_append_marker l

theorem map_addMarker {f : List Item → List Item} {l : List Item}
    (hm : hasMarker (f l) = hasMarker l) (ha : f (l ++ [.marker]) = f l ++ [.marker]) :
    f (addMarker l) = addMarker (f l) := by
  unfold addMarker
  rw [hm]
  split
  · rfl
  · exact ha

theorem hasMarker_extItems (l : List Item) : hasMarker (extItems l) = hasMarker l := by
  induction l with
  | nil => rfl
  | cons x t ih => cases x <;> simp [extItems, extItem, hasMarker, ih]

theorem extItems_append_marker (l : List Item) :
    extItems (l ++ [.marker]) = extItems l ++ [.marker] := by
  induction l with
  | nil => rfl
  | cons x t ih => simp [extItems, ih]

mutual
  theorem extDesc_idem (d : Desc) : extDesc (extDesc d) = extDesc d :=
    match d with
    | .mk a b => congrArg (Desc.mk a) (extBody_idem b)
  theorem extBody_idem (b : Body) : extBody (extBody b) = extBody b :=
    match b with
    | .leaf => rfl
    | .element e => congrArg Body.element (extDesc_idem e)
    | .members ms => by
      simp only [extBody]
      rw [map_addMarker (hasMarker_extItems _) (extItems_append_marker _), extItems_idem ms,
        addMarker_of_hasMarker (hasMarker_addMarker _)]
  theorem extItems_idem (l : List Item) : extItems (extItems l) = extItems l :=
    match l with
    | [] => rfl
    | i :: t => cons_congr (extItem_idem i) (extItems_idem t)
  theorem extItem_idem (i : Item) : extItem (extItem i) = extItem i :=
    match i with
    | .marker => rfl
    | .compOf _ => rfl
    | .group g => congrArg Item.group (extDescs_idem g)
    | .desc d => congrArg Item.desc (extDesc_idem d)
  theorem extDescs_idem (l : List Desc) : extDescs (extDescs l) = extDescs l :=
    match l with
    | [] => rfl
    | d :: t => cons_congr (extDesc_idem d) (extDescs_idem t)
end

@[simp] theorem extDesc_attrs (d : Desc) : (extDesc d).attrs = d.attrs := by
  cases d; rfl

@[simp] theorem extDescs_length (g : List Desc) : (extDescs g).length = g.length := by
  induction g with
  | nil => rfl
  | cons d t ih => simp [extDescs, ih]

end Asn1.SpecDict
