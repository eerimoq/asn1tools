import Asn1Proofs.Lemmas.X690CompDefs
import Asn1Proofs.Lemmas.DerCodecInst
import Asn1Proofs.Lemmas.DerSeq
/-
  C04 completeness, SEQUENCE: what the strict reference decoder accepts as the components of a
  SEQUENCE (definite or indefinite length) is a `Der.Stream` for the code's decoder
  (`stream_of_decComponentsS`), so the `decode_members` loops (`retry` / `gPass`,
  `Der.retry_of_stream`) and `fill` give the same field list (`gSeq_of_members`).
-/
namespace Asn1.X690
open Asn1.Der (mkTag gPass gSeq retry fill finishMembers Cur matchTag readLen curAt endCur Stream
  retry_of_stream endCur_of_not_end)

theorem cs_fill_cons_some (name : String) (p : Presence) (t : Ty) (rest : Members) (v : Val)
    (ss : List (Option Val)) (ign : Bool) :
    fill (.cons name p t rest) (some v :: ss) ign =
      match fill rest ss ign with
      | .ok r => .ok ((name, v) :: r)
      | .error e => .error e := by
  cases p <;> rfl

/-- `fill` on a component the reference decoder found absent: skipped if OPTIONAL, its DEFAULT put in -/
theorem cs_fill_absent {name : String} {p : Presence} {t : Ty} {rest : Members} {ss : List (Option Val)}
    {ign : Bool} {fs fs' : List (String × Val)}
    (hfs : (p = .optional ∧ fs = fs') ∨ ∃ d, p = .default d ∧ fs = (name, d) :: fs')
    (h : fill rest ss ign = .ok fs') : fill (.cons name p t rest) (none :: ss) ign = .ok fs := by
  rcases hfs with ⟨rfl, rfl⟩ | ⟨d, rfl, rfl⟩
  · exact h
  · simp only [fill, List.headD_cons, List.tail_cons, h]

theorem cs_absent (indef : Bool) (fuel : Nat) (ign : Bool) (ms : Members) :
    ∀ (i : Nat) (x y : Bytes) (fs : List (String × Val)), atEndB indef x = true →
      decComponentsS ms i fuel x = some (fs, y) →
      y = x ∧ fill ms (List.replicate ms.length none) ign = .ok fs := by
  induction ms using Members.ind with
  | nil =>
    intro i x y fs _ h
    cases h; exact ⟨rfl, rfl⟩
  | cons name p t rest ih =>
    intro i x y fs hx h
    obtain ⟨fs', hr, hfs⟩ := decComponentsS_cons_absent (componentPresent_atEnd indef t i x hx) h
    obtain ⟨e1, e2⟩ := ih (i + 1) x y fs' hx hr
    exact ⟨e1, cs_fill_absent hfs e2⟩

theorem cs_next_tag (indef : Bool) (fuel : Nat) (ms : Members) :
    ∀ (i lo : Nat) (x y : Bytes) (fs : List (String × Val)),
      decComponentsS ms i fuel x = some (fs, y) → i + ms.length ≤ lo →
      (atEndB indef y = true ∨ TagGe lo y) → atEndB indef x = false → TagGe i x := by
  induction ms using Members.ind with
  | nil =>
    intro i lo x y fs h hlo hy hx
    cases h
    rcases hy with hy | hy
    · rw [hy] at hx; cases hx
    · exact hy.mono (by simp [Members.length] at hlo; omega)
  | cons name p t rest ih =>
    intro i lo x y fs h hlo hy hx
    simp only [Members.length] at hlo
    by_cases hp : componentPresent t i x = true
    · exact tagGe_of_componentPresent hp
    · obtain ⟨fs', hr, _⟩ := decComponentsS_cons_absent (by simpa using hp) h
      exact (ih (i + 1) lo x y fs' hr (by omega) hy hx).mono (by omega)

theorem endCur_atEnd {indef : Bool} {y : Bytes} (hy : atEndB indef y = true) (tail : Bytes) (k : Nat) :
    endCur indef y tail k = ⟨afterEnd indef y ++ tail, k + (y.length - (afterEnd indef y).length),
      if indef then none else some 0⟩ := by
  cases indef with
  | false =>
    simp only [atEndB, if_false, Bool.false_eq_true, List.isEmpty_iff] at hy
    subst hy; rfl
  | true =>
    obtain ⟨r, rfl⟩ := startsEOC_iff.mp hy
    simp [endCur, afterEnd, startsEOC]
    omega

theorem stream_of_decComponentsS (indef ign : Bool) (fuel fuelC : Nat) (tail : Bytes) (ms : Members) :
    ms.All COMP → ∀ (i lo : Nat) (x y : Bytes) (fs : List (String × Val)),
      decComponentsS ms i fuel x = some (fs, y) → i + ms.length ≤ lo →
      (atEndB indef y = true ∨ TagGe lo y) → (x ++ tail).length < fuelC →
      ∃ slots, Stream BerCodec.dec fuelC tail indef ms i x slots y ∧ fill ms slots ign = .ok fs := by
  induction ms using Members.ind with
  | nil =>
    intro _ i lo x y fs h _ _ _
    rw [decComponentsS_nil] at h; cases h
    exact ⟨[], .nil, rfl⟩
  | cons name p t rest ih =>
    intro hall i lo x y fs h hlo hy hf
    simp only [Members.length] at hlo
    by_cases hp : componentPresent t i x = true
    · obtain ⟨v, x', fs', hv, hr, rfl⟩ := decComponentsS_cons_present hp h
      obtain ⟨k, hk, hlen, _⟩ := hall.1 (some i) fuel fuelC x x' tail v hv hf
      obtain ⟨slots, hs, hfill⟩ := ih hall.2 (i + 1) lo x' y fs' hr (by omega) hy
        (by simp only [List.length_append] at hf ⊢; omega)
      have hx : atEndB indef x = false := by
        cases hxe : atEndB indef x with
        | false => rfl
        | true => rw [componentPresent_atEnd indef t i x hxe] at hp; cases hp
      exact ⟨some v :: slots, .present hx hk hlen hs, by rw [cs_fill_cons_some, hfill]⟩
    · obtain ⟨fs', hr, hfs⟩ := decComponentsS_cons_absent (by simpa using hp) h
      obtain ⟨slots, hs, hfill⟩ := ih hall.2 (i + 1) lo x y fs' hr (by omega) hy hf
      have hx : atEndB indef x = true ∨ TagGe (i + 1) x := by
        cases hxe : atEndB indef x with
        | true => exact .inl rfl
        | false => exact .inr (cs_next_tag indef fuel rest (i + 1) lo x y fs' hr (by omega) hy hxe)
      exact ⟨none :: slots, .absent hx hs, cs_fill_absent hfs hfill⟩

/-- the `while True` loop of `decode_members` over such a stream -/
theorem cs_retry (indef ign : Bool) (fuel : Nat) (ms : Members) (hall : ms.All COMP)
    (i lo fuelC : Nat) (x y extra : Bytes) (fs : List (String × Val)) (k0 : Nat)
    (h : decComponentsS ms i fuel x = some (fs, y)) (hlo : i + ms.length ≤ lo)
    (hy : atEndB indef y = true ∨ TagGe lo y) (h2 : indef = true → 2 ≤ y.length)
    (hf : (x ++ extra).length < fuelC) :
    y.length ≤ x.length ∧ ∃ slots,
      retry (gPass BerCodec.dec ms i fuelC) (ms.length + 1) (List.replicate ms.length none) (curAt indef x extra k0)
        = .ok (slots, endCur indef y extra (k0 + (x.length - y.length)), atEndB indef y) ∧
      fill ms slots ign = .ok fs := by
  obtain ⟨slots, hs, hfill⟩ := stream_of_decComponentsS indef ign fuel fuelC extra ms hall i lo x y fs h hlo hy hf
  obtain ⟨hle, hr⟩ := retry_of_stream BerCodec.ber_isCodec (by omega) hs h2 (hy.imp_right (·.mono hlo)) k0
  exact ⟨hle, slots, hr, hfill⟩

/-- the two `decode_members` loops (extension root, additions) and the end of
`MembersType.decode_content`, in either length form: `z` are the contents as the reference decoder
parses them, up to the end `y` -/
theorem gSeq_of_members (indef : Bool) (root adds : Members) (ihr : root.All COMP) (iha : adds.All COMP)
    (tg : Option Nat) (fuel fuelC : Nat) (bs r z c1 y extra : Bytes) (hdr : Nat) (fs1 fs2 : List (String × Val))
    (hm : matchTag (mkTag 16 true tg) bs = .ok (some r))
    (hrl : readLen false r = .ok (if indef then none else some z.length, hdr, z ++ extra))
    (hd1 : decComponentsS root 0 fuel z = some (fs1, c1))
    (hd2 : decComponentsS adds root.length fuel c1 = some (fs2, y))
    (hy : atEndB indef y = true) (hf : (z ++ extra).length < fuelC) :
    y.length ≤ z.length ∧
    gSeq BerCodec.dec root adds tg fuelC bs = finishMembers (fs1 ++ fs2)
      (endCur indef y extra ((mkTag 16 true tg).length + hdr + (z.length - y.length))) true := by
  have h2y : indef = true → 2 ≤ y.length := by
    intro hi
    subst hi
    obtain ⟨r', rfl⟩ := startsEOC_iff.mp hy
    simp
  -- the additions first, for `y.length ≤ c1.length` only
  obtain ⟨hle2, _⟩ := cs_retry indef true fuel adds iha root.length (root.length + adds.length)
    (c1.length + extra.length + 1) c1 y extra fs2 0 hd2 (Nat.le_refl _) (Or.inl hy) h2y (by simp)
  have hy1 : atEndB indef c1 = true ∨ TagGe root.length c1 := by
    by_cases hc1 : atEndB indef c1 = true
    · exact Or.inl hc1
    · exact Or.inr (cs_next_tag indef fuel adds root.length (root.length + adds.length) c1 y fs2 hd2
        (Nat.le_refl _) (Or.inl hy) (by simpa using hc1))
  obtain ⟨hle1, slots1, hret1, hfill1⟩ := cs_retry indef false fuel root ihr 0 root.length fuelC
    z c1 extra fs1 ((mkTag 16 true tg).length + hdr) hd1 (by omega) hy1
    (fun hi => by have := h2y hi; omega) hf
  refine ⟨by omega, ?_⟩
  rw [gSeq, hm]
  simp only []
  rw [hrl]
  simp only []
  rw [show (⟨z ++ extra, (mkTag 16 true tg).length + hdr, if indef then none else some z.length⟩ : Cur)
    = curAt indef z extra ((mkTag 16 true tg).length + hdr) from rfl, hret1]
  simp only [hfill1]
  by_cases hal : adds.length = 0
  · obtain rfl := Members.eq_nil_of_length hal
    cases hd2
    simp only [Members.length, if_true, List.append_nil, hy]
  · simp only [hal, if_false]
    by_cases hend : atEndB indef c1 = true
    · -- the root loop reached the end of the contents (and consumed end-of-contents octets): the
      -- additions loop is skipped (`while not out_of_data:`, /repo commit 300e5ac)
      obtain ⟨rfl, e2⟩ := cs_absent indef fuel true adds root.length c1 y fs2 hend hd2
      simp only [hend, if_true, e2]
    · have hendf : atEndB indef c1 = false := by simpa using hend
      obtain ⟨_, slots2, hret2, hfill2⟩ := cs_retry indef true fuel adds iha root.length
        (root.length + adds.length) fuelC c1 y extra fs2
        ((mkTag 16 true tg).length + hdr + (z.length - c1.length)) hd2 (Nat.le_refl _) (Or.inl hy) h2y
        (by simp only [List.length_append] at hf ⊢; omega)
      simp only [hendf, Bool.false_eq_true, if_false]
      rw [endCur_of_not_end extra _ hendf, hret2]
      simp only [hfill2, hy]
      rw [show (mkTag 16 true tg).length + hdr + (z.length - c1.length) + (c1.length - y.length)
        = (mkTag 16 true tg).length + hdr + (z.length - y.length) by omega]

theorem comp_sequence (root : Members) (e : Bool) (adds : Members)
    (ihr : root.All COMP) (iha : adds.All COMP) : COMP (.sequence root e adds) := by
  intro tg fuel fuelC bs rest extra v h hf
  rw [decVS_sequence, header_eq_mkTag] at h
  simp only [Der.univNumber] at h
  split at h
  · cases h
  · rename_i r hs
    obtain rfl := stripPrefix_some hs
    have hm : matchTag (mkTag 16 true tg) (mkTag 16 true tg ++ r ++ extra) = .ok (some (r ++ extra)) := by
      rw [List.append_assoc]; exact Der.matchTag_self _ _
    have htag := tagLen_le 16 true tg
    simp only [List.length_append] at hf ⊢
    rw [BerCodec.ber_isCodec.seq]
    obtain ⟨indef, z, y, tail, hdr, hp, hy, hrest, hrl, hl, hd0⟩ := framing h extra
    obtain ⟨fs1, c1, fs2, hd1, hd2, rfl⟩ := componentsRefS_some hp
    simp only [List.length_append] at hl
    obtain ⟨hle, hg⟩ := gSeq_of_members indef root adds ihr iha tg fuel fuelC _ _ z c1 y tail hdr
      fs1 fs2 hm hrl hd1 hd2 hy (by simp only [List.length_append]; omega)
    have hlr := congrArg List.length hrest
    have hae := afterEnd_length_le indef y
    simp only [List.length_append] at hlr
    refine ⟨(mkTag 16 true tg).length + hdr + (z.length - y.length) + (y.length - (afterEnd indef y).length),
      ?_, by omega, by omega⟩
    rw [hg, endCur_atEnd hy, hrest]
    rfl

end Asn1.X690

#print axioms Asn1.X690.comp_sequence
