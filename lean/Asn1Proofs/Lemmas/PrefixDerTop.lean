import Asn1Proofs.Lemmas.PrefixDer
import Asn1Proofs.Lemmas.DerCodecInst
/-
  C16 for the DER model: a bare CHOICE (dispatch on the tag read by `readTag`), once for DER and BER
  (`IsCodec.bare_short`), and the top level (`truncated`).
-/
namespace Asn1.Der

/-- `Choice.decode` of a bare CHOICE, of the DER and of the BER decoder (`alt`, `alt'` look the tag up
among the root alternatives and the additions), on a strict prefix of the TLV of one of its
alternatives: out of data, or (at worst) no alternative claims the tag -/
theorem bare_short (alt alt' : Bytes → Option (DecM (Option Res))) (ext : Bool) (q content : Bytes)
    (n c : Nat) (hc : c = 0 ∨ c = 32) (h : SPre q (tlv (Ber.encTag n (0x80 + c)) content))
    (ha : alt (Ber.encTag n (0x80 + c)) = none ∨
      alt (Ber.encTag n (0x80 + c)) = some (.error .decodeError))
    (ha' : alt' (Ber.encTag n (0x80 + c)) = none ∨
      alt' (Ber.encTag n (0x80 + c)) = some (.error .decodeError)) :
    let r : DecM (Option Res) := do
      let (tag, _) ← readTag q
      match alt tag with
      | some res => res
      | none =>
        match alt' tag with
        | some res => res
        | none =>
          if ext then do
            let (k, r) ← skipTLV q
            .ok (some (.choice "" .absent, k, r))
          else .ok none
    r = .error .decodeError ∨ r = .ok none := by
  dsimp only
  obtain ⟨x, hx, hfull⟩ := h
  rcases readTag_cases q with h1 | ⟨t, r', h1, hext⟩
  · left; rw [h1]; rfl
  · -- `readTag` reads the identifier octets off the whole TLV (`hc` is what `readTag_encTag_der` asks of
    -- the tag) and does the same on every extension of `q`: so it read them off `q` too, and what it
    -- left of `q` is a strict prefix of length ++ contents, on which `readLen` fails
    have hfull' := readTag_encTag_der n (0x80 + c) (Ber.encLength content.length ++ content)
      (by rcases hc with rfl | rfl <;> rfl) (by simp [encLength_ne_nil])
    rw [← tlv_eq, hfull, hext x] at hfull'
    injection hfull' with hfull'
    injection hfull' with ht hrest
    subst ht
    have hlen : readLen true r' = .error .decodeError :=
      readLen_short true r' content ⟨x, hx, hrest.symm⟩
    rw [h1]
    dsimp only [bind, Except.bind]
    rcases ha with e1 | e1 <;> rw [e1] <;> dsimp only
    · rcases ha' with e2 | e2 <;> rw [e2] <;> dsimp only
      · cases ext
        · right; rfl
        · left
          simp only [skipTLV, h1, bind, Except.bind, hlen, if_true]
      · exact .inl rfl
    · exact .inl rfl

section
variable {D : Decoder} {test : Ty → Nat → Bytes → Bool} {fuel : Nat} {q content : Bytes}

/-- `tag_to_member`: whichever key leads to an alternative, that alternative's decoder runs out of data -/
theorem gAlt_short (hs : ∀ t i T, test t i T = true → SPre q (tlv T content) →
      D t (some i) fuel q = .error .decodeError) (as : Alts) (i : Nat) (T : Bytes)
    (h : SPre q (tlv T content)) :
    gAlt D test as i T fuel q = none ∨ gAlt D test as i T fuel q = some (.error .decodeError) := by
  induction as using Alts.ind generalizing i with
  | nil => exact .inl rfl
  | cons n t rest ih =>
    simp only [gAlt]
    split
    · rename_i heq
      right
      rw [hs t i T heq h]
    · exact ih (i + 1)

theorem IsCodec.bare_short (hD : IsCodec D test)
    (hs : ∀ t i T, test t i T = true → SPre q (tlv T content) → D t (some i) fuel q = .error .decodeError)
    (root adds : Alts) (ext : Bool) (n c : Nat) (hc : c = 0 ∨ c = 32)
    (h : SPre q (tlv (Ber.encTag n (0x80 + c)) content)) :
    D (.choice root ext adds) none fuel q = .error .decodeError ∨
      D (.choice root ext adds) none fuel q = .ok none := by
  rw [hD.choice]
  -- `gChoice` without a tag is `gBare`, whose `match`es on `Except` are the binds of `bare_short`
  set_option smartUnfolding false in
  exact Der.bare_short (gAlt D test root 0 · fuel q) (gAlt D test adds root.length · fuel q) ext q content n c hc h
    (gAlt_short hs root 0 _ h) (gAlt_short hs adds root.length _ h)

end

theorem derTest_short (fuel : Nat) (q content : Bytes) (t : Ty) (i : Nat) (T : Bytes)
    (ht : derTest t i T = true) (h : SPre q (tlv T content)) : dec t (some i) fuel q = .error .decodeError := by
  have hT : T = tagOf t (some i) := by simpa [derTest] using ht
  exact dec_short t (some i) fuel q content (.inl rfl) (hT ▸ h)

theorem spre_take {bytes : Bytes} {k : Nat} (hk : k < bytes.length) : SPre (bytes.take k) bytes :=
  ⟨bytes.drop k, by
    intro h0
    have := congrArg List.length h0
    simp only [List.length_drop, List.length_nil] at this
    omega, (List.take_append_drop k bytes).symm⟩

/-- a TLV carrying the type's tag or, for a bare CHOICE, the TLV of the chosen alternative, whose tag is
context-specific (`0x80`), primitive or constructed (`c`) -/
theorem encode_shape (t : Ty) (v : Val) (bytes : Bytes) (he : encode t v = .ok bytes) :
    (∃ content, bytes = tlv (tagOf t none) content ∧ ∀ r e a, t ≠ .choice r e a) ∨
      ∃ root ext adds n c content, t = .choice root ext adds ∧ (c = 0 ∨ c = 32) ∧
        bytes = tlv (Ber.encTag n (0x80 + c)) content := by
  unfold encode at he
  replace he : enc t none v = .ok bytes := by
    split at he
    · exact he
    · cases he
  rcases enc_form he with ⟨⟨content, rfl⟩, hu⟩ | ⟨_, ⟨root, ext, adds, rfl⟩, t', j, v', he'⟩
  · exact .inl ⟨content, rfl, fun r e a h => hu rfl (h ▸ rfl)⟩
  · rcases enc_form he' with ⟨⟨content, rfl⟩, _⟩ | ⟨h, _⟩
    · exact .inr ⟨root, ext, adds, j, if isConstructed t' then 0x20 else 0, content, rfl,
        by split <;> simp, rfl⟩
    · cases h

theorem truncated (t : Ty) (v : Val) (bytes : Bytes) (k : Nat)
    (he : encode t v = .ok bytes) (hk : k < bytes.length) :
    decode t (bytes.take k) = .error .decodeError := by
  have key : dec t none ((bytes.take k).length + 1) (bytes.take k) = .error .decodeError ∨
      dec t none ((bytes.take k).length + 1) (bytes.take k) = .ok none := by
    rcases encode_shape t v bytes he with ⟨content, rfl, hne⟩ |
      ⟨root, ext, adds, n, c, content, rfl, hc, rfl⟩
    · exact .inl (dec_short t none _ _ content (.inr hne) (spre_take hk))
    · exact der_isCodec.bare_short (derTest_short _ _ content) root adds ext n c hc (spre_take hk)
  unfold decode decodeWithLength
  rcases key with k1 | k1 <;> rw [k1] <;> rfl

end Asn1.Der
