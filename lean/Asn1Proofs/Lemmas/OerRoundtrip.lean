import Asn1Proofs.Lemmas.ExtOer
import Asn1Proofs.Lemmas.ExtLemmas
/-
  Round-trip theorem for the OER model (used by C01, C06, C16): the round trip of a type is its
  cross-version round trip with itself (`Ext.OerX.xt_all` at `Compat.refl t`).

  Without the hypothesis `noSwallow` (OerDefs) the round trip is false (`roundtrip_original_false` in
  OerCounterexample): `encAdditions` swallows the `.encodeError` of an extension addition -- the one
  `enc_total` has to allow for, a length that needs more than 127 length octets -- and the enclosing
  SEQUENCE is encoded successfully without that addition, so the decoder cannot return it.
-/
namespace Asn1.Oer

theorem et_all (t : Ty) : ET t :=
  Ty.induct (P := ET)
    et_boolean et_null et_integer et_enumerated et_octetString et_bitString et_charString
    (fun root ext adds ihr _ => et_sequence root ext adds ihr)
    et_sequenceOf et_choice t

theorem rt_all (t : Ty) : RT t := by
  intro v bytes rest hwf hwf2 hd ht hu hns he
  rw [← Ext.canonG_false, ← Ext.view_self false hwf ht]
  exact Ext.OerX.xt_all (.refl t) v bytes rest hwf hwf2 hd
    (Ext.dOk_self false hwf (Ext.defaultsOkG_false t ▸ hd)) ht hu hns he

set_option linter.unusedVariables false in
/-- every well-typed value of a well-formed type encodes, unless a length needs more than 127 length octets -/
theorem enc_total (t : Ty) (v : Val)
    (hwf : t.wf = true) (hd : t.defaultsOk = true) (ht : hasType t v = true) :
    (∃ bytes, enc t v = .ok bytes) ∨ enc t v = .error .encodeError :=
  et_all t v hwf ht

/-- `hns` cannot be dropped: `roundtrip_original_false` -/
theorem roundtrip_partial (t : Ty) (v : Val) (bytes rest : Bytes)
    (hwf : t.wf = true) (hwf' : oerWf t = true) (hd : t.defaultsOk = true)
    (ht : hasType t v = true) (hu : utf8Ok t v = true) (hns : noSwallow t v = true)
    (he : enc t v = .ok bytes) :
    dec t (bytes ++ rest) = .ok (canon t v, rest) :=
  rt_all t v bytes rest hwf hwf' hd ht hu hns he

end Asn1.Oer

#print axioms Asn1.Oer.enc_total
#print axioms Asn1.Oer.roundtrip_partial
