import Asn1Proofs.Lemmas.X690Tag
/-
  C03 / C04, X.690 8.3.2: the minimal two's complement octets written by the encoders satisfy the
  "first nine bits not all equal" rule that the reference decoder checks.
-/
namespace Asn1.X690

theorem natToBytesN_head2 (k m : Nat) :
    natToBytesN (k + 2) m
      = (m / 256 ^ (k + 1) % 256) :: (m / 256 ^ k % 256) :: natToBytesN k m := by
  induction k generalizing m with
  | zero => simp [natToBytesN]
  | succ k ih =>
    have e : natToBytesN (k + 1 + 2) m = natToBytesN (k + 2) (m / 256) ++ [m % 256] := rfl
    have e' : natToBytesN (k + 1) m = natToBytesN k (m / 256) ++ [m % 256] := rfl
    rw [e, ih, e']
    simp only [List.cons_append]
    rw [Nat.div_div_eq_div_mul, Nat.div_div_eq_div_mul, ← Nat.pow_succ', ← Nat.pow_succ']

/-- 8.3.2 on `k + 2` octets: the two leading octets `q = m / 256 ^ k` have their first nine bits
all zero only if `q < 128`, all one only if `q ≥ 0xff80` (= 65408) -/
theorem minimalInteger_natToBytesN (k m : Nat) (hlo : 128 * 256 ^ k ≤ m) (hhi : m < 65408 * 256 ^ k) :
    minimalInteger (natToBytesN (k + 2) m) = true := by
  rw [natToBytesN_head2,
    show m / 256 ^ (k + 1) = m / 256 ^ k / 256 by rw [Nat.div_div_eq_div_mul, ← Nat.pow_succ]]
  have hR : 0 < 256 ^ k := Nat.pow_pos (by omega)
  have hq1 : 128 ≤ m / 256 ^ k := (Nat.le_div_iff_mul_le hR).2 hlo
  have hq2 : m / 256 ^ k < 65408 := (Nat.div_lt_iff_lt_mul hR).2 hhi
  generalize m / 256 ^ k = q at *
  simp only [minimalInteger, Bool.not_eq_true', Bool.or_eq_false_iff, Bool.and_eq_false_iff,
    beq_eq_false_iff_ne, decide_eq_false_iff_not, ne_eq]
  omega

theorem two_pow_le_of_bitLength_div {n k : Nat} (h : bitLength n / 8 + 1 = k + 2) :
    2 ^ (8 * k + 7) ≤ n := by
  have hn : n ≠ 0 := by
    intro h0; subst h0; simp [bitLength] at h
  have h1 := two_pow_le_of_bitLength hn
  have h2 : 2 ^ (8 * k + 7) ≤ 2 ^ (bitLength n - 1) := Nat.pow_le_pow_right (by omega) (by omega)
  omega

theorem minimalInteger_intToBytesN (k : Nat) (i : Int)
    (hb : -((2 ^ (8 * k + 15) : Nat) : Int) ≤ i ∧ i < ((2 ^ (8 * k + 15) : Nat) : Int))
    (hdef : k + 2 = if i ≥ 0 then bitLength i.toNat / 8 + 1 else bitLength (-i - 1).toNat / 8 + 1) :
    minimalInteger (intToBytesN (k + 2) i) = true := by
  unfold intToBytesN
  have h7 : (2 : Nat) ^ (8 * k + 7) = 128 * 256 ^ k := by
    rw [pow256, Nat.pow_add]; omega
  have h15 : (2 : Nat) ^ (8 * k + 15) = 32768 * 256 ^ k := by
    rw [pow256, Nat.pow_add]; omega
  have hP : (256 : Nat) ^ (k + 2) = 65536 * 256 ^ k := by
    rw [Nat.pow_add]; omega
  rw [h15] at hb
  by_cases h0 : 0 ≤ i
  · rw [if_pos h0] at hdef
    have hlo := two_pow_le_of_bitLength_div hdef.symm
    rw [h7] at hlo
    clear hdef h7 h15
    rw [Int.emod_eq_of_lt h0 (by rw [hP]; omega)]
    exact minimalInteger_natToBytesN k i.toNat hlo (by omega)
  · rw [if_neg h0] at hdef
    have hlo := two_pow_le_of_bitLength_div hdef.symm
    rw [h7] at hlo
    clear hdef h7 h15
    have : i % ((256 ^ (k + 2) : Nat) : Int) = i + ((256 ^ (k + 2) : Nat) : Int) := by
      rw [← Int.add_emod_right, Int.emod_eq_of_lt (by rw [hP]; omega) (by omega)]
    rw [this]
    exact minimalInteger_natToBytesN k _ (by rw [hP]; omega) (by rw [hP]; omega)

theorem minimalInteger_intToBytesMin (i : Int) : minimalInteger (intToBytesMin i) = true := by
  have hb := intByteLength_bounds i
  have hpos := intByteLength_pos i
  have hdef : intByteLength i
      = if i ≥ 0 then bitLength i.toNat / 8 + 1 else bitLength (-i - 1).toNat / 8 + 1 := by
    unfold intByteLength; rfl
  unfold intToBytesMin
  generalize intByteLength i = k at *
  by_cases h1 : k = 1
  · subst h1
    simp [intToBytesN, natToBytesN, minimalInteger]
  · obtain ⟨k', rfl⟩ : ∃ k', k = k' + 2 := ⟨k - 2, by omega⟩
    have e15 : 8 * (k' + 2) - 1 = 8 * k' + 15 := by omega
    rw [e15] at hb
    exact minimalInteger_intToBytesN k' i hb hdef

end Asn1.X690

#print axioms Asn1.X690.minimalInteger_intToBytesMin
