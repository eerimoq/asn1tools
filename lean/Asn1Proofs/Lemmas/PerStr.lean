import Asn1Proofs.Lemmas.PerSized
/-
  Aligned PER: round trip and totality for the known-multiplier character strings.
-/
namespace Asn1.Per
open Asn1.Uper (encChunked alphabetOf charDecode EncM DecM All2 sizeOk_eq_inSize)

theorem bitsPerChar_ge (k : StrKind) : Uper.bitsPerChar k ≤ bitsPerChar k := by
  cases k <;> decide +kernel

theorem char_rt (k : StrKind) (hk : k ≠ .utf8) (c : Nat) (hc : (alphabetOf k).contains c = true) :
    ∃ code, charCode k c = .ok code ∧ code < 2 ^ bitsPerChar k ∧ charDecode k code = .ok c := by
  obtain ⟨code, h1, h2, h3⟩ := Uper.char_rt k hk c hc
  have hlt := Uper.alphabet_lt k c (by simpa using hc)
  refine ⟨code, ?_, Nat.lt_of_lt_of_le h2 (Nat.pow_le_pow_right (by omega) (bitsPerChar_ge k)), h3⟩
  unfold charCode
  rw [if_neg (by omega)]
  exact h1

/-- the decoder of one character of a known-multiplier string, as `dec` writes it in place -/
def oneChar (k : StrKind) (s : St) : DecM (Nat × St) := do
  let (v, r) ← readNat (bitsPerChar k) s
  let ch ← charDecode k v
  .ok (ch, r)

/-- the bits of one character, so that a string is a list of items as SEQUENCE OF is -/
def encChar (k : StrKind) (cp : Nat) : EncM Bits := (charCode k cp).map (natToBits (bitsPerChar k))

theorem itemRT_char (k : StrKind) (hk : k ≠ .utf8) (L : Nat) (cp : Nat)
    (hc : (alphabetOf k).contains cp = true) :
    ItemRT (oneChar k) L (fun _ cp => encChar k cp) id cp := by
  intro pos pos' bits rest _ he _
  obtain ⟨code, h1, h2, h3⟩ := char_rt k hk cp hc
  simp only [encChar, h1, Except.map] at he
  cases he
  simp only [oneChar, bind, Except.bind]
  rw [readNat_natToBits _ rest h2]
  simp only [h3, natToBits_length, id]

theorem all2_encChar (k : StrKind) (cps codes : List Nat) (h : cps.mapM (charCode k) = .ok codes) :
    All2 (fun cp item => encChar k cp = .ok item) cps (codes.map (natToBits (bitsPerChar k))) := by
  have h2 := Uper.all2_of_mapM _ _ _ h
  clear h
  induction h2 with
  | nil => exact .nil
  | cons hx _ ih => exact .cons (by simp only [encChar, hx, Except.map]) ih

theorem codes_ok (k : StrKind) (hk : k ≠ .utf8) (cps : List Nat)
    (hall : ∀ cp ∈ cps, (alphabetOf k).contains cp = true) :
    ∃ codes, cps.mapM (charCode k) = .ok codes :=
  Uper.mapM_ok_of_forall (charCode k) cps fun cp hcp => by
    obtain ⟨code, h1, _, _⟩ := char_rt k hk cp (hall cp hcp)
    exact ⟨code, h1⟩

theorem enc_charString (k : StrKind) (hk : k ≠ .utf8) (c : SizeC) (pos : Nat) (cps codes : List Nat)
    (hcodes : cps.mapM (charCode k) = .ok codes) :
    enc (.charString k c) pos (.str cps) = encExt c cps.length (.error .notImplemented)
      (encRoot c pos cps.length (decide (c.hi.getD 0 > 1 ∧ cps.length > 0))
        (decide (c.hi.getD 0 * bitsPerChar k > 16))
        (fun _ => .ok (encChunked (codes.map (natToBits (bitsPerChar k)))))
        fun _ => .ok (codes.map (natToBits (bitsPerChar k))).flatten) := by
  cases k with
  | utf8 => exact absurd rfl hk
  | _ =>
    unfold enc
    rw [hcodes]
    rfl

theorem dec_charString (k : StrKind) (hk : k ≠ .utf8) (c : SizeC) (fuel : Nat) (s : St) :
    dec (.charString k c) fuel s =
      decSized c (fun len => decide (c.hi.getD 0 > 1 ∧ len > 0))
        (decide (c.hi.getD 0 * bitsPerChar k > 16)) (fun _ => .error .notImplemented)
        (fun x => do
          let (xs, r) ← decChunks (oneChar k) fuel (align x.2)
          .ok (.str xs, r))
        (fun y => do
          let (xs, r') ← decRepeat (oneChar k) y.1 y.2
          .ok (.str xs, r')) s := by
  cases k with
  | utf8 => exact absurd rfl hk
  | _ => rfl

theorem rt_knownMultiplier (k : StrKind) (hk : k ≠ .utf8) (c : SizeC) : RT (.charString k c) := by
  intro v pos pos' bits rest fuel hwf _ _ ht hf hp he hfuel
  obtain ⟨cps, rfl, ⟨rfl, -⟩ | ⟨-, hall, hin⟩⟩ := hasType_charString ht
  · exact absurd rfl hk
  rw [sizeOk_eq_inSize] at hin
  rw [canon_charString]
  rw [Ty.wf] at hwf
  obtain ⟨codes, hcodes⟩ := codes_ok k hk cps hall
  rw [enc_charString k hk c pos cps codes hcodes] at he
  rw [dec_charString k hk]
  have hall2 := all2_encChar k cps codes hcodes
  have helem : ∀ cp ∈ cps, ItemRT (oneChar k) fuel (fun _ cp => encChar k cp) id cp :=
    fun cp hcp => itemRT_char k hk fuel cp (hall cp hcp)
  generalize codes.map (natToBits (bitsPerChar k)) = items at *
  have hlen : cps.length = items.length := Uper.All2.length_eq hall2
  refine rt_sized hwf hp rfl (fun _ _ h => by cases h) ?_ ?_ he
  · intro p p' b hq hb hl
    cases hb
    simp only [Uper.encChunked_eq] at hl
    simp only [ok_bind, align_alignBits _ _ _ hq, Uper.encChunked_eq,
      decChunks_encChunksM (oneChar k) fuel (items.length / 16384 + 2)
        (fun _ cp => encChar k cp) id cps helem (by rw [hlen]; omega) _ _ _ rest (mod8_add hq _)
        (encChunksM_of_all2 (encChar k) _ cps items hall2 _) (by omega) fuel (by omega)]
    simp only [List.map_id, alignBits_length, Nat.add_assoc]
  · intro p p' b hq hb hl
    cases hb
    simp only [ok_bind,
      decRepeat_encSeqM (oneChar k) fuel (fun _ cp => encChar k cp) id cps helem _ _ _ rest hq
        (encSeqM_of_all2 (encChar k) cps items hall2 _) (by omega)]
    simp only [List.map_id]

theorem et_charString (k : StrKind) (c : SizeC) : ET (.charString k c) := by
  by_cases hk : k = .utf8
  · subst hk; exact et_utf8 c
  intro v pos hwf ht
  obtain ⟨cps, rfl, ⟨rfl, -⟩ | ⟨-, hall, hin⟩⟩ := hasType_charString ht
  · exact absurd rfl hk
  rw [sizeOk_eq_inSize] at hin
  rw [Ty.wf] at hwf
  obtain ⟨codes, hcodes⟩ := codes_ok k hk cps hall
  rw [enc_charString k hk c pos cps codes hcodes]
  exact encExt_total hwf (by rw [hin, Bool.or_true])
    (fun _ => encRoot_total hin (fun _ => ⟨_, rfl⟩) fun _ => ⟨_, rfl⟩)
    (fun h => by rw [hin] at h; cases h)

theorem rt_charString (k : StrKind) (c : SizeC) : RT (.charString k c) := by
  by_cases hk : k = .utf8
  · subst hk; exact rt_utf8 c
  · exact rt_knownMultiplier k hk c

end Asn1.Per
