import Asn1Model.Sched
/-
  For C18 (micro-step interleaving model): the per-thread invariant relating a call
  to its thread, and its preservation by `stepAt` / `runSched` under the `ReadOnly` frame hypothesis.
-/
namespace Asn1.Sched

/-- the micro-step fold used by `solo` -/
abbrev stepFn {σ ℓ : Type} : σ × ℓ → (σ → ℓ → σ × ℓ) → σ × ℓ :=
  fun acc f => f acc.1 acc.2

/-- thread `t` is a partial execution of call `c` that has only ever seen shared state `s` -/
def Rel {σ ℓ : Type} (s : σ) (c : Call σ ℓ) (t : Thread σ ℓ) : Prop :=
  ∃ done, c.steps = done ++ t.rest ∧ done.foldl stepFn (s, c.init) = (s, t.loc)

inductive AllRel {σ ℓ : Type} (s : σ) : List (Call σ ℓ) → List (Thread σ ℓ) → Prop
  | nil : AllRel s [] []
  | cons {c t cs ts} : Rel s c t → AllRel s cs ts → AllRel s (c :: cs) (t :: ts)

theorem allRel_start {σ ℓ : Type} (s : σ) (calls : List (Call σ ℓ)) :
    AllRel s calls (calls.map start) := by
  induction calls with
  | nil => exact .nil
  | cons c cs ih => exact .cons ⟨[], rfl, rfl⟩ ih

theorem rel_step {σ ℓ : Type} {s : σ} {c : Call σ ℓ} {f : σ → ℓ → σ × ℓ}
    {r : List (σ → ℓ → σ × ℓ)} {l : ℓ}
    (hro : ReadOnly c) (h : Rel s c ⟨f :: r, l⟩) :
    (f s l).1 = s ∧ Rel s c ⟨r, (f s l).2⟩ := by
  obtain ⟨done, hsteps, hfold⟩ := h
  have hmem : f ∈ c.steps := by
    rw [hsteps]; exact List.mem_append_right _ (List.mem_cons_self ..)
  have hs : (f s l).1 = s := hro f hmem s l
  refine ⟨hs, done ++ [f], ?_, ?_⟩
  · simp [hsteps]
  · rw [List.foldl_append, hfold]
    show f s l = (s, (f s l).2)
    exact Prod.ext hs rfl

theorem stepAt_preserves {σ ℓ : Type} {s : σ} {cs : List (Call σ ℓ)} {ts : List (Thread σ ℓ)}
    (hrel : AllRel s cs ts) (hro : ∀ c ∈ cs, ReadOnly c) (i : Nat) :
    (stepAt s ts i).1 = s ∧ AllRel s cs (stepAt s ts i).2 := by
  induction hrel generalizing i with
  | nil => exact ⟨rfl, .nil⟩
  | @cons c t cs ts hct htl ih =>
    cases i with
    | zero =>
      obtain ⟨rest, loc⟩ := t
      cases rest with
      | nil => exact ⟨rfl, .cons hct htl⟩
      | cons f r =>
        obtain ⟨hs, hr⟩ := rel_step (hro c (List.mem_cons_self ..)) hct
        exact ⟨hs, .cons hr htl⟩
    | succ i =>
      obtain ⟨hs, hr⟩ := ih (fun c hc => hro c (List.mem_cons_of_mem _ hc)) i
      exact ⟨hs, .cons hct hr⟩

theorem runSched_preserves {σ ℓ : Type} {s : σ} {cs : List (Call σ ℓ)} {ts : List (Thread σ ℓ)}
    (hrel : AllRel s cs ts) (hro : ∀ c ∈ cs, ReadOnly c) (sched : List Nat) :
    (runSched s ts sched).1 = s ∧ AllRel s cs (runSched s ts sched).2 := by
  induction sched generalizing ts with
  | nil => exact ⟨rfl, hrel⟩
  | cons i sched ih =>
    obtain ⟨hs, hr⟩ := stepAt_preserves hrel hro i
    show (runSched (stepAt s ts i).1 _ sched).1 = s ∧ AllRel s cs (runSched (stepAt s ts i).1 _ sched).2
    rw [hs]
    exact ih hr

theorem rel_done {σ ℓ : Type} {s : σ} {c : Call σ ℓ} {t : Thread σ ℓ}
    (h : Rel s c t) (hd : t.rest = []) : t.loc = (solo s c).2 := by
  obtain ⟨done, hsteps, hfold⟩ := h
  rw [hd, List.append_nil] at hsteps
  unfold solo
  rw [hsteps]
  show t.loc = (done.foldl stepFn (s, c.init)).2
  rw [hfold]

theorem allRel_done {σ ℓ : Type} {s : σ} {cs : List (Call σ ℓ)} {ts : List (Thread σ ℓ)}
    (hrel : AllRel s cs ts) (hd : Done ts) :
    ts.map (·.loc) = cs.map (fun c => (solo s c).2) := by
  induction hrel with
  | nil => rfl
  | @cons c t cs ts hct _ ih =>
    have h1 := rel_done hct (hd t (List.mem_cons_self ..))
    have h2 := ih (fun t' ht' => hd t' (List.mem_cons_of_mem _ ht'))
    simp only [List.map_cons, h1, h2]

end Asn1.Sched
