import Asn1Proofs.Lemmas.DerSeq
import Asn1Proofs.Lemmas.ExtLemmas
/-
  C07, DER: the encoding of a version-1 value does not change when the type is extended, in any tagging
  context (`st_all`; `DerX.enc_stable` in ExtDer): tags are positional, the new additions come last and a
  version-1 value has no field for them.
-/
namespace Asn1.Ext.DerX
open Asn1 Asn1.Der Asn1.Ext
open Asn1.Oer (enumValue)

def ST (t1 t2 : Ty) : Prop :=
  t2.wf = true → ∀ (tg : Option Nat) (v : Val), hasType t1 v = true → enc t2 tg v = enc t1 tg v

/-- what the induction carries for a pair of component types -/
def SC (t1 t2 : Ty) : Prop := ST t1 t2 ∧ Extends t1 t2

/-- stability of two member lists paired by `ExtendsAdds`, read as root members and as additions, for a
record that has no field under a name only version 2 knows (the names of version 2 being distinct) -/
def STM (m1 m2 : Members) : Prop :=
  m2.wf = true → ∀ fs, membersOk m1 fs = true → m2.names.Nodup →
    (∀ n ∈ m2.names, n ∈ m1.names ∨ lookup n fs = none) →
    ∀ i, encMembers m2 i fs = encMembers m1 i fs ∧ encAdditions m2 i fs = encAdditions m1 i fs

def STA (a1 a2 : Alts) : Prop :=
  a2.wf = true → ∀ name j t1, a1.find name = some (j, t1) →
    ∃ t2, a2.find name = some (j, t2) ∧ SC t1 t2 ∧ t2.wf = true

theorem isDefaultB_stable {t1 t2 : Ty} (h : Extends t1 t2) (v d : Val) :
    isDefaultB t2 v d = isDefaultB t1 v d := by
  cases h <;> rfl

/-- `hok`: the head conjunct of `membersOk (.cons name p t1 _) fs` -/
theorem encHere_stable {t1 t2 : Ty} (h : SC t1 t2) (hwf : t2.wf = true) (name : String) (p : Presence)
    (i : Nat) (fs : List (String × Val))
    (hok : (match lookup name fs with
            | some v => hasType t1 v
            | none => match p with | .mandatory => false | _ => true) = true) :
    encHere name p t2 i fs = encHere name p t1 i fs := by
  unfold encHere
  cases hl : lookup name fs with
  | none => rfl
  | some v =>
    simp only [hl] at hok
    simp only [h.1 hwf (some i) v hok, isDefaultB_stable h.2]

theorem encMembers_new (fs : List (String × Val)) (ms : Members) :
    allOmissible ms = true → (∀ n ∈ ms.names, lookup n fs = none) →
    ∀ i, encMembers ms i fs = .ok [] ∧ encAdditions ms i fs = .ok [] := by
  induction ms using Members.ind with
  | nil => intro _ _ i; rw [encMembers, encAdditions]; exact ⟨rfl, rfl⟩
  | cons n p t rest ih =>
    intro ho hn i
    simp only [allOmissible, Bool.and_eq_true] at ho
    have hl : lookup n fs = none := hn n (by simp [Members.names])
    have ih' := ih ho.2 (fun m hm => hn m (by simp [Members.names, hm])) (i + 1)
    have hh : encHere n p t i fs = .ok [] := by
      unfold encHere
      simp only [hl]
      cases p with
      | mandatory => simp [omissible] at ho
      | _ => rfl
    rw [encMembers_cons, encAdditions_cons, hh, ih'.1, ih'.2]
    exact ⟨rfl, rfl⟩

theorem stm_new (ms : Members) (ho : allOmissible ms = true) : STM .nil ms := by
  intro _ fs _ _ hS i
  have := encMembers_new fs ms ho (fun n hn => (hS n hn).resolve_left (by simp [Members.names])) i
  rw [this.1, this.2, encMembers, encAdditions]
  exact ⟨rfl, rfl⟩

theorem stm_cons {t1 t2 : Ty} {r1 r2 : Members} (n : String) (p : Presence) (hsc : SC t1 t2)
    (ih : STM r1 r2) : STM (.cons n p t1 r1) (.cons n p t2 r2) := by
  intro hwf fs hok hnd hS i
  rw [Members.wf, Bool.and_eq_true] at hwf
  rw [membersOk_cons, Bool.and_eq_true] at hok
  simp only [Members.names, List.nodup_cons] at hnd
  have ih' := ih hwf.2 fs hok.2 hnd.2 (fun m hm => by
    rcases hS m (by simp [Members.names, hm]) with h | h
    · simp only [Members.names, List.mem_cons] at h
      rcases h with h | h
      · subst h; exact absurd hm hnd.1
      · exact Or.inl h
    · exact Or.inr h) (i + 1)
  rw [encMembers_cons, encMembers_cons, encAdditions_cons, encAdditions_cons,
    encHere_stable hsc hwf.1 n p i fs hok.1, ih'.1, ih'.2]
  exact ⟨rfl, rfl⟩

theorem st_sequence (r1 r2 a1 a2 : Members) (x : Bool)
    (hr : STM r1 r2) (hrn : r1.names = r2.names ∧ r1.length = r2.length)
    (ha : STM a1 a2) (han : ∃ l, a2.names = a1.names ++ l) :
    ST (.sequence r1 x a1) (.sequence r2 x a2) := by
  intro hwf tg v ht
  obtain ⟨fs, rfl, ht⟩ := hasType_sequence ht
  obtain ⟨hwr, hwa, hnd, _⟩ := wf_sequence hwf
  obtain ⟨l, hl⟩ := han
  have hnd1 : (r1.names ++ a1.names).Nodup := nodup_prefix (by rw [← hrn.1, hl] at hnd; exact hnd)
  obtain ⟨hokr, hoka⟩ := membersOk_of_hasType r1 a1 x fs hnd1 ht
  have hfn := fieldNames_of_hasType r1 x a1 fs ht
  have hnd2 := List.nodup_append.mp hnd
  have hR := (hr hwr fs hokr hnd2.1
    (fun n hn => Or.inl (by rw [hrn.1]; exact hn)) 0).1
  have hA := (ha hwa fs hoka hnd2.2.1 (fun n hn => by
    by_cases hm : n ∈ a1.names
    · exact Or.inl hm
    · right
      apply lookup_none_of_not_mem
      intro hmem
      have := hfn n hmem
      rw [List.mem_append] at this
      rcases this with h | h
      · exact hnd2.2.2 n (by rw [← hrn.1]; exact h) n hn rfl
      · exact hm h) r1.length).2
  rw [enc, enc, hR, ← hrn.2, hA]

theorem sta_cons {t1 t2 : Ty} {r1 r2 : Alts} (n : String) (hsc : SC t1 t2) (ih : STA r1 r2) :
    STA (.cons n t1 r1) (.cons n t2 r2) := by
  intro hwf name j t hf
  rw [Alts.wf, Bool.and_eq_true] at hwf
  simp only [Alts.find] at hf ⊢
  by_cases hnn : (n == name) = true
  · simp only [hnn, if_true, Option.some.injEq, Prod.mk.injEq] at hf ⊢
    obtain ⟨rfl, rfl⟩ := hf
    exact ⟨t2, ⟨rfl, rfl⟩, hsc, hwf.1⟩
  · simp only [hnn, if_false, Bool.false_eq_true, Option.map_eq_some_iff, Prod.mk.injEq] at hf ⊢
    obtain ⟨⟨j', t''⟩, h1, rfl, rfl⟩ := hf
    obtain ⟨t2', e1, e2, e3⟩ := ih hwf.2 name j' t'' h1
    exact ⟨t2', ⟨(j', t2'), e1, rfl, rfl⟩, e2, e3⟩

theorem st_choice (r1 r2 a1 a2 : Alts) (x : Bool)
    (hr : STA r1 r2) (hrn : r1.names = r2.names ∧ r1.length = r2.length)
    (ha : STA a1 a2) (han : ∃ l, a2.names = a1.names ++ l) :
    ST (.choice r1 x a1) (.choice r2 x a2) := by
  intro hwf tg v ht
  obtain ⟨name, v, rfl, ht⟩ := hasType_choice ht
  obtain ⟨hwr, hwa, _, hnd, _⟩ := wf_choice hwf
  obtain ⟨l, hl⟩ := han
  have hnd1 : (r1.names ++ a1.names).Nodup := nodup_prefix (by rw [← hrn.1, hl] at hnd; exact hnd)
  simp only [enc]
  rw [encAlt_find, encAlt_find, encAlt_find, encAlt_find]
  obtain ⟨idx, t, sel, hty⟩ := Alts.sel_of_hasAlt hnd1 ht
  rcases sel with hf | ⟨hf, j, hfa, -⟩
  · obtain ⟨t2, hf2, hsc, hw2⟩ := hr hwr name idx t hf
    simp only [hf, hf2, Option.map_some, hsc.1 hw2 _ v hty]
  · obtain ⟨t2, hf2, hsc, hw2⟩ := ha hwa name j t hfa
    have hfn : r2.find name = none := by
      rw [Alts.find_none_iff] at hf ⊢
      rw [← hrn.1]; exact hf
    simp only [hf, hfn, hfa, hf2, Option.map_some, Option.map_none, ← hrn.2, hsc.1 hw2 _ v hty]

theorem st_refl (t : Ty) : ST t t := fun _ _ _ _ => rfl

theorem enumValue_append_left (name : String) (l1 l2 : List (String × Int)) (h : name ∈ namesOf l1) :
    enumValue name (l1 ++ l2) = enumValue name l1 := by
  induction l1 with
  | nil => simp [namesOf] at h
  | cons x r ih =>
    obtain ⟨n, w⟩ := x
    simp only [List.cons_append, enumValue]
    by_cases hn : n = name
    · simp [hn]
    · simp only [namesOf, List.map_cons, List.mem_cons] at h
      rcases h with h | h
      · exact absurd h.symm hn
      · have hb : (n == name) = false := by simpa using hn
        simp only [hb, Bool.false_eq_true, if_false]
        exact ih h

theorem st_enumeratedExt (root adds new : List (String × Int)) :
    ST (.enumerated root (some adds)) (.enumerated root (some (adds ++ new))) := by
  intro hwf tg v ht
  obtain ⟨name, rfl, ht⟩ := hasType_enumerated ht
  have hmem : name ∈ namesOf (root ++ adds) := by
    have := enum_hasType_mem ht
    simpa using this
  rw [enc, enc]
  simp only [Option.getD_some]
  rw [← List.append_assoc, enumValue_append_left _ _ _ hmem]

theorem st_sequenceOf (e1 e2 : Ty) (c : SizeC) (ih : ST e1 e2) : ST (.sequenceOf e1 c) (.sequenceOf e2 c) := by
  intro hwf tg v ht
  obtain ⟨vs, rfl, hvs, -⟩ := hasType_sequenceOf ht
  rw [enc, enc, Uper.mapM_congr (enc e2 none) (enc e1 none) vs (fun a ha => ih (wf_sequenceOf hwf) none a (hvs a ha))]

theorem st_all {t1 t2 : Ty} (h : Extends t1 t2) : ST t1 t2 :=
  (Extends.induct (P := ST) (PM := fun _ => STM) (PA := fun _ => STA)
    (st_refl _) (st_refl _) (fun _ => st_refl _) (fun _ => st_refl _) (fun _ => st_refl _)
    (fun _ _ => st_refl _) (fun _ => st_refl _) st_enumeratedExt
    (fun {r1 r2 a1 a2} x hr ha ihr iha =>
      st_sequence r1 r2 a1 a2 x ihr (names_of_extendsMembers hr) iha ⟨_, (names_of_extendsAdds ha).1⟩)
    (fun {e1 e2} c _ ih => st_sequenceOf e1 e2 c ih)
    (fun {r1 r2 a1 a2} x hr ha ihr iha =>
      st_choice r1 r2 a1 a2 x ihr (names_of_extendsAlts hr) iha (names_of_extendsAltAdds ha).1)
    (fun _ ms _ ho => stm_new ms ho)
    (fun name p he _ iht ihr => stm_cons name p ⟨iht, he⟩ ihr)
    (fun _ _ _ _ _ _ _ hf => nomatch hf)
    (fun name he _ iht ihr => sta_cons name ⟨iht, he⟩ ihr)).1 h

end Asn1.Ext.DerX
