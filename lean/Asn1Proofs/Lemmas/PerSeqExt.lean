import Asn1Proofs.Lemmas.PerSeq
/-
  Aligned PER SEQUENCE: extension additions (open types), `enc` of the SEQUENCE in sequenced form,
  and totality of the encoder for every type (`et_all`).
-/
namespace Asn1.Per
open Asn1.Uper (EncM lenDet encNsLength padToByte padToByte_eq encNsLength_small)

/-- what `encAdditions` encodes at one addition (the local `here` of its arm): in a fresh encoder, hence
at position 0 -/
def addHere (p : Presence) (t : Ty) (ov : Option Val) : EncM Bits :=
  match ov with
  | some v => enc t 0 v
  | none =>
    match p with
    | .mandatory => .error .encodeError
    | _ => .ok []

/-- the first arm is the `except EncodeError: pass` of `encode_additions`: the loop stops, this addition
and those behind it are not written -/
theorem encAdditions_cons (name : String) (p : Presence) (t : Ty) (rest : Members)
    (fs : List (String × Val)) :
    encAdditions (.cons name p t rest) fs =
      (match addHere p t (lookup name fs) with
       | .error .encodeError => .ok ([], [])
       | .error e => .error e
       | .ok e =>
         match encAdditions rest fs with
         | .error err => .error err
         | .ok (bits, encs) =>
           if e.length > 0 ∨ (lookup name fs).isSome then .ok (true :: bits, e :: encs)
           else .ok (false :: bits, encs)) := by
  cases p <;> rfl

theorem decAdditions_cons_true (name : String) (p : Presence) (t : Ty) (rest : Members) (fuel : Nat)
    (bitmap : Bits) (s : St) :
    decAdditions (.cons name p t rest) fuel (true :: bitmap) s =
      (do
        let (_, r) ← readLenDet s
        let (v, r1) ← dec t fuel r
        let (_, r2) ← readBits (padLen (r1.pos - r.pos)) r1
        let (fs, r3) ← decAdditions rest fuel bitmap r2
        .ok ((name, v) :: fs, r3)) := rfl

theorem decAdditions_cons_false (name : String) (p : Presence) (t : Ty) (rest : Members) (fuel : Nat)
    (bitmap : Bits) (s : St) :
    decAdditions (.cons name p t rest) fuel (false :: bitmap) s = decAdditions rest fuel bitmap s :=
  rfl

theorem openType_eq (e : Bits) :
    openType e = (lenDet ((e.length + 7) / 8)).1 ++
      (e ++ List.replicate (8 * ((e.length + 7) / 8) - e.length) false) := by
  show (lenDet ((padToByte e).length / 8)).1 ++ padToByte e = _
  rw [Uper.padToByte_length_div, padToByte_eq]

theorem openType_length_mod (e : Bits) : (openType e).length % 8 = 0 := by
  rw [openType_eq]
  have := lenDet_length_mod ((e.length + 7) / 8)
  simp only [List.length_append, List.length_replicate]
  omega

theorem enc_sequence (root : Members) (extensible : Bool) (adds : Members) (pos : Nat)
    (fs : List (String × Val)) :
    enc (.sequence root extensible adds) pos (.record fs) =
      (match encMembers root fs false
          (pos + (if extensible then 1 else 0) + (encPreamble root fs).length) with
       | .error e => .error e
       | .ok body =>
         if extensible then
           match adds with
           | .nil => .ok ([false] ++ encPreamble root fs ++ body)
           | _ =>
             match encAdditions adds fs with
             | .error e => .error e
             | .ok (present, encs) =>
               if encs.isEmpty then .ok ([false] ++ encPreamble root fs ++ body)
               else
                 match encNsLength adds.length with
                 | .error e => .error e
                 | .ok nl =>
                   .ok ([true] ++ encPreamble root fs ++ body ++ nl ++
                     (present ++ List.replicate (adds.length - present.length) false) ++
                     alignBits (pos + 1 + (encPreamble root fs).length + body.length + nl.length +
                       (present ++ List.replicate (adds.length - present.length) false).length) ++
                     encs.flatMap openType)
         else .ok (encPreamble root fs ++ body)) := by
  rfl

theorem encAdditions_ok (fs : List (String × Val)) (ms : Members) :
    ms.All ET → ms.wf = true → membersOk ms fs = true →
    ∃ present encs, encAdditions ms fs = .ok (present, encs) ∧ present.length = ms.length := by
  induction ms using Members.ind with
  | nil => intros; exact ⟨_, _, rfl, rfl⟩
  | cons name p t ms ih =>
    intro hall hwf hok
    simp only [Members.wf, membersOk, Bool.and_eq_true] at hwf hok
    obtain ⟨present, encs, hpe, hlen⟩ := ih hall.2 hwf.2 hok.2
    have : ∃ e, addHere p t (lookup name fs) = .ok e := by
      unfold addHere
      cases hl : lookup name fs with
      | some v =>
        simp only [hl] at hok
        exact hall.1 v 0 hwf.1 hok.1
      | none =>
        simp only [hl] at hok
        cases p with
        | mandatory => simp at hok
        | _ => exact ⟨[], rfl⟩
    obtain ⟨e, he⟩ := this
    rw [encAdditions_cons, he, hpe]
    simp only
    split <;> exact ⟨_, _, rfl, by rw [List.length_cons, hlen, Members.length]⟩

/-- the additions need their own hypothesis: `encAdditions` passes on every error of an addition but
`EncodeError` (the UPER model swallows them all, so `Uper.et_sequence` has none) -/
theorem et_sequence (root : Members) (ext : Bool) (adds : Members)
    (ihr : root.All ET) (eta : adds.All ET) : ET (.sequence root ext adds) := by
  intro v pos hwf ht
  obtain ⟨fs, rfl, -⟩ := hasType_sequence ht
  obtain ⟨hrwf, hawf, hnd, hext, h64⟩ := wf_sequence hwf
  obtain ⟨hokr, hoka⟩ := membersOk_of_hasType root adds ext fs hnd ht
  obtain ⟨body, hbody⟩ := et_members fs false root ihr hrwf hokr
    (pos + (if ext = true then 1 else 0) + (encPreamble root fs).length)
  obtain ⟨present, encs, hpe, _⟩ := encAdditions_ok fs adds eta hawf hoka
  rw [enc_sequence, hbody]
  simp only
  split
  · split
    · exact ⟨_, rfl⟩
    · rw [hpe]
      simp only
      split
      · exact ⟨_, rfl⟩
      · rw [encNsLength_small h64]
        exact ⟨_, rfl⟩
  · exact ⟨_, rfl⟩

theorem et_all (t : Ty) : ET t :=
  Ty.induct (P := ET)
    et_boolean et_null et_integer et_enumerated et_octetString et_bitString et_charString
    (fun root ext adds ihr iha => et_sequence root ext adds ihr iha)
    (fun e c ih => et_sequenceOf e c ih)
    (fun root ext adds ihr iha => et_choice root ext adds ihr iha) t

end Asn1.Per
