import Asn1Proofs.Lemmas.PerDefs
import Asn1Proofs.Lemmas.Typed
/-
  Aligned PER: round trip and totality for BOOLEAN, NULL, INTEGER, ENUMERATED.
-/
namespace Asn1.Per
open Asn1.Uper (smallLen sortByVal
  nameIndex_spec nameIndex_of_mem nameIndex_none mem_namesOf_sortByVal)

theorem rt_boolean : RT .boolean := by
  intro v pos pos' bits rest fuel _ _ _ ht _ _ he _
  obtain ⟨b, rfl⟩ := hasType_boolean ht
  cases he
  rw [canon_boolean]; rfl

theorem rt_null : RT .null := by
  intro v pos pos' bits rest fuel _ _ _ ht _ _ he _
  cases hasType_null ht
  cases he
  rw [canon_null]; rfl

theorem rt_integer (c : IntC) : RT (.integer c) := by
  intro v pos pos' bits rest fuel hwf _ _ ht hf hp he _
  obtain ⟨i, rfl, hin⟩ := hasType_integer ht
  rw [canon_integer]
  unfold enc at he
  unfold dec
  rw [Ty.wf] at hwf
  rw [fragFree] at hf
  split at he
  · rename_i lo hi hlo hhi
    simp only [hlo, hhi, decide_eq_true_eq] at hwf hf ⊢
    cases hext : c.ext
    · simp only [hext, Bool.false_eq_true, if_false, Bool.false_or, intInRange, hlo, hhi,
        Bool.and_eq_true, decide_eq_true_eq] at he hin ⊢
      rw [if_pos hin] at he
      cases he
      rw [decConstrainedInt_enc _ _ _ _ _ _ hp hin.1 hin.2, ok_bind]
    · simp only [hext, if_true] at he ⊢
      split at he
      · rename_i hin
        cases he
        simp only [ok_bind, List.cons_append, List.nil_append, readBit_cons, Bool.false_eq_true,
          if_false, decConstrainedInt_enc _ _ _ _ _ _ (mod8_add hp 1) hin.1 hin.2, List.length_cons,
          Nat.add_assoc, Nat.add_comm]
      · rename_i hin
        cases he
        have hs : intByteLength i < 16384 := by
          simp only [Bool.or_eq_true, Bool.and_eq_true, decide_eq_true_eq, smallLen] at hf
          rcases hf with hf | hf
          · exact absurd hf hin
          · exact hf
        simp only [ok_bind, List.cons_append, List.nil_append, readBit_cons, if_true,
          List.append_assoc, align_alignBits _ _ _ (mod8_add hp 1), decUnconstrained_enc _ i rest hs,
          List.length_cons, List.length_append, alignBits_length, Nat.add_assoc, Nat.add_comm
          ]
  · rename_i hno
    have hext := wf_integer_ext hwf hno
    have hs : intByteLength i < 16384 := by
      split at hf
      · rename_i lo hi hlo hhi; exact absurd hhi (hno lo hi hlo)
      · simpa [smallLen] using hf
    simp only [hext, Bool.false_eq_true, if_false] at he ⊢
    cases he
    simp only [ok_bind, List.append_assoc, align_alignBits _ _ _ hp, decUnconstrained_enc _ i rest hs,
      List.length_append, alignBits_length, Nat.add_assoc]

theorem rt_enumerated (root : List (String × Int)) : RT (.enumerated root none) := by
  intro v pos pos' bits rest fuel hwf _ hns ht hf _ he _
  obtain ⟨name, rfl, -⟩ := hasType_enumerated ht
  rw [canon_enumerated]
  unfold enc at he
  unfold dec
  simp only at he ⊢
  split at he
  · rename_i i hi
    cases he
    obtain ⟨h1, x, h2⟩ := nameIndex_spec _ _ _ hi
    have h3 : i < 2 ^ bitLength ((sortByVal root).length - 1) :=
      lt_two_pow_bitLength_of_le (by omega)
    simp only [ok_bind, readNat_natToBits _ _ h3, h2, natToBits_length]
  · cases he

theorem et_boolean : ET .boolean := by
  intro v pos _ ht
  obtain ⟨b, rfl⟩ := hasType_boolean ht
  exact ⟨_, rfl⟩

theorem et_null : ET .null := by
  intro v pos _ ht
  exact ⟨_, rfl⟩

theorem et_integer (c : IntC) : ET (.integer c) := by
  intro v pos hwf ht
  obtain ⟨i, rfl, hin⟩ := hasType_integer ht
  unfold enc
  rw [Ty.wf] at hwf
  split
  · rename_i lo hi hlo hhi
    split
    · split <;> exact ⟨_, rfl⟩
    · rename_i hext
      simp only [hext, Bool.false_or, intInRange, hlo, hhi, Bool.and_eq_true,
        decide_eq_true_eq] at hin
      rw [if_pos hin]
      exact ⟨_, rfl⟩
  · rename_i hno
    have hext := wf_integer_ext hwf hno
    simp only [hext, Bool.false_eq_true, if_false]
    exact ⟨_, rfl⟩

theorem et_enumerated (root : List (String × Int)) (ext : Option (List (String × Int))) :
    ET (.enumerated root ext) := by
  intro v pos hwf ht
  obtain ⟨name, rfl, -⟩ := hasType_enumerated ht
  rcases Uper.enumIndex_cases ht with ⟨i, hi⟩ | ⟨hnone, adds, i, rfl, hi⟩
  · cases ext <;> unfold enc <;> simp only [hi] <;> exact ⟨_, rfl⟩
  · unfold enc; simp only [hnone, hi]; exact ⟨_, rfl⟩

end Asn1.Per
