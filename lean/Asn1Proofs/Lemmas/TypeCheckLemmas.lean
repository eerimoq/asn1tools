import Asn1Model.TypeCheck
import Asn1Model.Typing
import Asn1Proofs.Lemmas.Typed
import Asn1Proofs.Lemmas.Records
/-
  Lemmas for C12 (Asn1Proofs/Properties/C12.lean): the type-checker model `tcheck` against the typing
  predicate `hasType` (well-typed values are accepted) and the path calculus `preach` (the reported
  path leads to a component whose own shape is wrong).
-/
namespace Asn1
namespace TypeCheck

theorem strOfName_inj {a b : String} (h : strOfName a = strOfName b) : a = b := cps_inj h

theorem strOfName_beq (a b : String) : (strOfName a == strOfName b) = (a == b) := cps_beq a b

/-- the (type, Python value) shapes on which `tcheck` / `preach` recurse -/
def composite : Ty → PyVal → Bool
  | .sequence _ _ _, .dict _ => true
  | .sequenceOf _ _, .list _ => true
  | .choice _ _ _, .tuple [.str _, _] => true
  | _, _ => false

theorem tcheck_leaf (t : Ty) (v : PyVal) (h : composite t v = false) :
    tcheck t v = if shapeOk t v then none else some [] :=
  tcheck.eq_4 t v (fun _ _ _ _ ht hv => by subst ht hv; cases h)
    (fun _ _ _ ht hv => by subst ht hv; cases h) (fun _ _ _ _ _ ht hv => by subst ht hv; cases h)

theorem preach_leaf_nil (t : Ty) (v : PyVal) (h : composite t v = false) :
    preach t v [] = [(t, v)] :=
  preach.eq_4 t v fun e c xs ht hv => by subst ht hv; cases h

theorem composite_choice {root : Alts} {e : Bool} {adds : Alts} {v : PyVal}
    (h : composite (.choice root e adds) v = true) : ∃ n x, v = .tuple [.str n, x] := by
  unfold composite at h
  split at h
  · rename_i hh; cases hh
  · rename_i hh; cases hh
  · exact ⟨_, _, rfl⟩
  · cases h

theorem firstSome_eq_findSome? {α β : Type} (f : α → Option β) (l : List α) :
    firstSome f l = l.findSome? f := by
  induction l with
  | nil => rfl
  | cons x r ih => rw [firstSome, List.findSome?_cons, ih]; cases f x <;> rfl

theorem lookup_embedFields (name : String) (fs : List (String × Val)) :
    lookup name (embed.embedFields fs) = (lookup name fs).map embed := by
  induction fs with
  | nil => rfl
  | cons x r ih =>
    obtain ⟨n, v⟩ := x
    simp only [embed.embedFields, lookup]
    split
    · rfl
    · exact ih

theorem embedList_eq_map (vs : List Val) : embed.embedList vs = vs.map embed := by
  induction vs with
  | nil => rfl
  | cons v r ih => rw [embed.embedList, ih]; rfl

theorem tcheckAlt_none_of_not_mem :
    (as : Alts) → (n : String) → (x : PyVal) → n ∉ as.names → tcheckAlt as (strOfName n) x = none
  | .nil, _, _, _ => by simp [tcheckAlt]
  | .cons m t rest, n, x, h => by
    simp only [Alts.names, List.mem_cons, not_or] at h
    have hb : (m == n) = false := by simpa using fun e : m = n => h.1 e.symm
    simp only [tcheckAlt, strOfName_beq, hb, Bool.false_eq_true, if_false]
    exact tcheckAlt_none_of_not_mem rest n x h.2

theorem any_false_of_tcheckAlt_none :
    (as : Alts) → (n : List Nat) → (x : PyVal) → tcheckAlt as n x = none →
      as.names.any (fun m => strOfName m == n) = false
  | .nil, _, _, _ => by simp [Alts.names]
  | .cons m t rest, n, x, h => by
    simp only [tcheckAlt] at h
    by_cases hm : (strOfName m == n) = true
    · simp [hm] at h
    · simp only [hm] at h
      simp only [Alts.names, List.any_cons, Bool.or_eq_false_iff]
      exact ⟨by simpa using hm, any_false_of_tcheckAlt_none rest n x h⟩

theorem shapeOk_embed (t : Ty) (v : Val) (h : hasType t v = true) :
    shapeOk t (embed v) = true := by
  revert h
  fun_cases hasType t v <;> intro h <;> try rfl
  -- what `rfl` leaves: BIT STRING (the bit count fits the octets), CHOICE (the alternative is one
  -- of the names), and the catch-all clause of `hasType`, which is `false`
  · simp only [Bool.and_eq_true, decide_eq_true_eq] at h
    simp only [embed, shapeOk, decide_eq_true_eq]
    omega
  · rename_i root _ adds n v
    have hn : n ∈ root.names ++ adds.names := by
      rw [List.mem_append]
      exact (Bool.or_eq_true _ _ ▸ h).imp mem_names_of_hasAlt mem_names_of_hasAlt
    simp only [embed, shapeOk, List.any_eq_true, strOfName_beq]
    exact ⟨n, hn, beq_self_eq_true n⟩
  · cases h
mutual
  theorem tcheck_ok (t : Ty) (v : Val) (hwf : t.wf = true) (h : hasType t v = true) :
      tcheck t (embed v) = none := by
    cases t with
    | sequence root ext adds =>
      cases v with
      | record fs =>
        obtain ⟨hwr, hwa, hnd, -⟩ := wf_sequence hwf
        obtain ⟨h1, h2⟩ := membersOk_of_hasType root adds ext fs hnd h
        simp only [embed, tcheck]
        rw [tcheckMembers_ok root fs hwr h1, tcheckMembers_ok adds fs hwa h2]
      | _ => simp [hasType] at h
    | sequenceOf e c =>
      cases v with
      | list vs =>
        simp only [hasType, Bool.and_eq_true, List.all_eq_true] at h
        simp only [embed, tcheck]
        rw [firstSome_eq_findSome?, List.findSome?_eq_none_iff]
        intro x hx
        obtain ⟨w, hw, rfl⟩ := List.mem_map.1 (embedList_eq_map vs ▸ hx)
        exact tcheck_ok e w (wf_sequenceOf hwf) (h.1 w hw)
      | _ => simp [hasType] at h
    | choice root ext adds =>
      cases v with
      | choice n w =>
        obtain ⟨hwr, hwa, -, hnd, -⟩ := wf_choice hwf
        rw [List.nodup_append] at hnd
        simp only [hasType, Bool.or_eq_true] at h
        simp only [embed, tcheck]
        rcases h with h | h
        · rw [tcheckAlt_ok root n w hwr h]
        · have hin := mem_names_of_hasAlt h
          have hout : n ∉ root.names := fun hr => hnd.2.2 n hr n hin rfl
          rw [tcheckAlt_none_of_not_mem root n (embed w) hout, tcheckAlt_ok adds n w hwa h]
      | _ => simp [hasType] at h
    | _ => rw [tcheck_leaf _ _ rfl, shapeOk_embed _ _ h]; rfl
  theorem tcheckMembers_ok (ms : Members) (fs : List (String × Val)) (hwf : ms.wf = true)
      (h : membersOk ms fs = true) : tcheckMembers ms (embed.embedFields fs) = none := by
    cases ms with
    | nil => simp [tcheckMembers]
    | cons name p t rest =>
      simp only [Members.wf, Bool.and_eq_true] at hwf
      simp only [membersOk, Bool.and_eq_true] at h
      simp only [tcheckMembers, lookup_embedFields]
      cases hl : lookup name fs with
      | none => simpa using tcheckMembers_ok rest fs hwf.2 h.2
      | some x =>
        have hx : hasType t x = true := by simpa [hl] using h.1
        simp only [Option.map_some, tcheck_ok t x hwf.1 hx]
        exact tcheckMembers_ok rest fs hwf.2 h.2
  theorem tcheckAlt_ok (as : Alts) (n : String) (v : Val) (hwf : as.wf = true)
      (h : hasAlt as n v = true) : tcheckAlt as (strOfName n) (embed v) = some none := by
    cases as with
    | nil => simp [hasAlt] at h
    | cons m t rest =>
      simp only [Alts.wf, Bool.and_eq_true] at hwf
      simp only [hasAlt] at h
      simp only [tcheckAlt, strOfName_beq]
      by_cases hm : (m == n) = true
      · simp only [hm, if_true] at h ⊢
        simp [tcheck_ok t v hwf.1 h]
      · simp only [hm] at h ⊢
        exact tcheckAlt_ok rest n v hwf.2 h
end

theorem path_leaf (t : Ty) (v : PyVal) (p : List String) (hc : composite t v = false)
    (h : tcheck t v = some p) : ∃ c ∈ preach t v p, shapeOk c.1 c.2 = false := by
  rw [tcheck_leaf t v hc] at h
  cases hl : shapeOk t v
  · simp only [hl, Bool.false_eq_true, if_false, Option.some.injEq] at h
    subst h
    rw [preach_leaf_nil t v hc]
    exact ⟨(t, v), by simp, hl⟩
  · simp [hl] at h

mutual
  theorem path_tcheck (t : Ty) (v : PyVal) (p : List String) (h : tcheck t v = some p) :
      ∃ c ∈ preach t v p, shapeOk c.1 c.2 = false := by
    cases t with
    | sequence root e adds =>
      cases v with
      | dict fs =>
        simp only [tcheck] at h
        split at h
        · next q hr =>
          obtain rfl := Option.some.inj h
          obtain ⟨name, p', rfl, c, hc, hb⟩ := path_members root fs q hr
          exact ⟨c, by simp [preach, hc], hb⟩
        · obtain ⟨name, p', rfl, c, hc, hb⟩ := path_members adds fs p h
          exact ⟨c, by simp [preach, hc], hb⟩
      | _ => exact path_leaf _ _ _ rfl h
    | sequenceOf e c =>
      cases v with
      | list xs =>
        simp only [tcheck] at h
        obtain ⟨x, hx, hcx⟩ := List.exists_of_findSome?_eq_some (firstSome_eq_findSome? _ _ ▸ h)
        obtain ⟨c', hc', hb⟩ := path_tcheck e x p hcx
        refine ⟨c', ?_, hb⟩
        simp only [preach, List.mem_append, List.mem_flatMap]
        exact Or.inr ⟨x, hx, hc'⟩
      | _ => exact path_leaf _ _ _ rfl h
    | choice root ext adds =>
      cases hc : composite (.choice root ext adds) v with
      | false => exact path_leaf _ _ _ hc h
      | true =>
        obtain ⟨n, x, rfl⟩ := composite_choice hc
        simp only [tcheck] at h
        split at h
        · next r hr =>
          subst h
          obtain ⟨m, p', rfl, hm, c, hc, hb⟩ := path_alt root n x p hr
          exact ⟨c, by simp [preach, hm, hc], hb⟩
        · next hr =>
          split at h
          · next r ha =>
            subst h
            obtain ⟨m, p', rfl, hm, c, hc, hb⟩ := path_alt adds n x p ha
            exact ⟨c, by simp [preach, hm, hc], hb⟩
          · next ha =>
            obtain rfl := Option.some.inj h
            refine ⟨(.choice root ext adds, .tuple [.str n, x]), by simp [preach], ?_⟩
            simp only [shapeOk, List.any_append, any_false_of_tcheckAlt_none root n x hr,
              any_false_of_tcheckAlt_none adds n x ha, Bool.or_self]
    | _ => exact path_leaf _ _ _ rfl h
  theorem path_members (ms : Members) (fs : List (String × PyVal)) (p : List String)
      (h : tcheckMembers ms fs = some p) :
      ∃ name p', p = name :: p' ∧ ∃ c ∈ preachMembers ms fs name p', shapeOk c.1 c.2 = false := by
    cases ms with
    | nil => simp [tcheckMembers] at h
    | cons m pr t rest =>
      simp only [tcheckMembers] at h
      split at h
      · next x hl =>
        split at h
        · next q hc =>
          obtain rfl := Option.some.inj h
          obtain ⟨c, hcr, hb⟩ := path_tcheck t x q hc
          exact ⟨m, q, rfl, c, by simp [preachMembers, hl, hcr], hb⟩
        · obtain ⟨name, p', hp, c, hc, hb⟩ := path_members rest fs p h
          exact ⟨name, p', hp, c, by simp [preachMembers, hc], hb⟩
      · obtain ⟨name, p', hp, c, hc, hb⟩ := path_members rest fs p h
        exact ⟨name, p', hp, c, by simp [preachMembers, hc], hb⟩
  theorem path_alt (as : Alts) (n : List Nat) (v : PyVal) (p : List String)
      (h : tcheckAlt as n v = some (some p)) :
      ∃ m p', p = m :: p' ∧ (strOfName m == n) = true ∧
        ∃ c ∈ preachAlt as n v p', shapeOk c.1 c.2 = false := by
    cases as with
    | nil => simp [tcheckAlt] at h
    | cons m t rest =>
      simp only [tcheckAlt] at h
      split at h
      · next hm =>
        obtain ⟨q, hc, rfl⟩ := Option.map_eq_some_iff.1 (Option.some.inj h)
        obtain ⟨c, hcr, hb⟩ := path_tcheck t v q hc
        exact ⟨m, q, rfl, hm, c, by simp [preachAlt, hm, hcr], hb⟩
      · next hm =>
        obtain ⟨m', p', hp, hm', c, hc, hb⟩ := path_alt rest n v p h
        exact ⟨m', p', hp, hm', c, by simp [preachAlt, hm, hc], hb⟩
end

end TypeCheck
end Asn1
