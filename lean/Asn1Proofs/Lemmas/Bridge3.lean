import Asn1Proofs.Lemmas.PyStrLemmas
import Asn1Proofs.Lemmas.Bridge2Defs
/-
  Where the bit buffers meet the octets: `Encoder.as_bytearray` (what `Specification.encode` returns) and
  `Decoder.__init__` (what `Specification.decode` starts from).  `per.Encoder.as_bytearray` is cut into the loop over the
  chunks (`abStep`, `abFold`) and the part behind it (`abTail`); `Decoder.__init__` rests on `binAfter10_sentinel`.  The
  statements are in `Properties/C05v.lean` (PER) and `Properties/C06v.lean` (OER).
-/
namespace Asn1.Bridge
open Asn1 Asn1.Translated

theorem packBits_natToBits (k x : Nat) : packBits (natToBits (8 * k) x) = natToBytesN k x := by
  rw [← bytesToBits_natToBytesN, packBits_bytesToBits _ (natToBytesN_lt k x)]

theorem packBits_natToBits_pad (w p k x : Nat) (hp : p = (8 - w % 8) % 8) (hk : 8 * k = w + p) :
    packBits (natToBits w x) = natToBytesN k (x * 2 ^ p) := by
  have h1 := packBits_pad (natToBits w x)
  rw [natToBits_length, ← hp, ← natToBits_pad, ← hk, packBits_natToBits] at h1
  exact h1.symm

theorem bor_mul (a v n : Nat) (hv : v < 2 ^ n) :
    Py.bor ((a : Int) * 2 ^ n) (v : Int) = ((a * 2 ^ n + v : Nat) : Int) := by
  rw [cast_mul_pow, Py.bor_natCast, Py.mul_pow_or _ hv]

/-- the loop body of `as_bytearray` -/
def abStep (acc : Int × Int) (c : Int × Int) : Except String (Int × Int) := do
  let value ← Py.shlE acc.1 c.2
  pure (Py.bor value c.1, acc.2 + c.2)

/-- `as_bytearray` behind the loop (the text of the translation) -/
def abTail (value number_of_bits : Int) : Except String (List Int) := do
  if decide (number_of_bits = (0 : Int)) then
    (do
      pure ([] : List Int))
  else
    (do
      let number_of_alignment_bits := ((8 : Int) - (Py.fmod number_of_bits (8 : Int)))
      let (value, number_of_bits) ← (if decide (number_of_alignment_bits ≠ (8 : Int)) then
          (do
            let value := (← Py.shlE value number_of_alignment_bits)
            let number_of_bits := (number_of_bits + number_of_alignment_bits)
            pure (value, number_of_bits))
        else
          (do
            pure (value, number_of_bits)))
      let value := (Py.bor value (← Py.shlE (128 : Int) number_of_bits))
      let value := value
      pure (← Py.unhexAfter4 value))

theorem per_as_bytearray_unfold (s : per_EncoderS) :
    per_Encoder_as_bytearray s = (do
      let r ← List.foldlM abStep ((0 : Int), (0 : Int)) s.chunks
      let value ← Py.shlE r.1 s.number_of_bits
      abTail (Py.bor value s.value) (r.2 + s.number_of_bits)) := rfl

theorem abFold (cs : List (Int × Int)) :
    (∀ c ∈ cs, 0 ≤ c.2 ∧ 0 ≤ c.1 ∧ c.1 < 2 ^ c.2.toNat) → ∀ (V N : Nat), V < 2 ^ N →
    ∃ V' N' : Nat, List.foldlM abStep ((V : Int), (N : Int)) cs = .ok ((V' : Int), (N' : Int)) ∧ V' < 2 ^ N' ∧
      natToBits N' V' = natToBits N V ++ cs.flatMap (fun c => natToBits c.2.toNat c.1.toNat) := by
  induction cs with
  | nil => intro _ V N h; exact ⟨V, N, rfl, h, by simp⟩
  | cons c r ih =>
    intro hc V N hlt
    obtain ⟨c1, c2, c3⟩ := hc c (by simp)
    obtain ⟨cv, cn⟩ := c
    obtain ⟨n, v, rfl, rfl, hv⟩ := word_view c1 c2 c3
    obtain ⟨V', N', e, hlt', hb⟩ :=
      ih (fun x hx => hc x (by simp [hx])) (V * 2 ^ n + v) (N + n) (shift_add_lt hlt hv)
    refine ⟨V', N', ?_, hlt', ?_⟩
    · have st : abStep ((V : Int), (N : Int)) ((v : Int), (n : Int))
          = .ok (((V * 2 ^ n + v : Nat) : Int), ((N + n : Nat) : Int)) := by
        unfold abStep
        simp only [shlE_natCast, bind, Except.bind, pure, Except.pure, bor_mul V v n hv, Int.natCast_add]
      rw [List.foldlM_cons, st]
      exact e
    · rw [hb, natToBits_shift_add _ _ _ _ hv, List.flatMap_cons, Int.toNat_natCast, Int.toNat_natCast,
        List.append_assoc]

theorem abTail_eq (W M : Nat) (h : W < 2 ^ M) : abTail W M = .ok (ofNats (packBits (natToBits M W))) := by
  unfold abTail
  by_cases h0 : M = 0
  · subst h0; rfl
  · rw [decide_eq_false (by omega : ¬ ((M : Int) = 0))]
    simp only [Bool.false_eq_true, if_false, Py.fmod8]
    by_cases h8 : M % 8 = 0
    · obtain ⟨k, rfl⟩ : ∃ k, M = 8 * k := ⟨M / 8, by omega⟩
      rw [decide_eq_false (by omega)]
      simp only [Bool.false_eq_true, if_false, shlE_natCast, bind, Except.bind, pure, Except.pure]
      rw [unhex_sentinel_bor k W h, packBits_natToBits]
    · rw [decide_eq_true (by omega)]
      obtain ⟨k, hk⟩ : ∃ k, 8 * k = M + (8 - M % 8) := ⟨M / 8 + 1, by omega⟩
      have e1 : (8 : Int) - ((M % 8 : Nat) : Int) = ((8 - M % 8 : Nat) : Int) := by omega
      have e2 : (M : Int) + ((8 - M % 8 : Nat) : Int) = ((8 * k : Nat) : Int) := by omega
      have hlt : W * 2 ^ (8 - M % 8) < 2 ^ (8 * k) := by
        have := shift_add_lt h (Nat.two_pow_pos (8 - M % 8))
        rw [← hk] at this; omega
      simp only [if_true, e1, e2, shlE_natCast, bind, Except.bind, pure, Except.pure]
      rw [cast_mul_pow, unhex_sentinel_bor k _ hlt, packBits_natToBits_pad M (8 - M % 8) k W (by omega) hk]

/-- the character `bin` prints for a bit -/
def charOfBit (b : Bool) : Char := if b then '1' else '0'

theorem charOfBit_bin (b : Bool) : charOfBit b = '0' ∨ charOfBit b = '1' := by cases b <;> simp [charOfBit]

theorem charOfBit_beq (b : Bool) : (charOfBit b == '1') = b := by cases b <;> rfl

/-- `bin(0x80 << w | x)` for `x` of at most `w` bits is `'10000000'` followed by exactly `w` digits, the `w` bits of `x`
with their leading zeros (`Decoder.__init__` slices the sentinel off with `[10:]`). -/
theorem binDigitsAux_sentinel (w : Nat) : ∀ (x fuel : Nat) (acc : List Char), x < 2 ^ w → w + 8 ≤ fuel →
    Py.binDigitsAux fuel (128 * 2 ^ w + x) acc =
      '1' :: '0' :: '0' :: '0' :: '0' :: '0' :: '0' :: '0' :: ((natToBits w x).map charOfBit ++ acc) := by
  induction w with
  | zero =>
    intro x fuel acc hx hf
    have : x = 0 := by simpa using hx
    subst this
    obtain ⟨f, rfl⟩ : ∃ f, fuel = f + 8 := ⟨fuel - 8, by omega⟩
    rfl
  | succ w ih =>
    intro x fuel acc hx hf
    obtain ⟨f, rfl⟩ : ∃ f, fuel = f + 1 := ⟨fuel - 1, by omega⟩
    have hpos : 0 < 2 ^ w := Nat.two_pow_pos w
    rw [Nat.pow_succ] at hx
    generalize hN : 128 * 2 ^ (w + 1) + x = N
    have hn : N = (128 * 2 ^ w + x / 2) * 2 + x % 2 := by
      rw [← hN, Nat.pow_succ]; omega
    have c1 : ¬ N < 2 := by omega
    have e1 : N / 2 = 128 * 2 ^ w + x / 2 := by omega
    have e2 : N % 2 = x % 2 := by omega
    rw [Py.binDigitsAux]
    simp only [if_neg c1, e1, e2]
    rw [ih (x / 2) f _ (by omega) (by omega), natToBits, List.map_append]
    have : (if x % 2 = 1 then '1' else '0') = charOfBit (x % 2 == 1) := by
      unfold charOfBit
      by_cases hx2 : x % 2 = 1 <;> simp [hx2]
    rw [this]
    simp

theorem binAfter10_sentinel (w x : Nat) (hx : x < 2 ^ w) :
    Py.binAfter10 ((128 * 2 ^ w + x : Nat) : Int) = (natToBits w x).map charOfBit := by
  unfold Py.binAfter10 Py.binDigits
  have hk : w < 2 ^ w := Nat.lt_two_pow_self
  rw [Int.toNat_natCast, binDigitsAux_sentinel w x _ [] hx (by omega)]
  simp

end Asn1.Bridge
