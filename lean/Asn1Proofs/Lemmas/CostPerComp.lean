import Asn1Proofs.Lemmas.CostPerTypes
import Asn1Proofs.Lemmas.PerChoice
/-
  C08 for the ALIGNED PER model: the allocation bound for SEQUENCE and CHOICE, the induction over all
  types and the statements about `Per.decode`.
-/
namespace Asn1.CostP
open Asn1.Per
open Asn1.Uper (DecM)
open Asn1.Cost (nodesFields_append Pot)

/-- the padding behind an addition: to the next octet boundary counted from its start -/
def padTo (r1 r2 : St) : DecM St := do
  let (_, r3) ← readBits (padLen (r2.pos - r1.pos)) r2
  .ok r3

theorem padTo_ok {r1 r2 r3 : St} (h : padTo r1 r2 = .ok r3) : r3.bs.length ≤ r2.bs.length := by
  obtain ⟨⟨_, r⟩, h1, h⟩ := bind_ok h
  cases h
  have := (readBits_ok h1).1
  omega

theorem szp_sequence (root : Members) (ext : Bool) (adds : Members)
    (ihr : root.All SzP) (iha : adds.All SzP) : SzP (.sequence root ext adds) := by
  intro K hK f s
  have hK : 1 + KPm root + KPm adds ≤ K := hK
  refine .bind0 (fun _ _ h => optBit_ok h) fun e s0 => ?_
  refine .bind0 (fun _ _ => (pf_readBits _).ni) fun flags s1 => ?_
  refine (Pot.bind (c2 := 1 + KPm adds) (Cost.members_pot (mem := decMembers) (Km := KPm) (fun _ _ _ => rfl)
      (fun _ p _ _ _ _ _ => by cases p <;> rfl) (fun _ _ _ _ => rfl) root ihr K (by omega) f flags s1)
    fun fields s2 => .ite (fun _ => ?_) fun _ => .pure ?_).mono (fun _ => Nat.le_refl _)
      (by show KPm root + (1 + KPm adds) ≤ 1 + KPm root + KPm adds; omega)
  · refine .bind0 (fun _ _ => pf_decNsLength.ni) fun n s3 => ?_
    refine .bind0 (fun _ _ => (pf_readBits _).ni) fun bitmap s4 => ?_
    refine (Pot.map (g := fun more => Val.record (fields ++ more)) 1
      (Cost.adds_pot (A := decAdditions) (Km := KPm) (pad := padTo) (fun _ _ _ => rfl)
        (fun _ _ _ _ _ bitmap _ => by cases bitmap <;> simp only [decAdditions, padTo, bind_assoc, ok_bind])
        (fun _ _ _ _ => rfl) lenDet_readLenDet.ni (fun _ _ _ h => padTo_ok h)
        (fun bm _ _ h => skipUnknown_ok bm h) adds iha K (by omega) f bitmap (align s4))
      fun more => ?_).start_le (align_le s4)
    show 1 + Val.nodesFields (fields ++ more) - _ ≤ _
    rw [nodesFields_append]; omega
  · show 1 + Val.nodesFields fields - _ ≤ _; omega

theorem szp_choice (root : Alts) (ext : Bool) (adds : Alts)
    (ihr : root.All SzP) (iha : adds.All SzP) : SzP (.choice root ext adds) := by
  intro K hK f s
  have hK : 2 + KPa root + KPa adds ≤ K := hK
  have hb : ∀ n, n ≤ 1 + KPa root ∨ n ≤ 1 + KPa adds → n ≤ KP (.choice root ext adds) := fun n h => by
    show n ≤ 2 + KPa root + KPa adds; omega
  refine .bind0 (fun _ _ h => optBit_ok h) fun e s0 => .ite (fun _ => ?_) fun _ => ?_
  · refine .bind0 (fun _ _ => pf_decNsnnwn.ni) fun idx s1 => ?_
    refine .bind0 (ni_alignedLenDet s1) fun len s2 => ?_
    dsimp only
    rw [decAlt_nth]
    cases e : adds.nth idx with
    | none =>
      exact .bind0 (fun _ _ => (pf_readBits _).ni) fun _ _ =>
        .pure (show 2 ≤ 2 + KPa root + KPa adds by omega)
    | some nt =>
      refine (Pot.bind (c2 := 0) (Cost.alt_pot (Ka := KPa) (fun _ _ _ => rfl) iha e K (by omega) f s2)
        fun v s3 => ?_).mono
        (fun _ => Nat.le_refl _) (hb _ (.inr (Nat.le_refl _)))
      -- an alternative that read beyond its open type is a `DecodeError`: no bit pays for a value twice
      refine .ite (fun _ => .error) fun _ => ?_
      exact .bind0 (fun _ _ => (pf_readBits _).ni) fun _ _ => .pure (Nat.le_of_eq (Nat.sub_self _))
  · refine .bind0 (m := if root.length > 1 then decConstrainedInt 0 ((root.length : Int) - 1) s0 else .ok (0, s0))
      (fun a r h => by
        rcases ite_cases h with ⟨_, h⟩ | ⟨_, h⟩
        · exact (pf_decConstrainedInt _ _).ni h
        · cases h; exact Nat.le_refl _) fun idx s1 => ?_
    dsimp only
    rw [decAlt_nth]
    cases e : root.nth idx.toNat with
    | none => exact .error
    | some nt =>
      exact (Cost.alt_pot (Ka := KPa) (fun _ _ _ => rfl) ihr e K (by omega) f s1).mono (fun _ => Nat.le_refl _)
        (hb _ (.inl (Nat.le_refl _)))

theorem szp_all (t : Ty) : SzP t :=
  Ty.induct
    szp_boolean szp_null szp_integer szp_enumerated szp_octetString szp_bitString
    (fun k c => by
      by_cases hk : k = .utf8
      · subst hk; exact szp_utf8 c
      · exact szp_charString k hk c)
    szp_sequence szp_sequenceOf szp_choice t

theorem szp_bound (t : Ty) (f : Nat) (s : St) (v : Val) (r : St) (h : dec t f s = .ok (v, r)) :
    r.bs.length ≤ s.bs.length ∧ v.nodes ≤ KP t * (s.bs.length - r.bs.length + 1) :=
  (szp_all t (KP t) (Nat.le_refl _) f s).bound h

theorem per_decode_alloc (t : Ty) (bs : Bytes) (v : Val) (h : Per.decode t bs = .ok v) :
    v.nodes ≤ KP t * (8 * bs.length + 1) := by
  unfold Per.decode at h
  cases hd : dec t (8 * bs.length + 2) ⟨0, bytesToBits bs⟩ with
  | error e => rw [hd] at h; cases h
  | ok vr =>
    obtain ⟨w, r⟩ := vr
    rw [hd] at h
    cases h
    obtain ⟨hl, hs⟩ := szp_bound t _ _ _ _ hd
    simp only [bytesToBits_length] at hs hl
    exact Cost.bd_mono hs (Nat.le_refl _) (by omega)

theorem per_decode_alloc_octets (t : Ty) (bs : Bytes) (v : Val) (h : Per.decode t bs = .ok v) :
    v.nodes ≤ 8 * KP t * (bs.length + 1) := by
  have := per_decode_alloc t bs v h
  refine Nat.le_trans this ?_
  rw [Nat.mul_comm 8 (KP t), Nat.mul_assoc]
  exact Nat.mul_le_mul_left _ (by omega)

end Asn1.CostP
