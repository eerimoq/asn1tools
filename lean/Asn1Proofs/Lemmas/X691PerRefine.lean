import Asn1Proofs.Lemmas.X691PerLeaf
/-
  The ALIGNED specification encoder against the code model `Per.enc`: SEQUENCE, SEQUENCE OF, CHOICE
  and the induction over all types.
-/
namespace Asn1.X691
open Asn1.Uper (lenDet)
open Asn1.Per (alignBits)

theorem encPreamble_per (root : Members) (fs : List (String × Val)) :
    Per.encPreamble root fs = preamble root fs := by
  induction root using Members.ind with
  | nil => unfold Per.encPreamble preamble; rfl
  | cons name p t rest ih =>
    unfold Per.encPreamble preamble
    simp only [ih]
    cases p with
    | mandatory => rfl
    | optional => rfl
    | default d =>
      simp only
      cases lookup name fs <;> rfl

theorem pref_sequence (root : Members) (ext : Bool) (adds : Members)
    (hr : root.All PREF) (ha : adds.All PREF) : PREF (.sequence root ext adds) := by
  intro v pos bits hd he
  obtain ⟨fs, rfl⟩ := enc_sequence_ok he
  obtain ⟨body, hdr, hb, hx⟩ := enc_sequence_inv hd he
  have hM := encRoot_ref (code := Per.enc) (M := fun ms pos => Per.encMembers ms fs false pos)
    (fun _ => rfl)
    (fun name p t rest pos a b (ha : Per.encHere p t (lookup name fs) false pos = .ok a) hb => by
      rw [Per.encMembers_cons, ha]; simp only [hb])
    root hr _ body hdr hb
  unfold Per.enc
  simp only [encPreamble_per, hM]
  cases ext with
  | false => simp only [Bool.false_eq_true, if_false] at hx ⊢; rw [hx]
  | true =>
    simp only [if_true] at hx ⊢
    obtain ⟨bitmap, encs, hda, hadds, hx⟩ := hx
    obtain ⟨present, hp1, hp2, hp3, hp4, hp5⟩ :=
      encAdds_ref (code := Per.enc) (A := fun ms => Per.encAdditions ms fs) rfl
        (fun name t rest hl => by rw [Per.encAdditions_cons, hl]; rfl)
        (fun name p t rest v e bm es hl hc hr => by
          rw [Per.encAdditions_cons, hl]; simp [Per.addHere, hc, hr])
        (fun name p t rest bm es hl hp hr => by
          rw [Per.encAdditions_cons, hl]; cases p <;> simp [Per.addHere, hr] at hp ⊢)
        adds ha bitmap encs hda hadds
    -- `Per.enc` matches on `adds` before it looks at the additions
    cases adds with
    | nil =>
      unfold encAdds at hadds
      cases hadds
      rw [hx]; simp
    | cons name p t rest =>
      have hemp : encs.isEmpty = !bitmap.any id := by rw [hp4, Bool.not_not]
      simp only [hp1, hemp]
      cases hany : bitmap.any id with
      | false => rw [hany] at hx; rw [hx]; simp
      | true =>
        rw [hany] at hx hemp
        obtain ⟨h127, h64, rfl⟩ := hx
        obtain ⟨nl, hnl1, hnl2⟩ := nsLength_code true
          (pos + 1 + (preamble root fs).length + body.length) bitmap (by rw [hp3]; simp [Members.length])
          (by rw [hp3]; exact h127) (fun _ => by rw [hp3]; exact h64 trivial)
        rw [hp3] at hnl1
        simp only [Bool.not_true, Bool.false_eq_true, if_false, hnl1]
        rw [hnl2, openTypes_pad _ _ _ hp5, pad_true, hemp, ← hp2]
        simp [Nat.add_assoc, hp3]

section generic
variable {α : Type} (f g : Nat → α → EncM Bits)

/-- the root arm of `Per.enc` at SEQUENCE OF (its `root pre` after `unfold`) against `sizedM`, for
components whose encodings the code reproduces (`hfg`) and no fragmentation (`hsmall`) -/
theorem seqOf_root (vs : List α) (hfg : ∀ v ∈ vs, ∀ p b, f p v = .ok b → g p v = .ok b)
    (c : SizeC) (p : Nat) (pre b : Bits) (hsmall : Uper.sizeBits c = none → vs.length < 16384)
    (h : sizedM true f c.lo c.hi false false p vs = .ok b) :
    (match Uper.sizeBits c with
      | none =>
        match Per.encChunksM g (vs.length / 16384 + 2) (p + (alignBits p).length) vs with
        | .error err => (.error err : EncM Bits)
        | .ok b => .ok (pre ++ alignBits p ++ b)
      | some w =>
        if ¬ Uper.inSize c vs.length = true then .error .unmodelled
        else
          match Per.encSeqM g (p + (Per.sizePrefix c w p vs.length false false).length) vs with
          | .error err => .error err
          | .ok b => .ok (pre ++ Per.sizePrefix c w p vs.length false false ++ b)) = .ok (pre ++ b) := by
  obtain ⟨hin, h1, h2⟩ := sizedM_true f c false false false false (fun _ => rfl) vs
    (fun _ _ _ _ _ => rfl) p b h
  cases hsb : Uper.sizeBits c with
  | none =>
    simp only
    have hn := hsmall hsb
    have hs := h1 hsb
    rw [genLenM_lt f true vs p hn, pad_true] at hs
    rw [encChunksM_eq, ← genLenM, genLenM_lt g false vs _ hn, pad_false, List.length_nil, Nat.add_zero]
    split at hs <;> cases hs
    rename_i body hs
    rw [seqM_congr f g vs hfg _ _ hs]
    simp only [List.nil_append, List.append_assoc]
  | some w =>
    simp only [hin, not_true_eq_false, if_false]
    obtain ⟨body, hs, hbits⟩ := h2 w hsb
    rw [encSeqM_eq, seqM_congr f g vs hfg _ _ hs]
    simp only [hbits, List.append_assoc]

end generic

theorem sizeBits_none_getD (c : SizeC) (h : Uper.sizeBits c = none) : c.hi.getD 65536 ≥ 65536 := by
  unfold Uper.sizeBits at h
  cases hc : c.hi with
  | none => simp
  | some ub =>
    rw [hc] at h
    simp only at h
    split at h
    · simp only [Option.getD_some]; omega
    · cases h

theorem pref_sequenceOf (e : Ty) (c : SizeC) (ih : PREF e) : PREF (.sequenceOf e c) := by
  intro v pos bits hd he
  obtain ⟨vs, rfl, h⟩ := enc_sequenceOf_ok he
  unfold devs at hd
  simp only [List.append_eq_nil_iff] at hd
  -- `hfr`: the deviation `aligned-fragment-length-unaligned` is absent, i.e. no fragmentation
  obtain ⟨⟨hds, hfr⟩, hdv⟩ := hd
  have hfg : ∀ v ∈ vs, ∀ p b, enc true e p v = .ok b → Per.enc e p v = .ok b :=
    fun v hv p b hb => ih v p b (List.flatMap_eq_nil_iff.mp hdv v hv) hb
  unfold Per.enc
  simp only
  have hdvs := devsSize_nil _ _ _ hds
  have hsmall : Uper.sizeBits c = none → vs.length < 16384 := fun hsb =>
    Nat.lt_of_not_le fun hn => ite_cons_eq_nil.mp hfr ⟨trivial, hn, .inl (sizeBits_none_getD c hsb)⟩
  rcases extSizedM_inv h with
    ⟨hext, hin, b, hb1, hb2⟩ | ⟨hext, hin, b, hb1, hb2⟩ | ⟨hext, hb⟩
  · obtain ⟨hhi, hout⟩ := hdvs hext
    have hr : Per.extRange c vs.length = .outside := by rw [extRange_eq c _ hhi, hin]; rfl
    rw [inRoot_eq_inSize] at hin
    obtain ⟨_, hlt⟩ := hout hin
    rw [genLenM_lt _ true vs (pos + 1) hlt, pad_true] at hb1
    split at hb1 <;> cases hb1
    rename_i body hs
    have hM := seqM_congr _ (Per.enc e) vs hfg _ _ hs
    simp only [hext, if_true, hr]
    have hpos : pos + ([true] ++ alignBits (pos + 1) ++ (lenDet vs.length).1).length
        = pos + 1 + (alignBits (pos + 1)).length + (lenDet vs.length).1.length := by
      simp only [List.length_append, List.length_cons, List.length_nil]; omega
    rw [hpos, encSeqM_eq, hM]
    simp only [hb2, List.append_assoc, List.cons_append, List.nil_append]
  · have hr : Per.extRange c vs.length = .inside := by rw [extRange_eq c _ (hdvs hext).1, hin]; rfl
    simp only [hext, if_true, hr]
    rw [hb2]
    exact seqOf_root (enc true e) (Per.enc e) vs hfg c (pos + 1) [false] b hsmall hb1
  · simp only [hext, Bool.false_eq_true, if_false]
    exact seqOf_root (enc true e) (Per.enc e) vs hfg c pos [] bits hsmall hb

/-- 22.6: the index among the root alternatives -/
theorem choiceIndex_per (pos idx n : Nat) (hll : n > 65536 → minOctets (n - 1) ≤ 128) :
    (if n > 1 then Per.encConstrainedInt pos 0 ((n : Int) - 1) idx else []) = cwn true pos idx n := by
  by_cases hn : n > 1
  · rw [if_pos hn]
    have h1 : ((n : Int) - 1 - 0).toNat = n - 1 := by omega
    have h2 : ((idx : Int) - 0).toNat = idx := by omega
    rw [encConstrainedInt_eq, h1, h2]
    · rw [show n - 1 + 1 = n by omega]
    · rw [h1]
      intro h
      exact hll (by omega)
  · rw [if_neg hn, cwn_bits true _ _ _ (.inr (by omega)), show n - 1 = 0 by omega]
    rfl

theorem pref_choice (root : Alts) (ext : Bool) (adds : Alts)
    (hr : root.All PREF) (ha : adds.All PREF) : PREF (.choice root ext adds) := by
  intro v pos bits hd he
  obtain ⟨name, w, rfl⟩ := enc_choice_ok he
  unfold Per.enc
  simp only [Per.nameIdx_find, Per.encAlt_find]
  rcases enc_choice_inv hd he with ⟨idx, t, body, hf, hdt, hll, hb, rfl⟩ |
    ⟨j, t, body, hf, rfl, hfa, hdt, hdj, hb, hne, hsm, rfl⟩
  · have hx : (if ext = true then [false] else ([] : Bits)).length
        = (if ext = true then 1 else 0) := by
      cases ext <;> rfl
    simp only [hf, Option.map_some, hx, choiceIndex_per _ _ _ (hll rfl),
      Alts.find_all hf hr w _ body hdt hb]
  · simp only [hf, hfa, Option.map_none, Option.map_some, if_true,
      Alts.find_all hfa ha w _ body hdt hb]
    rw [nsnnwn_code _ _ _ hdj, openType_pad _ _ _ hne hsm, pad_true]
    simp [Nat.add_assoc, Nat.add_comm]

theorem pref_all (t : Ty) : PREF t :=
  Ty.induct (P := PREF)
    pref_boolean pref_null pref_integer pref_enumerated pref_octetString pref_bitString pref_charString
    (fun root ext adds ihr iha => pref_sequence root ext adds ihr iha)
    (fun e c ih => pref_sequenceOf e c ih)
    (fun root ext adds ihr iha => pref_choice root ext adds ihr iha) t

/-- ALIGNED PER emits the bit string X.691 prescribes at every position, outside the deviation
predicates (C05) -/
theorem per_refines_bits (t : Ty) (v : Val) (pos : Nat) (bits : Bits)
    (hd : devs true t v = []) (h : enc true t pos v = .ok bits) : Per.enc t pos v = .ok bits :=
  pref_all t v pos bits hd h

/-- complete encodings.  `htc`: `Per.encode` runs the type checker of `Specification.encode` first
and answers with its error otherwise; the UNALIGNED `Uper.encode` has no such step -/
theorem per_refines_encode (t : Ty) (v : Val) (bytes : Bytes) (htc : Per.typeCheck t v = true)
    (hd : deviations true t v = []) (h : encode true t v = .ok bytes) :
    Per.encode t v = .ok bytes := by
  obtain ⟨bits, hd1, he, rfl⟩ := encode_inv hd h
  unfold Per.encode
  rw [if_pos htc, per_refines_bits t v 0 bits hd1 he]
  rfl

end Asn1.X691

#print axioms Asn1.X691.per_refines_bits
