import Asn1Proofs.Lemmas.PerStr
/-
  Aligned PER SEQUENCE OF: the encoder as an instance of `encExt` and `encRoot`, its totality.

  The round trips of SEQUENCE OF, CHOICE and SEQUENCE exist as the cross-version ones only
  (`Ext.PerX.xt_sequenceOf`, `xt_choice`, `xt_sequence`; `rt_all` takes them at equal types).
-/
namespace Asn1.Per
open Asn1.Uper (lenDet sizeOk_eq_inSize)

theorem enc_sequenceOf (e : Ty) (c : SizeC) (pos : Nat) (vs : List Val) :
    enc (.sequenceOf e c) pos (.list vs) = encExt c vs.length
      (match encSeqM (enc e)
          (pos + ([true] ++ alignBits (pos + 1) ++ (lenDet vs.length).1).length) vs with
        | .error err => .error err
        | .ok b => .ok ([true] ++ alignBits (pos + 1) ++ (lenDet vs.length).1 ++ b))
      (encRoot c pos vs.length false false (fun p => encChunksM (enc e) (vs.length / 16384 + 2) p vs)
        fun p => encSeqM (enc e) p vs) := by
  rfl

theorem et_sequenceOf (e : Ty) (c : SizeC) (ih : ET e) : ET (.sequenceOf e c) := by
  intro v pos hwf ht
  obtain ⟨vs, rfl, hall, hsz⟩ := hasType_sequenceOf ht
  rw [Ty.wf] at hwf
  simp only [Bool.or_eq_true, sizeOk_eq_inSize] at hsz
  simp only [Bool.and_eq_true] at hwf
  have hel : ∀ v ∈ vs, ∀ pos, ∃ b, enc e pos v = .ok b := fun v hv p => ih v p hwf.1 (hall v hv)
  rw [enc_sequenceOf]
  refine encExt_total hwf.2 (by simpa using hsz)
    (fun hin => encRoot_total hin (encChunksM_total (enc e) _ vs hel) (encSeqM_total (enc e) vs hel))
    (fun _ => ?_)
  obtain ⟨b, hb⟩ := encSeqM_total (enc e) vs hel
    (pos + ([true] ++ alignBits (pos + 1) ++ (lenDet vs.length).1).length)
  rw [hb]; exact ⟨_, rfl⟩

end Asn1.Per
