import Asn1Proofs.Lemmas.CostDer2
/-
  C08 for the BER model: `BerCodec.pcDecode` (primitive-or-constructed strings, segments nested
  to any depth), allocation bound and fuel independence, and their instances `decOctets` / `decBits`.
-/
namespace Asn1.Cost
open Asn1.Der
open Asn1.Oer (splitAux)

/-- `+ 2`: the header (tag, length) takes at least two octets; the value is no larger than the octets that
follow it, whatever the nesting of the segments -/
theorem pcDecode_cost {α : Type} (size : α → Nat) (prim : Bytes → Bytes → DecM α) (join : List α → α)
    (segTag segCtag : Bytes)
    (hprim : ∀ content rest a, prim content rest = .ok a → size a ≤ content.length)
    (hjoin : ∀ segs, size (join segs) ≤ sumSize size segs)
    (hseg : 1 ≤ segTag.length) :
    ∀ (fuel : Nat) (tag ctag bs : Bytes) (a : α) (k : Nat) (r : Bytes), 1 ≤ tag.length →
      BerCodec.pcDecode prim join segTag segCtag fuel tag ctag bs = .ok (some (a, k, r)) →
      r.length + 2 ≤ bs.length ∧ 1 ≤ k ∧ size a + 2 ≤ bs.length - r.length := by
  intro fuel
  induction fuel with
  | zero => intro tag ctag bs a k r _ h; simp [BerCodec.pcDecode] at h
  | succ f ih =>
    intro tag ctag bs a k r ht h
    rw [BerCodec.pcDecode] at h
    split at h
    · cases h
    · rename_i t r0 hs
      have s1 := (splitAux_len hs).1
      split at h
      · split at h
        · cases h
        · cases h
        · rename_i n hh r1 hl
          obtain ⟨l1, l2, _, _⟩ := readLen_spec hl
          split at h
          · cases h
          · rename_i content r2 hb
            obtain ⟨b1, b2⟩ := readBytes_len hb
            split at h
            · cases h
            · rename_i a' hpr
              cases h
              have := hprim _ _ _ hpr
              omega
      · split at h
        · split at h
          · cases h
          · rename_i len hh r1 hl
            obtain ⟨l1, l2, _, _⟩ := readLen_spec hl
            split at h
            · cases h
            · rename_i segs k' r2 hit
              cases h
              obtain ⟨i1, i2⟩ := items_cost size (K := 1) (fun b a k r hb => by
                  obtain ⟨c1, c2, c3⟩ := ih segTag segCtag b a k r hseg hb
                  exact ⟨by omega, by omega⟩) _ _ _ _ _ _ hit
              have := hjoin segs
              omega
        · cases h

/-- nested segments are at least two octets shorter -/
theorem pcDecode_fuel {α : Type} (prim : Bytes → Bytes → DecM α) (join : List α → α)
    (segTag segCtag : Bytes) (hseg : 1 ≤ segTag.length) :
    ∀ (f f' : Nat) (tag ctag bs : Bytes), bs.length < f → bs.length < f' →
      BerCodec.pcDecode prim join segTag segCtag f tag ctag bs
        = BerCodec.pcDecode prim join segTag segCtag f' tag ctag bs := by
  intro f
  induction f with
  | zero => intro f' tag ctag bs h; omega
  | succ f ih =>
    intro f' tag ctag bs h1 h2
    cases f' with
    | zero => omega
    | succ f' =>
      rw [BerCodec.pcDecode, BerCodec.pcDecode]
      cases hs : splitAux tag.length bs [] with
      | none => rfl
      | some x =>
        obtain ⟨t, r0⟩ := x
        dsimp only
        have s1 := (splitAux_len hs).1
        by_cases c1 : (t == tag) = true
        · rw [if_pos c1, if_pos c1]
        · rw [if_neg c1, if_neg c1]
          by_cases c2 : (t == ctag) = true
          · rw [if_pos c2, if_pos c2]
            cases hl : readLen false r0 with
            | error e => rfl
            | ok y =>
              obtain ⟨len, h, r1⟩ := y
              dsimp only
              obtain ⟨l1, l2, _, _⟩ := readLen_spec hl
              rw [items_congr (p' := BerCodec.pcDecode prim join segTag segCtag f' segTag segCtag)
                (fun b a k r hb =>
                  (pcDecode_cost (fun _ => 0) prim join segTag segCtag (fun _ _ _ _ => Nat.zero_le _)
                    (fun _ => Nat.zero_le _) hseg f segTag segCtag b a k r hseg hb).1 |> fun x => by omega)
                (f + 1) (f' + 1) len r1
                (fun b hb => ih f' segTag segCtag b (by omega) (by omega)) (by omega) (by omega)]
          · rw [if_neg c2, if_neg c2]

theorem decOctets_cost {f : Nat} {tag ctag bs content r : Bytes} {k : Nat} (ht : 1 ≤ tag.length)
    (h : BerCodec.decOctets f tag ctag bs = .ok (some (content, k, r))) :
    r.length + 2 ≤ bs.length ∧ 1 ≤ k ∧ content.length + 2 ≤ bs.length - r.length := by
  unfold BerCodec.decOctets at h
  refine pcDecode_cost List.length _ _ _ _ ?_ ?_ (by simp) f tag ctag bs content k r ht h
  · intro content rest a ha; cases ha; exact Nat.le_refl _
  · intro segs; rw [sumSize_flatten]; exact Nat.le_refl _

theorem decBits_cost {f : Nat} {tag ctag bs body r : Bytes} {n k : Nat} (ht : 1 ≤ tag.length)
    (h : BerCodec.decBits f tag ctag bs = .ok (some ((body, n), k, r))) :
    r.length + 2 ≤ bs.length ∧ 1 ≤ k ∧ body.length + 2 ≤ bs.length - r.length := by
  unfold BerCodec.decBits at h
  refine pcDecode_cost (fun x : Bytes × Nat => x.1.length) _ _ _ _ ?_ ?_ (by simp) f tag ctag bs
    (body, n) k r ht h
  · intro content rest a ha
    obtain ⟨b, m⟩ := a
    have := bitsOfContent_len ha
    dsimp only; omega
  · intro segs
    dsimp only
    rw [sumSize_flatten, sumSize_map]
    exact Nat.le_refl _

theorem decOctets_fuel (f f' : Nat) (tag ctag bs : Bytes) (h1 : bs.length < f) (h2 : bs.length < f') :
    BerCodec.decOctets f tag ctag bs = BerCodec.decOctets f' tag ctag bs := by
  unfold BerCodec.decOctets
  exact pcDecode_fuel _ _ _ _ (by simp) f f' tag ctag bs h1 h2

theorem decBits_fuel (f f' : Nat) (tag ctag bs : Bytes) (h1 : bs.length < f) (h2 : bs.length < f') :
    BerCodec.decBits f tag ctag bs = BerCodec.decBits f' tag ctag bs := by
  unfold BerCodec.decBits
  exact pcDecode_fuel _ _ _ _ (by simp) f f' tag ctag bs h1 h2

end Asn1.Cost
