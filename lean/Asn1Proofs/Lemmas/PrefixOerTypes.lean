import Asn1Proofs.Lemmas.PrefixOer
import Asn1Proofs.Lemmas.TyInduct
import Asn1Proofs.Lemmas.OerPrim
/-
  The OER decoder on a cut input (`pt_all`), with no hypothesis on the type: the decoder is prefix
  deterministic (`dec_prefix`, `dec_cut`: C16).
-/
namespace Asn1.Oer
variable {x : Bytes}

/-- the OER decoder has no fuel, so `B` is `True` -/
def PT (x : Bytes) (t : Ty) : Prop := Mono x True (dec t)

theorem pt_boolean : PT x .boolean :=
  fun q => .bind (pf_readByte q) fun _ _ _ _ => .pure trivial

theorem pt_null : PT x .null :=
  fun _ => .pure trivial

theorem pt_integer (c : IntC) : PT x (.integer c) := by
  intro q
  refine .of_eq (dec_integer c _) (dec_integer c _) ?_
  split
  · exact .bind (pf_readBytes _ q) fun ds r1 _ _ => .pure trivial
  · exact .ite (fun _ => .bind (pf_decSigned q) fun i r1 _ _ => .pure trivial)
      fun _ => .bind (pf_decUnsigned q) fun i r1 _ _ => .pure trivial

/-- the first octet is looked at (`peek`) and then read again -/
theorem pt_enumerated (root : List (String × Int)) (ext : Option (List (String × Int))) :
    PT x (.enumerated root ext) := by
  intro q
  cases q with
  | nil => exact .fail (lost_or fun hx => by rw [hx]; rfl)
  | cons b t =>
    refine .of_eq (dec_enumerated_cons root ext b (t ++ x)) (dec_enumerated_cons root ext b t) ?_
    refine .bind (.ite (fun _ => (pf_decSigned ((b - 128) :: t)).mono (by simp))
      fun _ => (Cut.pure trivial).mono (Nat.le_succ _)) fun v r1 _ _ => ?_
    dsimp only
    split
    · exact .pure trivial
    · exact .ite (fun _ => .pure trivial) fun _ => .error

theorem pf_optLen (o : Option Nat) :
    Mono x True (fun bs => match o with | some n => .ok (n, bs) | none => readLenDet bs) := by
  intro q
  cases o with
  | some n => exact .pure trivial
  | none => exact pf_readLenDet q

theorem pt_octetString (c : SizeC) : PT x (.octetString c) := by
  intro q
  refine .bind (pf_optLen (fixedSize c) q) fun n r1 _ _ => ?_
  exact .bind (pf_readBytes _ r1) fun body r2 _ _ => .pure trivial

theorem pt_bitString (c : SizeC) : PT x (.bitString c) := by
  intro q
  refine .of_eq (dec_bitString c _) (dec_bitString c _) ?_
  split
  · exact .bind (pf_readBytes _ q) fun body r1 _ _ => .pure trivial
  · refine .bind (pf_readLenDet q) fun len r1 _ _ => ?_
    refine .bind (pf_readByte r1) fun unused r2 _ _ => ?_
    refine .ite (fun _ => .error) fun _ => ?_
    exact .bind (pf_readBytes _ r2) fun body r3 _ _ => .pure trivial

theorem pt_charString (k : StrKind) (c : SizeC) : PT x (.charString k c) := by
  intro q
  refine .bind (pf_optLen (fixedSize c) q) fun n r1 _ _ => ?_
  refine .bind (pf_readBytes _ r1) fun body r2 _ _ => ?_
  exact .bind_val fun cps => .pure trivial

theorem pt_sequenceOf (e : Ty) (c : SizeC) (ih : PT x e) : PT x (.sequenceOf e c) := by
  intro q
  refine .bind (pf_decUnsigned q) fun n r1 _ _ => ?_
  exact .bind (pf_decRepeat ih n r1) fun xs r2 _ _ => .pure trivial

theorem pf_decMembers (ms : Members) : ms.All (PT x) → ∀ flags, Mono x True (decMembers ms flags) := by
  induction ms using Members.ind with
  | nil => exact fun _ _ _ => .pure trivial
  | cons name p t rest ih =>
    intro ⟨ht, hrest⟩ flags q
    have present : ∀ fl, CutL x True q.length (decMembers (.cons name .mandatory t rest) fl (q ++ x))
        (decMembers (.cons name .mandatory t rest) fl q) := fun fl =>
      .bind (ht q) fun v r1 _ _ => .bind (ih hrest fl r1) fun fs r2 _ _ => .pure trivial
    cases p with
    | mandatory => exact present flags
    | optional =>
      rcases flags with _ | ⟨_ | _, fl⟩
      · exact .error
      · exact ih hrest fl q
      · exact present fl
    | default d =>
      rcases flags with _ | ⟨_ | _, fl⟩
      · exact .error
      · exact .bind (ih hrest fl q) fun fs r1 _ _ => .pure trivial
      · exact present fl

theorem pf_decAdditions (ms : Members) : ms.All (PT x) → ∀ bitmap, Mono x True (decAdditions ms bitmap) := by
  induction ms using Members.ind with
  | nil => exact fun _ bitmap q => .bind_stateFirst (pf_skipUnknown bitmap q) fun r1 _ _ => .pure trivial
  | cons name p t rest ih =>
    intro ⟨ht, hrest⟩ bitmap q
    rcases bitmap with _ | ⟨present, bitmap⟩
    · exact .pure trivial
    · refine .ite (fun _ => ?_) fun _ => ih hrest bitmap q
      refine .bind (pf_readLenDet q) fun len r1 _ _ => ?_
      refine .bind (ht r1) fun v r2 _ _ => ?_
      exact .bind (ih hrest bitmap r2) fun fs r4 _ _ => .pure trivial

theorem pt_sequence (root : Members) (ext : Bool) (adds : Members)
    (ihr : root.All (PT x)) (iha : adds.All (PT x)) : PT x (.sequence root ext adds) := by
  intro q
  refine .bind (pf_readBytes _ q) fun pre r0 _ _ => ?_
  refine .bind (pf_decMembers root ihr _ r0) fun fields r1 _ _ => ?_
  refine .ite (fun _ => ?_) fun _ => .pure trivial
  refine .bind (pf_readLenDet r1) fun len r2 _ _ => ?_
  refine .bind (pf_readByte r2) fun unused r3 _ _ => ?_
  refine .ite (fun _ => .error) fun _ => ?_
  refine .bind (pf_readBytes _ r3) fun bm r4 _ _ => ?_
  exact .bind (pf_decAdditions adds iha _ r4) fun more r5 _ _ => .pure trivial

theorem pf_decAlt (as : Alts) : as.All (PT x) → ∀ (tag : Bytes) (i : Nat) (q : Bytes),
    CutLO x True q.length (decAlt as tag i (q ++ x)) (decAlt as tag i q) := by
  induction as using Alts.ind with
  | nil => exact fun _ _ _ _ => .inl ⟨rfl, rfl⟩
  | cons n t rest ih =>
    intro ⟨ht, hrest⟩ tag i q
    refine .ite (fun _ => .inr ⟨_, _, rfl, rfl, ?_⟩) fun _ => ih hrest tag (i + 1) q
    exact .bind (ht q) fun v r1 _ _ => .pure trivial

theorem pf_decAltAdd (as : Alts) : as.All (PT x) → ∀ (tag : Bytes) (i : Nat) (q : Bytes),
    CutLO x True q.length (decAltAdd as tag i (q ++ x)) (decAltAdd as tag i q) := by
  induction as using Alts.ind with
  | nil => exact fun _ _ _ _ => .inl ⟨rfl, rfl⟩
  | cons n t rest ih =>
    intro ⟨ht, hrest⟩ tag i q
    refine .ite (fun _ => .inr ⟨_, _, rfl, rfl, ?_⟩) fun _ => ih hrest tag (i + 1) q
    refine .bind (pf_readLenDet q) fun len r0 _ _ => ?_
    exact .bind (ht r0) fun v r1 _ _ => .pure trivial

theorem pt_choice (root : Alts) (ext : Bool) (adds : Alts)
    (ihr : root.All (PT x)) (iha : adds.All (PT x)) : PT x (.choice root ext adds) := by
  intro q
  refine .bind (pf_readTag q) fun tag r1 _ _ => ?_
  dsimp only
  rcases pf_decAlt root ihr tag 0 r1 with ⟨e1, e2⟩ | ⟨res, res', e1, e2, hres⟩
  · rw [e1, e2]
    dsimp only
    rcases pf_decAltAdd adds iha tag root.length r1 with ⟨e3, e4⟩ | ⟨res, res', e3, e4, hres⟩
    · rw [e3, e4]
      refine .ite (fun _ => ?_) fun _ => .error
      refine .bind (pf_readLenDet r1) fun len r2 _ _ => ?_
      exact .bind (pf_readBytes _ r2) fun body r3 _ _ => .pure trivial
    · rw [e3, e4]; exact hres
  · rw [e1, e2]; exact hres

theorem pt_all (t : Ty) : PT x t :=
  Ty.induct pt_boolean pt_null pt_integer pt_enumerated pt_octetString pt_bitString
    pt_charString pt_sequence pt_sequenceOf pt_choice t

theorem dec_prefix (t : Ty) (q x : Bytes) (a : Val) (r : Bytes) (h : dec t (q ++ x) = .ok (a, r)) :
    (∃ r', dec t q = .ok (a, r') ∧ r = r' ++ x) ∨ dec t q = .error .decodeError :=
  ((pt_all t q).value h).imp (fun ⟨r', h1, h2, _⟩ => ⟨r', h1, h2⟩) And.right

theorem dec_cut (t : Ty) (q x : Bytes) (a : Val) (r : Bytes) (h : dec t (q ++ x) = .ok (a, r))
    (hr : r.length < x.length) : dec t q = .error .decodeError := by
  rcases dec_prefix t q x a r h with ⟨r', _, h2⟩ | h1
  · rw [h2, List.length_append] at hr; omega
  · exact h1

end Asn1.Oer
