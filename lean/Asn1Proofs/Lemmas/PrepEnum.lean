import Asn1Proofs.Lemmas.PrepConv
/-
  Decidable sufficient conditions for the hypotheses on ENUMERATED value lists.
-/
namespace Asn1.SpecDict

/-- no enumeration number is a value reference -/
def enumAllInt : List EnumItem → Bool
  | [] => true
  | .marker :: t => enumAllInt t
  | .item _ (.int _) :: t => enumAllInt t
  | .item _ (.ref _) :: _ => false

/-- the names of the enumeration items, in order -/
def enumKeys : List EnumItem → List String
  | [] => []
  | .marker :: t => enumKeys t
  | .item k _ :: t => k :: enumKeys t

/-- the numbers of the enumeration items that are integers, in order -/
def enumInts : List EnumItem → List Int
  | [] => []
  | .marker :: t => enumInts t
  | .item _ (.int i) :: t => i :: enumInts t
  | .item _ (.ref _) :: t => enumInts t

/-- numbers are integers, names are pairwise distinct, numbers are pairwise distinct
(what X.680 demands of an ENUMERATED type) -/
def enumProper (vals : List EnumItem) : Bool :=
  enumAllInt vals && decide (enumKeys vals).Nodup && decide (enumInts vals).Nodup

theorem noRef_of_allInt {vals : List EnumItem} (h : enumAllInt vals = true) (s t : String) :
    enumValueOf? s vals ≠ some (.ref t) := by
  induction vals with
  | nil => simp [enumValueOf?]
  | cons x r ih =>
    cases x with
    | marker => simp only [enumAllInt] at h; simpa [enumValueOf?] using ih h
    | item k v =>
      cases v with
      | ref u => simp [enumAllInt] at h
      | int i =>
        simp only [enumAllInt] at h
        simp only [enumValueOf?]
        split
        · simp
        · exact ih h

theorem RefStable_of_allInt {vals : List EnumItem} (h : enumAllInt vals = true) : RefStable vals :=
  fun s t hs => absurd hs (noRef_of_allInt h s t)

theorem mem_enumInts_of_value {vals : List EnumItem} {s : String} {i : Int}
    (h : enumValueOf? s vals = some (.int i)) : i ∈ enumInts vals := by
  induction vals with
  | nil => simp [enumValueOf?] at h
  | cons x r ih =>
    cases x with
    | marker => exact ih h
    | item k v =>
      simp only [enumValueOf?] at h
      split at h
      · cases h; simp [enumInts]
      · cases v with
        | int j => exact List.mem_cons_of_mem _ (ih h)
        | ref u => exact ih h

theorem mem_enumKeys_of_name {vals : List EnumItem} {i : Int} {k : String}
    (h : enumNameOf? i vals = some k) : k ∈ enumKeys vals := by
  induction vals with
  | nil => simp [enumNameOf?] at h
  | cons x r ih =>
    cases x with
    | marker => exact ih h
    | item k' v =>
      cases v with
      | int j =>
        simp only [enumNameOf?] at h
        split at h
        · cases h; simp [enumKeys]
        · exact List.mem_cons_of_mem _ (ih h)
      | ref u => exact List.mem_cons_of_mem _ (ih h)

theorem nameOfValue_of_proper (vals : List EnumItem) (h1 : enumAllInt vals = true)
    (h3 : (enumInts vals).Nodup) (s : String) (i : Int)
    (hs : enumValueOf? s vals = some (.int i)) : enumNameOf? i vals = some s := by
  induction vals with
  | nil => simp [enumValueOf?] at hs
  | cons x r ih =>
    cases x with
    | marker => exact ih h1 h3 hs
    | item k v =>
      cases v with
      | ref u => simp [enumAllInt] at h1
      | int j =>
        simp only [enumInts, List.nodup_cons] at h3
        simp only [enumValueOf?] at hs
        simp only [enumNameOf?]
        split at hs
        · rename_i hk; cases hs; subst hk; simp
        · -- a later item with the number `j` would repeat it
          rw [if_neg (fun hji : j = i => h3.1 (hji ▸ mem_enumInts_of_value hs))]
          exact ih h1 h3.2 hs

theorem valueOfName_of_proper (vals : List EnumItem) (h1 : enumAllInt vals = true)
    (h2 : (enumKeys vals).Nodup) (i : Int) (k : String)
    (hk : enumNameOf? i vals = some k) : enumValueOf? k vals = some (.int i) := by
  induction vals with
  | nil => simp [enumNameOf?] at hk
  | cons x r ih =>
    cases x with
    | marker => exact ih h1 h2 hk
    | item k' v =>
      cases v with
      | ref u => simp [enumAllInt] at h1
      | int j =>
        simp only [enumKeys, List.nodup_cons] at h2
        simp only [enumNameOf?] at hk
        simp only [enumValueOf?]
        split at hk
        · rename_i hj; cases hk; subst hj; simp
        · rw [if_neg (fun hkk : k' = k => h2.1 (hkk ▸ mem_enumKeys_of_name hk))]
          exact ih h1 h2.2 hk

theorem GoodEnum_of_proper {vals : List EnumItem} (h : enumProper vals = true) : GoodEnum vals := by
  simp only [enumProper, Bool.and_eq_true, decide_eq_true_eq] at h
  exact ⟨noRef_of_allInt h.1.1, nameOfValue_of_proper vals h.1.1 h.2,
    valueOfName_of_proper vals h.1.1 h.1.2⟩

theorem GoodEnum_of_values {c : Core} {l : List EnumItem} (hc : c.values = some l)
    (hl : enumProper l = true) : ∀ vals, c.values = some vals → GoodEnum vals := by
  intro vals hv
  rw [hc] at hv
  cases hv
  exact GoodEnum_of_proper hl

end Asn1.SpecDict
