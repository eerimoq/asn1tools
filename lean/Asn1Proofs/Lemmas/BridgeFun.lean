import Asn1Model.Translated
import Asn1Model.BerFraming
import Asn1Model.Oer
import Asn1Proofs.Lemmas.PyPrimLemmas
import Asn1Proofs.Lemmas.UperNum
import Asn1Proofs.Lemmas.BerFramingLemmas
/-
  The translated helper functions of codecs/ber.py and per.py against the model functions: the octet lists `ofNats`, and the
  `while x > 0` loops as instances of `digits_loop`.  The generic loops (`bytes_loop`, `cont_loop`, `tag_long`) and `lowbit` also
  serve the functions of oer.py and compiler.py, whose statements are in the Properties files.
-/
namespace Asn1.Bridge
open Asn1 Asn1.Translated

/-- octets of the byte-list models as Python integers -/
def ofNats (bs : List Nat) : List Int := bs.map Int.ofNat

theorem ofNats_append (a b : List Nat) : ofNats (a ++ b) = ofNats a ++ ofNats b := by
  simp [ofNats]

theorem ofNats_singleton (a : Nat) : ofNats [a] = [(a : Int)] := rfl

theorem ofNats_length (a : List Nat) : (ofNats a).length = a.length := by simp [ofNats]

theorem ofNats_reverse (a : List Nat) : (ofNats a).reverse = ofNats a.reverse := by simp [ofNats]

theorem ofNats_cons (a : Nat) (r : List Nat) : ofNats (a :: r) = (a : Int) :: ofNats r := rfl

theorem ofNats_take (a : List Nat) (k : Nat) : (ofNats a).take k = ofNats (a.take k) := by
  simp [ofNats, List.map_take]

theorem ofNats_drop (a : List Nat) (k : Nat) : (ofNats a).drop k = ofNats (a.drop k) := by
  simp [ofNats, List.map_drop]

theorem ofNats_inj {a b : List Nat} : ofNats a = ofNats b ↔ a = b :=
  List.map_inj_right (fun _ _ h => Int.ofNat.inj h)

theorem bytesToInt_ofNats (ds : Bytes) : Py.bytesToInt (ofNats ds) = ((bytesToNat ds : Nat) : Int) := by
  have : ∀ acc : Nat, (ofNats ds).foldl (fun acc b => 256 * acc + b) (acc : Int)
      = ((ds.foldl (fun acc b => 256 * acc + b) acc : Nat) : Int) := by
    induction ds with
    | nil => intro acc; rfl
    | cons b r ih =>
      intro acc
      simp only [ofNats_cons, List.foldl_cons]
      rw [show (256 : Int) * (acc : Int) + (b : Int) = ((256 * acc + b : Nat) : Int) by omega, ih]
  exact this 0

theorem cast_two_pow (n : Nat) : ((2 ^ n : Nat) : Int) = (2 : Int) ^ n := by
  rw [Int.natCast_pow]; rfl

/-- Most statements write `∀ b ∈ bs, b < 256` out, which is this by unfolding (the `allBytes_*` lemmas apply to that form
as they stand); the model's Boolean `Asn1.allBytes` is the same by `Uper.allBytes_iff`. -/
def allBytes (bs : Bytes) : Prop := ∀ b ∈ bs, b < 256

theorem allBytes_cons {b : Nat} {r : Bytes} (h : allBytes (b :: r)) : b < 256 ∧ allBytes r :=
  ⟨h b (by simp), fun x hx => h x (by simp [hx])⟩

theorem allBytes_append {a b : Bytes} (ha : allBytes a) (hb : allBytes b) : allBytes (a ++ b) := by
  intro x hx
  rcases List.mem_append.1 hx with h | h
  · exact ha x h
  · exact hb x h

theorem allBytes_take {a : Bytes} (k : Nat) (ha : allBytes a) : allBytes (a.take k) :=
  fun x hx => ha x (List.mem_of_mem_take hx)

theorem allBytes_drop {a : Bytes} (k : Nat) (ha : allBytes a) : allBytes (a.drop k) :=
  fun x hx => ha x (List.mem_of_mem_drop hx)

/-- Every digit loop of the translation (`L`, fuel first; `ret` wraps the returned pair) appends to `acc` the digits of
its counter, least significant first: `dig m` is the octet written for `m`, `digits` the list so defined, `b` the base. -/
theorem digits_loop {α : Type} (L : Nat → Int → List Int → α) (ret : List Int × Int → α)
    (body next : Int → Int) (dig : Nat → Nat) (b : Nat) (digits : Nat → List Nat)
    (hL : ∀ f x acc, L (f + 1) x acc = if decide (x > 0) then L f (next x) (acc ++ [body x]) else ret (acc, x))
    (hbody : ∀ m : Nat, body m = (dig m : Nat)) (hnext : ∀ m : Nat, next m = ((m / b : Nat) : Int)) (hb : 2 ≤ b)
    (hd0 : digits 0 = []) (hd : ∀ m, m ≠ 0 → digits m = dig m :: digits (m / b))
    (fuel m : Nat) (acc : List Nat) (hf : m < fuel) :
    L fuel (m : Int) (ofNats acc) = ret (ofNats (acc ++ digits m), 0) := by
  induction fuel generalizing m acc with
  | zero => omega
  | succ f ih =>
    rw [hL]
    by_cases h0 : m = 0
    · subst h0
      rw [decide_eq_false (by omega), hd0, List.append_nil]; rfl
    · have hlt : m / b < m := Nat.div_lt_self (by omega) hb
      rw [decide_eq_true (by omega), if_pos rfl, hbody, hnext, ← ofNats_singleton, ← ofNats_append,
        ih _ _ (by omega), hd m h0, List.append_assoc]; rfl

/-- `encoded = bytearray(); while length > 0: encoded.append(length & 0xff); length >>= 8` -/
theorem bytes_loop {α : Type} (L : Nat → Int → List Int → α) (ret : List Int × Int → α)
    (hL : ∀ f x acc, L (f + 1) x acc =
      if decide (x > 0) then L f (Py.shr x 8) (acc ++ [Py.band x 255]) else ret (acc, x))
    (fuel n : Nat) (hf : n < fuel) :
    L fuel (n : Int) [] = ret (ofNats (natToBytesMin n).reverse, 0) := by
  have := digits_loop L ret (Py.band · 255) (Py.shr · 8) (· % 256) 256 (fun n => (natToBytesMin n).reverse) hL
    Py.band255 Py.shr8 (by omega) rfl natToBytesMin_reverse fuel n [] hf
  rwa [List.nil_append] at this

/-- the translated function, for every `n` (the length octet is `0x80 | len`, which is `0x80 + len`
only while `len < 128`) -/
theorem ber_encode_length_definite_general (n : Nat) :
    ber_encode_length_definite (n : Int)
      = ofNats (if n ≤ 127 then [n] else (128 ||| (natToBytesMin n).length) :: natToBytesMin n) := by
  unfold ber_encode_length_definite
  by_cases h : n ≤ 127
  · have : (n : Int) ≤ 127 := by omega
    simp [this, h, ofNats]
  · have : ¬ (n : Int) ≤ 127 := by omega
    simp only [this, h, decide_false, if_false, Bool.false_eq_true]
    rw [bytes_loop ber_encode_length_definite_loop1 (fun p => p) (fun _ _ _ => rfl)
      (1 + Py.fuelOfInt (n : Int) + Py.fuelOfList ([] : List Int)) n (by rw [Py.fuelOfInt_natCast]; omega)]
    simp only [Py.len_eq, ofNats_length, List.length_reverse]
    rw [show (128 : Int) = ((128 : Nat) : Int) from rfl, Py.bor_natCast, ← ofNats_singleton, ← ofNats_append,
      ofNats_reverse]
    simp

/-- Without the bound the equation is false (`C15t.length_original_false`): the Python code writes the first octet as
`0x80 | len(encoded)`, the model as `128 + ds.length`, and they differ once the length needs 128 octets.  `n < 256 ^ 127` is
exactly the range in which `Ber.encLength n` is a valid X.690 length (`Ber.encLength_valid_iff`). -/
theorem ber_encode_length_definite_eq (n : Nat) (hn : n < 256 ^ 127) :
    ber_encode_length_definite (n : Int) = ofNats (Ber.encLength n) := by
  rw [ber_encode_length_definite_general]
  unfold Ber.encLength
  split
  · rfl
  · have h1 : (natToBytesMin n).length ≤ 127 := by
      unfold natToBytesMin
      rw [natToBytesN_length, byteLength_le_iff]; exact hn
    have h2 : 128 ||| (natToBytesMin n).length = 128 + (natToBytesMin n).length :=
      Py.mul_pow_or 1 (n := 7) (by omega)
    simp only [h2]

/-- the octets the `while number > 0` loops append: base-128 digits, least significant first, each with bit 8 set -/
def contLE (m : Nat) : List Nat :=
  if h : m = 0 then [] else (m % 128 + 128) :: contLE (m / 128)
termination_by m
decreasing_by omega

theorem contLE_zero : contLE 0 = [] := by rw [contLE]; simp

theorem contLE_pos {m : Nat} (h : m ≠ 0) : contLE m = (m % 128 + 128) :: contLE (m / 128) := by
  rw [contLE]; simp [h]

theorem contLE_base128 (f m : Nat) (h0 : m ≠ 0) (h : m < 128 ^ (f + 1)) :
    contLE m = ((Ber.base128 (f + 1) m).reverse).map (· + 128) := by
  induction f generalizing m with
  | zero =>
    have : m < 128 := by simpa using h
    rw [contLE_pos h0, Ber.base128]
    have h1 : m / 128 = 0 := by omega
    have h2 : m % 128 = m := by omega
    simp [this, h1, h2, contLE_zero]
  | succ f ih =>
    rw [contLE_pos h0, Ber.base128]
    by_cases hm : m < 128
    · have h1 : m / 128 = 0 := by omega
      have h2 : m % 128 = m := by omega
      simp [hm, h1, h2, contLE_zero]
    · rw [Nat.pow_succ] at h
      rw [ih (m / 128) (by omega) (by omega)]
      simp [hm]

theorem base128_unfold (f n : Nat) :
    Ber.base128 (f + 1) n = if n < 128 then [n] else Ber.base128 f (n / 128) ++ [n % 128] := rfl

/-- `while number > 0: encoded.append(0x80 | (number & 0x7f)); number >>= 7` -/
theorem cont_loop {α : Type} (L : Nat → Int → List Int → α) (ret : List Int × Int → α)
    (hL : ∀ f x acc, L (f + 1) x acc =
      if decide (x > 0) then L f (Py.shr x 7) (acc ++ [Py.bor 128 (Py.band x 127)]) else ret (acc, x))
    (fuel m : Nat) (acc : List Nat) (hf : m < fuel) :
    L fuel (m : Int) (ofNats acc) = ret (ofNats (acc ++ contLE m), 0) :=
  digits_loop L ret (fun x => Py.bor 128 (Py.band x 127)) (Py.shr · 7) (· % 128 + 128) 128 contLE hL
    (fun m => by rw [Py.band127, Py.bor128 (Nat.mod_lt _ (by omega)), Nat.add_comm]) Py.shr7 (by omega)
    contLE_zero (fun _ => contLE_pos) fuel m acc hf

theorem or_low {f b : Nat} (k : Nat) (hf : f % 2 ^ k = 0) (hb : b < 2 ^ k) : f ||| b = f + b := by
  have : f = f / 2 ^ k * 2 ^ k := by
    have := Nat.div_add_mod f (2 ^ k)
    rw [Nat.mul_comm] at this; omega
  rw [this, Py.mul_pow_or _ hb]

theorem getIdx_ofNats_cons_zero (a : Nat) (r : List Nat) :
    Py.getIdx (ofNats (a :: r)) (0 : Int) = (.ok (a : Int) : Except String Int) := rfl

theorem setIdx_ofNats_cons_zero (a : Nat) (r : List Nat) (v : Int) :
    Py.setIdx (ofNats (a :: r)) (0 : Int) v = v :: ofNats r := rfl

/-- the model's octets behind the leading tag octet, in terms of the loop's octets: big-endian, the last one without bit 8 -/
theorem base128_cont (n : Nat) :
    (Ber.base128 (bitLength n + 1) n).dropLast.map (· + 128) ++ [(Ber.base128 (bitLength n + 1) n).getLast?.getD 0]
      = (contLE (n / 128)).reverse ++ [n % 128] := by
  rw [base128_unfold]
  by_cases h : n < 128
  · rw [if_pos h, show n / 128 = 0 by omega, contLE_zero, show n % 128 = n by omega]; rfl
  · have h1 : ¬ bitLength n ≤ 0 := fun hh => by have := (bitLength_le_iff n 0).1 hh; omega
    obtain ⟨f, hf⟩ : ∃ f, bitLength n = f + 1 := ⟨bitLength n - 1, by omega⟩
    have hlt := lt_pow128 n
    rw [hf, Nat.pow_succ] at hlt
    rw [if_neg h, List.dropLast_concat, List.getLast?_concat, Option.getD_some, hf,
      contLE_base128 f (n / 128) (by omega) (by omega), List.map_reverse, List.reverse_reverse]

/-- the long form of both `encode_tag`s behind the loop: `encoded[0] &= 0x7f; encoded.reverse(); tag.extend(encoded)` -/
theorem tag_long (n f mask k : Nat) (hmask : mask < 2 ^ k) (hf : f % 2 ^ k = 0) (hn : n ≠ 0)
    (loop : Except String (List Int × Int)) (hl : loop = .ok (ofNats (contLE n), 0)) :
    (do
      let (tag, _) ← (do
        let tag := ([(Py.bor (f : Int) (mask : Int))] : List Int)
        let (encoded, number) ← loop
        let encoded := Py.setIdx encoded (0 : Int) (Py.band (← Py.getIdx encoded (0 : Int)) (127 : Int))
        let encoded := (encoded).reverse
        let tag := (tag ++ encoded)
        pure (tag, number))
      pure tag)
    = .ok (ofNats ((f + mask) :: ((contLE (n / 128)).reverse ++ [n % 128]))) := by
  rw [hl, contLE_pos hn]
  simp only [bind, Except.bind, pure, Except.pure, getIdx_ofNats_cons_zero, setIdx_ofNats_cons_zero, Py.band127,
    Nat.add_mod_right, Nat.mod_mod]
  rw [Py.bor_natCast, or_low k hf hmask, ← ofNats_cons (n % 128), ofNats_reverse, List.reverse_cons]
  rfl

theorem oid_encode_eq (n : Nat) :
    ber_encode_object_identifier_subidentifier (n : Int) = ofNats ((contLE (n / 128)).reverse ++ [n % 128]) := by
  unfold ber_encode_object_identifier_subidentifier
  simp only [Py.band127, Py.shr7]
  rw [← ofNats_singleton, cont_loop ber_encode_object_identifier_subidentifier_loop1 (fun p => p) (fun _ _ _ => rfl) _ _ _
    (by rw [Py.fuelOfInt_natCast]; omega), ofNats_reverse]
  simp

theorem contLE_range (m : Nat) : ∀ b ∈ contLE m, 128 ≤ b ∧ b < 256 := by
  induction m using Nat.strongRecOn with
  | ind m ih =>
    by_cases h : m = 0
    · subst h; simp [contLE_zero]
    · rw [contLE_pos h]
      intro b hb
      rcases List.mem_cons.1 hb with rfl | hb
      · omega
      · exact ih (m / 128) (by omega) b hb

theorem contLE_getLast (m : Nat) : (contLE m).getLast? ≠ some 128 := by
  induction m using Nat.strongRecOn with
  | ind m ih =>
    by_cases h : m = 0
    · subst h; simp [contLE_zero]
    · rw [contLE_pos h]
      by_cases h2 : m / 128 = 0
      · rw [h2, contLE_zero]
        simp; omega
      · have := ih (m / 128) (by omega)
        rw [contLE_pos h2] at this ⊢
        simpa [List.getLast?_cons_cons] using this

theorem getIdx_ofNats_mid (pre : List Nat) (x : Nat) (post : List Nat) (rest : List Int) :
    Py.getIdx (ofNats (pre ++ x :: post) ++ rest) (pre.length : Int) = (.ok (x : Int) : Except String Int) := by
  have h : (ofNats (pre ++ x :: post) ++ rest)[pre.length]? = some (x : Int) := by
    simp [ofNats]
  simp [Py.getIdx, Py.getIdx?, h]

/-- `while data[offset] & 0x80: decoded += data[offset] & 0x7f; decoded <<= 7; offset += 1` over the continuation octets
`cd` (each `128 + digit`) that stand at `offset = pre.length` in front of a final octet `l < 128` -/
theorem oid_dec_loop (cd : List Nat) : ∀ (fuel : Nat) (pre : List Nat) (d l : Nat) (rest : List Int),
    (∀ c ∈ cd, 128 ≤ c ∧ c < 256) → l < 128 → cd.length < fuel →
    ber_decode_object_identifier_subidentifier_loop1 fuel (ofNats (pre ++ cd ++ [l]) ++ rest) (pre.length : Int) (d : Int)
      = .ok (((cd.foldl (fun d c => (d + (c - 128)) * 128) d : Nat) : Int), ((pre.length + cd.length : Nat) : Int)) := by
  induction cd with
  | nil =>
    intro fuel pre d l rest _ hl hf
    cases fuel with
    | zero => omega
    | succ f =>
      unfold ber_decode_object_identifier_subidentifier_loop1
      simp only [List.append_nil, bind, Except.bind, getIdx_ofNats_mid, Py.not_truthy_band128 hl]
      simp; rfl
  | cons c cs ih =>
    intro fuel pre d l rest hc hl hf
    cases fuel with
    | zero => simp at hf
    | succ f =>
      unfold ber_decode_object_identifier_subidentifier_loop1
      have hcc := hc c (by simp)
      rw [List.append_assoc, List.cons_append]
      simp only [bind, Except.bind, getIdx_ofNats_mid, Py.truthy_band128 hcc.1 hcc.2, if_true, Py.band127]
      have e1 : (d : Int) + ((c % 128 : Nat) : Int) = ((d + (c - 128) : Nat) : Int) := by omega
      have e2 : (pre.length : Int) + 1 = (((pre ++ [c]).length : Nat) : Int) := by simp
      have e3 : pre ++ c :: (cs ++ [l]) = (pre ++ [c]) ++ cs ++ [l] := by simp
      rw [e1, Py.shl7, e2, e3, ih f (pre ++ [c]) _ l rest (fun x hx => hc x (by simp [hx])) hl (by simp at hf; omega)]
      simp only [List.foldl_cons, List.length_append, List.length_cons, List.length_nil]
      congr 3; omega

theorem contLE_fold (m : Nat) :
    (contLE m).reverse.foldl (fun d c => (d + (c - 128)) * 128) 0 = m * 128 := by
  induction m using Nat.strongRecOn with
  | ind m ih =>
    by_cases h : m = 0
    · subst h; simp [contLE_zero]
    · rw [contLE_pos h, List.reverse_cons, List.foldl_append, ih (m / 128) (by omega)]
      simp only [List.foldl_cons, List.foldl_nil]
      omega

/-- `n & (n-1)` clears the lowest set bit -/
theorem lowbit (n : Nat) (h : 0 < n) :
    ∃ k : Nat, n - (n &&& (n - 1)) = 2 ^ k ∧ 2 ^ k ∣ n ∧ ¬ 2 ^ (k + 1) ∣ n := by
  induction n using Nat.strongRecOn with
  | ind n ih =>
    have hd : (n &&& (n - 1)) = 2 * (n / 2 &&& (n - 1) / 2) + (n % 2 &&& (n - 1) % 2) := by
      have h1 := Nat.and_div_two (a := n) (b := n - 1)
      have h2 := Nat.and_mod_two_pow (a := n) (b := n - 1) (n := 1)
      simp only [Nat.pow_one] at h2
      omega
    by_cases hodd : n % 2 = 1
    · refine ⟨0, ?_, by simp, by simp; omega⟩
      have e1 : (n - 1) / 2 = n / 2 := by omega
      have e2 : (n - 1) % 2 = 0 := by omega
      rw [hd, e1, e2, hodd, Nat.and_self]
      simp; omega
    · have e0 : n % 2 = 0 := by omega
      have e1 : (n - 1) / 2 = n / 2 - 1 := by omega
      obtain ⟨k, hk1, hk2, hk3⟩ := ih (n / 2) (by omega) (by omega)
      refine ⟨k + 1, ?_, ?_, ?_⟩
      · rw [hd, e1, e0, Nat.zero_and, Nat.pow_succ]
        have := Nat.and_le_left (n := n / 2) (m := n / 2 - 1)
        omega
      · obtain ⟨c, hc⟩ := hk2
        refine ⟨c, ?_⟩
        have h1 : n = 2 * (n / 2) := by omega
        rw [h1, hc, Nat.pow_succ]; ac_rfl
      · intro ⟨c, hc⟩
        apply hk3
        refine ⟨c, ?_⟩
        have h1 : n = 2 * (2 ^ (k + 1) * c) := by
          rw [hc, Nat.pow_succ 2 (k + 1)]; ac_rfl
        omega

theorem pow2_loop (fuel : Nat) (sz : Int) (bl j : Nat) (hj : j ≤ bitLength (bl - 1))
    (hf : bitLength (bl - 1) - j < fuel) :
    per_integer_as_number_of_bits_power_of_two_loop1 fuel sz (bl : Int) ((2 ^ j : Nat) : Int)
      = ((2 ^ bitLength (bl - 1) : Nat) : Int) := by
  induction fuel generalizing j with
  | zero => omega
  | succ f ih =>
    unfold per_integer_as_number_of_bits_power_of_two_loop1
    by_cases hc : bl > 2 ^ j
    · have hc' : (bl : Int) > ((2 ^ j : Nat) : Int) := by omega
      have hlt : j < bitLength (bl - 1) := by
        apply Nat.lt_of_not_le
        rw [bitLength_le_iff]; omega
      simp only [hc', decide_true, if_true, Py.shl1]
      rw [← Nat.pow_succ, ih (j + 1) (by omega) (by omega)]
    · have hc' : ¬ (bl : Int) > ((2 ^ j : Nat) : Int) := by omega
      have hle : bitLength (bl - 1) ≤ j := by
        rw [bitLength_le_iff]
        have := Nat.two_pow_pos j
        omega
      simp only [hc', decide_false, Bool.false_eq_true, if_false]
      rw [show j = bitLength (bl - 1) by omega]

theorem to_byte_array_loop (fuel num : Nat) (nb : Int) (acc : List Nat) (hf : nb.toNat < fuel) :
    (per_to_byte_array_loop1 fuel (num : Int) nb (ofNats acc)).1
      = ofNats (natToBytesN ((nb.toNat + 7) / 8) num ++ acc) := by
  induction fuel generalizing num nb acc with
  | zero => omega
  | succ f ih =>
    unfold per_to_byte_array_loop1
    by_cases hc : nb > 0
    · simp only [hc, decide_true, if_true, Py.band255, Py.shr8]
      rw [← ofNats_cons, ih _ _ _ (by omega)]
      have : (nb.toNat + 7) / 8 = ((nb - 8).toNat + 7) / 8 + 1 := by omega
      rw [this, natToBytesN]
      simp
    · simp only [hc, decide_false, Bool.false_eq_true, if_false]
      have : (nb.toNat + 7) / 8 = 0 := by omega
      rw [this]; rfl

end Asn1.Bridge
