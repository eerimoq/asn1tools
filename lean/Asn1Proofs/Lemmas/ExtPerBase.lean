import Asn1Proofs.Lemmas.ExtUper
import Asn1Proofs.Lemmas.PerSeqExt
/-
  C07, ALIGNED PER: the statement (`XT`) and its side condition `Per.skipFree tD tE v`, beyond those of the
  round trip: the additions of a SEQUENCE that the ENCODER knows and the DECODER does not know are skipped
  by their open type length (`Per.skipUnknown`), which the encoder writes without fragmentation; so such an
  open type must be shorter than 16384 octets.
  (`Per.fragFree` does not say that: the decoder ignores the open type length of a KNOWN addition.
  UPER needs no such condition: `Uper.fragFreeMembers adds fs true` bounds the open type of every
  addition already, and `openSmall` is that clause by itself.)
  Necessity: `ExtPerCounterexample.lean`.
-/
namespace Asn1.Per
open Asn1.Uper (smallLen)

/-- every present member of `ms` has an open type shorter than 16384 octets -/
def openSmall : Members → List (String × Val) → Bool
  | .nil, _ => true
  | .cons name _ t rest, fs =>
    (match lookup name fs with
     | some v =>
       (match enc t 0 v with
        | .ok e => smallLen ((e.length + 7) / 8)
        | .error _ => true)
     | none => true) && openSmall rest fs

mutual
  /-- `skipFree tD tE v`: in the value `v` of the encoder's type `tE`, every SEQUENCE addition that the
  decoder's type `tD` does not know (at any depth) has an open type shorter than 16384 octets -/
  def skipFree : Ty → Ty → Val → Bool
    | .sequence rD _ aD, .sequence rE _ aE, .record fs =>
      skipFreeMembers rD rE fs && skipFreeAdds aD aE fs
    | .sequenceOf eD _, .sequenceOf eE _, .list vs => vs.all (skipFree eD eE)
    | .choice rD _ aD, .choice rE _ aE, .choice n v => skipFreeAlt rD rE n v && skipFreeAlt aD aE n v
    | _, _, _ => true
  termination_by structural tD => tD
  /-- root members: both versions have the same ones (`CompatMembers`), so there is nothing to skip -/
  def skipFreeMembers : Members → Members → List (String × Val) → Bool
    | .cons n _ tD mD, .cons _ _ tE mE, fs =>
      (match lookup n fs with
       | some v => skipFree tD tE v
       | none => true) && skipFreeMembers mD mE fs
    | _, _, _ => true
  termination_by structural mD => mD
  /-- extension additions: as `skipFreeMembers` while both versions have the addition; those behind the
  decoder's last one are skipped by their open type length, hence `openSmall` -/
  def skipFreeAdds : Members → Members → List (String × Val) → Bool
    | .cons n _ tD mD, .cons _ _ tE mE, fs =>
      (match lookup n fs with
       | some v => skipFree tD tE v
       | none => true) && skipFreeAdds mD mE fs
    | .nil, mE, fs => openSmall mE fs
    | .cons _ _ _ _, .nil, _ => true
  termination_by structural mD => mD
  def skipFreeAlt : Alts → Alts → String → Val → Bool
    | .cons n tD mD, .cons _ tE mE, name, v =>
      if n == name then skipFree tD tE v else skipFreeAlt mD mE name v
    | _, _, _, _ => true
  termination_by structural mD => mD
end

end Asn1.Per

namespace Asn1.Ext.PerX
open Asn1 Asn1.Per Asn1.Ext
open Asn1.Uper (smallLen lenDet DecM sizeOk_eq_inSize sortByVal encNsnnwn nameIndex_spec
  nameIndex_of_mem mem_namesOf_sortByVal)

/-- the aligned PER decoder for `tD`, on an encoding under `tE`, returns what `tD` sees of the value (`view`),
exactly the bits `rest` that follow the encoding, and the position behind it, under the side conditions of the
aligned PER round trip for `tE` and the value, and `skipFree`.  As in that round trip (`Per.RT`) the decoder
position `pos'` need only agree with the encoder position `pos` modulo 8 (open types are written into a fresh
buffer at position 0 and read at an octet boundary). -/
def XT (tD tE : Ty) : Prop :=
  ∀ (v : Val) (pos pos' : Nat) (bits rest : Bits) (fuel : Nat),
    tE.wf = true → tE.defaultsOk = true → tE.nsOk = true → dOk false tD tE →
    hasType tE v = true → fragFree tE v = true → skipFree tD tE v = true →
    pos' % 8 = pos % 8 → enc tE pos v = .ok bits → bits.length + rest.length + 2 ≤ fuel →
    dec tD fuel ⟨pos', bits ++ rest⟩ = .ok (view false tD tE v, ⟨pos' + bits.length, rest⟩)

theorem xt_same {t : Ty} (hrt : RT t) : XT t t := by
  intro v pos pos' bits rest fuel hwf hd hns _ ht hf _ hp he hfuel
  rw [view_self false hwf ht, canonG_false]
  exact hrt v pos pos' bits rest fuel hwf hd hns ht hf hp he hfuel

theorem xt_enum_gen (root aD aE : List (String × Int)) (hrel : EnumAdds aD aE) :
    XT (.enumerated root (some aD)) (.enumerated root (some aE)) := by
  intro v pos pos' bits rest fuel hwf hd hns hdok ht hf hsk hp he hfuel
  obtain ⟨name, rfl, -⟩ := hasType_enumerated ht
  rw [enc] at he
  rw [dec]
  simp only at he ⊢
  split at he
  · rename_i i hi
    cases he
    obtain ⟨h1, x, h2⟩ := nameIndex_spec _ _ _ hi
    have hmem : name ∈ namesOf root :=
      (mem_namesOf_sortByVal _ _).1 (Uper.mem_namesOf_of_getElem? h2)
    rw [view_enum_known false _ (by simp [hasType, hmem])]
    simp only [bind, Except.bind, List.cons_append, List.nil_append, readBit_cons,
      Bool.not_false, if_true]
    rw [readNat_natToBits _ _ (lt_two_pow_bitLength_of_le (by omega))]
    simp only [h2, List.length_cons, natToBits_length, Except.ok.injEq, Prod.mk.injEq, true_and]
    exact St.eq_of_pos _ (by ac_rfl)
  · rename_i hroot
    have hnr : name ∉ namesOf root := fun hm =>
      (Uper.nameIndex_eq_none_iff _ _).1 hroot ((mem_namesOf_sortByVal _ _).2 hm)
    split at he
    · rename_i i hi
      cases he
      obtain ⟨h1, x, h2⟩ := nameIndex_spec _ _ _ hi
      simp only [Ty.nsOk] at hns
      simp only [bind, Except.bind, List.cons_append, List.nil_append, readBit_cons,
        Bool.not_true, Bool.false_eq_true, if_false]
      rw [decNsnnwn_enc _ i rest (nsIndexOk_lt hns h1)]
      have hpos : ∀ (w : Val), (Except.ok (w, (⟨pos' + 1 + (encNsnnwn i).length, rest⟩ : St)) :
          DecM (Val × St)) = .ok (w, ⟨pos' + (true :: encNsnnwn i).length, rest⟩) := by
        intro w
        simp only [List.length_cons, Except.ok.injEq, Prod.mk.injEq, true_and]
        exact St.eq_of_pos _ (by ac_rfl)
      rcases hrel name i hi with ⟨y, hy⟩ | ⟨hy, hnot⟩
      · simp only [hy]
        have hm := Uper.mem_namesOf_of_getElem? hy
        simp only [view]
        rw [if_pos (by simp [hm])]
        exact hpos _
      · simp only [hy]
        simp only [view]
        rw [if_neg (by simp [hnr, hnot])]
        exact hpos _
    · cases he

theorem xt_enumeratedD (root adds new : List (String × Int)) :
    XT (.enumerated root (some adds)) (.enumerated root (some (adds ++ new))) :=
  xt_enum_gen _ _ _ (enumAddsD adds new)

theorem xt_enumeratedE (root adds new : List (String × Int)) :
    XT (.enumerated root (some (adds ++ new))) (.enumerated root (some adds)) :=
  xt_enum_gen _ _ _ (enumAddsE adds new)

theorem xt_sequenceOf {eD eE : Ty} (c : SizeC) (ih : XT eD eE) :
    XT (.sequenceOf eD c) (.sequenceOf eE c) := by
  intro v pos pos' bits rest fuel hwf hd hns hdok ht hf hsk hp he hfuel
  obtain ⟨vs, rfl, hall, hsz⟩ := hasType_sequenceOf ht
  rw [view]
  simp only [dOk] at hdok
  simp only [skipFree, List.all_eq_true] at hsk
  rw [Ty.wf] at hwf
  rw [Ty.defaultsOk] at hd
  rw [Ty.nsOk] at hns
  rw [fragFree] at hf
  simp only [Bool.or_eq_true, sizeOk_eq_inSize] at hsz
  simp only [Bool.and_eq_true, List.all_eq_true, Bool.or_eq_true] at hwf hf
  obtain ⟨hewf, hcwf⟩ := hwf
  obtain ⟨hfall, hfsz⟩ := hf
  have helem : ∀ v ∈ vs, ItemRT (dec eD fuel) (fuel - 2) (enc eE) (view false eD eE) v := by
    intro v hv p p' b r hpp hb hL
    exact ih v p p' b r fuel hewf hd hns hdok (hall v hv) (hfall v hv) (hsk v hv) hpp hb (by omega)
  rw [enc_sequenceOf] at he
  refine Per.rt_sized hcwf hp rfl ?_ ?_ ?_ he
  · intro hext hin hout
    split at hout
    · cases hout
    rename_i b hb
    cases hout
    refine ⟨alignBits (pos + 1) ++ (lenDet vs.length).1 ++ b, rfl, ?_⟩
    have hs : vs.length < 16384 := by
      simpa [hext, hin, smallLen] using hfsz
    simp only [List.length_append, List.length_cons, List.length_nil, alignBits_length, Nat.zero_add,
      ← Nat.add_assoc] at hb hfuel
    simp only [ok_bind, List.append_assoc, align_alignBits _ _ _ (mod8_add hp 1), readLenDet_lenDet,
      Uper.lenDet_snd_of_lt hs,
      decRepeat_encSeqM (dec eD fuel) (fuel - 2) (enc eE) (view false eD eE) vs helem _ _ _ rest
        (mod8_add (mod8_add (mod8_add hp 1) _) _) hb (by omega)]
    simp only [List.length_append, alignBits_length, Nat.add_assoc]
  · intro p p' b hq hb hl
    simp only [alignBits_length] at hb
    simp only [ok_bind, align_alignBits _ _ _ hq,
      decChunks_encChunksM (dec eD fuel) (fuel - 2) (vs.length / 16384 + 2) (enc eE)
        (view false eD eE) vs
        helem (Nat.le_refl _) _ _ _ rest (mod8_add hq _) hb (by omega) fuel (by omega)]
    simp only [alignBits_length, Nat.add_assoc]
  · intro p p' b hq hb hl
    simp only [ok_bind,
      decRepeat_encSeqM (dec eD fuel) (fuel - 2) (enc eE) (view false eD eE) vs helem _ _ _ rest hq hb
        (by omega)]

end Asn1.Ext.PerX

#print axioms Asn1.Ext.PerX.xt_sequenceOf
#print axioms Asn1.Ext.PerX.xt_enumeratedD
