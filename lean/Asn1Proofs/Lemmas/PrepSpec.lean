import Asn1Proofs.Lemmas.PrepLoc
/-
  The rewrite of one module (`procModule`) and of the whole dictionary (`run`) in terms of the
  passes on single type assignments.

  Both loops (over the type assignments of a module in pass 1, over the modules in `run`) have the
  same shape: step `k` establishes something at position `k` and leaves the other positions alone
  (`foldl_range_inv`).  For `run` the step at position `i` maps `locDesc` over the type assignments
  that pass 1 left there, so whatever `locDesc` establishes holds in every module after the rewrite.
  On a dictionary without COMPONENTS OF entries, as every rewritten one is, `run` maps `locModule`
  over the modules.
-/
namespace Asn1.SpecDict
open Preprocess

theorem foldl_range_inv {σ : Type} (step : σ → Nat → σ) (Inv : σ → Prop) (Q : σ → Nat → Prop)
    (N : Nat)
    (hInv : ∀ s k, Inv s → Inv (step s k))
    (hEst : ∀ s k, k < N → Inv s → Q (step s k) k)
    (hPres : ∀ s k j, j ≠ k → Inv s → Q s j → Q (step s k) j)
    (s : σ) (h : Inv s) (n : Nat) (hn : n ≤ N) :
    Inv ((List.range n).foldl step s) ∧ ∀ j, j < n → Q ((List.range n).foldl step s) j := by
  induction n with
  | zero => exact ⟨h, fun j hj => absurd hj (Nat.not_lt_zero j)⟩
  | succ n ih =>
    obtain ⟨h1, h2⟩ := ih (by omega)
    rw [List.range_succ, List.foldl_append]
    refine ⟨hInv _ _ h1, fun j hj => ?_⟩
    by_cases hjn : j = n
    · subst hjn; exact hEst _ _ (by omega) h1
    · exact hPres _ _ _ hjn h1 (h2 j (by omega))

theorem foldl_comm {σ : Type} (φ : σ → σ) (step : σ → Nat → σ) (Inv : σ → Prop)
    (hstep : ∀ s k, Inv s → step (φ s) k = φ (step s k) ∧ Inv (step s k))
    (l : List Nat) (s : σ) (h : Inv s) : l.foldl step (φ s) = φ (l.foldl step s) := by
  induction l generalizing s with
  | nil => rfl
  | cons k t ih => rw [List.foldl_cons, List.foldl_cons, (hstep s k h).1, ih _ (hstep s k h).2]

section
variable {P : Attrs → Prop}

theorem SpecAll_modifyAt {s : Spec} (h : SpecAll P s) {g : Module → Module} {i : Nat}
    (hg : ∀ mn m, s[i]? = some (mn, m) → ∀ k d, (k, d) ∈ (g m).types → d.All P) :
    SpecAll P (modifyAt g i s) := by
  intro mn m hm k d hd
  rcases mem_modifyAt hm with hm | ⟨m0, hm0, rfl⟩
  · exact h mn m hm k d hd
  · exact hg mn m0 hm0 k d hd

theorem SpecAll_true (s : Spec) : SpecAll (fun _ => True) s :=
  fun _ _ _ _ d _ => Desc.All.of_forall (fun _ => trivial) d

end

/-- "clean": the member list of a type assignment itself has no COMPONENTS OF entry (`Desc.topClean`),
so pass 1 leaves it alone; here for the `j`-th type of the `i`-th module, `ModClean` for all types of
the `i`-th module, `AllClean` (below) for the whole dictionary -/
def TypeClean (s : Spec) (i j : Nat) : Prop :=
  ∀ mn m, s[i]? = some (mn, m) → ∀ k d, m.types[j]? = some (k, d) → d.topClean = true

def ModClean (s : Spec) (i : Nat) : Prop :=
  ∀ mn m, s[i]? = some (mn, m) → ∀ k d, (k, d) ∈ m.types → d.topClean = true

section
variable (i : Nat) (mn : String)

theorem skel_compOfStep (s : Spec) (k : Nat) : skel (compOfStep i mn s k) = skel s :=
  skel_modifyAt (Module.skel_modifyType (fun d => by simp) k) i s

theorem getElem?_compOfStep_self {s : Spec} {k : Nat} {mn' : String} {m' : Module}
    (h : (compOfStep i mn s k)[i]? = some (mn', m')) :
    ∃ m, s[i]? = some (mn', m) ∧ m' = m.modifyType k (compOfType s mn) := by
  unfold compOfStep at h
  rw [getElem?_modifyAt_self, Option.map_eq_some_iff] at h
  obtain ⟨p, hp, he⟩ := h
  cases he
  exact ⟨p.2, hp, rfl⟩

theorem SpecAll_compOfStep {P : Attrs → Prop} {s : Spec} (h : SpecAll P s) (k : Nat) :
    SpecAll P (compOfStep i mn s k) := by
  refine SpecAll_modifyAt h fun mn' m hm key d hd => ?_
  have hmem := h mn' m (List.mem_of_getElem? hm)
  rcases mem_modifyAt hd with hd | ⟨d0, hd0, rfl⟩
  · exact hmem key d hd
  · exact Desc.All.compOfType h mn (hmem key d0 (List.mem_of_getElem? hd0))

theorem TypeClean_compOfStep (s : Spec) (k : Nat) : TypeClean (compOfStep i mn s k) i k := by
  intro mn' m' hm key d hd
  obtain ⟨m, _, rfl⟩ := getElem?_compOfStep_self i mn hm
  rw [Module.modifyType, getElem?_modifyAt_self, Option.map_eq_some_iff] at hd
  obtain ⟨q, _, he⟩ := hd
  cases he
  exact topClean_compOfType s mn q.2

theorem TypeClean_compOfStep_ne (s : Spec) (k : Nat) {j : Nat} (hjk : j ≠ k)
    (h : TypeClean s i j) : TypeClean (compOfStep i mn s k) i j := by
  intro mn' m' hm key d hd
  obtain ⟨m, hs, rfl⟩ := getElem?_compOfStep_self i mn hm
  rw [Module.modifyType, getElem?_modifyAt_ne _ hjk] at hd
  exact h mn' m hs key d hd

theorem compOfStep_of_clean {s : Spec} (h : ModClean s i) (k : Nat) : compOfStep i mn s k = s := by
  refine modifyAt_eq_self fun mn' m hm => ?_
  have : modifyAt (compOfType s mn) k m.types = m.types :=
    modifyAt_eq_self fun key d hd =>
      compOfType_of_topClean s mn (h mn' m hm key d (List.mem_of_getElem? hd))
  simp [Module.modifyType, this]

theorem compOfModule_of_clean {s : Spec} (h : ModClean s i) (nt : Nat) :
    compOfModule i mn nt s = s := by
  unfold compOfModule
  generalize List.range nt = l
  induction l with
  | nil => rfl
  | cons k t ih => rw [List.foldl_cons, compOfStep_of_clean i mn h k, ih]

theorem compOfModule_spec {P : Attrs → Prop} (nt : Nat) (s : Spec) (hP : SpecAll P s) :
    let s' := compOfModule i mn nt s
    skel s' = skel s ∧ (∀ j, j ≠ i → s'[j]? = s[j]?) ∧ SpecAll P s' ∧
      ∀ j, j < nt → TypeClean s' i j := by
  have := foldl_range_inv (compOfStep i mn)
    (fun s' => skel s' = skel s ∧ (∀ j, j ≠ i → s'[j]? = s[j]?) ∧ SpecAll P s')
    (fun s' j => TypeClean s' i j) nt
    (fun s' k ⟨h1, h2, h3⟩ => ⟨by rw [skel_compOfStep, h1],
      fun j hj => by rw [compOfStep, getElem?_modifyAt_ne _ hj, h2 j hj],
      SpecAll_compOfStep i mn h3 k⟩)
    (fun s' k _ _ => TypeClean_compOfStep i mn s' k)
    (fun s' k j hjk _ hq => TypeClean_compOfStep_ne i mn s' k hjk hq)
    s ⟨rfl, fun _ _ => rfl, hP⟩ nt (Nat.le_refl nt)
  exact ⟨this.1.1, this.1.2.1, this.1.2.2, this.2⟩

theorem skel_compOfModule (nt : Nat) (s : Spec) : skel (compOfModule i mn nt s) = skel s :=
  (compOfModule_spec i mn nt s (SpecAll_true s)).1

theorem getElem?_compOfModule_ne (nt : Nat) (s : Spec) {j : Nat} (h : j ≠ i) :
    (compOfModule i mn nt s)[j]? = s[j]? :=
  (compOfModule_spec i mn nt s (SpecAll_true s)).2.1 j h

theorem ModClean_compOfModule {s : Spec} {mn' : String} {m : Module}
    (hi : s[i]? = some (mn', m)) : ModClean (compOfModule i mn m.types.length s) i := by
  have hs := compOfModule_spec i mn m.types.length s (SpecAll_true s)
  intro mn1 m1 h1 key d hd
  obtain ⟨m2, h2, h3⟩ := header_of_skel_eq hs.1 hi
  rw [h1] at h2
  cases h2
  obtain ⟨j, hj, hget⟩ := List.mem_iff_getElem.1 hd
  refine hs.2.2.2 j ?_ _ _ h1 key d (by rw [List.getElem?_eq_getElem hj, hget])
  rw [← (Module.skel_fields h3).2.2]; exact hj

end

/-- One step of `run` in terms of `locDesc`: the tag pass and the DEFAULT pass read only the skeleton
of the dictionary, which pass 1 and the passes before them leave as it was before the step, so the
three `modifyAt` at position `i` fuse into one. -/
theorem procModule_eq (n : Bool) {s : Spec} {i : Nat} {mn : String} {m : Module}
    (hi : s[i]? = some (mn, m)) :
    procModule n s i = modifyAt
      (Module.mapTypes (locDesc (skel s) n mn (m.tags.getD "EXPLICIT") m.extImplied)) i
      (compOfModule i mn m.types.length s) := by
  have hsk := skel_compOfModule i mn m.types.length s
  unfold procModule
  simp only [hi]
  cases hext : m.extImplied with
  | false =>
    simp only [Bool.false_eq_true, if_false, defaultsModule, tagsModule]
    rw [skel_mapTypes_at (fun d => by simp), hsk, modifyAt_modifyAt]
    refine modifyAt_congr fun k v _ => ?_
    rw [mapTypes_mapTypes]
    rfl
  | true =>
    simp only [if_true, defaultsModule, tagsModule, extModule]
    rw [skel_mapTypes_at (fun d => by simp), skel_mapTypes_at (fun d => by simp), hsk,
      modifyAt_modifyAt, modifyAt_modifyAt]
    refine modifyAt_congr fun k v _ => ?_
    rw [mapTypes_mapTypes, mapTypes_mapTypes]
    rfl

theorem procModule_of_none (n : Bool) {s : Spec} {i : Nat} (hi : s[i]? = none) :
    procModule n s i = s := by
  unfold procModule; simp [hi]

theorem getElem?_procModule_self (n : Bool) {s : Spec} {i : Nat} {p : String × Module}
    (hp : (procModule n s i)[i]? = some p) :
    ∃ mn m m₁, s[i]? = some (mn, m) ∧ (compOfModule i mn m.types.length s)[i]? = some (mn, m₁) ∧
      m₁.skel = m.skel ∧
      p = (mn, m₁.mapTypes (locDesc (skel s) n mn (m.tags.getD "EXPLICIT") m.extImplied)) := by
  cases hi : s[i]? with
  | none => rw [procModule_of_none n hi, hi] at hp; cases hp
  | some q =>
    obtain ⟨m₁, hm₁, hsk⟩ := header_of_skel_eq (skel_compOfModule i q.1 q.2.types.length s) hi
    rw [procModule_eq n hi, getElem?_modifyAt_of_eq _ hm₁] at hp
    cases hp
    exact ⟨q.1, q.2, m₁, rfl, hm₁, hsk, rfl⟩

theorem skel_procModule (n : Bool) (s : Spec) (i : Nat) : skel (procModule n s i) = skel s := by
  cases hi : s[i]? with
  | none => rw [procModule_of_none n hi]
  | some p => rw [procModule_eq n hi, skel_mapTypes_at (fun d => locDesc_core ..), skel_compOfModule]

theorem getElem?_procModule_ne (n : Bool) (s : Spec) {i j : Nat} (h : j ≠ i) :
    (procModule n s i)[j]? = s[j]? := by
  cases hi : s[i]? with
  | none => rw [procModule_of_none n hi]
  | some p => rw [procModule_eq n hi, getElem?_modifyAt_ne _ h, getElem?_compOfModule_ne _ _ _ _ h]

theorem skel_run (n : Bool) (s : Spec) : skel (run n s) = skel s := by
  unfold run
  generalize List.range s.length = l
  induction l generalizing s with
  | nil => rfl
  | cons k t ih => rw [List.foldl_cons, ih, skel_procModule]

@[simp] theorem run_length (n : Bool) (s : Spec) : (run n s).length = s.length := by
  rw [← skel_length, skel_run, skel_length]

theorem run_getElem?_of_step (n : Bool) {Inv : Spec → Prop} {Q : String × Module → Prop}
    (hInv : ∀ s i, Inv s → Inv (procModule n s i))
    (h : ∀ s i p, Inv s → (procModule n s i)[i]? = some p → Q p) (d : Spec) (h0 : Inv d) {i : Nat}
    {p : String × Module} (hp : (run n d)[i]? = some p) : Q p := by
  have key := foldl_range_inv (procModule n) Inv (fun s j => ∀ p, s[j]? = some p → Q p)
    d.length (fun s k hs => hInv s k hs) (fun s k _ hs p hp => h s k p hs hp)
    (fun s k j hjk _ hq p hp => hq p (by rwa [getElem?_procModule_ne n s hjk] at hp))
    d h0 d.length (Nat.le_refl _)
  have hi := (List.getElem?_eq_some_iff.1 hp).1
  rw [run_length] at hi
  exact key.2 i hi p hp

theorem ModClean_procModule_self (n : Bool) (s : Spec) (i : Nat) :
    ModClean (procModule n s i) i := by
  intro mn m' hm' k d hd
  obtain ⟨_, m, m₁, hi, hm₁, _, hp⟩ := getElem?_procModule_self n hm'
  cases hp
  obtain ⟨d0, hd0, rfl⟩ := mem_mapSnd hd
  rw [topClean_locDesc]
  exact ModClean_compOfModule i mn hi mn m₁ hm₁ k d0 hd0

theorem ModClean_procModule {i : Nat} (n : Bool) {s : Spec} (hC : ModClean s i) (j : Nat) :
    ModClean (procModule n s j) i := by
  by_cases hji : j = i
  · subst hji
    exact ModClean_procModule_self n s j
  · intro mn m hm
    rw [getElem?_procModule_ne n s (fun h => hji h.symm)] at hm
    exact hC mn m hm

/-- What the three attribute passes need from an invariant `P` of the attributes, for a rewrite under
the flag `m` followed by one under `n`: the tag pass and the conversion under `m` keep `P`, and where
`P` holds the conversion under `m` is absorbed by the one under `n`.  `run_run_of_inv` uses it with
`m = n`; the flag switch (`run_absorb`, PrepHistory) needs a predicate that depends on the module
name and takes the three facts one by one. -/
structure PassInv (P : Attrs → Prop) (sk : Skel) (m n : Bool) : Prop where
  tag : ∀ a k mt mn, P a → P (kindAttrs sk mt mn (numAttrs k a))
  conv : ∀ a mn, P a → P (convAttrs sk m mn a)
  absorb : ∀ a mn, P a → Absorbs sk n mn m a

/-- what `run` does to one module, every type by itself (`locDesc`): the passes composed, with lookups answered by the
skeleton `sk` of the dictionary they started from -/
def locModule (sk : Skel) (n : Bool) (p : String × Module) : String × Module :=
  (p.1, p.2.mapTypes (locDesc sk n p.1 (p.2.tags.getD "EXPLICIT") p.2.extImplied))

def AllClean (s : Spec) : Prop :=
  ∀ mn m, (mn, m) ∈ s → ∀ k d, (k, d) ∈ m.types → d.topClean = true

theorem AllClean_run (n : Bool) (d : Spec) : AllClean (run n d) := by
  intro mn m hm k td htd
  obtain ⟨j, hj⟩ := List.mem_iff_getElem?.1 hm
  exact run_getElem?_of_step n (Inv := fun _ => True)
    (Q := fun p => ∀ k d, (k, d) ∈ p.2.types → d.topClean = true) (fun _ _ _ => trivial)
    (fun s i p _ hp => ModClean_procModule_self n s i p.1 p.2 hp) d trivial hj k td htd

/-- The loop of `run`, stopped after the modules `pre` (already rewritten) and started on `post`
(clean): every step maps `locModule` over its module.  `sk` is the skeleton of the whole dictionary,
a parameter because no step changes it (`hsk`) while the dictionary itself changes. -/
theorem run_of_clean_aux (n : Bool) (sk : Skel) (pre post : Spec)
    (hsk : skel (pre ++ post) = sk) (hc : AllClean post) :
    (List.range' pre.length post.length).foldl (procModule n) (pre ++ post)
      = pre ++ post.map (locModule sk n) := by
  induction post generalizing pre with
  | nil => simp
  | cons x rest ih =>
    obtain ⟨mn, m⟩ := x
    have hi : (pre ++ (mn, m) :: rest)[pre.length]? = some (mn, m) := by simp
    have hclean : ModClean (pre ++ (mn, m) :: rest) pre.length := by
      intro mn' m' hm' k d hd
      rw [hi] at hm'
      cases hm'
      exact hc mn m (by simp) k d hd
    have hstep : procModule n (pre ++ (mn, m) :: rest) pre.length
        = (pre ++ [locModule sk n (mn, m)]) ++ rest := by
      rw [procModule_eq n hi, compOfModule_of_clean _ _ hclean, modifyAt_append_cons, hsk]
      simp [locModule]
    simp only [List.length_cons, List.range'_succ, List.foldl_cons, hstep]
    have hlen : (pre ++ [locModule sk n (mn, m)]).length = pre.length + 1 := by simp
    rw [← hlen, ih (pre ++ [locModule sk n (mn, m)])
      (by rw [← hstep, skel_procModule, hsk])
      (fun mn' m' hm' => hc mn' m' (by simp [hm']))]
    simp

theorem run_of_clean (n : Bool) (s : Spec) (h : AllClean s) :
    run n s = s.map (locModule (skel s) n) := by
  have := run_of_clean_aux n (skel s) [] s rfl h
  simpa [run, List.range_eq_range'] using this

section
variable {P : Attrs → Prop}

theorem SpecAll_procModule {n : Bool} {s : Spec} (hP : SpecAll P s)
    (hyp : PassInv P (skel s) n n) (i : Nat) : SpecAll P (procModule n s i) := by
  cases hi : s[i]? with
  | none => rw [procModule_of_none n hi]; exact hP
  | some p =>
    rw [procModule_eq n hi]
    have h := (compOfModule_spec i p.1 p.2.types.length s hP).2.2.1
    refine SpecAll_modifyAt h fun mn m hm k d hd => ?_
    obtain ⟨d0, hd0, rfl⟩ := mem_mapSnd hd
    exact Desc.All.loc _ n _ _ _ (fun a k => hyp.tag a k _ _) (fun a => hyp.conv a _)
      (h mn m (List.mem_of_getElem? hm) k d0 hd0)

theorem locModule_locModule (sk : Skel) (m n : Bool) (p : String × Module)
    (hPt : ∀ a k mt, P a → P (kindAttrs sk mt p.1 (numAttrs k a)))
    (hPa : ∀ a, P a → Absorbs sk n p.1 m a) (h : ∀ k d, (k, d) ∈ p.2.types → d.All P) :
    locModule sk n (locModule sk m p) = locModule sk n p := by
  obtain ⟨mn, m0⟩ := p
  show (mn, (m0.mapTypes _).mapTypes _) = _
  rw [mapTypes_mapTypes]
  exact congrArg (fun l => (mn, { m0 with types := l })) (mapSnd_congr fun k d hd =>
    locDesc_absorb sk m n mn _ _ (fun a k => hPt a k _) hPa (h k d hd))

/-- the module a step leaves at its position is a fixed point of the three attribute passes: it is
`locModule` of what pass 1 left there -/
theorem locModule_of_step {n : Bool} {s : Spec} (hP : SpecAll P s) (hyp : PassInv P (skel s) n n)
    {i : Nat} {p : String × Module} (hp : (procModule n s i)[i]? = some p) :
    locModule (skel s) n p = p := by
  obtain ⟨mn, m, m₁, hi, hm₁, hskm, rfl⟩ := getElem?_procModule_self n hp
  obtain ⟨ht, he, _⟩ := Module.skel_fields hskm
  rw [← ht, ← he]
  exact locModule_locModule (skel s) n n (mn, m₁) (fun a k mt => hyp.tag a k mt mn)
    (fun a => hyp.absorb a mn)
    ((compOfModule_spec i mn _ s hP).2.2.1 mn m₁ (List.mem_of_getElem? hm₁))

/-- Rewriting a rewritten dictionary changes nothing: it has no COMPONENTS OF entry left, so the
second rewrite maps the three attribute passes over modules that are fixed points of them. -/
theorem run_run_of_inv (n : Bool) (d : Spec) (hP : SpecAll P d) (hyp : PassInv P (skel d) n n) :
    run n (run n d) = run n d := by
  rw [run_of_clean n _ (AllClean_run n d), skel_run]
  refine (List.map_congr_left fun p hp => ?_).trans (List.map_id _)
  obtain ⟨i, hi⟩ := List.getElem?_of_mem hp
  exact run_getElem?_of_step n (Inv := fun s => skel s = skel d ∧ SpecAll P s)
    (Q := fun p => locModule (skel d) n p = p)
    (fun s k ⟨h1, h2⟩ => ⟨by rw [skel_procModule, h1], SpecAll_procModule h2 (h1 ▸ hyp) k⟩)
    (fun s k p ⟨h1, h2⟩ hp => h1 ▸ locModule_of_step h2 (h1 ▸ hyp) hp) d ⟨rfl, hP⟩ hi

end

end Asn1.SpecDict
