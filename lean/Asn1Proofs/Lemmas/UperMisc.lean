import Asn1Proofs.Lemmas.UperChunks
import Asn1Proofs.Lemmas.UperNum
/-
  Facts the UPER modules above the readers share and that are not about readers: `packBits` against
  `bytesToBits`, `mapM` in `EncM` (with `All2` of `UperChunks`), permitted alphabets, the ENUMERATED
  tables, `padToByte` in closed form.
-/
namespace Asn1

theorem bitsToBytes_bytesToBits (bs : Bytes) (h : ∀ b ∈ bs, b < 256) (fuel : Nat)
    (hf : bs.length + 1 ≤ fuel) : bitsToBytes fuel (bytesToBits bs) = bs := by
  induction bs generalizing fuel with
  | nil => cases fuel <;> rfl
  | cons b r ih =>
    cases fuel with
    | zero => simp at hf
    | succ fuel =>
      have hne : (natToBits 8 b ++ bytesToBits r).isEmpty = false := by simp [natToBits]
      rw [show bytesToBits (b :: r) = natToBits 8 b ++ bytesToBits r from rfl, bitsToBytes, hne,
        List.take_left' (natToBits_length 8 b), List.drop_left' (natToBits_length 8 b)]
      simp only [Bool.false_eq_true, if_false, natToBits_length, Nat.sub_self, List.replicate_zero,
        List.append_nil]
      rw [bitsToNat_natToBits_of_lt (h b (List.mem_cons_self ..)),
        ih (fun x hx => h x (List.mem_cons_of_mem _ hx)) fuel (Nat.le_of_succ_le_succ hf)]

theorem packBits_bytesToBits (bs : Bytes) (h : ∀ b ∈ bs, b < 256) : packBits (bytesToBits bs) = bs := by
  unfold packBits
  exact bitsToBytes_bytesToBits bs h _ (by rw [bytesToBits_length]; omega)

theorem eraseDups_eq_nil {α : Type} [BEq α] (l : List α) (h : l.eraseDups = []) : l = [] := by
  cases l with
  | nil => rfl
  | cons a r => rw [List.eraseDups_cons] at h; cases h

namespace Uper

theorem mapM_nil' {α β : Type} (f : α → EncM β) : ([] : List α).mapM f = .ok [] := by
  simp [pure, Except.pure]

theorem mapM_cons' {α β : Type} (f : α → EncM β) (a : α) (l : List α) :
    (a :: l).mapM f = match f a with
      | .error e => .error e
      | .ok b => match l.mapM f with
        | .error e => .error e
        | .ok bs => .ok (b :: bs) := by
  rw [List.mapM_cons]
  simp only [bind, Except.bind, pure, Except.pure]
  cases f a with
  | error e => rfl
  | ok b => cases l.mapM f <;> rfl

theorem mapM_congr {α β : Type} (f g : α → EncM β) (l : List α) (h : ∀ a ∈ l, f a = g a) :
    l.mapM f = l.mapM g := by
  induction l with
  | nil => rw [mapM_nil', mapM_nil']
  | cons a l ih =>
    rw [mapM_cons', mapM_cons', h a (by simp), ih (fun x hx => h x (by simp [hx]))]

theorem all2_of_mapM {α β : Type} (f : α → EncM β) (l : List α) (r : List β)
    (h : l.mapM f = .ok r) : All2 (fun a b => f a = .ok b) l r := by
  induction l generalizing r with
  | nil =>
    rw [mapM_nil'] at h
    cases h; exact .nil
  | cons a l ih =>
    rw [List.mapM_cons] at h
    obtain ⟨b, hfa, h⟩ := bind_ok h
    obtain ⟨bs, hl, h⟩ := bind_ok h
    cases h
    exact .cons hfa (ih bs hl)

theorem mapM_ok_of_forall {α β : Type} (f : α → EncM β) (l : List α)
    (h : ∀ a ∈ l, ∃ b, f a = .ok b) : ∃ r, l.mapM f = .ok r := by
  induction l with
  | nil => exact ⟨[], mapM_nil' f⟩
  | cons a l ih =>
    obtain ⟨b, hb⟩ := h a (by simp)
    obtain ⟨bs, hbs⟩ := ih (fun x hx => h x (by simp [hx]))
    exact ⟨b :: bs, by rw [mapM_cons', hb, hbs]⟩

theorem mapM_append {α β : Type} (g : α → EncM β) (l1 l2 : List α) (r1 r2 : List β)
    (h1 : l1.mapM g = .ok r1) (h2 : l2.mapM g = .ok r2) : (l1 ++ l2).mapM g = .ok (r1 ++ r2) := by
  induction l1 generalizing r1 with
  | nil =>
    rw [mapM_nil'] at h1
    cases h1; simpa using h2
  | cons a l ih =>
    rw [List.mapM_cons] at h1
    obtain ⟨b, hfa, h1⟩ := bind_ok h1
    obtain ⟨bs, hl, h1⟩ := bind_ok h1
    cases h1
    rw [List.cons_append, mapM_cons', hfa, ih bs hl]
    rfl

theorem mapM_length {α β : Type} (g : α → EncM β) (l : List α) (r : List β)
    (h : l.mapM g = .ok r) : r.length = l.length :=
  (All2.length_eq (all2_of_mapM _ _ _ h)).symm

theorem mapM_congr_ok {α β : Type} (f g : α → EncM β) (l : List α) (r : List β)
    (hfg : ∀ a ∈ l, ∀ b, f a = .ok b → g a = .ok b) (h : l.mapM f = .ok r) : l.mapM g = .ok r := by
  induction l generalizing r with
  | nil => rw [mapM_nil'] at h ⊢; exact h
  | cons a l ih =>
    rw [List.mapM_cons] at h
    obtain ⟨b, hfa, h⟩ := bind_ok h
    obtain ⟨bs, hl, h⟩ := bind_ok h
    cases h
    rw [mapM_cons', hfg a (by simp) b hfa, ih bs (fun x hx => hfg x (by simp [hx])) hl]

theorem mapM_ok_id (items : List Bits) : items.mapM (fun b => (Except.ok b : EncM Bits)) = .ok items := by
  induction items with
  | nil => exact mapM_nil' _
  | cons a l ih => rw [mapM_cons', ih]

theorem indexOf?_of_contains (c : Nat) (l : List Nat) (h : l.contains c = true) :
    ∃ i, indexOf? c l = some i ∧ i < l.length ∧ l[i]? = some c := by
  induction l with
  | nil => simp at h
  | cons y r ih =>
    unfold indexOf?
    by_cases hc : c = y
    · subst hc; exact ⟨0, by simp⟩
    · have : r.contains c = true := by
        simp only [List.contains_cons, Bool.or_eq_true, beq_iff_eq] at h
        rcases h with h | h
        · exact absurd h hc
        · exact h
      obtain ⟨i, h1, h2, h3⟩ := ih this
      exact ⟨i + 1, by simp [hc, h1], by simp; omega, by simpa using h3⟩

theorem bitsPerChar_numeric : bitsPerChar .numeric = 4 := by decide +kernel
theorem bitsPerChar_ia5 : bitsPerChar .ia5 = 7 := by decide +kernel
theorem bitsPerChar_visible : bitsPerChar .visible = 7 := by decide +kernel
theorem bitsPerChar_printable : bitsPerChar .printable = 7 := by decide +kernel

theorem ia5_lt : ∀ c ∈ Extracted.ia5Alphabet, c < 128 := by decide +kernel
theorem visible_lt : ∀ c ∈ Extracted.visibleAlphabet, c < 128 := by decide +kernel
theorem printable_lt : ∀ c ∈ Extracted.printableAlphabet, c < 128 := by decide +kernel
theorem numeric_lt : ∀ c ∈ Extracted.numericAlphabet, c < 128 := by decide +kernel

theorem alphabet_lt (k : StrKind) : ∀ c ∈ alphabetOf k, c < 128 := by
  cases k
  · exact ia5_lt
  · exact visible_lt
  · exact numeric_lt
  · exact printable_lt
  · intro c hc; simp [alphabetOf] at hc

theorem char_rt (k : StrKind) (hk : k ≠ .utf8) (c : Nat) (hc : (alphabetOf k).contains c = true) :
    ∃ code, charCode k c = .ok code ∧ code < 2 ^ bitsPerChar k ∧ charDecode k code = .ok c := by
  have hmem : c ∈ alphabetOf k := by simpa using hc
  cases k with
  | utf8 => exact absurd rfl hk
  | numeric =>
    obtain ⟨i, h1, h2, h3⟩ := indexOf?_of_contains c _ hc
    refine ⟨i, by simp only [charCode, h1], ?_, by simp only [charDecode, h3]⟩
    rw [bitsPerChar_numeric]
    exact Nat.lt_trans h2 (by decide)
  | ia5 =>
    exact ⟨c, by simp only [charCode, hc, if_true], by rw [bitsPerChar_ia5]; exact ia5_lt c hmem,
      by simp only [charDecode, hc, if_true]⟩
  | visible =>
    exact ⟨c, by simp only [charCode, hc, if_true],
      by rw [bitsPerChar_visible]; exact visible_lt c hmem, by simp only [charDecode, hc, if_true]⟩
  | printable =>
    exact ⟨c, by simp only [charCode, hc, if_true],
      by rw [bitsPerChar_printable]; exact printable_lt c hmem,
      by simp only [charDecode, hc, if_true]⟩

theorem nameIndex_eq_none_iff (name : String) (xs : List (String × Int)) :
    nameIndex name xs = none ↔ name ∉ namesOf xs := by
  induction xs with
  | nil => simp [nameIndex, namesOf]
  | cons x r ih =>
    obtain ⟨n, v⟩ := x
    simp only [namesOf] at ih
    simp only [nameIndex, namesOf, List.map_cons, List.mem_cons, not_or]
    by_cases hn : n = name
    · subst hn; simp
    · have : ¬ name = n := fun e => hn e.symm
      simp [hn, this, ih]

theorem nameIndex_of_mem (name : String) (xs : List (String × Int)) (h : name ∈ namesOf xs) :
    ∃ i, nameIndex name xs = some i :=
  Option.ne_none_iff_exists'.1 fun e => (nameIndex_eq_none_iff name xs).1 e h

theorem nameIndex_none (name : String) (xs : List (String × Int)) (h : name ∉ namesOf xs) :
    nameIndex name xs = none :=
  (nameIndex_eq_none_iff name xs).2 h

theorem nameIndex_spec (name : String) (xs : List (String × Int)) (i : Nat)
    (h : nameIndex name xs = some i) : i < xs.length ∧ ∃ x, xs[i]? = some (name, x) := by
  induction xs generalizing i with
  | nil => simp [nameIndex] at h
  | cons x r ih =>
    obtain ⟨n, v⟩ := x
    unfold nameIndex at h
    by_cases hn : n = name
    · simp [hn] at h; subst h; subst hn; exact ⟨by simp, v, by simp⟩
    · simp only [beq_iff_eq, hn, if_false, Option.map_eq_some_iff] at h
      obtain ⟨j, hj, rfl⟩ := h
      obtain ⟨h1, x, h2⟩ := ih j hj
      exact ⟨by simp; omega, x, by simpa using h2⟩

theorem insertByVal_perm (x : String × Int) (xs : List (String × Int)) :
    (insertByVal x xs).Perm (x :: xs) := by
  induction xs with
  | nil => exact List.Perm.refl _
  | cons y r ih =>
    unfold insertByVal
    split
    · exact List.Perm.refl _
    · exact (List.Perm.cons y ih).trans (List.Perm.swap x y r)

theorem sortByVal_perm (xs : List (String × Int)) : (sortByVal xs).Perm xs := by
  induction xs with
  | nil => exact List.Perm.refl _
  | cons x r ih =>
    show (insertByVal x (sortByVal r)).Perm (x :: r)
    exact (insertByVal_perm x _).trans (List.Perm.cons x ih)

theorem sortByVal_length (xs : List (String × Int)) : (sortByVal xs).length = xs.length :=
  (sortByVal_perm xs).length_eq

theorem mem_namesOf_sortByVal (name : String) (xs : List (String × Int)) :
    name ∈ namesOf (sortByVal xs) ↔ name ∈ namesOf xs := by
  unfold namesOf
  exact ((sortByVal_perm xs).map _).mem_iff

theorem nameIndex_append_of_mem (name : String) (a b : List (String × Int)) (h : name ∈ namesOf a) :
    nameIndex name (a ++ b) = nameIndex name a := by
  induction a with
  | nil => simp [namesOf] at h
  | cons x r ih =>
    obtain ⟨n, v⟩ := x
    simp only [List.cons_append, nameIndex]
    by_cases hn : n = name
    · simp [hn]
    · have : name ∈ namesOf r := by
        simp only [namesOf, List.map_cons, List.mem_cons] at h
        rcases h with h | h
        · exact absurd h.symm hn
        · exact h
      simp [hn, ih this]

theorem nameIndex_append_of_not_mem (name : String) (a b : List (String × Int)) (h : name ∉ namesOf a) :
    nameIndex name (a ++ b) = (nameIndex name b).map (· + a.length) := by
  induction a with
  | nil => simp
  | cons x r ih =>
    obtain ⟨n, v⟩ := x
    simp only [namesOf, List.map_cons, List.mem_cons, not_or] at h
    have hn : ¬ n = name := fun e => h.1 e.symm
    simp only [List.cons_append, nameIndex, beq_iff_eq, hn, if_false, ih h.2, Option.map_map,
      List.length_cons]
    congr 1

theorem mem_namesOf_of_getElem? {xs : List (String × Int)} {i : Nat} {name : String} {x : Int}
    (h : xs[i]? = some (name, x)) : name ∈ namesOf xs := by
  have := List.mem_of_getElem? h
  exact List.mem_map.2 ⟨_, this, rfl⟩

theorem padToByte_eq (bs : Bits) :
    padToByte bs = bs ++ List.replicate (8 * ((bs.length + 7) / 8) - bs.length) false := by
  rw [padToByte, padLength_eq]

theorem padToByte_length_div (bs : Bits) : (padToByte bs).length / 8 = (bs.length + 7) / 8 := by
  rw [padToByte_eq, List.length_append, List.length_replicate]
  omega

end Uper
end Asn1
