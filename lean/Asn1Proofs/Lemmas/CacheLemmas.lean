import Asn1Model.Cache
/-
  For C17 (the cache key determines the call): decimal digits are injective and never the
  separator `:`, so a netstring can be split off the front of a list in one way only, and a
  concatenation of netstrings determines its pieces.
-/
namespace Asn1.CacheLemmas
open Asn1 Asn1.Cache

theorem digits_eq (n : Nat) : digits n = (Nat.toDigits 10 n).map Char.toNat := by
  simp [digits]

theorem digits_injective {n m : Nat} (h : digits n = digits m) : n = m := by
  rw [digits_eq, digits_eq] at h
  have h' := (List.map_inj_right fun _ _ => Char.toNat_inj.1).1 h
  simpa using congrArg (fun l => Nat.ofDigitChars 10 l 0) h'

theorem digits_ne_colon {n d : Nat} (h : d ∈ digits n) : d ≠ 58 := by
  rw [digits_eq] at h
  obtain ⟨c, hc, rfl⟩ := List.mem_map.mp h
  have hd := Nat.isDigit_of_mem_toDigits (by decide) (by decide) hc
  simp only [Char.isDigit, Bool.and_eq_true, decide_eq_true_eq] at hd
  intro h58
  have : c.val.toNat = 58 := h58
  have h1 : c.val.toNat ≤ 57 := by
    have := hd.2
    exact UInt32.le_iff_toNat_le.mp this
  omega

theorem split_at_sep {sep : Nat} {a b x y : List Nat} (ha : ∀ d ∈ a, d ≠ sep) (hb : ∀ d ∈ b, d ≠ sep)
    (h : a ++ sep :: x = b ++ sep :: y) : a = b ∧ x = y := by
  induction a generalizing b with
  | nil =>
    cases b with
    | nil => simpa using h
    | cons b0 b => exact absurd (List.cons.inj h).1.symm (hb b0 (.head _))
  | cons a0 a ih =>
    cases b with
    | nil => exact absurd (List.cons.inj h).1 (ha a0 (.head _))
    | cons b0 b =>
      obtain ⟨rfl, h'⟩ := List.cons.inj h
      obtain ⟨rfl, rfl⟩ := ih (fun d hd => ha d (.tail _ hd)) (fun d hd => hb d (.tail _ hd)) h'
      exact ⟨rfl, rfl⟩

theorem netstring_append_inj {f g r s : List Nat} (h : netstring f ++ r = netstring g ++ s) :
    f = g ∧ r = s := by
  simp only [netstring, List.append_assoc, List.singleton_append] at h
  have := split_at_sep (fun d hd => digits_ne_colon hd) (fun d hd => digits_ne_colon hd) h
  have hlen : f.length = g.length := digits_injective this.1
  exact List.append_inj this.2 hlen

theorem netstring_ne_nil (f : List Nat) : netstring f ≠ [] := by
  simp [netstring]

theorem flatMap_netstring_injective (fs gs : List (List Nat))
    (h : fs.flatMap netstring = gs.flatMap netstring) : fs = gs := by
  induction fs generalizing gs with
  | nil =>
    cases gs with
    | nil => rfl
    | cons g gs =>
      simp only [List.flatMap_nil, List.flatMap_cons] at h
      have := List.append_eq_nil_iff.mp h.symm
      exact absurd this.1 (netstring_ne_nil g)
  | cons f fs ih =>
    cases gs with
    | nil =>
      simp only [List.flatMap_nil, List.flatMap_cons] at h
      have := List.append_eq_nil_iff.mp h
      exact absurd this.1 (netstring_ne_nil f)
    | cons g gs =>
      simp only [List.flatMap_cons] at h
      obtain ⟨hfg, hrest⟩ := netstring_append_inj h
      rw [hfg, ih gs hrest]

theorem prefixFree_of_list (l : List (List Nat))
    (h : ∀ a ∈ l, ∀ b ∈ l, a <+: b → a = b) : PrefixFree (fun a => a ∈ l) := by
  intro a b x y ha hb hab
  rcases List.append_eq_append_iff.mp hab with ⟨c, rfl, _⟩ | ⟨c, rfl, _⟩
  · exact h a ha _ hb (List.prefix_append a c)
  · exact (h b hb _ ha (List.prefix_append b c)).symm

theorem find_some_mem {ρ : Type} {k : List Nat} {s : Store ρ} {r : ρ} (h : find k s = some r) :
    (k, r) ∈ s := by
  induction s with
  | nil => simp [find] at h
  | cons e s ih =>
    obtain ⟨k', r'⟩ := e
    simp only [find] at h
    split at h
    · next hk =>
      cases h; subst hk; simp
    · exact List.mem_cons_of_mem _ (ih h)

end Asn1.CacheLemmas
