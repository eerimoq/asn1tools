import Asn1Proofs.Lemmas.X691Clauses
/-
  13.1 "sorted into ascending order by their enumeration value": the declarative reading of
  `sortAsc` — the result is a permutation of the items and ascending by value.
-/
namespace Asn1.X691

theorem mem_insertAsc (x y : String × Int) (xs : List (String × Int)) :
    y ∈ insertAsc x xs ↔ y = x ∨ y ∈ xs := by
  rw [insertAsc_eq, (Uper.insertByVal_perm x xs).mem_iff, List.mem_cons]

theorem insertAsc_sorted (x : String × Int) (xs : List (String × Int))
    (h : xs.Pairwise (fun a b => a.2 ≤ b.2)) : (insertAsc x xs).Pairwise (fun a b => a.2 ≤ b.2) := by
  induction xs with
  | nil => simp [insertAsc]
  | cons z r ih =>
    rw [insertAsc]
    obtain ⟨hz, hr⟩ := List.pairwise_cons.mp h
    split
    · rename_i hlt
      refine List.pairwise_cons.mpr ⟨?_, h⟩
      intro a ha
      rcases List.mem_cons.mp ha with ha | ha
      · subst ha; omega
      · have := hz a ha; omega
    · rename_i hge
      refine List.pairwise_cons.mpr ⟨?_, ih hr⟩
      intro a ha
      rcases (mem_insertAsc x a r).mp ha with ha | ha
      · subst ha; omega
      · exact hz a ha

theorem sortAsc_sorted (xs : List (String × Int)) : (sortAsc xs).Pairwise (fun a b => a.2 ≤ b.2) := by
  unfold sortAsc
  induction xs with
  | nil => simp
  | cons x r ih => rw [List.foldr_cons]; exact insertAsc_sorted x _ ih

theorem sortAsc_perm (xs : List (String × Int)) : (sortAsc xs).Perm xs := by
  rw [sortAsc_eq]; exact Uper.sortByVal_perm xs

end Asn1.X691
