import Asn1Model.PyPrim
import Asn1Model.Prim
/-
  The Python primitives of `Asn1Model/PyPrim.lean` on non-negative operands are the `Nat` operations (`*_natCast`), with the
  instances at the literals of the translated code (`band255`, `shr8`, …), and the two forms in which a comparison of the
  code (`decide` over `Int`) meets the comparison of the model.  Behind them the `Nat` facts about `|||` / `&&&` with a power
  of two (`mul_pow_or`, `and_two_pow_eq_zero`, `and192`) and `slice_nat` for slices at non-negative bounds.
-/
namespace Py

theorem band_natCast (a b : Nat) : Py.band (a : Int) (b : Int) = ((a &&& b : Nat) : Int) := rfl

theorem bor_natCast (a b : Nat) : Py.bor (a : Int) (b : Int) = ((a ||| b : Nat) : Int) := rfl

theorem shr_natCast (a k : Nat) : Py.shr (a : Int) (k : Int) = ((a >>> k : Nat) : Int) := by
  show Int.shiftRight (Int.ofNat a) (Int.toNat (k : Int)) = _
  rw [Int.toNat_natCast]; rfl

theorem shr_natCast_div (a k : Nat) : Py.shr (a : Int) (k : Int) = ((a / 2 ^ k : Nat) : Int) := by
  rw [shr_natCast, Nat.shiftRight_eq_div_pow]

theorem shl_natCast (a k : Nat) : Py.shl (a : Int) (k : Int) = ((a * 2 ^ k : Nat) : Int) := by
  unfold Py.shl
  rw [Int.toNat_natCast]
  simp [Int.natCast_mul, Int.natCast_pow]

/-- operand and count as the translation writes them (`ai` a literal, `ki` e.g. `8 * ↑nb - 1`) -/
theorem shl_of_eq (a k : Nat) (ai ki : Int) (ha : ai = (a : Int)) (hk : ki = (k : Int)) :
    Py.shl ai ki = ((a * 2 ^ k : Nat) : Int) := by
  rw [ha, hk, shl_natCast]

theorem pow_natCast (a : Int) (k : Nat) : Py.pow a (k : Int) = a ^ k := by
  unfold Py.pow; rw [Int.toNat_natCast]

theorem fdiv_natCast (a b : Nat) : Py.fdiv (a : Int) (b : Int) = ((a / b : Nat) : Int) := by
  unfold Py.fdiv
  rw [Int.fdiv_eq_ediv_of_nonneg _ (Int.natCast_nonneg b)]
  rfl

theorem fmod_natCast (a b : Nat) : Py.fmod (a : Int) (b : Int) = ((a % b : Nat) : Int) := by
  unfold Py.fmod
  rw [Int.fmod_eq_emod_of_nonneg _ (Int.natCast_nonneg b)]
  rfl

theorem bitLength_natCast (n : Nat) : Py.bitLength (n : Int) = (Asn1.bitLength n : Int) := by
  unfold Py.bitLength Asn1.bitLength
  simp only [Int.natAbs_natCast]
  split <;> simp

theorem len_eq {α : Type} (xs : List α) : Py.len xs = (xs.length : Int) := rfl

theorem fuelOfInt_natCast (n : Nat) : Py.fuelOfInt (n : Int) = n := by
  simp [Py.fuelOfInt]

theorem mul_pow_or (a : Nat) {b n : Nat} (h : b < 2 ^ n) : a * 2 ^ n ||| b = a * 2 ^ n + b := by
  rw [Nat.mul_comm]; exact (Nat.two_pow_add_eq_or_of_lt h a).symm

theorem and_two_pow_eq_zero (x j : Nat) : x &&& 2 ^ j = 0 ↔ x.testBit j = false := by
  constructor
  · intro h
    have := congrArg (·.testBit j) h
    simpa [Nat.testBit_and, Nat.testBit_two_pow] using this
  · intro h
    apply Nat.eq_of_testBit_eq
    intro i
    simp only [Nat.testBit_and, Nat.testBit_two_pow, Nat.zero_testBit]
    by_cases hji : j = i
    · subst hji; simp [h]
    · simp [hji]

theorem and_two_pow_eq_zero_of_lt {x j : Nat} (hx : x < 2 ^ (j + 1)) : x &&& 2 ^ j = 0 ↔ x < 2 ^ j := by
  rw [and_two_pow_eq_zero, Nat.testBit_eq_decide_div_mod_eq]
  have hp : 0 < 2 ^ j := Nat.two_pow_pos j
  have h2 : x / 2 ^ j < 2 := by
    rw [Nat.div_lt_iff_lt_mul hp]; rw [Nat.pow_succ] at hx; omega
  constructor
  · intro h
    have h3 : x / 2 ^ j = 0 := by
      have : ¬ (x / 2 ^ j % 2 = 1) := by simpa using h
      generalize x / 2 ^ j = d at *
      omega
    exact (Nat.div_eq_zero_iff_lt hp).1 h3
  · intro h
    have : x / 2 ^ j = 0 := (Nat.div_eq_zero_iff_lt hp).2 h
    simp [this]

/-- `a & (2^k - 1)`; the masks of the translation are the literals `2^k - 1` -/
theorem band_low (a k : Nat) : Py.band (a : Int) ((2 ^ k - 1 : Nat) : Int) = ((a % 2 ^ k : Nat) : Int) := by
  rw [band_natCast, Nat.and_two_pow_sub_one_eq_mod]

theorem band255 (a : Nat) : Py.band (a : Int) 255 = ((a % 256 : Nat) : Int) := band_low a 8

theorem band127 (a : Nat) : Py.band (a : Int) 127 = ((a % 128 : Nat) : Int) := band_low a 7

theorem band63 (a : Nat) : Py.band (a : Int) 63 = ((a % 64 : Nat) : Int) := band_low a 6

theorem band31 (a : Nat) : Py.band (a : Int) 31 = ((a % 32 : Nat) : Int) := band_low a 5

theorem band7 (a : Nat) : Py.band (a : Int) 7 = ((a % 8 : Nat) : Int) := band_low a 3

/-- `c & 0x80` for an octet `c`: the continuation / long-form bit -/
theorem band128_eq_zero {c : Nat} (h : c < 128) : Py.band (c : Int) 128 = 0 := by
  have h3 : c &&& 2 ^ 7 = 0 := (and_two_pow_eq_zero_of_lt (by omega)).2 h
  rw [show (128 : Int) = ((2 ^ 7 : Nat) : Int) from rfl, band_natCast, h3]; rfl

theorem band128_ne_zero {c : Nat} (h1 : 128 ≤ c) (h2 : c < 256) : Py.band (c : Int) 128 ≠ 0 := by
  rw [show (128 : Int) = ((2 ^ 7 : Nat) : Int) from rfl, band_natCast, Ne, Int.natCast_eq_zero,
    and_two_pow_eq_zero_of_lt (by omega)]
  omega

theorem band128_eq_zero_iff {v : Nat} (hv : v < 256) : Py.band (v : Int) 128 = 0 ↔ v < 128 :=
  ⟨fun h => Nat.lt_of_not_le fun c => band128_ne_zero c hv h, band128_eq_zero⟩

/-- `if c & 0x80:` -/
theorem truthy_band128 {c : Nat} (h1 : 128 ≤ c) (h2 : c < 256) : Py.truthyInt (Py.band (c : Int) 128) = true := by
  simpa [Py.truthyInt] using band128_ne_zero h1 h2

theorem not_truthy_band128 {c : Nat} (h : c < 128) : Py.truthyInt (Py.band (c : Int) 128) = false := by
  rw [band128_eq_zero h]; rfl

theorem and192 (v : Nat) : v &&& 192 = v / 64 % 4 * 64 := by
  have h1 : (v &&& 192) % 2 ^ 6 = 0 := by
    rw [Nat.and_mod_two_pow]
    show v % 2 ^ 6 &&& 0 = 0
    exact Nat.and_zero _
  have h2 : (v &&& 192) >>> 6 = v / 64 % 4 := by
    rw [Nat.shiftRight_and_distrib]
    show (v >>> 6) &&& (2 ^ 2 - 1) = _
    rw [Nat.and_two_pow_sub_one_eq_mod, Nat.shiftRight_eq_div_pow]
  rw [Nat.shiftRight_eq_div_pow] at h2
  rw [← Nat.div_add_mod (v &&& 192) (2 ^ 6), h1, h2, Nat.add_zero, Nat.mul_comm]

/-- `c & 0xc0 == 0x80` for an octet with bit 8 set: the two-octet form of the PER length determinant -/
theorem band192_eq_128_iff {v : Nat} (h1 : 128 ≤ v) (h2 : v < 256) : Py.band (v : Int) 192 = 128 ↔ v < 192 := by
  rw [show (192 : Int) = ((192 : Nat) : Int) from rfl, band_natCast, and192]
  omega

theorem shr8 (a : Nat) : Py.shr (a : Int) 8 = ((a / 256 : Nat) : Int) := shr_natCast_div a 8

theorem shr7 (a : Nat) : Py.shr (a : Int) 7 = ((a / 128 : Nat) : Int) := shr_natCast_div a 7

theorem bor128 {b : Nat} (h : b < 128) : Py.bor 128 (b : Int) = ((128 + b : Nat) : Int) := by
  rw [← mul_pow_or 1 (n := 7) h]; exact bor_natCast 128 b

theorem bor256 {b : Nat} (h : b < 256) : Py.bor 256 (b : Int) = ((256 + b : Nat) : Int) := by
  rw [← mul_pow_or 1 (n := 8) h]; exact bor_natCast 256 b

theorem shl7 (a : Nat) : Py.shl (a : Int) 7 = ((a * 128 : Nat) : Int) := shl_natCast a 7

theorem shl1 (a : Nat) : Py.shl (a : Int) 1 = ((a * 2 : Nat) : Int) := shl_natCast a 1

/-- `8 * number_of_bytes` as the translation writes it -/
theorem mul8 (k : Nat) : (8 : Int) * (k : Int) = ((8 * k : Nat) : Int) := (Int.natCast_mul 8 k).symm

theorem fdiv8 (a : Nat) : Py.fdiv (a : Int) 8 = ((a / 8 : Nat) : Int) := fdiv_natCast a 8

theorem fmod8 (a : Nat) : Py.fmod (a : Int) 8 = ((a % 8 : Nat) : Int) := fmod_natCast a 8

/-- `xs[a:a+n]` for non-negative `a`, `n`, without any bound on the list -/
theorem slice_nat {α : Type} (xs : List α) (a n : Nat) :
    Py.slice xs (a : Int) ((a : Int) + (n : Int)) = (xs.drop a).take n := by
  rw [← Int.natCast_add]
  unfold Py.slice Py.clamp
  simp only [ge_iff_le, Int.natCast_nonneg, if_true, Int.toNat_natCast]
  by_cases h : a ≤ xs.length
  · rw [Nat.min_eq_left h, ← Nat.sub_min_sub_right, Nat.add_sub_cancel_left, ← List.length_drop, ← List.take_eq_take_min]
  · have h := Nat.le_of_not_le h
    rw [Nat.min_eq_right h, List.drop_length, List.drop_eq_nil_of_le h, List.take_nil, List.take_nil]

theorem ite_decide_congr {α : Type} {p q : Prop} [Decidable p] [Decidable q] (h : p ↔ q) (x y : α) :
    (if decide p then x else y) = if q then x else y := by
  simp only [decide_eq_true_eq, h]

/-- `ki` is the `Int` literal of the translation, `k` the `Nat` literal of the model (`hk` is `rfl`) -/
theorem ite_natCast_lt {α : Type} (n k : Nat) (ki : Int) (hk : ki = k) (x y : α) :
    (if decide ((n : Int) < ki) then x else y) = if n < k then x else y := by
  simp only [hk, decide_eq_true_eq, Int.ofNat_lt]

end Py
