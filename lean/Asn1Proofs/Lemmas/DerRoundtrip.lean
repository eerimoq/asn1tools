import Asn1Proofs.Lemmas.ExtBer
import Asn1Proofs.Lemmas.ExtLemmas
/-
  Round trip of the DER and the BER model in any tagging context (`rt_all_der`, `rt_all_ber`; C01b
  states them for `encode` / `decode_with_length`, also the `decode_with_length` part of C15): the
  round trip of a type is its cross-version round trip with itself (`rt_of_xt`; `Ext.DerX.xt_all`,
  `Ext.BerX.xtb_all` at `Compat.refl t`).

  The canonical value is `canon'` = `X690.canonV`, not `Typing.canon` (DerDefs), so the hypothesis on
  DEFAULT values is `X690.defaultsOkV` (they are in `canonV` normal form) and not `Ty.defaultsOk`; the
  side condition `Oer.oerWf` is explained at `RT` (DerDefs).  Neither can be dropped: DerCounterexample.
-/
namespace Asn1.Der
open Asn1.X690 (canonV)

theorem rt_of_xt {D : Decoder} {t : Ty} (h : Ext.DerX.XTg D t t) : RT D t := by
  intro tg v bytes rest fuel hwf hwf2 hd ht he hf
  rw [← Ext.canonG_true, ← Ext.view_self true hwf ht]
  exact h tg v bytes rest fuel hwf hwf2 hd (Ext.dOk_self true hwf (Ext.defaultsOkG_true t ▸ hd)) ht he hf

theorem rt_all_der (t : Ty) : RT dec t := rt_of_xt (Ext.DerX.xt_all (.refl t))

theorem rt_all_ber (t : Ty) : RT BerCodec.dec t := rt_of_xt (Ext.BerX.xtb_all (.refl t))

end Asn1.Der

#print axioms Asn1.Der.enc_total
