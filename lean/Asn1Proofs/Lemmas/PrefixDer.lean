import Asn1Model.Der
import Asn1Proofs.Lemmas.DerPrim
/-
  C16 for the DER model.  Every DER encoding (other than a bare CHOICE, which is the encoding of its
  alternative) is `tag ++ definite length ++ contents`, and every DER decoder first matches the tag and
  then `readLen` checks that the announced contents are all there: on a strict prefix this fails with
  `decodeError` before anything else is looked at.  So truncation needs no walk over the decoder here
  (and `readLen` looks ahead at the whole rest of the input, which `Cut` of `PrefixCore.lean` has no
  place for); what is proved is rejection of a cut ENCODING, not prefix determinism on arbitrary input.
-/
namespace Asn1.Der
open Asn1.Oer (splitAux)

/-- `q` is a strict prefix of `full` -/
def SPre (q full : Bytes) : Prop := ∃ x, x ≠ [] ∧ full = q ++ x

theorem split_short (T q rest : Bytes) (h : SPre q (T ++ rest)) :
    splitAux T.length q [] = none ∨
      ∃ q', splitAux T.length q [] = some (T, q') ∧ SPre q' rest := by
  obtain ⟨x, hx, he⟩ := h
  rw [Oer.splitAux_eq]
  by_cases hlen : T.length ≤ q.length
  · right
    rw [if_pos hlen]
    have htake : q.take T.length = T := by
      have := congrArg (List.take T.length) he
      rw [List.take_left', List.take_append_of_le_length hlen] at this
      · exact this.symm
      · rfl
    have hdrop : rest = q.drop T.length ++ x := by
      have := congrArg (List.drop T.length) he
      rw [List.drop_left', List.drop_append_of_le_length hlen] at this
      · exact this
      · rfl
    exact ⟨q.drop T.length, by simp only [List.reverse_nil, List.nil_append, htake], x, hx, hdrop⟩
  · left
    rw [if_neg hlen]

theorem readLen_short (d : Bool) (q content : Bytes)
    (h : SPre q (Ber.encLength content.length ++ content)) :
    readLen d q = .error .decodeError := by
  obtain ⟨x, hx, he⟩ := h
  have hxl : 0 < x.length := List.length_pos_iff.mpr hx
  cases q with
  | nil => rfl
  | cons l r =>
    unfold Ber.encLength at he
    by_cases hn : content.length ≤ 127
    · rw [if_pos hn] at he
      simp only [List.cons_append, List.nil_append, List.cons.injEq] at he
      obtain ⟨hl, hc⟩ := he
      have hr : r.length < content.length := by
        have := congrArg List.length hc
        simp only [List.length_append] at this
        omega
      subst hl
      simp only [readLen]
      rw [if_pos (by omega), hasN_eq]
      simp only [decide_eq_true_eq]
      rw [if_neg (by omega)]
    · rw [if_neg hn] at he
      simp only [List.cons_append, List.cons.injEq] at he
      obtain ⟨hl, hc⟩ := he
      have hds : (natToBytesMin content.length).length = byteLength content.length := by
        unfold natToBytesMin; exact natToBytesN_length _ _
      have h1 := Ber.one_le_byteLength content.length (by omega)
      have hval := bytesToNat_natToBytesMin content.length
      generalize natToBytesMin content.length = ds at hl hc hds hval
      subst hl
      simp only [readLen]
      -- the first length octet is `0x80 + ds.length` with `1 ≤ ds.length` (`h1`): neither the short form
      -- nor the indefinite form `0x80`
      rw [if_neg (by omega), if_neg (by omega), show 128 + ds.length - 128 = ds.length by omega]
      -- the length octets are all there (then the contents are not), or they are not
      rcases split_short ds r content ⟨x, hx, hc⟩ with h2 | ⟨r', h2, x', hx', hc'⟩
      · rw [h2]
      · rw [h2]
        have : ¬ content.length ≤ r'.length := by
          have := congrArg List.length hc'
          have := List.length_pos_iff.mpr hx'
          simp only [List.length_append] at *
          omega
        simp only [hval, hasN_eq, decide_eq_true_eq, if_neg this]

theorem matchTag_short (tag q rest : Bytes) (h : SPre q (tag ++ rest)) :
    matchTag tag q = .error .decodeError ∨
      ∃ q', matchTag tag q = .ok (some q') ∧ SPre q' rest := by
  unfold matchTag
  rcases split_short tag q rest h with h1 | ⟨q', h1, h2⟩
  · rw [h1]; exact .inl rfl
  · rw [h1]; exact .inr ⟨q', by simp only [beq_self_eq_true, if_true], h2⟩

/-- `hk`: the decoder goes on with `readLen` after `matchTag tag` -/
theorem matchTag_bind_short {α : Type} (tag q content : Bytes) (h : SPre q (tlv tag content))
    (k : Option Bytes → DecM α)
    (hk : ∀ q', (∀ d, readLen d q' = .error .decodeError) → k (some q') = .error .decodeError) :
    (matchTag tag q >>= k) = .error .decodeError := by
  rw [tlv_eq] at h
  rcases matchTag_short tag q _ h with h1 | ⟨q', h1, h2⟩
  · exact bind_eq_of_error h1
  · exact (bind_eq_of_ok h1).trans (hk q' fun d => readLen_short d q' content h2)

theorem readPrim_short (tag q content : Bytes) (h : SPre q (tlv tag content)) :
    readPrim tag q = .error .decodeError :=
  matchTag_bind_short tag q content h _ fun _ hl => bind_eq_of_error (hl true)

theorem dec_short (t : Ty) (tg : Option Nat) (fuel : Nat) (q content : Bytes)
    (hne : tg.isSome = true ∨ ∀ r e a, t ≠ .choice r e a)
    (h : SPre q (tlv (tagOf t tg) content)) : dec t tg fuel q = .error .decodeError := by
  cases t with
  | boolean => exact bind_eq_of_error (readPrim_short _ q content h)
  | null => exact matchTag_bind_short _ q content h _ fun _ hl => bind_eq_of_error (hl _)
  | integer c => exact bind_eq_of_error (readPrim_short _ q content h)
  | enumerated root ext => exact bind_eq_of_error (readPrim_short _ q content h)
  | octetString c => exact bind_eq_of_error (readPrim_short _ q content h)
  | bitString c => exact bind_eq_of_error (readPrim_short _ q content h)
  | charString k c => exact bind_eq_of_error (readPrim_short _ q content h)
  | sequence root ext adds =>
    exact matchTag_bind_short _ q content h _ fun _ hl => bind_eq_of_error (hl _)
  | sequenceOf e c => exact matchTag_bind_short _ q content h _ fun _ hl => bind_eq_of_error (hl _)
  | choice root ext adds =>
    cases tg with
    | none =>
      rcases hne with hne | hne
      · cases hne
      · exact absurd rfl (hne root ext adds)
    | some i => exact matchTag_bind_short _ q content h _ fun _ hl => bind_eq_of_error (hl _)

theorem encLength_zero : Ber.encLength 0 = [0] := rfl

end Asn1.Der
