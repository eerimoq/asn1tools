import Asn1Proofs.Lemmas.PrepList
import Asn1Proofs.Lemmas.PrepExt
import Asn1Proofs.Lemmas.PrepAll
/-
  Pass 1 (`pre_process_components_of`) on one type assignment: the expanded member list contains no
  COMPONENTS OF entry, a member list without such an entry is left alone, and the other passes keep
  the absence.  Everything that is copied comes from the dictionary, so `SpecAll P` is kept: a lookup
  returns a descriptor of the dictionary.
-/
namespace Asn1.SpecDict

/-- no `{'components-of': …}` entry in a member list -/
def noCompOf : List Item → Bool
  | [] => true
  | .compOf _ :: _ => false
  | _ :: t => noCompOf t

/-- the member list of the descriptor itself (not of nested descriptors) has no COMPONENTS OF entry -/
def Desc.topClean : Desc → Bool
  | .mk _ (.members ms) => noCompOf ms
  | _ => true

theorem noCompOf_append (l₁ l₂ : List Item) :
    noCompOf (l₁ ++ l₂) = (noCompOf l₁ && noCompOf l₂) := by
  induction l₁ with
  | nil => simp [noCompOf]
  | cons i t ih => cases i <;> simp [noCompOf, ih]

theorem noCompOf_takeRoot {l : List Item} (h : noCompOf l = true) : noCompOf (takeRoot l) = true := by
  induction l with
  | nil => rfl
  | cons i t ih =>
    cases i with
    | marker => rfl
    | compOf r => simp [noCompOf] at h
    | group g => simp only [noCompOf] at h; simp [takeRoot, noCompOf, ih h]
    | desc d => simp only [noCompOf] at h; simp [takeRoot, noCompOf, ih h]

theorem noCompOf_addMarker (l : List Item) : noCompOf (addMarker l) = noCompOf l :=
  addMarker_rec (C := fun x => noCompOf x = noCompOf l) rfl (by simp [noCompOf_append, noCompOf])

theorem noCompOf_extItems (l : List Item) : noCompOf (extItems l) = noCompOf l := by
  induction l with
  | nil => simp [extItems]
  | cons i t ih => cases i <;> simp [extItems, extItem, noCompOf, ih]

theorem noCompOf_tagItems (sk : Skel) (mt mn : String) (k : Option Nat) (l : List Item) :
    noCompOf (tagItems sk mt mn k l) = noCompOf l := by
  induction l generalizing k with
  | nil => simp [tagItems]
  | cons i t ih => cases i <;> simp [tagItems, noCompOf, ih]

theorem noCompOf_defItems (sk : Skel) (n : Bool) (mn : String) (c : Bool) (l : List Item) :
    noCompOf (defItems sk n mn c l) = noCompOf l := by
  induction l with
  | nil => simp [defItems]
  | cons i t ih => cases i <;> simp [defItems, defItem, noCompOf, ih]

theorem expandWith_of_noCompOf (rec : String → List Item → List Item) (spec : Spec) (lf : Nat)
    (mod : String) {l : List Item} (h : noCompOf l = true) : expandWith rec spec lf mod l = l := by
  induction l with
  | nil => rfl
  | cons i t ih =>
    cases i with
    | compOf r => simp [noCompOf] at h
    | marker => simp only [noCompOf] at h; simp [expandWith, ih h]
    | group g => simp only [noCompOf] at h; simp [expandWith, ih h]
    | desc d => simp only [noCompOf] at h; simp [expandWith, ih h]

theorem noCompOf_expandWith (rec : String → List Item → List Item) (spec : Spec) (lf : Nat)
    (mod : String) (hrec : ∀ mod' ms, noCompOf (rec mod' ms) = true) (l : List Item) :
    noCompOf (expandWith rec spec lf mod l) = true := by
  induction l with
  | nil => rfl
  | cons i t ih =>
    cases i with
    | compOf r =>
      simp only [expandWith, noCompOf_append, ih, Bool.and_true]
      split
      · exact noCompOf_takeRoot (hrec _ _)
      · rfl
    | marker => simp [expandWith, noCompOf, ih]
    | group g => simp [expandWith, noCompOf, ih]
    | desc d => simp [expandWith, noCompOf, ih]

theorem noCompOf_expandItems (spec : Spec) (lf : Nat) (f : Nat) (mod : String) (l : List Item) :
    noCompOf (expandItems spec lf f mod l) = true := by
  induction f generalizing mod l with
  | zero => rfl
  | succ f ih => exact noCompOf_expandWith _ spec lf mod (fun mod' ms => ih mod' ms) l

theorem topClean_compOfType (spec : Spec) (mn : String) (d : Desc) :
    (compOfType spec mn d).topClean = true := by
  cases d with
  | mk a b =>
    cases b with
    | leaf => rfl
    | element e => rfl
    | members ms => simp only [compOfType, Desc.topClean]; exact noCompOf_expandItems ..

theorem compOfType_of_topClean (spec : Spec) (mn : String) {d : Desc} (h : d.topClean = true) :
    compOfType spec mn d = d := by
  cases d with
  | mk a b =>
    cases b with
    | leaf => rfl
    | element e => rfl
    | members ms =>
      simp only [Desc.topClean] at h
      simp only [compOfType, resolveFuel, expandItems]
      rw [expandWith_of_noCompOf _ _ _ _ h]

@[simp] theorem compOfType_attrs (spec : Spec) (mn : String) (d : Desc) :
    (compOfType spec mn d).attrs = d.attrs := by
  cases d with
  | mk a b => cases b <;> rfl

/-- every descriptor of every type assignment of the dictionary satisfies P -/
def SpecAll (P : Attrs → Prop) (spec : Spec) : Prop :=
  ∀ mn m, (mn, m) ∈ spec → ∀ k d, (k, d) ∈ m.types → d.All P

section
variable {P : Attrs → Prop}

theorem lookupType_all {spec : Spec} (h : SpecAll P spec) {f : Nat} {name mod : String}
    {td : Desc} {mod' : String} (hl : lookupType spec f name mod = some (td, mod')) : td.All P := by
  induction f generalizing mod with
  | zero => simp [lookupType] at hl
  | succ f ih =>
    simp only [lookupType] at hl
    split at hl
    · cases hl
    · rename_i m hm
      split at hl
      · rename_i td' htd
        cases hl
        exact h _ _ (find?_mem hm) _ _ (find?_mem htd)
      · split at hl
        · cases hl
        · exact ih hl

theorem lookupCore_skel (s : Spec) (f : Nat) (name mod : String) :
    lookupCore (skel s) f name mod
      = (lookupType s f name mod).map (fun p => (p.1.attrs.core, p.2)) := by
  induction f generalizing mod with
  | zero => rfl
  | succ f ih =>
    simp only [lookupCore, lookupType, find?_skel]
    cases find? mod s with
    | none => rfl
    | some m =>
      simp only [Option.map_some, Module.skel, find?_typesSkel]
      cases find? name m.types with
      | some td => rfl
      | none =>
        simp only [Option.map_none]
        cases importFrom name m.imports with
        | none => rfl
        | some frm => exact ih frm

theorem ItemsAll_expandWith {spec : Spec} (h : SpecAll P spec)
    (rec : String → List Item → List Item) (lf : Nat) (mod : String)
    (hrec : ∀ mod' ms, ItemsAll P ms → ItemsAll P (rec mod' ms))
    {l : List Item} (hl : ItemsAll P l) : ItemsAll P (expandWith rec spec lf mod l) :=
  match l, hl with
  | [], _ => trivial
  | .marker :: _, ⟨hi, ht⟩ => ⟨hi, ItemsAll_expandWith h rec lf mod hrec ht⟩
  | .group _ :: _, ⟨hi, ht⟩ => ⟨hi, ItemsAll_expandWith h rec lf mod hrec ht⟩
  | .desc _ :: _, ⟨hi, ht⟩ => ⟨hi, ItemsAll_expandWith h rec lf mod hrec ht⟩
  | .compOf r :: t, ⟨_, ht⟩ => by
    simp only [expandWith]
    refine ItemsAll_append.2 ⟨?_, ItemsAll_expandWith h rec lf mod hrec ht⟩
    split
    · rename_i heq
      exact ItemsAll_takeRoot (hrec _ _ (lookupType_all h heq).2)
    · trivial

theorem ItemsAll_expandItems {spec : Spec} (h : SpecAll P spec) (lf f : Nat) (mod : String)
    {l : List Item} (hl : ItemsAll P l) : ItemsAll P (expandItems spec lf f mod l) := by
  induction f generalizing mod l with
  | zero => trivial
  | succ f ih => exact ItemsAll_expandWith h _ lf mod (fun mod' ms hms => ih mod' hms) hl

theorem Desc.All.compOfType {spec : Spec} (h : SpecAll P spec) (mn : String) {d : Desc}
    (hd : d.All P) : (compOfType spec mn d).All P :=
  match d, hd with
  | .mk _ .leaf, hd => hd
  | .mk _ (.element _), hd => hd
  | .mk _ (.members _), ⟨ha, hb⟩ => ⟨ha, ItemsAll_expandItems h _ _ _ hb⟩

end

end Asn1.SpecDict
