import Asn1Proofs.Lemmas.X690Tag
import Asn1Proofs.Lemmas.Typed
/-
  C03 / C04: the specification encoder `X690.encV` / `encComponents` / `encAlternative` case by case, and the
  outer form of what it writes (`encV_cases`; for the code's encoder: `Der.enc_form`).
-/
namespace Asn1.X690
open Asn1.Uper (Err)

theorem encV_boolean (tg : Option Nat) (b : Bool) :
    encV .boolean tg (.bool b) = .ok (tlv (header .boolean tg false) (booleanContents b)) := rfl

theorem encV_null (tg : Option Nat) : encV .null tg .null = .ok (tlv (header .null tg false) []) := rfl

theorem encV_integer (c : IntC) (tg : Option Nat) (i : Int) :
    encV (.integer c) tg (.int i) = .ok (tlv (header (.integer c) tg false) (integerContents i)) := rfl

theorem encV_enumerated (root : List (String × Int)) (ext : Option (List (String × Int))) (tg : Option Nat)
    (name : String) :
    encV (.enumerated root ext) tg (.enum name) =
      match enumNumber name (root ++ ext.getD []) with
      | none => .error .encodeError
      | some i => .ok (tlv (header (.enumerated root ext) tg false) (integerContents i)) := rfl

theorem encV_octetString (c : SizeC) (tg : Option Nat) (data : Bytes) :
    encV (.octetString c) tg (.bytes data) = .ok (tlv (header (.octetString c) tg false) data) := rfl

theorem encV_bitString (c : SizeC) (tg : Option Nat) (data : Bytes) (n : Nat) :
    encV (.bitString c) tg (.bits data n)
      = .ok (tlv (header (.bitString c) tg false) (bitStringContents data n)) := rfl

theorem encV_charString (k : StrKind) (c : SizeC) (tg : Option Nat) (cps : List Nat) :
    encV (.charString k c) tg (.str cps) =
      match charContents k cps with
      | .error e => .error e
      | .ok bs => .ok (tlv (header (.charString k c) tg false) bs) := rfl

theorem encV_sequence (root : Members) (e : Bool) (adds : Members) (tg : Option Nat) (fs : List (String × Val)) :
    encV (.sequence root e adds) tg (.record fs) =
      match encComponents root 0 fs with
      | .error err => .error err
      | .ok a =>
        match encComponents adds root.length fs with
        | .error err => .error err
        | .ok b => .ok (tlv (header (.sequence root e adds) tg true) (a ++ b)) := rfl

theorem encV_sequenceOf (e : Ty) (c : SizeC) (tg : Option Nat) (vs : List Val) :
    encV (.sequenceOf e c) tg (.list vs) =
      match vs.mapM (encV e none) with
      | .error err => .error err
      | .ok items => .ok (tlv (header (.sequenceOf e c) tg true) items.flatten) := rfl

/-- 8.13: the encoding of the chosen alternative -/
def encChosen (root adds : Alts) (name : String) (v : Val) : Except Err Bytes :=
  match encAlternative root 0 name v with
  | some r => r
  | none =>
    match encAlternative adds root.length name v with
    | some r => r
    | none => .error .encodeError

/-- 8.14.2: the explicit tag around a CHOICE that is a component -/
def explicitTag (tg : Option Nat) (chosen : Except Err Bytes) : Except Err Bytes :=
  match tg with
  | none => chosen
  | some i =>
    match chosen with
    | .error err => .error err
    | .ok body => .ok (tlv (identifier .context true i) body)

theorem encV_choice (root : Alts) (ext : Bool) (adds : Alts) (tg : Option Nat) (name : String) (v : Val) :
    encV (.choice root ext adds) tg (.choice name v) = explicitTag tg (encChosen root adds name v) := by
  cases tg <;> rfl

/-- 8.9.2 / 11.5 for one component: nothing for an absent OPTIONAL / DEFAULT one and for one equal to
its DEFAULT value, an error for an absent mandatory one -/
def compHere (name : String) (p : Presence) (t : Ty) (i : Nat) (fs : List (String × Val)) :
    Except Err Bytes :=
  match lookup name fs with
  | some v =>
    match p with
    | .default d => if isDefaultValue t v d then .ok [] else encV t (some i) v
    | _ => encV t (some i) v
  | none =>
    match p with
    | .mandatory => .error .encodeError
    | _ => .ok []

theorem encComponents_nil (i : Nat) (fs : List (String × Val)) : encComponents .nil i fs = .ok [] := rfl

theorem encComponents_cons (name : String) (p : Presence) (t : Ty) (rest : Members) (i : Nat)
    (fs : List (String × Val)) :
    encComponents (.cons name p t rest) i fs =
      (match compHere name p t i fs with
       | .error err => .error err
       | .ok a =>
         match encComponents rest (i + 1) fs with
         | .error err => .error err
         | .ok b => .ok (a ++ b)) := by
  cases p <;> rfl

theorem encAlternative_find (as : Alts) (i : Nat) (name : String) (v : Val) :
    encAlternative as i name v = (as.find name).map (fun x => encV x.2 (some (i + x.1)) v) :=
  Alts.search_idx_map name (f := fun i as => encAlternative as i name v) (fun _ _ _ _ => rfl) (fun _ => rfl) i as

theorem encAlternative_some {as : Alts} {i : Nat} {name : String} {v : Val} {r : Except Uper.Err Bytes}
    (h : encAlternative as i name v = some r) : ∃ t j, r = encV t (some j) v := by
  rw [encAlternative_find] at h
  cases hf : as.find name with
  | none => rw [hf] at h; cases h
  | some x => rw [hf] at h; cases h; exact ⟨x.2, i + x.1, rfl⟩

/-- identifier octets, length octets, contents -- except for a bare CHOICE, whose encoding is that of
the chosen alternative in its component context -/
theorem encV_cases {t : Ty} {tg : Option Nat} {v : Val} {bytes : Bytes} (h : encV t tg v = .ok bytes) :
    (∃ c content, bytes = tlv (header t tg c) content) ∨
    (tg = none ∧ ∃ t' j v', encV t' (some j) v' = .ok bytes) := by
  cases t <;> cases v <;> first | (cases h; done) | simp only [encV] at h
  case boolean.bool => cases h; exact .inl ⟨_, _, rfl⟩
  case null.null => cases h; exact .inl ⟨_, _, rfl⟩
  case integer.int => cases h; exact .inl ⟨_, _, rfl⟩
  case enumerated.enum =>
    split at h
    · cases h
    · cases h; exact .inl ⟨_, _, rfl⟩
  case octetString.bytes => cases h; exact .inl ⟨_, _, rfl⟩
  case bitString.bits => cases h; exact .inl ⟨_, _, rfl⟩
  case charString.str =>
    split at h
    · cases h
    · cases h; exact .inl ⟨_, _, rfl⟩
  case sequence.record =>
    split at h
    · cases h
    · split at h
      · cases h
      · cases h; exact .inl ⟨_, _, rfl⟩
  case sequenceOf.list =>
    split at h
    · cases h
    · cases h; exact .inl ⟨_, _, rfl⟩
  case choice.choice root ext adds name v =>
    cases tg with
    | some i =>
      simp only [] at h
      split at h
      · cases h
      · cases h; exact .inl ⟨true, _, rfl⟩
    | none =>
      simp only [] at h
      refine .inr ⟨rfl, ?_⟩
      split at h
      · rename_i r hr
        obtain ⟨t', j, e⟩ := encAlternative_some hr
        exact ⟨t', j, v, e ▸ h⟩
      · split at h
        · rename_i r hr
          obtain ⟨t', j, e⟩ := encAlternative_some hr
          exact ⟨t', j, v, e ▸ h⟩
        · cases h

end Asn1.X690
