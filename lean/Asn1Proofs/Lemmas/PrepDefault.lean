import Asn1Proofs.Lemmas.PrepTags
import Asn1Proofs.Lemmas.PrepAll
/-
  Pass 4 of the dictionary rewrite (`pre_process_default_value`) on descriptors:
  it commutes with the tag pass and the EXTENSIBILITY IMPLIED pass, a second application (possibly
  with another `numeric_enums` flag) is absorbed wherever the attribute-level conversion absorbs it,
  and it keeps "every descriptor satisfies P".
-/
namespace Asn1.SpecDict

section
variable (sk : Skel) (n : Bool) (mn : String)

theorem convAttrs_eq (a : Attrs) :
    convAttrs sk n mn a
      = { a with default := a.default.map (convDefault n (resolve sk a.core mn)) } := by
  obtain ⟨ty, nm, tg, op, df, vs, nb, ex⟩ := a
  cases df <;> rfl

@[simp] theorem convAttrs_core (a : Attrs) : (convAttrs sk n mn a).core = a.core := by
  rw [convAttrs_eq]; rfl

@[simp] theorem convAttrs_type (a : Attrs) : (convAttrs sk n mn a).type = a.type :=
  congrArg Core.type (convAttrs_core sk n mn a)

@[simp] theorem convAttrs_tag (a : Attrs) : (convAttrs sk n mn a).tag = a.tag := by
  rw [convAttrs_eq]

theorem convAttrs_default (a : Attrs) :
    (convAttrs sk n mn a).default = a.default.map (convDefault n (resolve sk a.core mn)) := by
  rw [convAttrs_eq]

theorem kind_num_convAttrs (mt mn' : String) (k : Option Nat) (a : Attrs) :
    kindAttrs sk mt mn' (numAttrs k (convAttrs sk n mn a))
      = convAttrs sk n mn (kindAttrs sk mt mn' (numAttrs k a)) := by
  obtain ⟨ty, nm, tg, op, df, vs, nb, ex⟩ := a
  cases df <;> cases k <;> cases tg with
    | none => rfl
    | some t => obtain ⟨num, c, kd⟩ := t; cases kd <;> rfl

@[simp] theorem defDesc_attrs (c : Bool) (d : Desc) :
    (defDesc sk n mn c d).attrs = if c then convAttrs sk n mn d.attrs else d.attrs := by
  cases d; simp [defDesc, Desc.attrs]

theorem defDesc_tag_isSome (c : Bool) (d : Desc) :
    (defDesc sk n mn c d).attrs.tag.isSome = d.attrs.tag.isSome := by
  cases c <;> simp

@[simp] theorem defDescs_length (c : Bool) (g : List Desc) : (defDescs sk n mn c g).length = g.length := by
  induction g with
  | nil => simp [defDescs]
  | cons d t ih => simp [defDescs, ih]

theorem anyTaggedDescs_defDescs (c : Bool) (g : List Desc) :
    anyTaggedDescs (defDescs sk n mn c g) = anyTaggedDescs g := by
  induction g with
  | nil => simp [defDescs]
  | cons d t ih => cases c <;> simp [defDescs, anyTaggedDescs, ih]

theorem anyTagged_defItems (c : Bool) (l : List Item) :
    anyTagged (defItems sk n mn c l) = anyTagged l := by
  induction l with
  | nil => simp [defItems]
  | cons i t ih =>
    cases i <;> cases c <;> simp [defItems, defItem, anyTagged, ih, anyTaggedDescs_defDescs]

theorem hasMarker_defItems (c : Bool) (l : List Item) :
    hasMarker (defItems sk n mn c l) = hasMarker l := by
  induction l with
  | nil => simp [defItems]
  | cons i t ih => cases i <;> simp [defItems, defItem, hasMarker, ih]

theorem defItems_append_marker (c : Bool) (l : List Item) :
    defItems sk n mn c (l ++ [.marker]) = defItems sk n mn c l ++ [.marker] := by
  induction l with
  | nil => simp [defItems, defItem]
  | cons i t ih => simp [defItems, ih]

mutual
  theorem extDesc_defDesc (c : Bool) (d : Desc) :
      extDesc (defDesc sk n mn c d) = defDesc sk n mn c (extDesc d) :=
    match d with
    | .mk _ b => congrArg (Desc.mk _) (extBody_defBody _ b)
  theorem extBody_defBody (c : Bool) (b : Body) :
      extBody (defBody sk n mn c b) = defBody sk n mn c (extBody b) :=
    match b with
    | .leaf => rfl
    | .element e => congrArg Body.element (extDesc_defDesc false e)
    | .members ms => by
      simp only [defBody, extBody]
      rw [extItems_defItems c ms,
        map_addMarker (hasMarker_defItems sk n mn c _) (defItems_append_marker sk n mn c _)]
  theorem extItems_defItems (c : Bool) (l : List Item) :
      extItems (defItems sk n mn c l) = defItems sk n mn c (extItems l) :=
    match l with
    | [] => rfl
    | i :: t => cons_congr (extItem_defItem c i) (extItems_defItems c t)
  theorem extItem_defItem (c : Bool) (i : Item) :
      extItem (defItem sk n mn c i) = defItem sk n mn c (extItem i) :=
    match i with
    | .marker => rfl
    | .compOf _ => rfl
    | .group g => congrArg Item.group (extDescs_defDescs c g)
    | .desc d => congrArg Item.desc (extDesc_defDesc c d)
  theorem extDescs_defDescs (c : Bool) (g : List Desc) :
      extDescs (defDescs sk n mn c g) = defDescs sk n mn c (extDescs g) :=
    match g with
    | [] => rfl
    | d :: t => cons_congr (extDesc_defDesc c d) (extDescs_defDescs c t)
end

section
variable (mt mn' : String)

mutual
  theorem tagDesc_defDesc (k : Option Nat) (c : Bool) (d : Desc) :
      tagDesc sk mt mn' k (defDesc sk n mn c d) = defDesc sk n mn c (tagDesc sk mt mn' k d) :=
    match d with
    | .mk a b => by
      simp only [defDesc, tagDesc, kindAttrs_type, numAttrs_type]
      rw [tagBody_defBody _ b]
      cases c with
      | false => rfl
      | true => simp [kind_num_convAttrs]
  theorem tagBody_defBody (c : Bool) (b : Body) :
      tagBody sk mt mn' (defBody sk n mn c b) = defBody sk n mn c (tagBody sk mt mn' b) :=
    match b with
    | .leaf => rfl
    | .element e => congrArg Body.element (tagDesc_defDesc none false e)
    | .members ms => by
      simp only [defBody, tagBody]
      rw [anyTagged_defItems, tagItems_defItems _ c ms]
  theorem tagItems_defItems (k : Option Nat) (c : Bool) (l : List Item) :
      tagItems sk mt mn' k (defItems sk n mn c l) = defItems sk n mn c (tagItems sk mt mn' k l) :=
    match l with
    | [] => rfl
    | .marker :: t => cons_congr rfl (tagItems_defItems k c t)
    | .compOf _ :: t => cons_congr rfl (tagItems_defItems k c t)
    | .group g :: t => by
      simp only [defItems, defItem, tagItems, defDescs_length]
      rw [tagDescs_defDescs k c g, tagItems_defItems _ c t]
    | .desc d :: t =>
      cons_congr (congrArg Item.desc (tagDesc_defDesc k c d)) (tagItems_defItems _ c t)
  theorem tagDescs_defDescs (k : Option Nat) (c : Bool) (g : List Desc) :
      tagDescs sk mt mn' k (defDescs sk n mn c g) = defDescs sk n mn c (tagDescs sk mt mn' k g) :=
    match g with
    | [] => rfl
    | d :: t => cons_congr (tagDesc_defDesc k c d) (tagDescs_defDescs _ c t)
end
end

section
variable {P : Attrs → Prop} (hP : ∀ a, P a → P (convAttrs sk n mn a))
include hP

mutual
  theorem Desc.All.dflt (c : Bool) (d : Desc) (hd : d.All P) : (defDesc sk n mn c d).All P :=
    match d, hd with
    | .mk a b, ⟨ha, hb⟩ => ⟨match c with | false => ha | true => hP a ha, Body.All.dflt _ b hb⟩
  theorem Body.All.dflt (c : Bool) (b : Body) (hb : b.All P) : (defBody sk n mn c b).All P :=
    match b with
    | .leaf => trivial
    | .members ms => ItemsAll.dflt c ms hb
    | .element e => Desc.All.dflt false e hb
  theorem ItemsAll.dflt (c : Bool) (l : List Item) (hl : ItemsAll P l) :
      ItemsAll P (defItems sk n mn c l) :=
    match l, hl with
    | [], _ => trivial
    | i :: t, ⟨hi, ht⟩ => ⟨Item.All.dflt c i hi, ItemsAll.dflt c t ht⟩
  theorem Item.All.dflt (c : Bool) (i : Item) (hi : i.All P) : (defItem sk n mn c i).All P :=
    match i with
    | .marker => trivial
    | .compOf _ => trivial
    | .group g => DescsAll.dflt c g hi
    | .desc d => Desc.All.dflt c d hi
  theorem DescsAll.dflt (c : Bool) (l : List Desc) (hl : DescsAll P l) : DescsAll P (defDescs sk n mn c l) :=
    match l, hl with
    | [], _ => trivial
    | d :: t, ⟨hd, ht⟩ => ⟨Desc.All.dflt c d hd, DescsAll.dflt c t ht⟩
end
end

/-- `Absorbs sk n mn m a`: converting the DEFAULT of `a` first under the flag `m` and then under `n`
gives what `n` alone gives (idempotence for `m = n`).  Mind the order: `n`, the flag of the SECOND
conversion, stands before `mn`, and `m`, the flag of the first, after it — the lemmas about
`locDesc` (PrepLoc) take the first flag first. -/
def Absorbs (m : Bool) (a : Attrs) : Prop :=
  convAttrs sk n mn (convAttrs sk m mn a) = convAttrs sk n mn a

section
variable (m : Bool)

mutual
  theorem defDesc_absorb (c : Bool) (d : Desc) (hd : d.All (Absorbs sk n mn m)) :
      defDesc sk n mn c (defDesc sk m mn c d) = defDesc sk n mn c d :=
    match d, hd with
    | .mk a b, ⟨ha, hb⟩ => by
      have ht : (if c = true then convAttrs sk m mn a else a).type = a.type := by
        cases c <;> simp
      simp only [defDesc, ht]
      rw [defBody_absorb _ b hb]
      cases c with
      | false => rfl
      | true => exact congrArg (Desc.mk · _) ha
  theorem defBody_absorb (c : Bool) (b : Body) (hb : b.All (Absorbs sk n mn m)) :
      defBody sk n mn c (defBody sk m mn c b) = defBody sk n mn c b :=
    match b with
    | .leaf => rfl
    | .members ms => congrArg Body.members (defItems_absorb c ms hb)
    | .element e => congrArg Body.element (defDesc_absorb false e hb)
  theorem defItems_absorb (c : Bool) (l : List Item) (hl : ItemsAll (Absorbs sk n mn m) l) :
      defItems sk n mn c (defItems sk m mn c l) = defItems sk n mn c l :=
    match l, hl with
    | [], _ => rfl
    | i :: t, ⟨hi, ht⟩ => cons_congr (defItem_absorb c i hi) (defItems_absorb c t ht)
  theorem defItem_absorb (c : Bool) (i : Item) (hi : i.All (Absorbs sk n mn m)) :
      defItem sk n mn c (defItem sk m mn c i) = defItem sk n mn c i :=
    match i with
    | .marker => rfl
    | .compOf _ => rfl
    | .group g => congrArg Item.group (defDescs_absorb c g hi)
    | .desc d => congrArg Item.desc (defDesc_absorb c d hi)
  theorem defDescs_absorb (c : Bool) (l : List Desc) (hl : DescsAll (Absorbs sk n mn m) l) :
      defDescs sk n mn c (defDescs sk m mn c l) = defDescs sk n mn c l :=
    match l, hl with
    | [], _ => rfl
    | d :: t, ⟨hd, ht⟩ => cons_congr (defDesc_absorb c d hd) (defDescs_absorb c t ht)
end
end

end

theorem Absorbs_of_value (sk : Skel) (m n : Bool) (mn : String) (a : Attrs)
    (h : ∀ v, a.default = some v →
      convDefault n (resolve sk a.core mn) (convDefault m (resolve sk a.core mn) v)
        = convDefault n (resolve sk a.core mn) v) :
    Absorbs sk n mn m a := by
  unfold Absorbs
  rw [convAttrs_eq sk n, convAttrs_eq sk m, convAttrs_eq sk n]
  congr 1
  cases hd : a.default with
  | none => rfl
  | some v => exact congrArg some (h v hd)

end Asn1.SpecDict
