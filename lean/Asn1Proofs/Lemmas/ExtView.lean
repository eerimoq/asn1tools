import Asn1Model.Oer
import Asn1Proofs.Lemmas.ExtDefs
import Asn1Proofs.Lemmas.Typed
import Asn1Proofs.Lemmas.Records
import Asn1Proofs.Lemmas.UperBeq
import Asn1Proofs.Lemmas.UperMisc
/-
  C07: what `view`, `viewMembers`, `viewAlt` and `dOk` do, independently of the codec (`fa` is the
  codec's treatment of DEFAULT among the extension additions), and the induction principle `Compat.induct`
  behind every `xt_all`.

  Names, here and in the codec files: the decoder's type or list comes first, the encoder's second; a
  suffix `D` / `E`, as in the constructors `CompatAdds.nilD`, `Compat.enumeratedE`, says whose list has
  ended (`D`: the decoder knows no more, `E`: the encoder knows no more).  `forward` / `backward` is the
  direction of an `Extends` pair: version 1 decodes version 2 / version 2 decodes version 1.
-/
namespace Asn1.Ext
open Asn1
open Asn1.Oer (enumName)

theorem compatMembers_length {rD rE : Members} (h : CompatMembers rD rE) : rD.length = rE.length := by
  induction rD using Members.ind generalizing rE with
  | nil => cases h; rfl
  | cons n p t rest ih =>
    cases h with
    | cons _ _ _ h2 => simp only [Members.length, ih h2]

theorem compatAlts_length {rD rE : Alts} (h : CompatAlts rD rE) : rD.length = rE.length := by
  induction rD using Alts.ind generalizing rE with
  | nil => cases h; rfl
  | cons n t rest ih =>
    cases h with
    | cons _ _ h2 => simp only [Alts.length, ih h2]

theorem viewMembers_cons_cons (fa : Bool) (n n' : String) (p p' : Presence) (tD tE : Ty) (mD mE : Members)
    (fs : List (String × Val)) (fill : Bool) :
    viewMembers fa (.cons n p tD mD) (.cons n' p' tE mE) fs fill =
      (match lookup n fs with
       | some v => (n, view fa tD tE v) :: viewMembers fa mD mE fs fill
       | none =>
         match p with
         | .default d => if fill then (n, d) :: viewMembers fa mD mE fs fill
                         else viewMembers fa mD mE fs fill
         | _ => viewMembers fa mD mE fs fill) := by
  cases p <;> rfl

theorem viewMembers_cons_nil (fa : Bool) (n : String) (p : Presence) (tD : Ty) (mD : Members)
    (fs : List (String × Val)) (fill : Bool) :
    viewMembers fa (.cons n p tD mD) .nil fs fill =
      (match p with
       | .default d => if fill then (n, d) :: viewMembers fa mD .nil fs fill
                       else viewMembers fa mD .nil fs fill
       | _ => viewMembers fa mD .nil fs fill) := by
  cases p <;> rfl

theorem viewMembers_nilE_false (fa : Bool) (ms : Members) (fs : List (String × Val)) :
    viewMembers fa ms .nil fs false = [] := by
  induction ms using Members.ind with
  | nil => rfl
  | cons name p t ms ih => cases p <;> simp only [viewMembers, ih, if_false, Bool.false_eq_true]

theorem viewMembers_nilD (fa : Bool) (ms : Members) (fs : List (String × Val)) (fill : Bool) :
    viewMembers fa .nil ms fs fill = [] := by
  cases ms <;> rfl

theorem viewMembers_nilE (fa : Bool) (ms : Members) (fs : List (String × Val)) (fill : Bool)
    (h : ∀ n ∈ ms.names, lookup n fs = none) :
    viewMembers fa ms .nil fs fill = canonMembersG fa ms fs fill := by
  induction ms using Members.ind with
  | nil => rfl
  | cons n p t rest ih =>
    have hl : lookup n fs = none := h n (by simp [Members.names])
    have ih' := ih (fun k hk => h k (by simp [Members.names, hk]))
    simp only [viewMembers, canonMembersG, hl, ih']

theorem dOkMembers_cons_cons (fa : Bool) (n n' : String) (p p' : Presence) (tD tE : Ty) (mD mE : Members) :
    dOkMembers fa (.cons n p tD mD) (.cons n' p' tE mE) =
      ((match p with
        | .default d => view fa tD tE d = d
        | _ => True) ∧ dOk fa tD tE ∧ dOkMembers fa mD mE) := by
  cases p <;> rfl

theorem dOkMembers_cons_intro {fa : Bool} {p : Presence} {tD tE : Ty} {mD mE : Members} (n n' : String) (p' : Presence)
    (h1 : ∀ d, p = .default d → view fa tD tE d = d) (h2 : dOk fa tD tE) (h3 : dOkMembers fa mD mE) :
    dOkMembers fa (.cons n p tD mD) (.cons n' p' tE mE) := by
  rw [dOkMembers_cons_cons]
  refine ⟨?_, h2, h3⟩
  cases p
  · trivial
  · trivial
  · exact h1 _ rfl

theorem dOkMembers_nilE (fa : Bool) (ms : Members) : dOkMembers fa ms .nil := by
  cases ms <;> simp only [dOkMembers]

theorem dOkMembers_nilD (fa : Bool) (ms : Members) : dOkMembers fa .nil ms := by
  cases ms <;> simp only [dOkMembers]

theorem dOkAlts_nilE (fa : Bool) (ms : Alts) : dOkAlts fa ms .nil := by
  cases ms <;> simp only [dOkAlts]

theorem dOkAlts_nilD (fa : Bool) (ms : Alts) : dOkAlts fa .nil ms := by
  cases ms <;> simp only [dOkAlts]

theorem view_of_isDefault (fa : Bool) {tD tE : Ty} (hc : Compat tD tE) (v d : Val)
    (hd : view fa tD tE d = d) (h : isDefault tE v d = true) : view fa tD tE v = d := by
  rcases isDefault_inv h with rfl | ⟨c, a, b, n, rfl, rfl, rfl, hab⟩
  · exact hd
  · cases hc
    rw [view] at hd ⊢
    rw [hab, (Val.bits.inj hd).1]

/-- alternative lists paired by position: common alternatives have the same name and are related by `P`.
Unlike `PairM` nothing is asked of what either list has beyond the other's end: an alternative only the
decoder knows is never sent, so it need not be omissible. -/
def PairA (P : Ty → Ty → Prop) : Alts → Alts → Prop
  | .cons n tD mD, .cons n' tE mE => n' = n ∧ P tD tE ∧ PairA P mD mE
  | _, _ => True

/-- member lists paired by position: common members have the same name and presence; the encoder's
list may go on (unknown additions), and so may the decoder's (omissible additions only it knows) -/
def PairM (P : Ty → Ty → Prop) : Members → Members → Prop
  | .nil, _ => True
  | .cons n p tD mD, .cons n' p' tE mE => n' = n ∧ p' = p ∧ P tD tE ∧ PairM P mD mE
  | .cons _ p _ mD, .nil => omissible p = true ∧ PairM P mD .nil

theorem pairM_nilE (P : Ty → Ty → Prop) (ms : Members) (h : allOmissible ms = true) : PairM P ms .nil := by
  induction ms using Members.ind with
  | nil => trivial
  | cons n p t rest ih =>
    simp only [allOmissible, Bool.and_eq_true] at h
    exact ⟨h.1, ih h.2⟩

theorem viewAlt_nilD (fa : Bool) (aE : Alts) (name : String) (v : Val) :
    viewAlt fa .nil aE name v = none := by
  cases aE <;> rfl

theorem viewAlt_nilE (fa : Bool) (aD : Alts) (name : String) (v : Val) :
    viewAlt fa aD .nil name v = none := by
  cases aD <;> rfl

theorem viewAlt_cons (fa : Bool) (n n' : String) (tD tE : Ty) (mD mE : Alts) (name : String) (v : Val) :
    viewAlt fa (.cons n tD mD) (.cons n' tE mE) name v =
      if n == name then some (view fa tD tE v) else viewAlt fa mD mE name v := rfl

theorem viewAlt_none_of_not_mem (fa : Bool) (m1 m2 : Alts) (n : String) (v : Val) (h : n ∉ m1.names) :
    viewAlt fa m1 m2 n v = none := by
  induction m1 using Alts.ind generalizing m2 with
  | nil => cases m2 <;> rfl
  | cons k t rest ih =>
    cases m2 with
    | nil => rfl
    | cons k' t' rest' =>
      simp only [Alts.names, List.mem_cons, not_or] at h
      have hk : (k == n) = false := by simpa using fun e => h.1 (e.symm)
      simp only [viewAlt, hk, Bool.false_eq_true, if_false]
      exact ih _ h.2

/-- the alternative the encoder sends at position `j` is either at position `j` of the decoder's list too,
related by `P` and viewed through it, or lies beyond the end of the decoder's list and is viewed as unknown -/
theorem pairA_find {P : Ty → Ty → Prop} (fa : Bool) (name : String) (v : Val) (aE : Alts) :
    ∀ (aD : Alts), PairA P aD aE → dOkAlts fa aD aE →
    ∀ (j : Nat) (tE' : Ty), aE.find name = some (j, tE') →
      (∃ tD', aD.find name = some (j, tD') ∧ P tD' tE' ∧ dOk fa tD' tE' ∧
        viewAlt fa aD aE name v = some (view fa tD' tE' v)) ∨
      (aD.length ≤ j ∧ viewAlt fa aD aE name v = none) := by
  induction aE using Alts.ind with
  | nil => intro aD _ _ j tE' hf; simp [Alts.find] at hf
  | cons n tE rest ih =>
    intro aD hx hdk j tE' hf
    cases aD with
    | nil => exact Or.inr ⟨by simp [Alts.length], viewAlt_nilD _ _ _ _⟩
    | cons n' tD restD =>
      obtain ⟨hn, hp, hx'⟩ := hx
      subst hn
      simp only [dOkAlts] at hdk
      rw [viewAlt_cons]
      simp only [Alts.find] at hf ⊢
      by_cases hname : (n == name) = true
      · simp only [hname, if_true, Option.some.injEq, Prod.mk.injEq] at hf ⊢
        obtain ⟨h1, h2⟩ := hf
        subst h1; subst h2
        exact Or.inl ⟨tD, ⟨rfl, rfl⟩, hp, hdk.1, rfl⟩
      · simp only [hname, if_false, Bool.false_eq_true] at hf ⊢
        simp only [Option.map_eq_some_iff] at hf
        obtain ⟨⟨j', t''⟩, h1, h2⟩ := hf
        cases h2
        rcases ih restD hx' hdk.2 j' _ h1 with ⟨tD', h3, h4, h5, h6⟩ | ⟨h3, h4⟩
        · exact Or.inl ⟨tD', by rw [h3]; rfl, h4, h5, h6⟩
        · exact Or.inr ⟨by simp [Alts.length]; omega, h4⟩

theorem pairA_find_none {P : Ty → Ty → Prop} (fa : Bool) (name : String) (v : Val) (aE : Alts) :
    ∀ (aD : Alts), PairA P aD aE → aE.find name = none → viewAlt fa aD aE name v = none := by
  induction aE using Alts.ind with
  | nil => intro aD _ _; exact viewAlt_nilE _ _ _ _
  | cons n tE rest ih =>
    intro aD hx hf
    cases aD with
    | nil => exact viewAlt_nilD _ _ _ _
    | cons n' tD restD =>
      obtain ⟨hn, hp, hx'⟩ := hx
      subst hn
      rw [viewAlt_cons]
      simp only [Alts.find] at hf
      by_cases hname : (n == name) = true
      · simp only [hname, if_true] at hf; cases hf
      · simp only [hname, if_false, Bool.false_eq_true, Option.map_eq_none_iff] at hf ⊢
        exact ih restD hx' hf

/-- Induction over a `Compat` derivation, in the form the cross-version theorems use: `P` for pairs of
types, `PM` for root member lists, `PAd` for SEQUENCE additions.  Alternative lists, root and additions
alike, carry `PairA Q`, where `Q` is what `Compat` and `P` give for one pair of alternatives (`alt`: `P`
itself for UPER, PER and OER; `DerX.xtg_all` adds `Compat` to it).
Member lists get motives of their own because UPER, PER and OER read them as a whole (preamble, presence
bitmap) and say so in statements of their own (`XTM`, `XTA`; DER passes the pointwise `PairM`); of a
CHOICE only one alternative is read, so the pointwise `PairA` is all any codec needs. -/
theorem Compat.induct {P Q : Ty → Ty → Prop} {PM PAd : Members → Members → Prop}
    (alt : ∀ {tD tE}, Compat tD tE → P tD tE → Q tD tE)
    (boolean : P .boolean .boolean) (null : P .null .null) (integer : ∀ c, P (.integer c) (.integer c))
    (octetString : ∀ c, P (.octetString c) (.octetString c)) (bitString : ∀ c, P (.bitString c) (.bitString c))
    (charString : ∀ k c, P (.charString k c) (.charString k c))
    (enumerated : ∀ root, P (.enumerated root none) (.enumerated root none))
    (enumeratedD : ∀ root adds new, P (.enumerated root (some adds)) (.enumerated root (some (adds ++ new))))
    (enumeratedE : ∀ root adds new, P (.enumerated root (some (adds ++ new))) (.enumerated root (some adds)))
    (sequence : ∀ {rD rE aD aE} x, CompatMembers rD rE → CompatAdds aD aE → PM rD rE → PAd aD aE →
      P (.sequence rD x aD) (.sequence rE x aE))
    (sequenceOf : ∀ {eD eE} c, Compat eD eE → P eD eE → P (.sequenceOf eD c) (.sequenceOf eE c))
    (choice : ∀ {rD rE aD aE} x, CompatAlts rD rE → CompatAltAdds aD aE → PairA Q rD rE → PairA Q aD aE →
      P (.choice rD x aD) (.choice rE x aE))
    (membersNil : PM .nil .nil)
    (membersCons : ∀ {tD tE mD mE} name p, Compat tD tE → CompatMembers mD mE → P tD tE → PM mD mE →
      PM (.cons name p tD mD) (.cons name p tE mE))
    (addsNilD : ∀ ms, PAd .nil ms)
    (addsNilE : ∀ ms, allOmissible ms = true → PAd ms .nil)
    (addsCons : ∀ {tD tE mD mE} name p, Compat tD tE → CompatAdds mD mE → P tD tE → PAd mD mE →
      PAd (.cons name p tD mD) (.cons name p tE mE))
    {tD tE : Ty} (h : Compat tD tE) : P tD tE :=
  Compat.rec (motive_1 := fun tD tE _ => P tD tE) (motive_2 := fun mD mE _ => PM mD mE)
    (motive_3 := fun aD aE _ => PAd aD aE) (motive_4 := fun rD rE _ => PairA Q rD rE)
    (motive_5 := fun aD aE _ => PairA Q aD aE)
    boolean null integer octetString bitString charString enumerated enumeratedD enumeratedE
    sequence sequenceOf choice membersNil membersCons addsNilD addsNilE addsCons
    trivial (fun _ hc _ iht ihr => ⟨rfl, alt hc iht, ihr⟩)
    (fun as => by cases as <;> trivial) (fun as => by cases as <;> trivial)
    (fun _ hc _ iht ihr => ⟨rfl, alt hc iht, ihr⟩) h

theorem enumName_append (v : Int) (l1 l2 : List (String × Int)) :
    enumName v (l1 ++ l2) = (match enumName v l1 with | some n => some n | none => enumName v l2) := by
  induction l1 with
  | nil => rfl
  | cons x r ih =>
    obtain ⟨n, w⟩ := x
    simp only [List.cons_append, enumName]
    split
    · rfl
    · exact ih

theorem enumName_mem {v : Int} {l : List (String × Int)} {n : String} (h : enumName v l = some n) :
    n ∈ namesOf l := by
  induction l with
  | nil => cases h
  | cons x r ih =>
    obtain ⟨m, w⟩ := x
    simp only [enumName] at h
    simp only [namesOf, List.map_cons, List.mem_cons]
    split at h
    · cases h; exact Or.inl rfl
    · exact Or.inr (ih h)

theorem view_enum_known (fa : Bool) {root : List (String × Int)} {ext : Option (List (String × Int))}
    (tE : Ty) {name : String} (h : hasType (.enumerated root ext) (.enum name) = true) :
    view fa (.enumerated root ext) tE (.enum name) = .enum name := by
  cases ext <;> simp only [hasType] at h <;> rw [view, if_pos h]

/-- an item of `new` is unknown to a decoder that knows `adds` only, because names are distinct -/
theorem view_enumD (fa : Bool) (tE : Ty) {root adds new : List (String × Int)} {val : Int} {name : String}
    (hnd : (namesOf root ++ namesOf (adds ++ new)).Nodup)
    (h : enumName val (root ++ (adds ++ new)) = some name) :
    view fa (.enumerated root (some adds)) tE (.enum name)
      = (match enumName val (root ++ adds) with | some n => .enum n | none => .absent) := by
  have happ : ∀ a b : List (String × Int), namesOf (a ++ b) = namesOf a ++ namesOf b :=
    fun a b => List.map_append
  rw [← List.append_assoc, enumName_append] at h
  cases hD : enumName val (root ++ adds) with
  | some n =>
    rw [hD] at h
    cases h
    have hm := enumName_mem hD
    rw [happ, List.mem_append] at hm
    rw [view, if_pos (by simpa using hm)]
  | none =>
    rw [hD] at h
    have hm := enumName_mem h
    rw [happ, ← List.append_assoc, List.nodup_append] at hnd
    have hn : name ∉ namesOf root ++ namesOf adds := fun hc => hnd.2.2 name hc name hm rfl
    rw [List.mem_append] at hn
    rw [view, if_neg (by simpa using hn)]

theorem enumName_more {root adds : List (String × Int)} (new : List (String × Int)) {val : Int}
    {name : String} (h : enumName val (root ++ adds) = some name) :
    enumName val (root ++ (adds ++ new)) = some name := by
  rw [← List.append_assoc, enumName_append, h]

theorem hasType_enum_more {root adds : List (String × Int)} (new : List (String × Int)) {name : String}
    (h : hasType (.enumerated root (some adds)) (.enum name) = true) :
    hasType (.enumerated root (some (adds ++ new))) (.enum name) = true := by
  simp only [hasType, Bool.or_eq_true, List.contains_eq_mem, decide_eq_true_eq, namesOf, List.map_append,
    List.mem_append] at h ⊢
  exact h.imp_right Or.inl

/-- the additions `aD` the decoder knows against the additions `aE` the encoder knows: an item at
position `i` of `aE` is the same item at position `i` of `aD`, or lies beyond the end of `aD` and is
not in it (one list continues the other, `enumAddsD` / `enumAddsE`) -/
def EnumAdds (aD aE : List (String × Int)) : Prop :=
  ∀ name i, Uper.nameIndex name aE = some i →
    (∃ x, aD[i]? = some (name, x)) ∨ (aD[i]? = none ∧ name ∉ namesOf aD)

theorem enumAddsD (adds new : List (String × Int)) : EnumAdds adds (adds ++ new) := by
  intro name i hi
  by_cases hm : name ∈ namesOf adds
  · rw [Uper.nameIndex_append_of_mem _ _ _ hm] at hi
    obtain ⟨h1, x, h2⟩ := Uper.nameIndex_spec _ _ _ hi
    exact .inl ⟨x, h2⟩
  · rw [Uper.nameIndex_append_of_not_mem _ _ _ hm] at hi
    simp only [Option.map_eq_some_iff] at hi
    obtain ⟨j, _, rfl⟩ := hi
    exact .inr ⟨by simp, hm⟩

theorem enumAddsE (adds new : List (String × Int)) : EnumAdds (adds ++ new) adds := by
  intro name i hi
  obtain ⟨h1, x, h2⟩ := Uper.nameIndex_spec _ _ _ hi
  exact .inl ⟨x, by rw [List.getElem?_append_left h1]; exact h2⟩

end Asn1.Ext
