import Asn1Proofs.Lemmas.ExtPer
import Asn1Proofs.Lemmas.ExtLemmas
import Asn1Proofs.Lemmas.PerTypeCheck
/-
  Round-trip theorem for the ALIGNED PER code model (`Asn1Model/Per.lean`), the analogue of
  `Uper.roundtrip_partial`: the decoder inverts the encoder on every well-formed type and every
  well-typed value, at every start position and in front of every continuation; no alignment
  mismatch between `per.Encoder` and `per.Decoder` exists in the model.  Hypotheses beyond the
  typing ones:

  * `Per.fragFree` (PerDefs): the predicate of the finding `C01-per-unfragmented-length`.  It is
    WEAKER than the UPER predicate on SEQUENCE additions (the decoder ignores the open type length
    of a known addition, so a length of 16384 octets or more is harmless there) and refers to the
    aligned encoding `Per.enc t 0 v` for the open type of a CHOICE addition;
  * `Ty.nsOk` as for UPER (index of an ENUMERATED / CHOICE addition needing ≥ 16384 octets).

  What is proved is the stronger `RT` (PerDefs): the decoder may start at any position `pos'` with
  `pos' % 8 = pos % 8`.  This is what makes open types work: the encoder fills a fresh buffer
  (`pos = 0`), the decoder reads it at an octet boundary of the message.  `RT t` is the
  cross-version round trip of `t` with itself (`Ext.PerX.xt_all` at `Compat.refl t`).
-/
namespace Asn1.Per


theorem rt_all (t : Ty) : RT t := by
  intro v pos pos' bits rest fuel hwf hd hns ht hf hp he hfuel
  rw [← Ext.canonG_false, ← Ext.view_self false hwf ht]
  exact Ext.PerX.xt_all (.refl t) v pos pos' bits rest fuel hwf hd hns
    (Ext.dOk_self false hwf (Ext.defaultsOkG_false t ▸ hd)) ht hf
    (Ext.PerX.skipFree_backward (.refl t) v) hp he hfuel

theorem roundtrip_partial (t : Ty) (v : Val) (pos : Nat) (bits rest : Bits) (fuel : Nat)
    (hwf : t.wf = true) (hd : t.defaultsOk = true) (ht : hasType t v = true)
    (hf : fragFree t v = true) (hns : t.nsOk = true)
    (he : enc t pos v = .ok bits) (hfuel : bits.length + rest.length + 2 ≤ fuel) :
    dec t fuel ⟨pos, bits ++ rest⟩ = .ok (canon t v, ⟨pos + bits.length, rest⟩) :=
  rt_all t v pos pos bits rest fuel hwf hd hns ht hf rfl he hfuel

theorem decode_encode (t : Ty) (v : Val) (bytes : Bytes)
    (hwf : t.wf = true) (hd : t.defaultsOk = true) (ht : hasType t v = true)
    (hf : fragFree t v = true) (hns : t.nsOk = true) (he : encode t v = .ok bytes) :
    decode t bytes = .ok (canon t v) := by
  obtain ⟨bits, hb, hE⟩ := encode_total t v hwf ht
  rw [hE] at he
  cases he
  exact decode_packBits t bits _ (fun rest fuel hfu =>
    ⟨_, roundtrip_partial t v 0 bits rest fuel hwf hd ht hf hns hb hfu⟩)

end Asn1.Per

#print axioms Asn1.Per.enc_total
#print axioms Asn1.Per.roundtrip_partial
#print axioms Asn1.Per.decode_encode
