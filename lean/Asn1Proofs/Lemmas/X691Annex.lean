import Asn1Model.X691
/-
  The worked examples of X.691 Annex A (ASN.1 sources: /repo/tests/files/x691_a1.asn, x691_a4.asn;
  expected octets: the Recommendation, also in /repo/tests/test_per.py / test_uper.py) written in the
  type/value universe of Schema.lean.  Types that the universe lacks are inlined:
  * type references are expanded;
  * a SET is written as the SEQUENCE of its components in canonical tag order (X.691 20: "encoded as
    if it were a sequence type" after sorting by tag): A.1 `PersonnelRecord` = name [APPLICATION 1],
    number [APPLICATION 2], title [0], dateOfHire [1], nameOfSpouse [2], children [3];
  * A.4: the extension addition group `[[ g, h ]]` is one addition of type SEQUENCE { g, h } (X.691
    18.9 encodes a group exactly so), the version brackets inside the CHOICE only group alternatives,
    and the absent `i BMPString OPTIONAL` is given a type of the universe.
  A.2 and A.3 need permitted-alphabet (FROM) constraints, which the universe does not have.
-/
namespace Asn1.X691.Annex
open Asn1

def vis : Ty := .charString .visible ⟨0, none, false⟩

def nameTy : Ty :=
  .sequence (.cons "givenName" .mandatory vis (.cons "initial" .mandatory vis
    (.cons "familyName" .mandatory vis .nil))) false .nil

def childTy : Ty :=
  .sequence (.cons "name" .mandatory nameTy (.cons "dateOfBirth" .mandatory vis .nil)) false .nil

/-- A.1.1 `PersonnelRecord` -/
def a1Ty : Ty :=
  .sequence
    (.cons "name" .mandatory nameTy
    (.cons "number" .mandatory (.integer ⟨none, none, false⟩)
    (.cons "title" .mandatory vis
    (.cons "dateOfHire" .mandatory vis
    (.cons "nameOfSpouse" .mandatory nameTy
    (.cons "children" (.default (.list [])) (.sequenceOf childTy ⟨0, none, false⟩) .nil))))))
    false .nil

def mkName (g i f : List Nat) : Val :=
  .record [("givenName", .str g), ("initial", .str i), ("familyName", .str f)]

/-- A.1.2: John P Smith, Director, 51, 19710917, Mary T Smith, Ralph T Smith 19571111,
Susan B Jones 19590717 -/
def a1Val : Val :=
  .record [
    ("name", mkName [74, 111, 104, 110] [80] [83, 109, 105, 116, 104]),
    ("number", .int 51),
    ("title", .str [68, 105, 114, 101, 99, 116, 111, 114]),
    ("dateOfHire", .str [49, 57, 55, 49, 48, 57, 49, 55]),
    ("nameOfSpouse", mkName [77, 97, 114, 121] [84] [83, 109, 105, 116, 104]),
    ("children", .list [
      .record [("name", mkName [82, 97, 108, 112, 104] [84] [83, 109, 105, 116, 104]),
               ("dateOfBirth", .str [49, 57, 53, 55, 49, 49, 49, 49])],
      .record [("name", mkName [83, 117, 115, 97, 110] [66] [74, 111, 110, 101, 115]),
               ("dateOfBirth", .str [49, 57, 53, 57, 48, 55, 49, 55])]])]

/-- A.1.3 ALIGNED PER representation (94 octets) -/
def a1Aligned : Bytes :=
  [0x80, 0x04, 0x4a, 0x6f, 0x68, 0x6e, 0x01, 0x50, 0x05, 0x53, 0x6d, 0x69, 0x74, 0x68, 0x01, 0x33,
   0x08, 0x44, 0x69, 0x72, 0x65, 0x63, 0x74, 0x6f, 0x72, 0x08, 0x31, 0x39, 0x37, 0x31, 0x30, 0x39,
   0x31, 0x37, 0x04, 0x4d, 0x61, 0x72, 0x79, 0x01, 0x54, 0x05, 0x53, 0x6d, 0x69, 0x74, 0x68, 0x02,
   0x05, 0x52, 0x61, 0x6c, 0x70, 0x68, 0x01, 0x54, 0x05, 0x53, 0x6d, 0x69, 0x74, 0x68, 0x08, 0x31,
   0x39, 0x35, 0x37, 0x31, 0x31, 0x31, 0x31, 0x05, 0x53, 0x75, 0x73, 0x61, 0x6e, 0x01, 0x42, 0x05,
   0x4a, 0x6f, 0x6e, 0x65, 0x73, 0x08, 0x31, 0x39, 0x35, 0x39, 0x30, 0x37, 0x31, 0x37]

/-- A.1.4 UNALIGNED PER representation (84 octets) -/
def a1Unaligned : Bytes :=
  [0x82, 0x4a, 0xdf, 0xa3, 0x70, 0x0d, 0x00, 0x5a, 0x7b, 0x74, 0xf4, 0xd0, 0x02, 0x66, 0x11, 0x13,
   0x4f, 0x2c, 0xb8, 0xfa, 0x6f, 0xe4, 0x10, 0xc5, 0xcb, 0x76, 0x2c, 0x1c, 0xb1, 0x6e, 0x09, 0x37,
   0x0f, 0x2f, 0x20, 0x35, 0x01, 0x69, 0xed, 0xd3, 0xd3, 0x40, 0x10, 0x2d, 0x2c, 0x3b, 0x38, 0x68,
   0x01, 0xa8, 0x0b, 0x4f, 0x6e, 0x9e, 0x9a, 0x02, 0x18, 0xb9, 0x6a, 0xdd, 0x8b, 0x16, 0x2c, 0x41,
   0x69, 0xf5, 0xe7, 0x87, 0x70, 0x0c, 0x20, 0x59, 0x5b, 0xf7, 0x65, 0xe6, 0x10, 0xc5, 0xcb, 0x57,
   0x2c, 0x1b, 0xb1, 0x6e]

/-- A.4.1 `Ax` -/
def a4Ty : Ty :=
  .sequence
    (.cons "a" .mandatory (.integer ⟨some 250, some 253, false⟩)
    (.cons "b" .mandatory .boolean
    (.cons "c" .mandatory
      (.choice (.cons "d" (.integer ⟨none, none, false⟩) .nil) true
               (.cons "e" .boolean (.cons "f" (.charString .ia5 ⟨0, none, false⟩) .nil)))
    (.cons "i" .optional (.charString .ia5 ⟨0, none, false⟩)
    (.cons "j" .optional (.charString .printable ⟨0, none, false⟩) .nil)))))
    true
    (.cons "gh" .mandatory
      (.sequence (.cons "g" .mandatory (.charString .numeric ⟨3, some 3, false⟩)
                 (.cons "h" .optional .boolean .nil)) false .nil) .nil)

/-- A.4.2: `{ a 253, b TRUE, c e : TRUE, g "123", h TRUE }` -/
def a4Val : Val :=
  .record [("a", .int 253), ("b", .bool true), ("c", .choice "e" (.bool true)),
           ("gh", .record [("g", .str [49, 50, 51]), ("h", .bool true)])]

/-- A.4.3 ALIGNED PER representation -/
def a4Aligned : Bytes := [0x9e, 0x00, 0x01, 0x80, 0x01, 0x02, 0x91, 0xa4]

/-- A.4.4 UNALIGNED PER representation -/
def a4Unaligned : Bytes := [0x9e, 0x00, 0x06, 0x00, 0x04, 0x0a, 0x46, 0x90]

end Asn1.X691.Annex
