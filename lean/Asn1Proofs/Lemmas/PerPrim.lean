import Asn1Model.Per
import Asn1Proofs.Lemmas.UperSized
/-
  Primitive lemmas for the ALIGNED PER round-trip proof: alignment, the position-tracking readers,
  length determinants, whole numbers, size prefixes.

  Convention: the encoder ran at position `pos`, the decoder runs at position `pos'` with
  `pos' % 8 = pos % 8` (they differ inside open types, where the encoder starts a fresh buffer).
-/
namespace Asn1.Per
open Asn1.Uper (lenDet encUnconstrained encNsnnwn lenDet_cases)

/- Proved by rewriting with `enc` / `dec` / `typeCheck`, not by `rfl`: that makes Lean generate the
equation lemmas of these functions in this module, where every importer finds them ready. -/

theorem enc_null (pos : Nat) (v : Val) : enc .null pos v = .ok [] := by rw [enc]

theorem dec_null (fuel : Nat) (s : St) : dec .null fuel s = .ok (.null, s) := by rw [dec]

theorem typeCheck_null : typeCheck .null .null = true := by rw [typeCheck]

theorem padLen_congr {p q : Nat} (h : p % 8 = q % 8) : padLen p = padLen q := by
  unfold padLen; rw [h]

@[simp] theorem alignBits_length (p : Nat) : (alignBits p).length = padLen p := by
  unfold alignBits; simp

theorem mod8_add {p q : Nat} (h : p % 8 = q % 8) (k : Nat) : (p + k) % 8 = (q + k) % 8 := by
  rw [Nat.add_mod, h, ← Nat.add_mod]

theorem mod8_zero_add {a b : Nat} (ha : a % 8 = 0) (hb : b % 8 = 0) : (a + b) % 8 = 0 := by
  rw [Nat.add_mod, ha, hb]

/-- an encoding padded to whole octets keeps the position octet aligned -/
theorem mod8_padded {a : Nat} (ha : a % 8 = 0) (e : Nat) : (a + e + (8 * ((e + 7) / 8) - e)) % 8 = 0 := by
  omega

theorem padLen_lt (p : Nat) : padLen p < 8 := by unfold padLen; omega

theorem add_padLen_mod (p : Nat) : (p + padLen p) % 8 = 0 := by unfold padLen; omega

theorem add_padLen_mod_of {p q : Nat} (h : q % 8 = p % 8) : (q + padLen p) % 8 = 0 := by
  rw [mod8_add h, add_padLen_mod]

theorem padLen_eq (n : Nat) : padLen n = 8 * ((n + 7) / 8) - n := by unfold padLen; omega

theorem padLen_of_aligned {p : Nat} (h : p % 8 = 0) : padLen p = 0 := by unfold padLen; omega

theorem alignBits_of_aligned {p : Nat} (h : p % 8 = 0) : alignBits p = [] := by
  unfold alignBits; rw [padLen_of_aligned h]; rfl

theorem align_alignBits (pos pos' : Nat) (bs : Bits) (h : pos' % 8 = pos % 8) :
    align ⟨pos', alignBits pos ++ bs⟩ = ⟨pos' + padLen pos, bs⟩ := by
  unfold align
  simp only [padLen_congr h]
  rw [List.drop_left' (alignBits_length pos)]

theorem align_of_aligned (pos : Nat) (bs : Bits) (h : pos % 8 = 0) :
    align ⟨pos, bs⟩ = ⟨pos, bs⟩ := by
  unfold align
  simp only [padLen_of_aligned h, Nat.add_zero, List.drop_zero]

theorem St.eq_of_pos {a a' : Nat} (b : Bits) (h : a = a') : (⟨a, b⟩ : St) = ⟨a', b⟩ := by rw [h]

theorem readBits_append {n : Nat} (pos : Nat) (a b : Bits) (h : a.length = n) :
    readBits n ⟨pos, a ++ b⟩ = .ok (a, ⟨pos + n, b⟩) := by
  unfold readBits; simp only [Uper.splitExact_append a b h]

theorem readBits_zero (s : St) : readBits 0 s = .ok ([], ⟨s.pos, s.bs⟩) := rfl

theorem readNat_append {n : Nat} (pos : Nat) (a b : Bits) (h : a.length = n) :
    readNat n ⟨pos, a ++ b⟩ = .ok (bitsToNat a, ⟨pos + n, b⟩) := by
  unfold readNat; simp only [Uper.splitExact_append a b h]

theorem readNat_natToBits {w n : Nat} (pos : Nat) (rest : Bits) (h : n < 2 ^ w) :
    readNat w ⟨pos, natToBits w n ++ rest⟩ = .ok (n, ⟨pos + w, rest⟩) := by
  rw [readNat_append _ _ _ (natToBits_length w n), bitsToNat_natToBits_of_lt h]

theorem readBit_cons (pos : Nat) (b : Bool) (r : Bits) :
    readBit ⟨pos, b :: r⟩ = .ok (b, ⟨pos + 1, r⟩) := rfl

/-- the decoders' first step, on what the encoders write first: the extension bit, clear, if the type
is extensible -/
theorem readExt_pre (x : Bool) (pos' : Nat) (X : Bits) :
    (if x = true then readBit ⟨pos', (if x = true then [false] else []) ++ X⟩
      else .ok (false, ⟨pos', (if x = true then [false] else []) ++ X⟩)) =
      (.ok (false, ⟨pos' + (if x = true then [false] else ([] : Bits)).length, X⟩) :
        Uper.DecM (Bool × St)) := by
  cases x <;> rfl

theorem lenDet_length_mod (n : Nat) : (lenDet n).1.length % 8 = 0 := by
  rcases lenDet_cases n with ⟨_, e⟩ | ⟨_, _, e⟩ | ⟨_, m, _, _, _, e⟩ <;> rw [e, natToBits_length]

theorem readLenDet_lenDet (pos n : Nat) (rest : Bits) :
    readLenDet ⟨pos, (lenDet n).1 ++ rest⟩ =
      .ok ((lenDet n).2, ⟨pos + (lenDet n).1.length, rest⟩) := by
  rcases lenDet_cases n with ⟨h, e⟩ | ⟨h1, h2, e⟩ | ⟨_, m, m1, m4, _, e⟩
  · rw [e]
    simp only [readLenDet, readNat_natToBits _ rest (show n < 2 ^ 8 by omega), ok_bind, h, if_true,
      natToBits_length]
  · have h3 : ¬ (0x8000 + n) / 2 ^ 8 < 128 := by omega
    have h4 : (0x8000 + n) / 2 ^ 8 < 192 := by omega
    rw [e, natToBits_add 8 8, List.append_assoc]
    simp only [readLenDet, readNat_natToBits _ _ (show (0x8000 + n) / 2 ^ 8 < 2 ^ 8 by omega), ok_bind,
      h3, h4, if_true, if_false, readNat_append _ _ _ (natToBits_length ..), bitsToNat_natToBits,
      List.length_append, natToBits_length, Except.ok.injEq, Prod.mk.injEq, and_true]
    omega
  · rw [e]
    obtain rfl | rfl | rfl | rfl : m = 1 ∨ m = 2 ∨ m = 3 ∨ m = 4 := by omega
    all_goals rfl

theorem decUnconstrained_enc (pos : Nat) (i : Int) (rest : Bits) (h : intByteLength i < 16384) :
    decUnconstrained ⟨pos, encUnconstrained i ++ rest⟩ =
      .ok (i, ⟨pos + (encUnconstrained i).length, rest⟩) := by
  -- the value is the one the unaligned reader computes; only the position is new
  have hu := Uper.decUnconstrained_enc i rest h
  have hlen : (bytesToBits (intToBytesN (intByteLength i) i)).length = 8 * intByteLength i := by
    rw [bytesToBits_length, intToBytesN, natToBytesN_length]
  unfold encUnconstrained at hu ⊢
  simp only [Uper.decUnconstrained, ok_bind, List.append_assoc, Uper.readLenDet_lenDet,
    Uper.lenDet_snd_of_lt h, Uper.readBits_append _ _ hlen] at hu
  simp only [decUnconstrained, ok_bind, List.append_assoc, readLenDet_lenDet,
    Uper.lenDet_snd_of_lt h, readBits_append _ _ _ hlen, List.length_append, hlen, Nat.add_assoc]
  split at hu
  · cases hu
  rename_i h0
  rw [if_neg h0]
  split at hu
  all_goals
    rename_i h1
    simp only [Except.ok.injEq, Prod.mk.injEq, and_true] at hu
    simp only [h1, if_true, if_false, hu]

theorem decNsnnwn_enc (pos v : Nat) (rest : Bits) (h : (bitLength v + 7) / 8 < 16384) :
    decNsnnwn ⟨pos, encNsnnwn v ++ rest⟩ = .ok (v, ⟨pos + (encNsnnwn v).length, rest⟩) := by
  unfold encNsnnwn
  split
  · rw [natToBits_succ_of_lt (w := 6) (by omega)]
    simp only [decNsnnwn, ok_bind, List.cons_append, readBit_cons, Bool.not_false, if_true,
      readNat_natToBits _ rest (show v < 2 ^ 6 by omega), List.length_cons, natToBits_length,
      Nat.add_assoc]
  · have hv : v < 2 ^ (8 * ((bitLength v + 7) / 8)) :=
      Nat.lt_of_lt_of_le (lt_two_pow_bitLength v) (Nat.pow_le_pow_right (by omega) (by omega))
    simp only [decNsnnwn, ok_bind, List.cons_append, List.nil_append, readBit_cons,
      List.append_assoc, Bool.not_true, Bool.false_eq_true, if_false, readLenDet_lenDet,
      Uper.lenDet_snd_of_lt h, readNat_natToBits _ _ hv, List.length_cons, List.length_append,
      natToBits_length, Nat.add_assoc, Nat.add_comm, Nat.add_left_comm]

theorem decNsLength_enc {n : Nat} (pos : Nat) (rest : Bits) (h1 : 1 ≤ n) (h : n ≤ 64) :
    decNsLength ⟨pos, natToBits 7 (n - 1) ++ rest⟩ = .ok (n, ⟨pos + 7, rest⟩) := by
  rw [natToBits_succ_of_lt (w := 6) (by omega)]
  simp only [decNsLength, ok_bind, List.cons_append, readBit_cons, Bool.not_false, if_true,
    readNat_natToBits _ rest (show n - 1 < 2 ^ 6 by omega), Nat.sub_add_cancel h1, Nat.add_assoc]

theorem readNat_align (pos pos' w v : Nat) (rest : Bits) (hp : pos' % 8 = pos % 8) (h : v < 2 ^ w) :
    readNat w (align ⟨pos', alignBits pos ++ natToBits w v ++ rest⟩) =
      .ok (v, ⟨pos' + (alignBits pos ++ natToBits w v).length, rest⟩) := by
  rw [List.append_assoc, align_alignBits _ _ _ hp, readNat_natToBits _ _ h]
  simp only [List.length_append, alignBits_length, natToBits_length, Nat.add_assoc]

theorem decCwn_encCwn (pos pos' v range nbits : Nat) (rest : Bits) (hp : pos' % 8 = pos % 8)
    (h1 : v < range) (h2 : v < 2 ^ nbits) :
    decCwn range nbits ⟨pos', encCwn pos v range nbits ++ rest⟩ =
      .ok (v, ⟨pos' + (encCwn pos v range nbits).length, rest⟩) := by
  unfold decCwn encCwn
  by_cases c1 : range ≤ 255
  · simp only [if_pos c1]
    rw [readNat_natToBits _ _ h2, natToBits_length]
  by_cases c2 : range = 256
  · simp only [if_neg c1, if_pos c2]
    exact readNat_align _ _ _ _ _ hp (by omega)
  by_cases c3 : range ≤ 65536
  · simp only [if_neg c1, if_neg c2, if_pos c3]
    exact readNat_align _ _ _ _ _ hp (by omega)
  · simp only [if_neg c1, if_neg c2, if_neg c3]
    exact readNat_align _ _ _ _ _ hp h2

theorem sizeAsBytes_pos (v : Nat) : 1 ≤ sizeAsBytes v := by
  unfold sizeAsBytes
  split
  · omega
  · rename_i h
    have := bitLength_pos h
    omega

theorem lt_pow_sizeAsBytes (v : Nat) : v < 2 ^ (8 * sizeAsBytes v) := by
  unfold sizeAsBytes
  split
  · subst_vars; simp
  · exact Nat.lt_of_lt_of_le (lt_two_pow_bitLength v) (Nat.pow_le_pow_right (by omega) (by omega))

theorem sizeAsBytes_le {v size : Nat} (h : v ≤ size) (hs : 65535 < size) :
    sizeAsBytes v ≤ (bitLength size + 7) / 8 := by
  have h16 : 16 < bitLength size := by
    have h1 := lt_two_pow_bitLength size
    have h2 : 2 ^ 16 < 2 ^ bitLength size := by omega
    exact (Nat.pow_lt_pow_iff_right (by omega)).mp h2
  unfold sizeAsBytes
  split
  · omega
  · have := bitLength_mono h
    omega

theorem decConstrainedInt_enc (pos pos' : Nat) (lo hi i : Int) (rest : Bits)
    (hp : pos' % 8 = pos % 8) (h1 : lo ≤ i) (h2 : i ≤ hi) :
    decConstrainedInt lo hi ⟨pos', encConstrainedInt pos lo hi i ++ rest⟩ =
      .ok (i, ⟨pos' + (encConstrainedInt pos lo hi i).length, rest⟩) := by
  unfold decConstrainedInt encConstrainedInt
  have hv : (i - lo).toNat ≤ (hi - lo).toNat := by omega
  have hback : lo + ((i - lo).toNat : Int) = i := by omega
  generalize (hi - lo).toNat = size at *
  generalize (i - lo).toNat = v at *
  simp only
  split
  · rw [decCwn_encCwn _ _ _ _ _ _ hp (by omega) (lt_two_pow_bitLength_of_le hv), ok_bind, hback]
  · rename_i hs
    have hnb := sizeAsBytes_le hv (by omega)
    have hpos := sizeAsBytes_pos v
    have hk : sizeAsBytes v - 1 < 2 ^ indefBits (bitLength size) :=
      lt_two_pow_bitLength_of_le (by omega)
    rw [List.append_assoc, List.append_assoc, decCwn_encCwn _ _ _ _ _ _ hp (by omega) hk, ok_bind,
      align_alignBits _ _ _ (mod8_add hp _), Nat.sub_add_cancel hpos,
      decCwn_encCwn _ _ _ _ _ _ (by rw [alignBits_length]; exact mod8_add (mod8_add hp _) _)
        (by omega) (lt_pow_sizeAsBytes v), ok_bind, hback]
    simp only [List.length_append, alignBits_length, Nat.add_assoc]

theorem readSize_sizePrefix (c : SizeC) (w pos pos' n : Nat) (av af : Bool) (av' : Nat → Bool)
    (rest : Bits) (hp : pos' % 8 = pos % 8) (hs : Uper.sizeBits c = some w)
    (hin : Uper.inSize c n = true) (hav : av' n = av) :
    readSize c w av' af ⟨pos', sizePrefix c w pos n av af ++ rest⟩ =
      .ok (n, ⟨pos' + (sizePrefix c w pos n av af).length, rest⟩) := by
  obtain ⟨h1, h2, h3⟩ := Uper.sizeBits_some hs hin
  have hhi : ∃ hi, c.hi = some hi ∧ n ≤ hi := by
    unfold Uper.inSize at hin
    cases hh : c.hi with
    | none => simp [Uper.sizeBits, hh] at hs
    | some hi =>
      simp only [hh, Bool.and_eq_true, decide_eq_true_eq] at hin
      exact ⟨hi, rfl, hin.2⟩
  obtain ⟨hi, hhi, hnhi⟩ := hhi
  unfold readSize sizePrefix
  by_cases hne : some c.lo ≠ c.hi
  · rw [if_pos hne, if_pos hne, List.append_assoc,
      decCwn_encCwn _ _ _ _ _ _ hp (by rw [hhi]; simp only [Option.getD_some]; omega) h2, ok_bind]
    simp only [Nat.add_sub_cancel' h1, hav]
    cases av
    · simp only [Bool.false_eq_true, if_false, List.nil_append, List.append_nil]
    · simp only [if_true, align_alignBits _ _ _ (mod8_add hp _), List.length_append,
        alignBits_length, Nat.add_assoc]
  · have hn : c.lo = n := (h3 (by simpa using hne)).symm
    rw [if_neg hne, if_neg hne, hn]
    cases af
    · simp only [Bool.false_eq_true, if_false, List.nil_append, List.length_nil, Nat.add_zero]
    · simp only [if_true, align_alignBits _ _ _ hp, alignBits_length]

end Asn1.Per
