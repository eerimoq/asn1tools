import Asn1Model.X691
/-
  Closed terms used by the `witness_*` theorems of C05 (the names are written out as literals: names
  computed with `toString` do not reduce well in the kernel).
-/
namespace Asn1.X691.Witness
open Asn1

/-- ENUMERATED with 257 root items `e0(0) .. e256(256)` -/
def enum257 : Ty := .enumerated [("e0", 0), ("e1", 1), ("e2", 2), ("e3", 3), ("e4", 4), ("e5", 5), ("e6", 6), ("e7", 7), ("e8", 8), ("e9", 9), ("e10", 10), ("e11", 11), ("e12", 12), ("e13", 13), ("e14", 14), ("e15", 15), ("e16", 16), ("e17", 17), ("e18", 18), ("e19", 19), ("e20", 20), ("e21", 21), ("e22", 22), ("e23", 23), ("e24", 24), ("e25", 25), ("e26", 26), ("e27", 27), ("e28", 28), ("e29", 29), ("e30", 30), ("e31", 31), ("e32", 32), ("e33", 33), ("e34", 34), ("e35", 35), ("e36", 36), ("e37", 37), ("e38", 38), ("e39", 39), ("e40", 40), ("e41", 41), ("e42", 42), ("e43", 43), ("e44", 44), ("e45", 45), ("e46", 46), ("e47", 47), ("e48", 48), ("e49", 49), ("e50", 50), ("e51", 51), ("e52", 52), ("e53", 53), ("e54", 54), ("e55", 55), ("e56", 56), ("e57", 57), ("e58", 58), ("e59", 59), ("e60", 60), ("e61", 61), ("e62", 62), ("e63", 63), ("e64", 64), ("e65", 65), ("e66", 66), ("e67", 67), ("e68", 68), ("e69", 69), ("e70", 70), ("e71", 71), ("e72", 72), ("e73", 73), ("e74", 74), ("e75", 75), ("e76", 76), ("e77", 77), ("e78", 78), ("e79", 79), ("e80", 80), ("e81", 81), ("e82", 82), ("e83", 83), ("e84", 84), ("e85", 85), ("e86", 86), ("e87", 87), ("e88", 88), ("e89", 89), ("e90", 90), ("e91", 91), ("e92", 92), ("e93", 93), ("e94", 94), ("e95", 95), ("e96", 96), ("e97", 97), ("e98", 98), ("e99", 99), ("e100", 100), ("e101", 101), ("e102", 102), ("e103", 103), ("e104", 104), ("e105", 105), ("e106", 106), ("e107", 107), ("e108", 108), ("e109", 109), ("e110", 110), ("e111", 111), ("e112", 112), ("e113", 113), ("e114", 114), ("e115", 115), ("e116", 116), ("e117", 117), ("e118", 118), ("e119", 119), ("e120", 120), ("e121", 121), ("e122", 122), ("e123", 123), ("e124", 124), ("e125", 125), ("e126", 126), ("e127", 127), ("e128", 128), ("e129", 129), ("e130", 130), ("e131", 131), ("e132", 132), ("e133", 133), ("e134", 134), ("e135", 135), ("e136", 136), ("e137", 137), ("e138", 138), ("e139", 139), ("e140", 140), ("e141", 141), ("e142", 142), ("e143", 143), ("e144", 144), ("e145", 145), ("e146", 146), ("e147", 147), ("e148", 148), ("e149", 149), ("e150", 150), ("e151", 151), ("e152", 152), ("e153", 153), ("e154", 154), ("e155", 155), ("e156", 156), ("e157", 157), ("e158", 158), ("e159", 159), ("e160", 160), ("e161", 161), ("e162", 162), ("e163", 163), ("e164", 164), ("e165", 165), ("e166", 166), ("e167", 167), ("e168", 168), ("e169", 169), ("e170", 170), ("e171", 171), ("e172", 172), ("e173", 173), ("e174", 174), ("e175", 175), ("e176", 176), ("e177", 177), ("e178", 178), ("e179", 179), ("e180", 180), ("e181", 181), ("e182", 182), ("e183", 183), ("e184", 184), ("e185", 185), ("e186", 186), ("e187", 187), ("e188", 188), ("e189", 189), ("e190", 190), ("e191", 191), ("e192", 192), ("e193", 193), ("e194", 194), ("e195", 195), ("e196", 196), ("e197", 197), ("e198", 198), ("e199", 199), ("e200", 200), ("e201", 201), ("e202", 202), ("e203", 203), ("e204", 204), ("e205", 205), ("e206", 206), ("e207", 207), ("e208", 208), ("e209", 209), ("e210", 210), ("e211", 211), ("e212", 212), ("e213", 213), ("e214", 214), ("e215", 215), ("e216", 216), ("e217", 217), ("e218", 218), ("e219", 219), ("e220", 220), ("e221", 221), ("e222", 222), ("e223", 223), ("e224", 224), ("e225", 225), ("e226", 226), ("e227", 227), ("e228", 228), ("e229", 229), ("e230", 230), ("e231", 231), ("e232", 232), ("e233", 233), ("e234", 234), ("e235", 235), ("e236", 236), ("e237", 237), ("e238", 238), ("e239", 239), ("e240", 240), ("e241", 241), ("e242", 242), ("e243", 243), ("e244", 244), ("e245", 245), ("e246", 246), ("e247", 247), ("e248", 248), ("e249", 249), ("e250", 250), ("e251", 251), ("e252", 252), ("e253", 253), ("e254", 254), ("e255", 255), ("e256", 256)] none

/-- ENUMERATED { a(0), b(1), ..., x0(2000) .. x64(2064) } -/
def enumExt65 : Ty := .enumerated [("a", 0), ("b", 1)] (some [("x0", 2000), ("x1", 2001), ("x2", 2002), ("x3", 2003), ("x4", 2004), ("x5", 2005), ("x6", 2006), ("x7", 2007), ("x8", 2008), ("x9", 2009), ("x10", 2010), ("x11", 2011), ("x12", 2012), ("x13", 2013), ("x14", 2014), ("x15", 2015), ("x16", 2016), ("x17", 2017), ("x18", 2018), ("x19", 2019), ("x20", 2020), ("x21", 2021), ("x22", 2022), ("x23", 2023), ("x24", 2024), ("x25", 2025), ("x26", 2026), ("x27", 2027), ("x28", 2028), ("x29", 2029), ("x30", 2030), ("x31", 2031), ("x32", 2032), ("x33", 2033), ("x34", 2034), ("x35", 2035), ("x36", 2036), ("x37", 2037), ("x38", 2038), ("x39", 2039), ("x40", 2040), ("x41", 2041), ("x42", 2042), ("x43", 2043), ("x44", 2044), ("x45", 2045), ("x46", 2046), ("x47", 2047), ("x48", 2048), ("x49", 2049), ("x50", 2050), ("x51", 2051), ("x52", 2052), ("x53", 2053), ("x54", 2054), ("x55", 2055), ("x56", 2056), ("x57", 2057), ("x58", 2058), ("x59", 2059), ("x60", 2060), ("x61", 2061), ("x62", 2062), ("x63", 2063), ("x64", 2064)])

/-- SEQUENCE { r BOOLEAN, ..., x0 .. x127 BOOLEAN OPTIONAL } -/
def seq128 : Ty := .sequence (.cons "r" .mandatory .boolean .nil) true (.cons "x0" .optional .boolean (.cons "x1" .optional .boolean (.cons "x2" .optional .boolean (.cons "x3" .optional .boolean (.cons "x4" .optional .boolean (.cons "x5" .optional .boolean (.cons "x6" .optional .boolean (.cons "x7" .optional .boolean (.cons "x8" .optional .boolean (.cons "x9" .optional .boolean (.cons "x10" .optional .boolean (.cons "x11" .optional .boolean (.cons "x12" .optional .boolean (.cons "x13" .optional .boolean (.cons "x14" .optional .boolean (.cons "x15" .optional .boolean (.cons "x16" .optional .boolean (.cons "x17" .optional .boolean (.cons "x18" .optional .boolean (.cons "x19" .optional .boolean (.cons "x20" .optional .boolean (.cons "x21" .optional .boolean (.cons "x22" .optional .boolean (.cons "x23" .optional .boolean (.cons "x24" .optional .boolean (.cons "x25" .optional .boolean (.cons "x26" .optional .boolean (.cons "x27" .optional .boolean (.cons "x28" .optional .boolean (.cons "x29" .optional .boolean (.cons "x30" .optional .boolean (.cons "x31" .optional .boolean (.cons "x32" .optional .boolean (.cons "x33" .optional .boolean (.cons "x34" .optional .boolean (.cons "x35" .optional .boolean (.cons "x36" .optional .boolean (.cons "x37" .optional .boolean (.cons "x38" .optional .boolean (.cons "x39" .optional .boolean (.cons "x40" .optional .boolean (.cons "x41" .optional .boolean (.cons "x42" .optional .boolean (.cons "x43" .optional .boolean (.cons "x44" .optional .boolean (.cons "x45" .optional .boolean (.cons "x46" .optional .boolean (.cons "x47" .optional .boolean (.cons "x48" .optional .boolean (.cons "x49" .optional .boolean (.cons "x50" .optional .boolean (.cons "x51" .optional .boolean (.cons "x52" .optional .boolean (.cons "x53" .optional .boolean (.cons "x54" .optional .boolean (.cons "x55" .optional .boolean (.cons "x56" .optional .boolean (.cons "x57" .optional .boolean (.cons "x58" .optional .boolean (.cons "x59" .optional .boolean (.cons "x60" .optional .boolean (.cons "x61" .optional .boolean (.cons "x62" .optional .boolean (.cons "x63" .optional .boolean (.cons "x64" .optional .boolean (.cons "x65" .optional .boolean (.cons "x66" .optional .boolean (.cons "x67" .optional .boolean (.cons "x68" .optional .boolean (.cons "x69" .optional .boolean (.cons "x70" .optional .boolean (.cons "x71" .optional .boolean (.cons "x72" .optional .boolean (.cons "x73" .optional .boolean (.cons "x74" .optional .boolean (.cons "x75" .optional .boolean (.cons "x76" .optional .boolean (.cons "x77" .optional .boolean (.cons "x78" .optional .boolean (.cons "x79" .optional .boolean (.cons "x80" .optional .boolean (.cons "x81" .optional .boolean (.cons "x82" .optional .boolean (.cons "x83" .optional .boolean (.cons "x84" .optional .boolean (.cons "x85" .optional .boolean (.cons "x86" .optional .boolean (.cons "x87" .optional .boolean (.cons "x88" .optional .boolean (.cons "x89" .optional .boolean (.cons "x90" .optional .boolean (.cons "x91" .optional .boolean (.cons "x92" .optional .boolean (.cons "x93" .optional .boolean (.cons "x94" .optional .boolean (.cons "x95" .optional .boolean (.cons "x96" .optional .boolean (.cons "x97" .optional .boolean (.cons "x98" .optional .boolean (.cons "x99" .optional .boolean (.cons "x100" .optional .boolean (.cons "x101" .optional .boolean (.cons "x102" .optional .boolean (.cons "x103" .optional .boolean (.cons "x104" .optional .boolean (.cons "x105" .optional .boolean (.cons "x106" .optional .boolean (.cons "x107" .optional .boolean (.cons "x108" .optional .boolean (.cons "x109" .optional .boolean (.cons "x110" .optional .boolean (.cons "x111" .optional .boolean (.cons "x112" .optional .boolean (.cons "x113" .optional .boolean (.cons "x114" .optional .boolean (.cons "x115" .optional .boolean (.cons "x116" .optional .boolean (.cons "x117" .optional .boolean (.cons "x118" .optional .boolean (.cons "x119" .optional .boolean (.cons "x120" .optional .boolean (.cons "x121" .optional .boolean (.cons "x122" .optional .boolean (.cons "x123" .optional .boolean (.cons "x124" .optional .boolean (.cons "x125" .optional .boolean (.cons "x126" .optional .boolean (.cons "x127" .optional .boolean .nil))))))))))))))))))))))))))))))))))))))))))))))))))))))))))))))))))))))))))))))))))))))))))))))))))))))))))))))))))))))))))))))))

end Asn1.X691.Witness
