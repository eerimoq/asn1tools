import Asn1Proofs.Lemmas.CostBer1
import Asn1Proofs.Lemmas.CostDer
/-
  C08 for the BER model: allocation bound and fuel independence of `BerCodec.dec`.  SEQUENCE and CHOICE are
  those of `CostDer1.lean` / `CostDer2.lean`, through `ber_isCodec` (`ct_sequence` … `fi_choice` of `CostDer.lean`)
  and `ber_decPass_fun` of `DerCodecInst.lean`.
-/
namespace Asn1.Cost
open Asn1.Der

theorem bct_octetString (c : SizeC) : CT BerCodec.dec (.octetString c) := by
  intro tg f bs v k r h
  rw [BerCodec.dec] at h
  obtain ⟨o, h1, h⟩ := bind_ok h
  cases o with
  | none => cases h
  | some x =>
    obtain ⟨content, k', r'⟩ := x
    cases h
    obtain ⟨a1, a2, a3⟩ := decOctets_cost (mkTag_pos 4 false tg) h1
    simp only [Val.nodes, KD]
    omega

theorem bct_bitString (c : SizeC) : CT BerCodec.dec (.bitString c) := by
  intro tg f bs v k r h
  rw [BerCodec.dec] at h
  obtain ⟨o, h1, h⟩ := bind_ok h
  cases o with
  | none => cases h
  | some x =>
    obtain ⟨⟨body, n⟩, k', r'⟩ := x
    cases h
    obtain ⟨a1, a2, a3⟩ := decBits_cost (mkTag_pos 3 false tg) h1
    simp only [Val.nodes, KD]
    omega

theorem bct_charString (kind : StrKind) (c : SizeC) : CT BerCodec.dec (.charString kind c) := by
  intro tg f bs v k r h
  rw [BerCodec.dec] at h
  obtain ⟨o, h1, h⟩ := bind_ok h
  cases o with
  | none => cases h
  | some x =>
    obtain ⟨content, k', r'⟩ := x
    dsimp only at h
    obtain ⟨cps, h2, h⟩ := bind_ok h
    cases h
    obtain ⟨a1, a2, a3⟩ := decOctets_cost (mkTag_pos _ false tg) h1
    have a4 := decodeStr_len h2
    simp only [Val.nodes, KD]
    omega

theorem bct_sequenceOf (e : Ty) (c : SizeC) (ih : CT BerCodec.dec e) : CT BerCodec.dec (.sequenceOf e c) :=
  gSeqOf_cost (d := false) (te := id) (fun _ _ _ => by rw [BerCodec.dec]; rfl) ih

/-- on BOOLEAN, NULL, INTEGER and ENUMERATED `BerCodec.dec` unfolds to the same term as `Der.dec`, so
the DER lemmas apply as they are -/
theorem bct_all (t : Ty) : CT BerCodec.dec t :=
  Ty.induct (P := CT BerCodec.dec)
    ct_boolean ct_null ct_integer ct_enumerated bct_octetString bct_bitString bct_charString
    (ct_sequence BerCodec.ber_isCodec) bct_sequenceOf (ct_choice BerCodec.ber_isCodec) t

theorem bct_alts (as : Alts) : Alts.All (CT BerCodec.dec) as := alts_all_of_forall bct_all as

theorem bfi_octetString (c : SizeC) : FI BerCodec.dec (.octetString c) := by
  intro tg f f' bs h1 h2
  simp only [BerCodec.dec]
  rw [decOctets_fuel f f' _ _ bs h1 h2]

theorem bfi_bitString (c : SizeC) : FI BerCodec.dec (.bitString c) := by
  intro tg f f' bs h1 h2
  simp only [BerCodec.dec]
  rw [decBits_fuel f f' _ _ bs h1 h2]

theorem bfi_charString (kind : StrKind) (c : SizeC) : FI BerCodec.dec (.charString kind c) := by
  intro tg f f' bs h1 h2
  simp only [BerCodec.dec]
  rw [decOctets_fuel f f' _ _ bs h1 h2]

theorem bfi_sequenceOf (e : Ty) (c : SizeC) (ih : FI BerCodec.dec e) : FI BerCodec.dec (.sequenceOf e c) :=
  gSeqOf_fuel (d := false) (te := id) (fun _ _ _ => by rw [BerCodec.dec]; rfl) (bct_all e) ih

/-- BOOLEAN, NULL, INTEGER, ENUMERATED do not mention the fuel: `rfl` -/
theorem bfi_all (t : Ty) : FI BerCodec.dec t :=
  Ty.induct
    (fun _ _ _ _ _ _ => rfl) (fun _ _ _ _ _ _ => rfl) (fun _ _ _ _ _ _ _ => rfl)
    (fun _ _ _ _ _ _ _ _ => rfl)
    bfi_octetString bfi_bitString bfi_charString
    (fi_sequence BerCodec.ber_isCodec bct_all) bfi_sequenceOf (fi_choice BerCodec.ber_isCodec) t

theorem ber_dec_cost (t : Ty) (tg : Option Nat) (f : Nat) (bs : Bytes) (v : Val) (k : Nat) (r : Bytes)
    (h : BerCodec.dec t tg f bs = .ok (some (v, k, r))) :
    r.length < bs.length ∧ 1 ≤ k ∧ v.nodes ≤ KD t * (bs.length - r.length) :=
  bct_all t tg f bs v k r h

theorem ber_dec_fuel (t : Ty) (tg : Option Nat) (f f' : Nat) (bs : Bytes)
    (hf : bs.length < f) (hf' : bs.length < f') :
    BerCodec.dec t tg f bs = BerCodec.dec t tg f' bs :=
  bfi_all t tg f f' bs hf hf'

theorem ber_retry_fuel (ms : Members) (i f extra : Nat) (c : Cur) :
    retry (BerCodec.decPass ms i f) (ms.length + 1 + extra) (List.replicate ms.length none) c
      = retry (BerCodec.decPass ms i f) (ms.length + 1) (List.replicate ms.length none) c := by
  rw [BerCodec.ber_decPass_fun]
  exact gPass_retry_fuel BerCodec.dec ms i f extra c

end Asn1.Cost

#print axioms Asn1.Cost.ber_dec_cost
#print axioms Asn1.Cost.ber_dec_fuel
#print axioms Asn1.Cost.ber_retry_fuel
