import Asn1Model.Schema
/-
  Soundness and reflexivity of the hand-written boolean equality on `Asn1.Val` (used by every codec
  for DEFAULT values).
-/
namespace Asn1

mutual
  theorem Val.eq_of_beq_true (a b : Val) (h : Val.beq a b = true) : a = b := by
    cases a <;> cases b <;> first | exact absurd h Bool.false_ne_true | skip
    case bool.bool x y => exact congrArg _ (eq_of_beq h)
    case null.null => rfl
    case int.int x y => exact congrArg _ (eq_of_beq h)
    case enum.enum x y => exact congrArg _ (eq_of_beq h)
    case bytes.bytes x y => exact congrArg _ (eq_of_beq h)
    case bits.bits d n e m =>
      obtain ⟨h1, h2⟩ := Bool.and_eq_true_iff.1 h
      rw [eq_of_beq h1, eq_of_beq h2]
    case str.str x y => exact congrArg _ (eq_of_beq h)
    case record.record fa fb => exact congrArg _ (Val.eqFields_of_beqFields fa fb h)
    case list.list la lb => exact congrArg _ (Val.eqList_of_beqList la lb h)
    case choice.choice s v t w =>
      obtain ⟨h1, h2⟩ := Bool.and_eq_true_iff.1 h
      rw [eq_of_beq h1, Val.eq_of_beq_true v w h2]
    case absent.absent => rfl
  theorem Val.eqFields_of_beqFields (a b : List (String × Val))
      (h : Val.beqFields a b = true) : a = b := by
    match a, b with
    | [], [] => rfl
    | [], _ :: _ => simp [Val.beqFields] at h
    | _ :: _, [] => simp [Val.beqFields] at h
    | (n, v) :: r, (m, w) :: s =>
      simp only [Val.beqFields, Bool.and_eq_true, beq_iff_eq] at h
      obtain ⟨⟨h1, h2⟩, h3⟩ := h
      subst h1
      rw [Val.eq_of_beq_true v w h2, Val.eqFields_of_beqFields r s h3]
  theorem Val.eqList_of_beqList (a b : List Val)
      (h : Val.beqList a b = true) : a = b := by
    match a, b with
    | [], [] => rfl
    | [], _ :: _ => simp [Val.beqList] at h
    | _ :: _, [] => simp [Val.beqList] at h
    | v :: r, w :: s =>
      simp only [Val.beqList, Bool.and_eq_true] at h
      obtain ⟨h1, h2⟩ := h
      rw [Val.eq_of_beq_true v w h1, Val.eqList_of_beqList r s h2]
end

theorem Val.eq_of_beq (a b : Val) (h : (a == b) = true) : a = b :=
  Val.eq_of_beq_true a b h

mutual
  theorem Val.beq_self_true (a : Val) : Val.beq a a = true := by
    cases a <;> simp only [Val.beq, Bool.and_eq_true, beq_self_eq_true, and_self, true_and]
    case record fa => exact Val.beqFields_self fa
    case list la => exact Val.beqList_self la
    case choice s v => exact Val.beq_self_true v
  theorem Val.beqFields_self (a : List (String × Val)) : Val.beqFields a a = true := by
    match a with
    | [] => rfl
    | (n, v) :: r =>
      simp only [Val.beqFields, Bool.and_eq_true, beq_self_eq_true, true_and]
      exact ⟨Val.beq_self_true v, Val.beqFields_self r⟩
  theorem Val.beqList_self (a : List Val) : Val.beqList a a = true := by
    match a with
    | [] => rfl
    | v :: r =>
      simp only [Val.beqList, Bool.and_eq_true]
      exact ⟨Val.beq_self_true v, Val.beqList_self r⟩
end

theorem Val.beq_self (a : Val) : (a == a) = true :=
  Val.beq_self_true a

end Asn1

