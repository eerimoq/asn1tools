import Asn1Proofs.Lemmas.BridgeFun
/-
  The BER/DER framing readers of /repo/asn1tools/codecs/ber.py (exceptions with their attributes: `Except Py.Err`) against
  the model of Asn1Model/BerFraming.lean.  The statements about the readers are in Properties/C15u.lean.
-/
namespace Asn1.Bridge
open Asn1 Asn1.Translated Asn1.Ber

theorem isSub_refl (parent : String → Option String) (c : String) : Py.isSub parent c c = true := by
  unfold Py.isSub Py.isSubAux
  rw [beq_self_eq_true, Bool.true_or]

theorem getIdx_catch_mid (pre : List Nat) (x : Nat) (post : List Nat) (off : Int) :
    Py.catchWith (Py.liftE (Py.getIdx (ofNats (pre ++ x :: post)) (pre.length : Int)))
      (fun e__ => if Py.isSub excParent e__.cls "IndexError" then throw (Py.Err.mk "OutOfByteDataError" [off]) else throw e__)
      = .ok (x : Int) := by
  have h := getIdx_ofNats_mid pre x post []
  rw [List.append_nil] at h
  rw [h]; rfl

theorem getIdx_catch_end (pre : List Nat) (off : Int) :
    Py.catchWith (Py.liftE (Py.getIdx (ofNats pre) (pre.length : Int)))
      (fun e__ => if Py.isSub excParent e__.cls "IndexError" then throw (Py.Err.mk "OutOfByteDataError" [off]) else throw e__)
      = .error ⟨"OutOfByteDataError", [off]⟩ := by
  have h : Py.getIdx (ofNats pre) (pre.length : Int) = .error "IndexError" := by
    unfold Py.getIdx Py.getIdx?
    rw [if_pos (Int.natCast_nonneg _), Int.toNat_natCast, List.getElem?_eq_none (Nat.le_of_eq (ofNats_length pre))]
  simp only [h, Py.liftE, Py.catchWith, isSub_refl, if_true]
  rfl

theorem skip_tag_loop (r : List Nat) : ∀ (fuel : Nat) (pre : List Nat) (byte : Int), allBytes r → r.length < fuel →
    ber_skip_tag_loop1 fuel (ofNats (pre ++ r)) (pre.length : Int) byte =
      (match skipTagRest r with
       | some c => .ok (((pre.length + c : Nat) : Int) - 1)
       | none => .error ⟨"OutOfByteDataError", [((pre ++ r).length : Int)]⟩) := by
  induction r with
  | nil =>
    intro fuel pre byte _ hf
    cases fuel with
    | zero => exact absurd hf (Nat.not_lt_zero _)
    | succ f =>
      unfold ber_skip_tag_loop1
      rw [List.append_nil, getIdx_catch_end]
      rfl
  | cons b r ih =>
    intro fuel pre byte hr hf
    obtain ⟨hb, hr'⟩ := allBytes_cons hr
    cases fuel with
    | zero => exact absurd hf (Nat.not_lt_zero _)
    | succ f =>
      unfold ber_skip_tag_loop1
      simp only [getIdx_catch_mid, bind, Except.bind, skipTagRest, Nat.mod_eq_of_lt hb]
      by_cases hc : 128 ≤ b
      · have e2 : (pre ++ [b]).length = pre.length + 1 := List.length_append
        rw [Py.truthy_band128 hc hb, if_pos rfl, if_pos hc, ← Int.natCast_add_one, ← e2, List.append_cons,
          ih f (pre ++ [b]) byte hr' (Nat.lt_of_succ_lt_succ hf)]
        cases skipTagRest r with
        | none => rfl
        | some c =>
          simp only [Option.map_some, e2]
          exact congrArg Except.ok (by omega)
      · rw [Py.not_truthy_band128 (Nat.lt_of_not_le hc), if_neg hc, if_neg Bool.false_ne_true]
        exact congrArg Except.ok (by omega)

/-- the closing test of `skip_tag`: OutOfByteDataError unless an octet follows the identifier octets -/
theorem skip_tag_check (p n o : Nat) (off : Int) (ho : off = ((p + o : Nat) : Int)) (res : Except Py.Err Int)
    (hres : (if decide (off ≥ ((p + n : Nat) : Int)) then throw (Py.Err.mk "OutOfByteDataError" [off]) else pure off) = res) :
    match (if o ≥ n then none else some o : Option Nat) with
    | some o => res = .ok ((p + o : Nat) : Int)
    | none => ∃ k, res = .error ⟨"OutOfByteDataError", [k]⟩ := by
  subst ho
  by_cases h : o ≥ n
  · rw [if_pos h]
    rw [if_pos (by rw [decide_eq_true_eq]; omega)] at hres
    exact ⟨_, hres.symm⟩
  · rw [if_neg h]
    rw [if_neg (by rw [decide_eq_true_eq]; omega)] at hres
    exact hres.symm

theorem ber_skip_tag_at (pre data : Bytes) (hd : allBytes data) :
    match Ber.skipTag data with
    | some o => ber_skip_tag (ofNats (pre ++ data)) (pre.length : Int) = .ok ((pre.length + o : Nat) : Int)
    | none => ∃ k, ber_skip_tag (ofNats (pre ++ data)) (pre.length : Int) = .error ⟨"OutOfByteDataError", [k]⟩ := by
  generalize hres : ber_skip_tag (ofNats (pre ++ data)) (pre.length : Int) = res
  unfold ber_skip_tag at hres
  cases data with
  | nil =>
    rw [List.append_nil, getIdx_catch_end] at hres
    exact ⟨_, hres.symm⟩
  | cons b r =>
    have hr := (allBytes_cons hd).2
    simp only [getIdx_catch_mid, bind, Except.bind, Py.band31, Py.len_eq, ofNats_length, List.length_append] at hres
    simp only [skipTag]
    generalize b % 32 = m at hres ⊢
    by_cases h31 : m = 31
    · have e2 : (pre ++ [b]).length = pre.length + 1 := List.length_append
      subst h31
      rw [if_pos rfl]
      -- the loop starts behind `b`: offset `(pre ++ [b]).length` in `(pre ++ [b]) ++ r`
      rw [if_pos (by decide), ← Int.natCast_add_one, ← e2, List.append_cons, skip_tag_loop r _ (pre ++ [b]) _ hr (by
        rw [Py.fuelOfList, ofNats_length, List.length_append]; omega)] at hres
      cases hs : skipTagRest r with
      | none =>
        rw [hs] at hres
        exact ⟨_, hres.symm⟩
      | some c =>
        rw [hs] at hres
        exact skip_tag_check pre.length _ (c + 1) _ (by rw [Int.sub_add_cancel, e2, Nat.add_assoc, Nat.add_comm 1 c]) res hres
    · rw [if_neg h31]
      rw [if_neg (by rw [decide_eq_true_eq]; omega)] at hres
      exact skip_tag_check pre.length _ 1 _ rfl res hres

/-- the closing test of `decode_length`: `MissingDataError(offset, length)` unless `offset + length` lies within the data -/
theorem decode_length_tail (len o n : Nat) (off : Int) (ho : off = o) :
    let t : Except Py.Err (Int × Int) :=
      if decide (off + (n : Int) > (len : Int)) then throw (Py.Err.mk "MissingDataError" [off, (n : Int)]) else pure ((n : Int), off)
    if o + n ≤ len then t = .ok ((n : Int), (o : Int)) else t = .error ⟨"MissingDataError", [(o : Int), (n : Int)]⟩ := by
  subst ho
  intro t
  by_cases h : o + n ≤ len
  · rw [if_pos h]
    exact if_neg (by rw [decide_eq_true_eq]; omega)
  · rw [if_neg h]
    exact if_pos (by rw [decide_eq_true_eq]; omega)

theorem skipTag_lt (data : Bytes) (o : Nat) (h : skipTag data = some o) : o < data.length := by
  cases data with
  | nil => simp [skipTag] at h
  | cons b r =>
    simp only [skipTag] at h
    generalize (if b % 32 = 31 then (skipTagRest r).map (· + 1) else some 1) = off at h
    cases off with
    | none => simp at h
    | some c =>
      simp only at h
      split at h
      · simp at h
      · simp only [Option.some.injEq] at h; subst h; omega

theorem isSub_ood_missing : Py.isSub excParent "OutOfByteDataError" "MissingDataError" = false := by decide +kernel
theorem isSub_dec_missing : Py.isSub excParent "DecodeError" "MissingDataError" = false := by decide +kernel
theorem isSub_dec_ood : Py.isSub excParent "DecodeError" "OutOfByteDataError" = false := by decide +kernel

end Asn1.Bridge
