import Asn1Model.X690Value
import Asn1Model.OerTyping
import Asn1Proofs.Lemmas.ExtView
import Asn1Proofs.Lemmas.UperDefs
import Asn1Proofs.Lemmas.Typed
/-
  C07: how an `Extends` pair is seen from the `Compat` side.  Each `_all` theorem about `Extends` (types ∧
  SEQUENCE additions ∧ CHOICE additions; users take `.1`) is one application of `Extends.induct`; the theorems
  that follow it are its readings for member and alternative lists.
  Outside the principle: the facts about ONE type at the head of the file, where the two `fa = true` blocks are
  the two `fa = false` blocks with `X690.canonV`, `X690.defaultsOkV` for `canon`, `Ty.defaultsOk`; `compat_all`
  (`Compat.sequence` wants `CompatMembers` for the root lists, and `CompatAdds`, which the principle would hand
  over for them, is weaker); and `extendsB_iff_all`, which follows the equations of the checker.
-/
namespace Asn1.Ext
open Asn1

mutual
theorem canonG_false : ∀ (t : Ty) (v : Val), canonG false t v = canon t v
  | .sequence r x a, v => by
    cases v <;> simp only [canonG, canon]
    rw [canonMembersG_false' r, canonMembersG_false' a]
  | .sequenceOf e c, v => by
    cases v <;> simp only [canonG, canon]
    have : canonG false e = canon e := funext (canonG_false e)
    rw [this]
  | .choice r x a, v => by
    cases v <;> simp only [canonG, canon]
    rw [canonAltG_false' r, canonAltG_false' a]
    rename_i n v
    cases canonAlt r n v <;> cases canonAlt a n v <;> rfl
  | .boolean, v | .null, v | .integer _, v | .enumerated _ _, v | .octetString _, v
  | .charString _ _, v => by simp only [canonG, canon]
  | .bitString _, v => by cases v <;> simp only [canonG, canon]
theorem canonMembersG_false' : ∀ (ms : Members) (fs : List (String × Val)) (fill : Bool),
    canonMembersG false ms fs fill = canonMembers ms fs fill
  | .nil, fs, fill => by simp only [canonMembersG, canonMembers]
  | .cons n p t rest, fs, fill => by
    simp only [canonMembersG, canonMembers, canonG_false t, canonMembersG_false' rest]
    cases lookup n fs <;> cases p <;> rfl
theorem canonAltG_false' : ∀ (as : Alts) (n : String) (v : Val), canonAltG false as n v = canonAlt as n v
  | .nil, n, v => by simp only [canonAltG, canonAlt]
  | .cons m t rest, n, v => by
    simp only [canonAltG, canonAlt, canonG_false t, canonAltG_false' rest]
end

mutual
theorem canonG_true : ∀ (t : Ty) (v : Val), canonG true t v = X690.canonV t v
  | .sequence r x a, v => by
    cases v <;> simp only [canonG, X690.canonV]
    rw [canonMembersG_true' r, canonMembersG_true' a]
  | .sequenceOf e c, v => by
    cases v <;> simp only [canonG, X690.canonV]
    have : canonG true e = X690.canonV e := funext (canonG_true e)
    rw [this]
  | .choice r x a, v => by
    cases v <;> simp only [canonG, X690.canonV]
    rw [canonAltG_true' r, canonAltG_true' a]
    rename_i n v
    cases X690.canonAltV r n v <;> cases X690.canonAltV a n v <;> rfl
  | .boolean, v | .null, v | .integer _, v | .enumerated _ _, v | .octetString _, v
  | .charString _ _, v => by simp only [canonG, X690.canonV]
  | .bitString _, v => by cases v <;> simp only [canonG, X690.canonV]
theorem canonMembersG_true' : ∀ (ms : Members) (fs : List (String × Val)),
    canonMembersG true ms fs true = X690.canonMembersV ms fs
  | .nil, fs => by simp only [canonMembersG, X690.canonMembersV]
  | .cons n p t rest, fs => by
    simp only [canonMembersG, X690.canonMembersV, canonG_true t, canonMembersG_true' rest]
    cases lookup n fs <;> cases p <;> rfl
theorem canonAltG_true' : ∀ (as : Alts) (n : String) (v : Val), canonAltG true as n v = X690.canonAltV as n v
  | .nil, n, v => by simp only [canonAltG, X690.canonAltV]
  | .cons m t rest, n, v => by
    simp only [canonAltG, X690.canonAltV, canonG_true t, canonAltG_true' rest]
end

mutual
theorem defaultsOkG_false : ∀ (t : Ty), defaultsOkG false t = t.defaultsOk
  | .sequence r x a => by
    simp only [defaultsOkG, Ty.defaultsOk, membersDefaultsOkG_false' r, membersDefaultsOkG_false' a]
  | .sequenceOf e c => by simp only [defaultsOkG, Ty.defaultsOk, defaultsOkG_false e]
  | .choice r x a => by
    simp only [defaultsOkG, Ty.defaultsOk, altsDefaultsOkG_false' r, altsDefaultsOkG_false' a]
  | .boolean | .null | .integer _ | .enumerated _ _ | .octetString _
  | .charString _ _ | .bitString _ => by simp only [defaultsOkG, Ty.defaultsOk]
theorem membersDefaultsOkG_false' : ∀ (ms : Members), membersDefaultsOkG false ms = ms.defaultsOk
  | .nil => by simp only [membersDefaultsOkG, Members.defaultsOk]
  | .cons n p t rest => by
    simp only [membersDefaultsOkG, Members.defaultsOk, defaultsOkG_false t, membersDefaultsOkG_false' rest,
      canonG_false]
    cases p <;> rfl
theorem altsDefaultsOkG_false' : ∀ (as : Alts), altsDefaultsOkG false as = as.defaultsOk
  | .nil => by simp only [altsDefaultsOkG, Alts.defaultsOk]
  | .cons m t rest => by
    simp only [altsDefaultsOkG, Alts.defaultsOk, defaultsOkG_false t, altsDefaultsOkG_false' rest]
end

mutual
theorem defaultsOkG_true : ∀ (t : Ty), defaultsOkG true t = X690.defaultsOkV t
  | .sequence r x a => by
    simp only [defaultsOkG, X690.defaultsOkV, membersDefaultsOkG_true' r, membersDefaultsOkG_true' a]
  | .sequenceOf e c => by simp only [defaultsOkG, X690.defaultsOkV, defaultsOkG_true e]
  | .choice r x a => by
    simp only [defaultsOkG, X690.defaultsOkV, altsDefaultsOkG_true' r, altsDefaultsOkG_true' a]
  | .boolean | .null | .integer _ | .enumerated _ _ | .octetString _
  | .charString _ _ | .bitString _ => by simp only [defaultsOkG, X690.defaultsOkV]
theorem membersDefaultsOkG_true' : ∀ (ms : Members), membersDefaultsOkG true ms = X690.membersDefaultsOkV ms
  | .nil => by simp only [membersDefaultsOkG, X690.membersDefaultsOkV]
  | .cons n p t rest => by
    simp only [membersDefaultsOkG, X690.membersDefaultsOkV, defaultsOkG_true t, membersDefaultsOkG_true' rest,
      canonG_true]
    cases p <;> rfl
theorem altsDefaultsOkG_true' : ∀ (as : Alts), altsDefaultsOkG true as = X690.altsDefaultsOkV as
  | .nil => by simp only [altsDefaultsOkG, X690.altsDefaultsOkV]
  | .cons m t rest => by
    simp only [altsDefaultsOkG, X690.altsDefaultsOkV, defaultsOkG_true t, altsDefaultsOkG_true' rest]
end

mutual
theorem compat_all : ∀ (t1 t2 : Ty), Extends t1 t2 → Compat t1 t2 ∧ Compat t2 t1
  | _, _, .boolean => ⟨.boolean, .boolean⟩
  | _, _, .null => ⟨.null, .null⟩
  | _, _, .integer c => ⟨.integer c, .integer c⟩
  | _, _, .octetString c => ⟨.octetString c, .octetString c⟩
  | _, _, .bitString c => ⟨.bitString c, .bitString c⟩
  | _, _, .charString k c => ⟨.charString k c, .charString k c⟩
  | _, _, .enumerated root => ⟨.enumerated root, .enumerated root⟩
  | _, _, .enumeratedExt root adds new => ⟨.enumeratedD root adds new, .enumeratedE root adds new⟩
  | _, _, .sequence x hr ha =>
    have h1 := compat_members _ _ hr
    have h2 := compat_adds x _ _ ha
    ⟨.sequence x h1.1 h2.1, .sequence x h1.2 h2.2⟩
  | _, _, .sequenceOf c he =>
    have h1 := compat_all _ _ he
    ⟨.sequenceOf c h1.1, .sequenceOf c h1.2⟩
  | _, _, .choice x hr ha =>
    have h1 := compat_alts _ _ hr
    have h2 := compat_altAdds x _ _ ha
    ⟨.choice x h1.1 h2.1, .choice x h1.2 h2.2⟩
theorem compat_members : ∀ (m1 m2 : Members), ExtendsMembers m1 m2 → CompatMembers m1 m2 ∧ CompatMembers m2 m1
  | _, _, .nil => ⟨.nil, .nil⟩
  | _, _, .cons n p ht hr =>
    have h1 := compat_all _ _ ht
    have h2 := compat_members _ _ hr
    ⟨.cons n p h1.1 h2.1, .cons n p h1.2 h2.2⟩
theorem compat_adds : ∀ (x : Bool) (m1 m2 : Members), ExtendsAdds x m1 m2 → CompatAdds m1 m2 ∧ CompatAdds m2 m1
  | _, _, _, .new _ ms _ ho => ⟨.nilD ms, .nilE ms ho⟩
  | _, _, _, .cons n p ht hr =>
    have h1 := compat_all _ _ ht
    have h2 := compat_adds _ _ _ hr
    ⟨.cons n p h1.1 h2.1, .cons n p h1.2 h2.2⟩
theorem compat_alts : ∀ (m1 m2 : Alts), ExtendsAlts m1 m2 → CompatAlts m1 m2 ∧ CompatAlts m2 m1
  | _, _, .nil => ⟨.nil, .nil⟩
  | _, _, .cons n ht hr =>
    have h1 := compat_all _ _ ht
    have h2 := compat_alts _ _ hr
    ⟨.cons n h1.1 h2.1, .cons n h1.2 h2.2⟩
theorem compat_altAdds : ∀ (x : Bool) (m1 m2 : Alts), ExtendsAltAdds x m1 m2 → CompatAltAdds m1 m2 ∧ CompatAltAdds m2 m1
  | _, _, _, .new _ as _ => ⟨.nilD as, .nilE as⟩
  | _, _, _, .cons n ht hr =>
    have h1 := compat_all _ _ ht
    have h2 := compat_altAdds _ _ _ hr
    ⟨.cons n h1.1 h2.1, .cons n h1.2 h2.2⟩
end

theorem ExtendsMembers.toAdds (x : Bool) : ∀ {m1 m2 : Members}, ExtendsMembers m1 m2 → ExtendsAdds x m1 m2
  | _, _, .nil => .new x .nil (.inr rfl) rfl
  | _, _, .cons n p ht hr => .cons n p ht (toAdds x hr)

theorem ExtendsAlts.toAltAdds (x : Bool) : ∀ {m1 m2 : Alts}, ExtendsAlts m1 m2 → ExtendsAltAdds x m1 m2
  | _, _, .nil => .new x .nil (.inr rfl)
  | _, _, .cons n ht hr => .cons n ht (toAltAdds x hr)

/-- Induction over an `Extends` derivation with THREE motives: types, SEQUENCE additions, CHOICE
additions.  Root members and root alternatives are additions with nothing new, so what is shown of
additions holds of them (for every marker `x`). -/
theorem Extends.induct {P : Ty → Ty → Prop} {PM : Bool → Members → Members → Prop}
    {PA : Bool → Alts → Alts → Prop}
    (boolean : P .boolean .boolean) (null : P .null .null) (integer : ∀ c, P (.integer c) (.integer c))
    (octetString : ∀ c, P (.octetString c) (.octetString c)) (bitString : ∀ c, P (.bitString c) (.bitString c))
    (charString : ∀ k c, P (.charString k c) (.charString k c))
    (enumerated : ∀ root, P (.enumerated root none) (.enumerated root none))
    (enumeratedExt : ∀ root adds new, P (.enumerated root (some adds)) (.enumerated root (some (adds ++ new))))
    (sequence : ∀ {r1 r2 a1 a2} x, ExtendsMembers r1 r2 → ExtendsAdds x a1 a2 → PM x r1 r2 → PM x a1 a2 →
      P (.sequence r1 x a1) (.sequence r2 x a2))
    (sequenceOf : ∀ {e1 e2} c, Extends e1 e2 → P e1 e2 → P (.sequenceOf e1 c) (.sequenceOf e2 c))
    (choice : ∀ {r1 r2 a1 a2} x, ExtendsAlts r1 r2 → ExtendsAltAdds x a1 a2 → PA x r1 r2 → PA x a1 a2 →
      P (.choice r1 x a1) (.choice r2 x a2))
    (addsNew : ∀ x ms, (x = true ∨ ms = .nil) → allOmissible ms = true → PM x .nil ms)
    (addsCons : ∀ {x t1 t2 m1 m2} n p, Extends t1 t2 → ExtendsAdds x m1 m2 → P t1 t2 → PM x m1 m2 →
      PM x (.cons n p t1 m1) (.cons n p t2 m2))
    (altNew : ∀ x as, (x = true ∨ as = .nil) → PA x .nil as)
    (altCons : ∀ {x t1 t2 m1 m2} n, Extends t1 t2 → ExtendsAltAdds x m1 m2 → P t1 t2 → PA x m1 m2 →
      PA x (.cons n t1 m1) (.cons n t2 m2)) :
    (∀ {t1 t2}, Extends t1 t2 → P t1 t2) ∧ (∀ {x m1 m2}, ExtendsAdds x m1 m2 → PM x m1 m2) ∧
      (∀ {x a1 a2}, ExtendsAltAdds x a1 a2 → PA x a1 a2) :=
  have ty : ∀ {t1 t2}, Extends t1 t2 → P t1 t2 := fun h =>
    Extends.rec (motive_1 := fun t1 t2 _ => P t1 t2) (motive_2 := fun m1 m2 _ => ∀ x, PM x m1 m2)
      (motive_3 := fun x m1 m2 _ => PM x m1 m2) (motive_4 := fun a1 a2 _ => ∀ x, PA x a1 a2)
      (motive_5 := fun x a1 a2 _ => PA x a1 a2)
      boolean null integer octetString bitString charString enumerated enumeratedExt
      (fun x hr ha ihr iha => sequence x hr ha (ihr x) iha) sequenceOf
      (fun x hr ha ihr iha => choice x hr ha (ihr x) iha)
      (fun x => addsNew x .nil (.inr rfl) rfl)
      (fun n p ht hr iht ihr x => addsCons n p ht (hr.toAdds x) iht (ihr x)) addsNew addsCons
      (fun x => altNew x .nil (.inr rfl))
      (fun n ht hr iht ihr x => altCons n ht (hr.toAltAdds x) iht (ihr x)) altNew altCons h
  ⟨ty,
    fun {x m1 m2} h => by
      induction m1 using Members.ind generalizing m2 with
      | nil => cases h with | new _ _ hx ho => exact addsNew x _ hx ho
      | cons n p t r ih => cases h with | cons _ _ ht hr => exact addsCons n p ht hr (ty ht) (ih hr),
    fun {x a1 a2} h => by
      induction a1 using Alts.ind generalizing a2 with
      | nil => cases h with | new _ _ hx => exact altNew x _ hx
      | cons n t r ih => cases h with | cons _ ht hr => exact altCons n ht hr (ty ht) (ih hr)⟩

/-- the names of the additions only the second list has -/
def newNames : Members → Members → List String
  | .nil, ms => ms.names
  | .cons _ _ _ m1, .cons _ _ _ m2 => newNames m1 m2
  | .cons _ _ _ _, .nil => []

theorem names_of_extendsMembers : ∀ {m1 m2 : Members}, ExtendsMembers m1 m2 →
    m1.names = m2.names ∧ m1.length = m2.length
  | _, _, .nil => ⟨rfl, rfl⟩
  | _, _, .cons n p _ hr => by
    have := names_of_extendsMembers hr
    simp only [Members.names, Members.length, this.1, this.2, and_self]

theorem names_of_extendsAdds : ∀ {x : Bool} {m1 m2 : Members}, ExtendsAdds x m1 m2 →
    m2.names = m1.names ++ newNames m1 m2 ∧ m1.length ≤ m2.length
  | _, _, _, .new .. => ⟨rfl, Nat.zero_le _⟩
  | _, _, _, .cons n p _ hr => by
    have := names_of_extendsAdds hr
    simp only [Members.names, Members.length, newNames, List.cons_append, ← this.1, true_and]
    omega

theorem names_of_extendsAlts : ∀ {m1 m2 : Alts}, ExtendsAlts m1 m2 →
    m1.names = m2.names ∧ m1.length = m2.length
  | _, _, .nil => ⟨rfl, rfl⟩
  | _, _, .cons n _ hr => by
    have := names_of_extendsAlts hr
    simp only [Alts.names, Alts.length, this.1, this.2, and_self]

theorem names_of_extendsAltAdds : ∀ {x : Bool} {m1 m2 : Alts}, ExtendsAltAdds x m1 m2 →
    (∃ s, m2.names = m1.names ++ s) ∧ m1.length ≤ m2.length
  | _, _, _, .new .. => ⟨⟨_, rfl⟩, Nat.zero_le _⟩
  | _, _, _, .cons n _ hr => by
    obtain ⟨⟨s, hs⟩, hl⟩ := names_of_extendsAltAdds hr
    exact ⟨⟨s, by simp only [Alts.names, hs, List.cons_append]⟩, by simp only [Alts.length]; omega⟩

theorem nodup_prefix {α : Type} {r a s : List α} (h : (r ++ (a ++ s)).Nodup) : (r ++ a).Nodup := by
  rw [← List.append_assoc] at h
  exact (List.nodup_append.mp h).1

theorem wf_all :
    (∀ {t1 t2}, Extends t1 t2 → t2.wf = true → t1.wf = true) ∧
    (∀ {x m1 m2}, ExtendsAdds x m1 m2 → m2.wf = true → m1.wf = true) ∧
    (∀ {x a1 a2}, ExtendsAltAdds x a1 a2 → a2.wf = true → a1.wf = true) := by
  apply Extends.induct
  case enumeratedExt =>
    intro root adds new hw
    simp only [Ty.wf, Bool.and_eq_true, decide_eq_true_eq, namesOf, List.map_append] at hw ⊢
    exact ⟨⟨hw.1.1, decide_eq_true (nodup_prefix hw.1.2)⟩, hw.2⟩
  case sequence =>
    intro r1 r2 a1 a2 x hr ha ihr iha hw
    rw [wf_sequence_iff] at hw ⊢
    obtain ⟨h1, h2, h3, h4, h5⟩ := hw
    obtain ⟨hs, hl⟩ := names_of_extendsAdds ha
    rw [← (names_of_extendsMembers hr).1, hs] at h3
    exact ⟨ihr h1, iha h2, nodup_prefix h3, h4.imp_right (by omega), by omega⟩
  case sequenceOf =>
    intro e1 e2 c _ ih hw
    simp only [Ty.wf, Bool.and_eq_true] at hw ⊢
    exact ⟨ih hw.1, hw.2⟩
  case choice =>
    intro r1 r2 a1 a2 x hr ha ihr iha hw
    rw [wf_choice_iff] at hw ⊢
    obtain ⟨h1, h2, h3, h4, h5⟩ := hw
    obtain ⟨hn, hrl⟩ := names_of_extendsAlts hr
    obtain ⟨⟨s, hs⟩, hl⟩ := names_of_extendsAltAdds ha
    rw [← hn, hs] at h4
    exact ⟨ihr h1, iha h2, by omega, nodup_prefix h4, h5.imp_right (by omega)⟩
  case addsCons =>
    intro x t1 t2 m1 m2 n p _ _ iht ihm hw
    simp only [Members.wf, Bool.and_eq_true] at hw ⊢
    exact ⟨iht hw.1, ihm hw.2⟩
  case altCons =>
    intro x t1 t2 m1 m2 n _ _ iht ihm hw
    simp only [Alts.wf, Bool.and_eq_true] at hw ⊢
    exact ⟨iht hw.1, ihm hw.2⟩
  case addsNew | altNew => intros; rfl
  case boolean | null | integer | octetString | bitString | charString | enumerated => intros; assumption

theorem wf_adds : ∀ (x : Bool) (m1 m2 : Members), ExtendsAdds x m1 m2 → m2.wf = true → m1.wf = true :=
  fun _ _ _ => wf_all.2.1

theorem wf_altAdds : ∀ (x : Bool) (m1 m2 : Alts), ExtendsAltAdds x m1 m2 → m2.wf = true → m1.wf = true :=
  fun _ _ _ => wf_all.2.2


theorem wf_members : ∀ (m1 m2 : Members), ExtendsMembers m1 m2 → m2.wf = true → m1.wf = true :=
  fun m1 m2 h => wf_adds false m1 m2 (h.toAdds false)

theorem wf_alts : ∀ (m1 m2 : Alts), ExtendsAlts m1 m2 → m2.wf = true → m1.wf = true :=
  fun m1 m2 h => wf_altAdds false m1 m2 (h.toAltAdds false)

theorem oerWf_all :
    (∀ {t1 t2}, Extends t1 t2 → Oer.oerWf t2 = true → Oer.oerWf t1 = true) ∧
    (∀ {x m1 m2}, ExtendsAdds x m1 m2 → Oer.oerWfMembers m2 = true → Oer.oerWfMembers m1 = true) ∧
    (∀ {x a1 a2}, ExtendsAltAdds x a1 a2 → Oer.oerWfAlts a2 = true → Oer.oerWfAlts a1 = true) := by
  apply Extends.induct
  case enumeratedExt =>
    intro root adds new hw
    simp only [Oer.oerWf, Option.getD_some, List.map_append, decide_eq_true_eq] at hw ⊢
    exact nodup_prefix hw
  case sequence =>
    intro r1 r2 a1 a2 x _ _ ihr iha hw
    simp only [Oer.oerWf, Bool.and_eq_true] at hw ⊢
    exact ⟨ihr hw.1, iha hw.2⟩
  case sequenceOf =>
    intro e1 e2 c _ ih hw
    simp only [Oer.oerWf] at hw ⊢
    exact ih hw
  case choice =>
    intro r1 r2 a1 a2 x _ _ ihr iha hw
    simp only [Oer.oerWf, Bool.and_eq_true] at hw ⊢
    exact ⟨ihr hw.1, iha hw.2⟩
  case addsCons =>
    intro x t1 t2 m1 m2 n p _ _ iht ihm hw
    simp only [Oer.oerWfMembers, Bool.and_eq_true] at hw ⊢
    exact ⟨iht hw.1, ihm hw.2⟩
  case altCons =>
    intro x t1 t2 m1 m2 n _ _ iht ihm hw
    simp only [Oer.oerWfAlts, Bool.and_eq_true] at hw ⊢
    exact ⟨iht hw.1, ihm hw.2⟩
  case addsNew | altNew => intros; rfl
  case boolean | null | integer | octetString | bitString | charString | enumerated => intros; assumption


theorem oerWf_adds : ∀ (x : Bool) (m1 m2 : Members), ExtendsAdds x m1 m2 → Oer.oerWfMembers m2 = true → Oer.oerWfMembers m1 = true :=
  fun _ _ _ => oerWf_all.2.1

theorem oerWf_altAdds : ∀ (x : Bool) (m1 m2 : Alts), ExtendsAltAdds x m1 m2 → Oer.oerWfAlts m2 = true → Oer.oerWfAlts m1 = true :=
  fun _ _ _ => oerWf_all.2.2

theorem oerWf_members : ∀ (m1 m2 : Members), ExtendsMembers m1 m2 → Oer.oerWfMembers m2 = true → Oer.oerWfMembers m1 = true :=
  fun m1 m2 h => oerWf_adds false m1 m2 (h.toAdds false)

theorem oerWf_alts : ∀ (m1 m2 : Alts), ExtendsAlts m1 m2 → Oer.oerWfAlts m2 = true → Oer.oerWfAlts m1 = true :=
  fun m1 m2 h => oerWf_altAdds false m1 m2 (h.toAltAdds false)

theorem nsOk_all :
    (∀ {t1 t2}, Extends t1 t2 → t2.nsOk = true → t1.nsOk = true) ∧
    (∀ {x m1 m2}, ExtendsAdds x m1 m2 → m2.nsOk = true → m1.nsOk = true) ∧
    (∀ {x a1 a2}, ExtendsAltAdds x a1 a2 → a2.nsOk = true → a1.nsOk = true) := by
  apply Extends.induct
  case boolean | null | integer | octetString | bitString | charString | enumerated => intros; assumption
  case enumeratedExt =>
    intro root adds new h
    simp only [Ty.nsOk] at h ⊢
    exact nsIndexOk_mono (by simp) h
  case sequence =>
    intro r1 r2 a1 a2 x _ _ ihr iha h
    simp only [Ty.nsOk, Bool.and_eq_true] at h ⊢
    exact ⟨ihr h.1, iha h.2⟩
  case sequenceOf =>
    intro e1 e2 c _ ih h
    simp only [Ty.nsOk] at h ⊢
    exact ih h
  case choice =>
    intro r1 r2 a1 a2 x _ ha ihr iha h
    simp only [Ty.nsOk, Bool.and_eq_true] at h ⊢
    exact ⟨⟨ihr h.1.1, iha h.1.2⟩, nsIndexOk_mono (names_of_extendsAltAdds ha).2 h.2⟩
  case addsCons =>
    intro x t1 t2 m1 m2 n p _ _ iht ihm h
    simp only [Members.nsOk, Bool.and_eq_true] at h ⊢
    exact ⟨iht h.1, ihm h.2⟩
  case altCons =>
    intro x t1 t2 m1 m2 n _ _ iht ihm h
    simp only [Alts.nsOk, Bool.and_eq_true] at h ⊢
    exact ⟨iht h.1, ihm h.2⟩
  case addsNew | altNew => intros; rfl

theorem hasMembers_omissible (ms : Members) (h : allOmissible ms = true) : hasMembers ms [] = some [] := by
  induction ms using Members.ind with
  | nil => rfl
  | cons n p t rest ih =>
    simp only [allOmissible, Bool.and_eq_true] at h
    rw [hasMembers_cons_nil]
    cases p with
    | mandatory => simp [omissible] at h
    | optional | default _ => exact ih h.2

/-- The disjunction in the second statement lets it serve root members and additions alike: root lists
have the same length (nothing new, any `rest`), additions are followed by nothing (`rest = []`, so the new
members, being omissible, accept the empty remainder). -/
theorem hasType_all :
    (∀ {t1 t2}, Extends t1 t2 → ∀ v, hasType t1 v = true → hasType t2 v = true) ∧
    (∀ {x m1 m2}, ExtendsAdds x m1 m2 → ∀ fs rest,
      hasMembers m1 fs = some rest → rest = [] ∨ m1.length = m2.length → hasMembers m2 fs = some rest) ∧
    (∀ {x a1 a2}, ExtendsAltAdds x a1 a2 → ∀ n v, hasAlt a1 n v = true → hasAlt a2 n v = true) := by
  apply Extends.induct
  case enumeratedExt =>
    intro root adds new v hv
    obtain ⟨n, rfl, -⟩ := hasType_enumerated hv
    simp only [hasType, namesOf, List.map_append, Bool.or_eq_true, List.contains_eq_mem, List.mem_append,
      decide_eq_true_eq] at hv ⊢
    exact hv.imp_right .inl
  case sequence =>
    intro r r2 a a2 x hr ha ihr iha v hv
    obtain ⟨fs, rfl, -⟩ := hasType_sequence hv
    simp only [hasType] at hv ⊢
    cases h1 : hasMembers r fs with
    | none => simp [h1] at hv
    | some rest =>
      simp only [h1] at hv
      rw [ihr fs rest h1 (.inr (names_of_extendsMembers hr).2)]
      cases h2 : hasMembers a rest with
      | none => simp [h2] at hv
      | some rest' =>
        simp only [h2, List.isEmpty_iff] at hv
        subst hv
        simp only [iha rest [] h2 (.inl rfl), List.isEmpty_nil]
  case sequenceOf =>
    intro e e2 c _ ih v hv
    obtain ⟨vs, rfl, -⟩ := hasType_sequenceOf hv
    simp only [hasType, Bool.and_eq_true, List.all_eq_true] at hv ⊢
    exact ⟨fun w hw => ih w (hv.1 w hw), hv.2⟩
  case choice =>
    intro r r2 a a2 x _ _ ihr iha v hv
    obtain ⟨n, w, rfl, -⟩ := hasType_choice hv
    simp only [hasType, Bool.or_eq_true] at hv ⊢
    exact hv.imp (ihr _ _) (iha _ _)
  case addsNew =>
    intro x m2 _ ho fs rest hm hnew
    simp only [hasMembers, Option.some.injEq] at hm
    subst hm
    rcases hnew with rfl | hl
    · exact hasMembers_omissible _ ho
    · cases m2 with
      | nil => rfl
      | cons => simp [Members.length] at hl
  case addsCons =>
    intro x t t2 ms ms2 n p _ _ iht ihm fs rest hm hnew
    have ih := fun fs' => ihm fs' rest
    have hnew' := hnew.imp_right (fun e => by simpa only [Members.length, Nat.add_right_cancel_iff] using e)
    cases fs with
    | nil =>
      rw [hasMembers_cons_nil] at hm ⊢
      cases p with
      | mandatory => simp at hm
      | optional | default _ => exact ih _ hm hnew'
    | cons f fs' =>
      obtain ⟨m, v⟩ := f
      rw [hasMembers_cons_cons] at hm ⊢
      by_cases hn : (m == n) = true
      · simp only [hn, if_true] at hm ⊢
        by_cases hv : hasType t v = true
        · simp only [hv, if_true] at hm
          simp only [iht v hv, if_true]
          exact ih _ hm hnew'
        · simp [hv] at hm
      · simp only [hn] at hm ⊢
        cases p with
        | mandatory => simp at hm
        | optional | default _ => exact ih _ hm hnew'
  case altNew => intro x as _ n v hv; simp [hasAlt] at hv
  case altCons =>
    intro x t t2 rest rest2 m _ _ iht ihm n v hv
    simp only [hasAlt] at hv ⊢
    by_cases hn : (m == n) = true
    · simp only [hn, if_true] at hv ⊢
      exact iht v hv
    · simp only [hn] at hv ⊢
      exact ihm n v hv
  case boolean | null | integer | octetString | bitString | charString | enumerated => intros; assumption

theorem hasMembers_new : ∀ (x : Bool) (m1 m2 : Members), ExtendsAdds x m1 m2 → ∀ fs rest,
    hasMembers m1 fs = some rest → rest = [] ∨ m1.length = m2.length → hasMembers m2 fs = some rest :=
  fun _ _ _ => hasType_all.2.1

theorem hasAlt_adds : ∀ (x : Bool) (m1 m2 : Alts), ExtendsAltAdds x m1 m2 → ∀ n v, hasAlt m1 n v = true → hasAlt m2 n v = true :=
  fun _ _ _ => hasType_all.2.2


theorem hasMembers_ext : ∀ (m1 m2 : Members), ExtendsMembers m1 m2 → ∀ fs rest,
    hasMembers m1 fs = some rest → hasMembers m2 fs = some rest :=
  fun m1 m2 h fs rest hm =>
    hasMembers_new false m1 m2 (h.toAdds false) fs rest hm (.inr (names_of_extendsMembers h).2)

theorem hasMembers_adds : ∀ (x : Bool) (m1 m2 : Members), ExtendsAdds x m1 m2 → ∀ fs,
    hasMembers m1 fs = some [] → hasMembers m2 fs = some [] :=
  fun x m1 m2 h fs hm => hasMembers_new x m1 m2 h fs [] hm (.inl rfl)

theorem hasAlt_ext : ∀ (m1 m2 : Alts), ExtendsAlts m1 m2 → ∀ n v, hasAlt m1 n v = true → hasAlt m2 n v = true :=
  fun m1 m2 h => hasAlt_adds false m1 m2 (h.toAltAdds false)


theorem newNames_of_extendsMembers : ∀ {m1 m2 : Members}, ExtendsMembers m1 m2 → newNames m1 m2 = []
  | _, _, .nil => rfl
  | _, _, .cons _ _ _ hr => by rw [newNames]; exact newNames_of_extendsMembers hr

theorem canonAltG_find (fa : Bool) (m : Alts) (n : String) (v : Val) :
    canonAltG fa m n v = (m.find n).map fun x => canonG fa x.2 v :=
  Alts.search_map n (f := fun m => canonAltG fa m n v) (fun _ _ _ => rfl) rfl m

theorem canonAltG_none_of_not_mem (fa : Bool) (m : Alts) (n : String) (v : Val) (h : n ∉ m.names) :
    canonAltG fa m n v = none := by
  rw [canonAltG_find, (Alts.find_none_iff n m).2 h]; rfl

theorem canonAltG_some_of_mem (fa : Bool) (m : Alts) (n : String) (v : Val) (h : n ∈ m.names) :
    ∃ w, canonAltG fa m n v = some w := by
  rw [canonAltG_find]
  cases hf : m.find n with
  | none => exact absurd h ((Alts.find_none_iff n m).1 hf)
  | some x => exact ⟨_, rfl⟩

theorem fieldNames_of_hasType (r : Members) (x : Bool) (a : Members) (fs : List (String × Val))
    (h : hasType (.sequence r x a) (.record fs) = true) :
    ∀ n ∈ fieldNames fs, n ∈ r.names ++ a.names := by
  rw [hasType] at h
  cases h1 : hasMembers r fs with
  | none => simp [h1] at h
  | some rest =>
    simp only [h1] at h
    cases h2 : hasMembers a rest with
    | none => simp [h2] at h
    | some rest' =>
      simp only [h2, List.isEmpty_iff] at h
      subst h
      obtain ⟨pre1, e1, m1⟩ := hasMembers_split r fs rest h1
      obtain ⟨pre2, e2, m2⟩ := hasMembers_split a rest [] h2
      intro n hn
      rw [e1, e2] at hn
      simp only [fieldNames, List.map_append, List.mem_append, List.map_nil, List.not_mem_nil, or_false] at hn
      exact List.mem_append.mpr (hn.imp (m1 n) (m2 n))

/-- A version-1 value is seen as its canonical form from either side.  `∀ n ∈ newNames m1 m2, …`: the value
has no field for a member only version 2 has; for root lists `newNames` is empty
(`newNames_of_extendsMembers`), which is how one statement serves root members and additions. -/
theorem view_same_all (fa : Bool) :
    (∀ {t1 t2}, Extends t1 t2 → t2.wf = true → ∀ v, hasType t1 v = true →
      view fa t1 t2 v = canonG fa t1 v ∧ view fa t2 t1 v = canonG fa t2 v) ∧
    (∀ {x m1 m2}, ExtendsAdds x m1 m2 → m2.wf = true → ∀ fs fill,
      membersOk m1 fs = true → (∀ n ∈ newNames m1 m2, lookup n fs = none) →
      viewMembers fa m1 m2 fs fill = canonMembersG fa m1 fs fill ∧
      viewMembers fa m2 m1 fs fill = canonMembersG fa m2 fs fill) ∧
    (∀ {x m1 m2}, ExtendsAltAdds x m1 m2 → m2.wf = true → ∀ n v, hasAlt m1 n v = true →
      viewAlt fa m1 m2 n v = canonAltG fa m1 n v ∧ viewAlt fa m2 m1 n v = canonAltG fa m2 n v) := by
  apply Extends.induct
  case enumeratedExt =>
    intro root adds new hw v hv
    have hv2 := hasType_all.1 (.enumeratedExt root adds new) v hv
    obtain ⟨n, rfl, -⟩ := hasType_enumerated hv
    simp only [hasType] at hv hv2
    simp only [view, canonG, hv, hv2, if_true, and_self]
  case enumerated =>
    intro root hw v hv
    obtain ⟨n, rfl, -⟩ := hasType_enumerated hv
    simp only [hasType] at hv
    simp only [view, canonG, hv, if_true, and_self]
  case sequence =>
    intro r r2 a a2 x hr ha ihr iha hw v hv
    have hw1 := wf_all.1 (.sequence x hr ha) hw
    obtain ⟨fs, rfl, hv'⟩ := hasType_sequence hv
    have hnd1 := ((wf_sequence_iff _ _ _).mp hw1).2.2.1
    obtain ⟨hwr, hwa, hnd2, _, _⟩ := (wf_sequence_iff _ _ _).mp hw
    obtain ⟨ok1, ok2⟩ := membersOk_of_hasType r a x fs hnd1 hv'
    have hnew : ∀ n ∈ newNames a a2, lookup n fs = none := by
      intro n hn
      apply lookup_none_of_not_mem
      intro hmem
      have := fieldNames_of_hasType r x a fs hv' n hmem
      rw [(names_of_extendsAdds ha).1, ← (names_of_extendsMembers hr).1, ← List.append_assoc] at hnd2
      exact (List.nodup_append.mp hnd2).2.2 n this n hn rfl
    have e1 := ihr hwr fs true ok1 (by simp [newNames_of_extendsMembers hr])
    have e2 := iha hwa fs fa ok2 hnew
    simp only [view, canonG, e1.1, e1.2, e2.1, e2.2, and_self]
  case sequenceOf =>
    intro e e2 c _ ih hw v hv
    obtain ⟨vs, rfl, hvs, -⟩ := hasType_sequenceOf hv
    simp only [Ty.wf, Bool.and_eq_true] at hw
    simp only [view, canonG, Val.list.injEq]
    exact ⟨List.map_congr_left (fun w hw' => (ih hw.1 w (hvs w hw')).1),
      List.map_congr_left (fun w hw' => (ih hw.1 w (hvs w hw')).2)⟩
  case choice =>
    intro r r2 a a2 x hr ha ihr iha hw v hv
    have hw1 := wf_all.1 (.choice x hr ha) hw
    obtain ⟨n, v, rfl, hva⟩ := hasType_choice hv
    have hnd1 := ((wf_choice_iff _ _ _).mp hw1).2.2.2.1
    obtain ⟨hwr, hwa, _, hnd2, _⟩ := (wf_choice_iff _ _ _).mp hw
    have hn12 := (names_of_extendsAlts hr).1
    rw [Bool.or_eq_true] at hva
    simp only [view, canonG]
    rcases hva with hv | hv
    · have e := ihr hwr n v hv
      have hm := mem_names_of_hasAlt hv
      obtain ⟨w1, hw1⟩ := canonAltG_some_of_mem fa r n v hm
      obtain ⟨w2, hw2⟩ := canonAltG_some_of_mem fa r2 n v (hn12 ▸ hm)
      simp only [e.1, e.2, hw1, hw2, and_self]
    · have hm := mem_names_of_hasAlt hv
      have hnm : n ∉ r.names := fun hc => (List.nodup_append.mp hnd1).2.2 n hc n hm rfl
      have hnm2 : n ∉ r2.names := hn12 ▸ hnm
      have e := iha hwa n v hv
      obtain ⟨w1, hw1⟩ := canonAltG_some_of_mem fa a n v hm
      obtain ⟨s, hs⟩ := (names_of_extendsAltAdds ha).1
      obtain ⟨w2, hw2⟩ := canonAltG_some_of_mem fa a2 n v (by rw [hs]; exact List.mem_append.mpr (Or.inl hm))
      simp only [viewAlt_none_of_not_mem fa r r2 n v hnm, viewAlt_none_of_not_mem fa r2 r n v hnm2,
        canonAltG_none_of_not_mem fa r n v hnm, canonAltG_none_of_not_mem fa r2 n v hnm2,
        e.1, e.2, hw1, hw2, and_self]
  case addsNew =>
    intro x m2 _ _ hw fs fill hm hnew
    exact ⟨viewMembers_nilD _ _ _ _, viewMembers_nilE _ _ _ _ hnew⟩
  case addsCons =>
    intro x t t2 ms ms2 n p _ _ iht ihm hw fs fill hm hnew
    simp only [Members.wf, Bool.and_eq_true] at hw
    simp only [membersOk, Bool.and_eq_true] at hm
    have ih := ihm hw.2 fs fill hm.2 hnew
    cases hl : lookup n fs with
    | none => simp only [viewMembers, canonMembersG, hl, ih.1, ih.2, and_self]
    | some v =>
      have e := iht hw.1 v (by have := hm.1; rwa [hl] at this)
      simp only [viewMembers, canonMembersG, hl, ih.1, ih.2, e.1, e.2, and_self]
  case altNew => intro x as _ hw n v hv; simp [hasAlt] at hv
  case altCons =>
    intro x t t2 rest rest2 k _ _ iht ihm hw n v hv
    simp only [Alts.wf, Bool.and_eq_true] at hw
    simp only [hasAlt] at hv
    by_cases hk : (k == n) = true
    · simp only [hk, if_true] at hv
      have e := iht hw.1 v hv
      simp only [viewAlt, canonAltG, hk, if_true, e.1, e.2, and_self]
    · simp only [hk, Bool.false_eq_true, if_false] at hv
      have ih := ihm hw.2 n v hv
      simp only [viewAlt, canonAltG, hk, Bool.false_eq_true, if_false, ih.1, ih.2, and_self]
  case boolean | null | integer | octetString | bitString | charString =>
    intros; rename_i v _; cases v <;> simp only [view, canonG, and_self]

theorem viewAdds_same (fa : Bool) : ∀ (x : Bool) (m1 m2 : Members), ExtendsAdds x m1 m2 → m2.wf = true → ∀ fs fill,
    membersOk m1 fs = true → (∀ n ∈ newNames m1 m2, lookup n fs = none) →
    viewMembers fa m1 m2 fs fill = canonMembersG fa m1 fs fill ∧
    viewMembers fa m2 m1 fs fill = canonMembersG fa m2 fs fill :=
  fun _ _ _ => (view_same_all fa).2.1

theorem viewAltAdds_same (fa : Bool) : ∀ (x : Bool) (m1 m2 : Alts), ExtendsAltAdds x m1 m2 → m2.wf = true → ∀ n v,
    hasAlt m1 n v = true →
    viewAlt fa m1 m2 n v = canonAltG fa m1 n v ∧ viewAlt fa m2 m1 n v = canonAltG fa m2 n v :=
  fun _ _ _ => (view_same_all fa).2.2


theorem viewMembers_same (fa : Bool) : ∀ (m1 m2 : Members), ExtendsMembers m1 m2 → m2.wf = true → ∀ fs fill,
    membersOk m1 fs = true →
    viewMembers fa m1 m2 fs fill = canonMembersG fa m1 fs fill ∧
    viewMembers fa m2 m1 fs fill = canonMembersG fa m2 fs fill :=
  fun m1 m2 h hw fs fill hm => viewAdds_same fa false m1 m2 (h.toAdds false) hw fs fill hm
    (by simp [newNames_of_extendsMembers h])

theorem viewAlt_same (fa : Bool) : ∀ (m1 m2 : Alts), ExtendsAlts m1 m2 → m2.wf = true → ∀ n v,
    hasAlt m1 n v = true →
    viewAlt fa m1 m2 n v = canonAltG fa m1 n v ∧ viewAlt fa m2 m1 n v = canonAltG fa m2 n v :=
  fun m1 m2 h => viewAltAdds_same fa false m1 m2 (h.toAltAdds false)


theorem membersDefaultsOkG_cons (fa : Bool) (n : String) (p : Presence) (t : Ty) (rest : Members)
    (h : membersDefaultsOkG fa (.cons n p t rest) = true) :
    (∀ d, p = .default d → hasType t d = true ∧ canonG fa t d = d) ∧ defaultsOkG fa t = true ∧
      membersDefaultsOkG fa rest = true := by
  simp only [membersDefaultsOkG, Bool.and_eq_true] at h
  refine ⟨?_, h.1.2, h.2⟩
  intro d hp
  subst hp
  have := h.1.1
  simp only [Bool.and_eq_true] at this
  exact ⟨this.1, Val.eq_of_beq _ _ this.2⟩

theorem dOk_all (fa : Bool) :
    (∀ {t1 t2}, Extends t1 t2 → t2.wf = true → defaultsOkG fa t1 = true →
      dOk fa t1 t2 ∧ (defaultsOkG fa t2 = true → dOk fa t2 t1)) ∧
    (∀ {x m1 m2}, ExtendsAdds x m1 m2 → m2.wf = true → membersDefaultsOkG fa m1 = true →
      dOkMembers fa m1 m2 ∧ (membersDefaultsOkG fa m2 = true → dOkMembers fa m2 m1)) ∧
    (∀ {x m1 m2}, ExtendsAltAdds x m1 m2 → m2.wf = true → altsDefaultsOkG fa m1 = true →
      dOkAlts fa m1 m2 ∧ (altsDefaultsOkG fa m2 = true → dOkAlts fa m2 m1)) := by
  apply Extends.induct
  case sequence =>
    intro r r2 a a2 x _ _ ihr iha hw hd
    obtain ⟨hwr, hwa, _, _, _⟩ := (wf_sequence_iff _ _ _).mp hw
    simp only [defaultsOkG, Bool.and_eq_true] at hd
    have e1 := ihr hwr hd.1
    have e2 := iha hwa hd.2
    simp only [dOk, defaultsOkG, Bool.and_eq_true]
    exact ⟨⟨e1.1, e2.1⟩, fun h2 => ⟨e1.2 h2.1, e2.2 h2.2⟩⟩
  case sequenceOf =>
    intro e e2 c _ ih hw hd
    simp only [Ty.wf, Bool.and_eq_true] at hw
    simp only [defaultsOkG] at hd
    simp only [dOk, defaultsOkG]
    exact ih hw.1 hd
  case choice =>
    intro r r2 a a2 x _ _ ihr iha hw hd
    obtain ⟨hwr, hwa, _, _, _⟩ := (wf_choice_iff _ _ _).mp hw
    simp only [defaultsOkG, Bool.and_eq_true] at hd
    have e1 := ihr hwr hd.1
    have e2 := iha hwa hd.2
    simp only [dOk, defaultsOkG, Bool.and_eq_true]
    exact ⟨⟨e1.1, e2.1⟩, fun h2 => ⟨e1.2 h2.1, e2.2 h2.2⟩⟩
  case addsNew => intros; exact ⟨dOkMembers_nilD _ _, fun _ => dOkMembers_nilE _ _⟩
  case addsCons =>
    intro x t t2 ms ms2 n p ht _ iht ihm hw hd
    simp only [Members.wf, Bool.and_eq_true] at hw
    obtain ⟨hd1, hd2, hd3⟩ := membersDefaultsOkG_cons _ _ _ _ _ hd
    have e1 := iht hw.1 hd2
    have e2 := ihm hw.2 hd3
    -- a DEFAULT value is a version-1 value in canonical form: both sides see it as itself
    have hv := fun d hp => (view_same_all fa).1 ht hw.1 d (hd1 d hp).1
    refine ⟨dOkMembers_cons_intro _ _ _ ?_ e1.1 e2.1, fun h2 => ?_⟩
    · intro d hp
      rw [(hv d hp).1, (hd1 d hp).2]
    · obtain ⟨hd1', hd2', hd3'⟩ := membersDefaultsOkG_cons _ _ _ _ _ h2
      refine dOkMembers_cons_intro _ _ _ ?_ (e1.2 hd2') (e2.2 hd3')
      intro d hp
      rw [(hv d hp).2, (hd1' d hp).2]
  case altNew => intros; exact ⟨dOkAlts_nilD _ _, fun _ => dOkAlts_nilE _ _⟩
  case altCons =>
    intro x t t2 ms ms2 n _ _ iht ihm hw hd
    simp only [Alts.wf, Bool.and_eq_true] at hw
    simp only [altsDefaultsOkG, Bool.and_eq_true] at hd
    have e1 := iht hw.1 hd.1
    have e2 := ihm hw.2 hd.2
    simp only [dOkAlts, altsDefaultsOkG, Bool.and_eq_true]
    exact ⟨⟨e1.1, e2.1⟩, fun h2 => ⟨e1.2 h2.1, e2.2 h2.2⟩⟩
  case boolean | null | integer | octetString | bitString | charString | enumerated | enumeratedExt =>
    intros; simp only [dOk, and_self, implies_true]


theorem dOk_adds (fa : Bool) : ∀ (x : Bool) (m1 m2 : Members), ExtendsAdds x m1 m2 → m2.wf = true →
    membersDefaultsOkG fa m1 = true →
    dOkMembers fa m1 m2 ∧ (membersDefaultsOkG fa m2 = true → dOkMembers fa m2 m1) :=
  fun _ _ _ => (dOk_all fa).2.1

theorem dOk_altAdds (fa : Bool) : ∀ (x : Bool) (m1 m2 : Alts), ExtendsAltAdds x m1 m2 → m2.wf = true →
    altsDefaultsOkG fa m1 = true →
    dOkAlts fa m1 m2 ∧ (altsDefaultsOkG fa m2 = true → dOkAlts fa m2 m1) :=
  fun _ _ _ => (dOk_all fa).2.2

theorem dOk_members (fa : Bool) : ∀ (m1 m2 : Members), ExtendsMembers m1 m2 → m2.wf = true →
    membersDefaultsOkG fa m1 = true →
    dOkMembers fa m1 m2 ∧ (membersDefaultsOkG fa m2 = true → dOkMembers fa m2 m1) :=
  fun m1 m2 h => dOk_adds fa false m1 m2 (h.toAdds false)

theorem dOk_alts (fa : Bool) : ∀ (m1 m2 : Alts), ExtendsAlts m1 m2 → m2.wf = true →
    altsDefaultsOkG fa m1 = true →
    dOkAlts fa m1 m2 ∧ (altsDefaultsOkG fa m2 = true → dOkAlts fa m2 m1) :=
  fun m1 m2 h => dOk_altAdds fa false m1 m2 (h.toAltAdds false)


/-- every member both lists know is found in `fs'` as the projection of what is found in `fs` -/
def LookupOK : Members → Members → List (String × Val) → List (String × Val) → Prop
  | .cons n _ t1 m1, .cons _ _ t2 m2, fs, fs' =>
    lookup n fs' = (lookup n fs).map (project t1 t2) ∧ LookupOK m1 m2 fs fs'
  | .nil, _, _, _ => True
  | .cons _ _ _ _, .nil, _, _ => True

theorem fieldNames_projectMembers (m1 m2 : Members) (fs : List (String × Val)) :
    ∀ n ∈ fieldNames (projectMembers m1 m2 fs), n ∈ m1.names := by
  induction m1 using Members.ind generalizing m2 with
  | nil => intro n hn; cases m2 <;> simp [projectMembers, fieldNames] at hn
  | cons k p t rest ih =>
    cases m2 with
    | nil => intro n hn; simp [projectMembers, fieldNames] at hn
    | cons k' p' t' rest' =>
      intro n hn
      simp only [projectMembers] at hn
      cases hl : lookup k fs with
      | none =>
        simp only [hl] at hn
        simp only [Members.names, List.mem_cons]; exact Or.inr (ih _ n hn)
      | some v =>
        simp only [hl, fieldNames, List.map_cons, List.mem_cons] at hn
        simp only [Members.names, List.mem_cons]
        rcases hn with hn | hn
        · exact Or.inl hn
        · exact Or.inr (ih _ n hn)

theorem lookupOK_proj (m1 m2 : Members) (fs pre post : List (String × Val))
    (hnd : m1.names.Nodup) (hpre : ∀ n ∈ m1.names, n ∉ fieldNames pre)
    (hpost : ∀ n ∈ m1.names, n ∉ fieldNames post) :
    LookupOK m1 m2 fs (pre ++ (projectMembers m1 m2 fs ++ post)) := by
  induction m1 using Members.ind generalizing m2 pre with
  | nil => simp only [LookupOK]
  | cons k p t rest ih =>
    cases m2 with
    | nil => simp only [LookupOK]
    | cons k' p' t' rest' =>
      simp only [Members.names, List.nodup_cons] at hnd
      have hk_pre : k ∉ fieldNames pre := hpre k (by simp [Members.names])
      have hk_post : k ∉ fieldNames post := hpost k (by simp [Members.names])
      have hk_rest : k ∉ fieldNames (projectMembers rest rest' fs) :=
        fun hc => hnd.1 (fieldNames_projectMembers _ _ _ k hc)
      have hpre' : ∀ n ∈ rest.names, n ∉ fieldNames pre := fun n hn => hpre n (by simp [Members.names, hn])
      have hpost' : ∀ n ∈ rest.names, n ∉ fieldNames post := fun n hn => hpost n (by simp [Members.names, hn])
      simp only [LookupOK, projectMembers]
      cases hl : lookup k fs with
      | none =>
        simp only [Option.map_none]
        refine ⟨?_, ih _ pre hnd.2 hpre' hpost'⟩
        apply lookup_none_of_not_mem
        simp only [fieldNames, List.map_append, List.mem_append, not_or]
        exact ⟨hk_pre, hk_rest, hk_post⟩
      | some v =>
        simp only [Option.map_some]
        constructor
        · rw [lookup_append_of_not_mem _ _ _ hk_pre, List.cons_append, lookup_cons]
          simp only [beq_self_eq_true, if_true]
        · have := ih rest' (pre ++ [(k, project t t' v)]) hnd.2 (by
            intro n hn
            simp only [fieldNames, List.map_append, List.map_cons, List.map_nil, List.mem_append,
              List.mem_singleton, not_or]
            exact ⟨hpre' n hn, fun e => hnd.1 (e ▸ hn)⟩) hpost'
          simpa only [List.append_assoc, List.singleton_append, List.cons_append, List.nil_append] using this

theorem canonG_absent (fa : Bool) (t : Ty) : canonG fa t .absent = .absent := by
  cases t <;> simp only [canonG]

theorem canonAltG_absent (fa : Bool) (m : Alts) (n : String) (w : Val)
    (h : canonAltG fa m n .absent = some w) : w = .absent := by
  rw [canonAltG_find] at h
  cases hf : m.find n with
  | none => rw [hf] at h; cases h
  | some x => rw [hf] at h; simpa [canonG_absent] using h.symm

theorem canonG_choice_absent (fa : Bool) (r : Alts) (x : Bool) (a : Alts) :
    canonG fa (.choice r x a) (.choice "" .absent) = .choice "" .absent := by
  simp only [canonG]
  cases h1 : canonAltG fa r "" .absent with
  | some w => simp only [canonAltG_absent _ _ _ _ h1]
  | none =>
    simp only
    cases h2 : canonAltG fa a "" .absent with
    | some w => simp only [canonAltG_absent _ _ _ _ h2]
    | none => rfl

theorem projectAlt_none_of_not_mem (m1 m2 : Alts) (n : String) (v : Val) (h : n ∉ m1.names) :
    projectAlt m1 m2 n v = none := by
  induction m1 using Alts.ind generalizing m2 with
  | nil => cases m2 <;> rfl
  | cons k t rest ih =>
    cases m2 with
    | nil => rfl
    | cons k' t' rest' =>
      simp only [Alts.names, List.mem_cons, not_or] at h
      have hk : (k == n) = false := by simpa using fun e => h.1 (e.symm)
      simp only [projectAlt, hk, Bool.false_eq_true, if_false]
      exact ih _ h.2


theorem view_project_all (fa : Bool) :
    (∀ {t1 t2}, Extends t1 t2 → t1.wf = true → ∀ v, view fa t1 t2 v = canonG fa t1 (project t1 t2 v)) ∧
    (∀ {x m1 m2}, ExtendsAdds x m1 m2 → m1.wf = true →
      ∀ fs fs' fill, LookupOK m1 m2 fs fs' → viewMembers fa m1 m2 fs fill = canonMembersG fa m1 fs' fill) ∧
    (∀ {x m1 m2}, ExtendsAltAdds x m1 m2 → m1.wf = true →
      ∀ n v, n ∈ m1.names → ∃ w, projectAlt m1 m2 n v = some w ∧ viewAlt fa m1 m2 n v = canonAltG fa m1 n w) := by
  apply Extends.induct
  case sequence =>
    intro r r2 a a2 x _ _ ihr iha hw v
    cases v <;> simp only [view, canonG, project]
    rename_i fs
    obtain ⟨hwr, hwa, hnd, _, _⟩ := (wf_sequence_iff _ _ _).mp hw
    obtain ⟨nd1, nd2, disj⟩ := List.nodup_append.mp hnd
    have l1 : LookupOK r r2 fs (projectMembers r r2 fs ++ projectMembers a a2 fs) := by
      have := lookupOK_proj r r2 fs [] (projectMembers a a2 fs) nd1 (by simp [fieldNames])
        (fun n hn hc => disj n hn n (fieldNames_projectMembers _ _ _ n hc) rfl)
      simpa only [List.nil_append] using this
    have l2 : LookupOK a a2 fs (projectMembers r r2 fs ++ projectMembers a a2 fs) := by
      have := lookupOK_proj a a2 fs (projectMembers r r2 fs) [] nd2
        (fun n hn hc => disj n (fieldNames_projectMembers _ _ _ n hc) n hn rfl) (by simp [fieldNames])
      simpa only [List.append_nil] using this
    rw [ihr hwr fs _ true l1, iha hwa fs _ fa l2]
  case sequenceOf =>
    intro e e2 c _ ih hw v
    simp only [Ty.wf, Bool.and_eq_true] at hw
    cases v <;> simp only [view, canonG, project]
    simp only [List.map_map, Val.list.injEq]
    exact List.map_congr_left (fun w _ => ih hw.1 w)
  case choice =>
    intro r r2 a a2 x _ _ ihr iha hw v
    obtain ⟨hwr, hwa, _, _, _⟩ := (wf_choice_iff _ _ _).mp hw
    cases v with
    | choice n v =>
      simp only [view, project]
      by_cases hr1 : n ∈ r.names
      · obtain ⟨w, hp, hv⟩ := ihr hwr n v hr1
        obtain ⟨w', hw'⟩ := canonAltG_some_of_mem fa r n w hr1
        simp only [hp, hv, hw', canonG]
      · simp only [viewAlt_none_of_not_mem fa r r2 n v hr1, projectAlt_none_of_not_mem r r2 n v hr1]
        by_cases ha1 : n ∈ a.names
        · obtain ⟨w, hp, hv⟩ := iha hwa n v ha1
          obtain ⟨w', hw'⟩ := canonAltG_some_of_mem fa a n w ha1
          simp only [hp, hv, hw', canonG, canonAltG_none_of_not_mem fa r n w hr1]
        · simp only [viewAlt_none_of_not_mem fa a a2 n v ha1, projectAlt_none_of_not_mem a a2 n v ha1,
            canonG_choice_absent]
    | _ => simp only [view, project, canonG]
  case addsNew => intros; exact viewMembers_nilD _ _ _ _
  case addsCons =>
    intro x t t2 ms ms2 n p _ _ iht ihm hw fs fs' fill hl
    simp only [Members.wf, Bool.and_eq_true] at hw
    simp only [LookupOK] at hl
    have ih := ihm hw.2 fs fs' fill hl.2
    have hf' := hl.1
    cases hf : lookup n fs with
    | none =>
      simp only [hf, Option.map_none] at hf'
      simp only [viewMembers, canonMembersG, hf, hf', ih]
    | some v =>
      simp only [hf, Option.map_some] at hf'
      simp only [viewMembers, canonMembersG, hf, hf', ih, iht hw.1 v]
  case altNew => intro x as _ _ n v hn; simp [Alts.names] at hn
  case altCons =>
    intro x t t2 rest rest2 k _ _ iht ihm hw n v hn
    simp only [Alts.wf, Bool.and_eq_true] at hw
    by_cases hk : (k == n) = true
    · refine ⟨project t t2 v, by simp only [projectAlt, hk, if_true], ?_⟩
      simp only [viewAlt, canonAltG, hk, if_true, iht hw.1 v]
    · have hn' : n ∈ rest.names := by
        simp only [Alts.names, List.mem_cons] at hn
        rcases hn with hn | hn
        · exact absurd (show (k == n) = true by simp [hn]) hk
        · exact hn
      obtain ⟨w, h1, h2⟩ := ihm hw.2 n v hn'
      refine ⟨w, by simp only [projectAlt, hk, Bool.false_eq_true, if_false, h1], ?_⟩
      simp only [viewAlt, canonAltG, hk, Bool.false_eq_true, if_false, h2]
  case boolean | null | integer | octetString | bitString | charString | enumerated | enumeratedExt =>
    intros; rename_i v; cases v <;> simp only [view, canonG, project]

theorem viewAdds_project (fa : Bool) : ∀ (x : Bool) (m1 m2 : Members), ExtendsAdds x m1 m2 → m1.wf = true →
    ∀ fs fs' fill, LookupOK m1 m2 fs fs' → viewMembers fa m1 m2 fs fill = canonMembersG fa m1 fs' fill :=
  fun _ _ _ => (view_project_all fa).2.1

theorem viewAltAdds_project (fa : Bool) : ∀ (x : Bool) (m1 m2 : Alts), ExtendsAltAdds x m1 m2 → m1.wf = true →
    ∀ n v, n ∈ m1.names → ∃ w, projectAlt m1 m2 n v = some w ∧ viewAlt fa m1 m2 n v = canonAltG fa m1 n w :=
  fun _ _ _ => (view_project_all fa).2.2


theorem viewMembers_project (fa : Bool) : ∀ (m1 m2 : Members), ExtendsMembers m1 m2 → m1.wf = true →
    ∀ fs fs' fill, LookupOK m1 m2 fs fs' → viewMembers fa m1 m2 fs fill = canonMembersG fa m1 fs' fill :=
  fun m1 m2 h => viewAdds_project fa false m1 m2 (h.toAdds false)

theorem presenceEq_iff (p p' : Presence) : presenceEq p p' = true ↔ p = p' := by
  cases p <;> cases p' <;> simp only [presenceEq, Bool.false_eq_true, reduceCtorEq, Presence.default.injEq]
  rename_i a b
  exact ⟨Val.eq_of_beq a b, fun h => h ▸ Val.beq_self a⟩

theorem isPrefix_iff (a b : List (String × Int)) : isPrefix a b = true ↔ ∃ new, b = a ++ new := by
  induction a generalizing b with
  | nil => simp [isPrefix]
  | cons x r ih =>
    cases b with
    | nil => simp [isPrefix]
    | cons y s =>
      simp only [isPrefix, Bool.and_eq_true, decide_eq_true_eq, ih, List.cons_append, List.cons.injEq]
      constructor
      · rintro ⟨rfl, new, rfl⟩; exact ⟨new, rfl, rfl⟩
      · rintro ⟨new, rfl, rfl⟩; exact ⟨rfl, new, rfl⟩

/-- by the checker's own case analysis (`extendsB.mutual_induct`): one case per equation of the five
functions, the catch-all equations included -/
theorem extendsB_iff_all :
    (∀ t1 t2, extendsB t1 t2 = true ↔ Extends t1 t2) ∧
    (∀ x a1 a2, extendsAltAddsB x a1 a2 = true ↔ ExtendsAltAdds x a1 a2) ∧
    (∀ a1 a2, extendsAltsB a1 a2 = true ↔ ExtendsAlts a1 a2) ∧
    (∀ x m1 m2, extendsAddsB x m1 m2 = true ↔ ExtendsAdds x m1 m2) ∧
    (∀ m1 m2, extendsMembersB m1 m2 = true ↔ ExtendsMembers m1 m2) := by
  apply extendsB.mutual_induct
  case case1 => exact ⟨fun _ => .boolean, fun _ => rfl⟩
  case case2 => exact ⟨fun _ => .null, fun _ => rfl⟩
  case case3 =>
    intro c c'
    rw [extendsB, decide_eq_true_eq]
    exact ⟨fun h => h ▸ .integer c, fun h => by cases h; rfl⟩
  case case4 =>
    intro c c'
    rw [extendsB, decide_eq_true_eq]
    exact ⟨fun h => h ▸ .octetString c, fun h => by cases h; rfl⟩
  case case5 =>
    intro c c'
    rw [extendsB, decide_eq_true_eq]
    exact ⟨fun h => h ▸ .bitString c, fun h => by cases h; rfl⟩
  case case6 =>
    intro k c k' c'
    rw [extendsB, Bool.and_eq_true, decide_eq_true_eq, decide_eq_true_eq]
    exact ⟨fun h => h.1 ▸ h.2 ▸ .charString k c, fun h => by cases h; exact ⟨rfl, rfl⟩⟩
  case case7 =>
    intro root root'
    rw [extendsB, decide_eq_true_eq]
    exact ⟨fun h => h ▸ .enumerated root, fun h => by cases h; rfl⟩
  case case8 =>
    intro root adds root' adds'
    rw [extendsB, Bool.and_eq_true, decide_eq_true_eq, isPrefix_iff]
    constructor
    · rintro ⟨rfl, new, rfl⟩; exact .enumeratedExt _ _ _
    · intro h; cases h; exact ⟨rfl, _, rfl⟩
  case case9 =>
    intro r1 x a1 r2 x' a2 ihr iha
    rw [extendsB, Bool.and_eq_true, Bool.and_eq_true, beq_iff_eq, ihr, iha]
    constructor
    · rintro ⟨⟨rfl, h1⟩, h2⟩; exact .sequence x h1 h2
    · intro h; cases h with | sequence _ h1 h2 => exact ⟨⟨rfl, h1⟩, h2⟩
  case case10 =>
    intro e1 c e2 c' ih
    rw [extendsB, Bool.and_eq_true, decide_eq_true_eq, ih]
    constructor
    · rintro ⟨rfl, h1⟩; exact .sequenceOf c h1
    · intro h; cases h with | sequenceOf _ h1 => exact ⟨rfl, h1⟩
  case case11 =>
    intro r1 x a1 r2 x' a2 ihr iha
    rw [extendsB, Bool.and_eq_true, Bool.and_eq_true, beq_iff_eq, ihr, iha]
    constructor
    · rintro ⟨⟨rfl, h1⟩, h2⟩; exact .choice x h1 h2
    · intro h; cases h with | choice _ h1 h2 => exact ⟨⟨rfl, h1⟩, h2⟩
  case case12 =>
    -- no equation of `extendsB` but the last applies: no constructor of `Extends` does either
    intro t x h1 h2 h3 h4 h5 h6 h7 h8 h9 h10 h11
    rw [extendsB.eq_12 t x h1 h2 h3 h4 h5 h6 h7 h8 h9 h10 h11]
    refine ⟨nofun, fun h => ?_⟩
    cases h with
    | boolean => exact (h1 rfl rfl).elim
    | null => exact (h2 rfl rfl).elim
    | integer c => exact (h3 _ _ rfl rfl).elim
    | octetString c => exact (h4 _ _ rfl rfl).elim
    | bitString c => exact (h5 _ _ rfl rfl).elim
    | charString k c => exact (h6 _ _ _ _ rfl rfl).elim
    | enumerated root => exact (h7 _ _ rfl rfl).elim
    | enumeratedExt root adds new => exact (h8 _ _ _ _ rfl rfl).elim
    | sequence => exact (h9 _ _ _ _ _ _ rfl rfl).elim
    | sequenceOf => exact (h10 _ _ _ _ rfl rfl).elim
    | choice => exact (h11 _ _ _ _ _ _ rfl rfl).elim
  case case13 =>
    intro x m2
    simp only [extendsAddsB, Bool.and_eq_true, Bool.or_eq_true]
    constructor
    · rintro ⟨h1, h2⟩
      refine .new x m2 (h1.imp_right fun h => ?_) h2
      cases m2
      · rfl
      · simp at h
    · intro h
      cases h with
      | new _ _ h1 h2 => exact ⟨h1.imp_right fun h => by subst h; rfl, h2⟩
  case case14 =>
    intro x n p t1 m1 n' p' t2 m2 iht ihm
    rw [extendsAddsB, Bool.and_eq_true, Bool.and_eq_true, Bool.and_eq_true, beq_iff_eq, presenceEq_iff, iht, ihm]
    constructor
    · rintro ⟨⟨⟨rfl, rfl⟩, h1⟩, h2⟩; exact .cons n p h1 h2
    · intro h; cases h with | cons _ _ h1 h2 => exact ⟨⟨⟨rfl, rfl⟩, h1⟩, h2⟩
  case case15 => intro x n p t r; exact ⟨nofun, nofun⟩
  case case16 => exact ⟨fun _ => .nil, fun _ => rfl⟩
  case case17 =>
    intro n p t1 m1 n' p' t2 m2 iht ihm
    rw [extendsMembersB, Bool.and_eq_true, Bool.and_eq_true, Bool.and_eq_true, beq_iff_eq, presenceEq_iff, iht, ihm]
    constructor
    · rintro ⟨⟨⟨rfl, rfl⟩, h1⟩, h2⟩; exact .cons n p h1 h2
    · intro h; cases h with | cons _ _ h1 h2 => exact ⟨⟨⟨rfl, rfl⟩, h1⟩, h2⟩
  case case18 =>
    intro t x h1 h2
    rw [extendsMembersB.eq_3 t x h1 h2]
    refine ⟨nofun, fun h => ?_⟩
    cases h with
    | nil => exact (h1 rfl rfl).elim
    | cons => exact (h2 _ _ _ _ _ _ _ _ rfl rfl).elim
  case case19 =>
    intro x m2
    simp only [extendsAltAddsB, Bool.or_eq_true]
    constructor
    · intro h1
      refine .new x m2 (h1.imp_right fun h => ?_)
      cases m2
      · rfl
      · simp at h
    · intro h
      cases h with
      | new _ _ h1 => exact h1.imp_right fun h => by subst h; rfl
  case case20 =>
    intro x n t1 m1 n' t2 m2 iht ihm
    rw [extendsAltAddsB, Bool.and_eq_true, Bool.and_eq_true, beq_iff_eq, iht, ihm]
    constructor
    · rintro ⟨⟨rfl, h1⟩, h2⟩; exact .cons n h1 h2
    · intro h; cases h with | cons _ h1 h2 => exact ⟨⟨rfl, h1⟩, h2⟩
  case case21 => intro x n t r; exact ⟨nofun, nofun⟩
  case case22 => exact ⟨fun _ => .nil, fun _ => rfl⟩
  case case23 =>
    intro n t1 m1 n' t2 m2 iht ihm
    rw [extendsAltsB, Bool.and_eq_true, Bool.and_eq_true, beq_iff_eq, iht, ihm]
    constructor
    · rintro ⟨⟨rfl, h1⟩, h2⟩; exact .cons n h1 h2
    · intro h; cases h with | cons _ h1 h2 => exact ⟨⟨rfl, h1⟩, h2⟩
  case case24 =>
    intro t x h1 h2
    rw [extendsAltsB.eq_3 t x h1 h2]
    refine ⟨nofun, fun h => ?_⟩
    cases h with
    | nil => exact (h1 rfl rfl).elim
    | cons => exact (h2 _ _ _ _ _ _ rfl rfl).elim

theorem extendsMembersB_iff : ∀ (m1 m2 : Members), extendsMembersB m1 m2 = true ↔ ExtendsMembers m1 m2 :=
  extendsB_iff_all.2.2.2.2
theorem extendsAddsB_iff : ∀ (x : Bool) (m1 m2 : Members), extendsAddsB x m1 m2 = true ↔ ExtendsAdds x m1 m2 :=
  extendsB_iff_all.2.2.2.1
theorem extendsAltsB_iff : ∀ (m1 m2 : Alts), extendsAltsB m1 m2 = true ↔ ExtendsAlts m1 m2 :=
  extendsB_iff_all.2.2.1
theorem extendsAltAddsB_iff : ∀ (x : Bool) (m1 m2 : Alts), extendsAltAddsB x m1 m2 = true ↔ ExtendsAltAdds x m1 m2 :=
  extendsB_iff_all.2.1

theorem extendsB_iff : ∀ (t1 t2 : Ty), extendsB t1 t2 = true ↔ Extends t1 t2 := extendsB_iff_all.1

end Asn1.Ext
