import Asn1Proofs.Lemmas.DerTag
import Asn1Model.BerCodec
import Asn1Model.X690Value
/-
  Framing lemmas of the BER / DER model: definite length octets, primitive TLVs; NULL.
-/
namespace Asn1.Der
open Asn1.Oer (splitAux_append readBytes_append)

theorem hasN_eq (n : Nat) (bs : Bytes) : hasN n bs = decide (n ≤ bs.length) := by
  induction n generalizing bs with
  | zero => simp [hasN]
  | succ n ih =>
    cases bs with
    | nil => simp [hasN]
    | cons b r => simp [hasN, ih]

theorem hasN_append (a b : Bytes) : hasN a.length (a ++ b) = true := by
  rw [hasN_eq, List.length_append]
  exact decide_eq_true (Nat.le_add_right ..)

theorem encLength_ne_nil (n : Nat) : Ber.encLength n ≠ [] := by
  unfold Ber.encLength; split <;> simp

/-- reading back minimal definite length octets (both `enforce_definite` settings); the announced
contents must be there -/
theorem readLen_encLength (d : Bool) (content rest : Bytes) :
    readLen d (Ber.encLength content.length ++ (content ++ rest))
      = .ok (some content.length, (Ber.encLength content.length).length, content ++ rest) := by
  unfold Ber.encLength
  split
  · rename_i h
    simp only [List.cons_append, List.nil_append, readLen]
    rw [if_pos (by omega), hasN_append]
    simp
  · rename_i h
    have hlen : (natToBytesMin content.length).length = byteLength content.length :=
      natToBytesN_length _ _
    have h1 := Ber.one_le_byteLength content.length (by omega)
    simp only [List.cons_append, readLen]
    rw [if_neg (by omega), if_neg (by omega)]
    have e : 128 + (natToBytesMin content.length).length - 128 = (natToBytesMin content.length).length := by
      omega
    rw [e, splitAux_append]
    simp only [List.reverse_nil, List.nil_append, bytesToNat_natToBytesMin, hasN_append, if_true,
      List.length_cons]

theorem tlv_length (tag content : Bytes) :
    (tlv tag content).length = tag.length + (Ber.encLength content.length).length + content.length := by
  simp [tlv]; omega

theorem tlv_append (tag content rest : Bytes) :
    tlv tag content ++ rest = tag ++ (Ber.encLength content.length ++ (content ++ rest)) := by
  simp [tlv]

theorem readPrim_tlv (tag content rest : Bytes) :
    readPrim tag (tlv tag content ++ rest) = .ok (some (content, (tlv tag content).length, rest)) := by
  rw [tlv_append, readPrim]
  simp only [bind, Except.bind, matchTag_self, readLen_encLength, readBytes_append _ _ rfl, tlv_length]

theorem readPrim_mismatch {tag bs : Bytes} (h : matchTag tag bs = .ok none) :
    readPrim tag bs = .ok none := by
  simp [readPrim, bind, Except.bind, h]

/- The first rewrites with `enc`, `dec`, `BerCodec.dec` and `X690.canonV` in the import chain (at NULL):
Lean derives the equation lemmas of the four functions here, once.  Then `canonV` at the leaf types other
than BIT STRING, and `BerCodec.dec = dec` at NULL and ENUMERATED (ber.py reads them with the code of der.py). -/

theorem canonV_null (v : Val) : X690.canonV .null v = v := by cases v <;> simp only [X690.canonV]

theorem canonV_boolean (v : Val) : X690.canonV .boolean v = v := by cases v <;> simp only [X690.canonV]
theorem canonV_integer (c : IntC) (v : Val) : X690.canonV (.integer c) v = v := by
  cases v <;> simp only [X690.canonV]
theorem canonV_enumerated (r e) (v : Val) : X690.canonV (.enumerated r e) v = v := by
  cases v <;> simp only [X690.canonV]
theorem canonV_octetString (c : SizeC) (v : Val) : X690.canonV (.octetString c) v = v := by
  cases v <;> simp only [X690.canonV]
theorem canonV_charString (k : StrKind) (c : SizeC) (v : Val) : X690.canonV (.charString k c) v = v := by
  cases v <;> simp only [X690.canonV]

theorem enc_null (tg : Option Nat) : enc .null tg .null = .ok (mkTag 5 false tg ++ [0]) := by rw [enc]

theorem ber_dec_null (tg : Option Nat) (fuel : Nat) (bs : Bytes) :
    BerCodec.dec .null tg fuel bs = dec .null tg fuel bs := by rw [dec, BerCodec.dec]; rfl

theorem ber_dec_enumerated (root : List (String × Int)) (ext : Option (List (String × Int)))
    (tg : Option Nat) (fuel : Nat) (bs : Bytes) :
    BerCodec.dec (.enumerated root ext) tg fuel bs = dec (.enumerated root ext) tg fuel bs := by
  rw [BerCodec.dec, dec]
  rfl

theorem readPrim_ctx_mismatch {u u' : Nat} {c c' : Bool} {i j : Nat} (r : Bytes) (h : i < j) :
    readPrim (mkTag u c (some i)) (mkTag u' c' (some j) ++ r) = .ok none :=
  readPrim_mismatch (matchTag_ctx_mismatch r h)

theorem tlv_eq (tag content : Bytes) :
    tlv tag content = tag ++ (Ber.encLength content.length ++ content) := by
  simpa using tlv_append tag content []

end Asn1.Der
