import Asn1Proofs.Lemmas.CCursorBasic
/-
  C09, functional part: the bit strings held by memory objects (`getBit`, `bitsFrom`, `Padded`), bridged
  to the Python codec primitives of `Asn1Model/Prim.lean` (`natToBits`, `bitsToNat`, `bytesToBits`,
  `packBits`).
-/
namespace Asn1.CCursor
open Asn1

theorem get_set!_same (a : Mem) (i : Nat) (v : UInt8) (h : i < a.size) : (a.set! i v)[i]! = v := by
  simp [h]

theorem get_set!_ne (a : Mem) (i j : Nat) (v : UInt8) (h : i ≠ j) : (a.set! i v)[j]! = a[j]! := by
  simp [Array.getElem!_eq_getD, Array.getD_eq_getD_getElem?, h]

theorem get_set! (a : Mem) (i j : Nat) (v : UInt8) :
    (a.set! i v)[j]! = if i = j ∧ i < a.size then v else a[j]! := by
  by_cases h : i = j
  · subst h
    by_cases h2 : i < a.size
    · simp [h2]
    · simp [h2]
  · rw [get_set!_ne _ _ _ _ h]; simp [h]

theorem get!_oob (a : Mem) (i : Nat) (h : a.size ≤ i) : a[i]! = 0 := by
  simp [h]
  rfl

theorem byte_testBit_ge (b : UInt8) (k : Nat) (h : 8 ≤ k) : b.toNat.testBit k = false := by
  apply Nat.testBit_lt_two_pow
  have := b.toNat_lt
  have : 2 ^ 8 ≤ 2 ^ k := Nat.pow_le_pow_right (by omega) h
  omega

theorem getBit_def (m : Mem) (p : Nat) : getBit m p = m[p / 8]!.toNat.testBit (7 - p % 8) := rfl

theorem getBit_set! (m : Mem) (j : Nat) (b : UInt8) (q : Nat) :
    getBit (m.set! j b) q
      = if j = q / 8 ∧ j < m.size then b.toNat.testBit (7 - q % 8) else getBit m q := by
  unfold getBit
  rw [get_set!]
  split <;> rfl

theorem getBit_oob (m : Mem) (q : Nat) (h : m.size ≤ q / 8) : getBit m q = false := by
  unfold getBit
  rw [get!_oob m _ h]
  simp

theorem getBit_congr_byte {m m' : Mem} {q : Nat} (h : m'[q / 8]! = m[q / 8]!) :
    getBit m' q = getBit m q := by
  unfold getBit; rw [h]

theorem natToBits_succ_testBit (w n : Nat) :
    natToBits (w + 1) n = n.testBit w :: natToBits w n := by
  have := natToBits_add 1 w n
  rw [Nat.add_comm 1 w] at this
  rw [this]
  simp only [natToBits, List.nil_append, List.singleton_append, List.cons.injEq, and_true]
  rw [Nat.testBit_eq_decide_div_mod_eq]
  exact (Bool.beq_eq_decide_eq _ _).symm

theorem natToBits_getElem (w n k : Nat) (h : k < (natToBits w n).length) :
    (natToBits w n)[k] = n.testBit (w - 1 - k) := by
  induction w generalizing k with
  | zero => simp [natToBits] at h
  | succ w ih =>
    cases k with
    | zero => simp only [natToBits_succ_testBit, List.getElem_cons_zero]; rfl
    | succ k =>
      simp only [natToBits_succ_testBit, List.getElem_cons_succ, ih]
      congr 1; omega

theorem natToBits_eq_map (w n : Nat) :
    natToBits w n = (List.range w).map fun k => n.testBit (w - 1 - k) := by
  apply List.ext_getElem
  · simp
  · intro k h1 h2
    rw [natToBits_getElem]
    simp

theorem shr_and_one (x k : Nat) : x >>> k &&& 1 = if x.testBit k then 1 else 0 := by
  rw [Nat.and_one_is_mod, Nat.shiftRight_eq_div_pow, ← Nat.toNat_testBit]
  cases x.testBit k <;> rfl

@[simp] theorem bitsFrom_length (m : Mem) (p n : Nat) : (bitsFrom m p n).length = n := by
  simp [bitsFrom]

theorem bitsFrom_getElem (m : Mem) (p n k : Nat) (h : k < (bitsFrom m p n).length) :
    (bitsFrom m p n)[k] = getBit m (p + k) := by
  simp [bitsFrom]

@[simp] theorem bitsFrom_zero (m : Mem) (p : Nat) : bitsFrom m p 0 = [] := rfl

theorem bitsFrom_add (m : Mem) (p a b : Nat) :
    bitsFrom m p (a + b) = bitsFrom m p a ++ bitsFrom m (p + a) b := by
  apply List.ext_getElem
  · simp
  · intro k h1 h2
    rw [bitsFrom_getElem]
    by_cases hk : k < a
    · rw [List.getElem_append_left (by simpa using hk), bitsFrom_getElem]
    · rw [List.getElem_append_right (by simpa using hk), bitsFrom_getElem]
      simp only [bitsFrom_length]
      congr 1; omega

theorem bitsFrom_succ' (m : Mem) (p n : Nat) :
    bitsFrom m p (n + 1) = getBit m p :: bitsFrom m (p + 1) n := by
  rw [Nat.add_comm n 1, bitsFrom_add]; rfl

theorem bitsFrom_congr {m m' : Mem} {p p' n : Nat}
    (h : ∀ k, k < n → getBit m' (p' + k) = getBit m (p + k)) :
    bitsFrom m' p' n = bitsFrom m p n := by
  apply List.ext_getElem
  · simp
  · intro k h1 h2
    rw [bitsFrom_getElem, bitsFrom_getElem]
    exact h k (by simpa using h1)

theorem bitsFrom_byte (m : Mem) (j : Nat) : bitsFrom m (8 * j) 8 = natToBits 8 m[j]!.toNat := by
  apply List.ext_getElem
  · simp
  · intro k h1 h2
    have hk : k < 8 := by simpa using h1
    rw [bitsFrom_getElem, natToBits_getElem, getBit_def]
    have e1 : (8 * j + k) / 8 = j := by omega
    have e2 : (8 * j + k) % 8 = k := by omega
    rw [e1, e2]

theorem bits_ext {a b : Bits} (hl : a.length = b.length)
    (h : ∀ k (h1 : k < a.length) (h2 : k < b.length), a[k] = b[k]) : a = b :=
  List.ext_getElem hl h

theorem padded_aligned (m : Mem) (p : Nat) (h : p % 8 = 0) : Padded m p := by
  intro q h1 h2; omega

theorem padded_congr {m m' : Mem} {p : Nat} (h : m'[p / 8]! = m[p / 8]!) (hp : Padded m p) :
    Padded m' p := by
  intro q h1 h2
  rw [← hp q h1 h2]
  apply getBit_congr_byte
  have : q / 8 = p / 8 := by omega
  rw [this, h]

theorem writeBit_size (buf : Mem) (p v : Nat) : (writeBit buf p v).size = buf.size := by
  unfold writeBit
  split <;> simp

theorem pureMemcpy_size (src : Mem) :
    ∀ n dst dOff sOff, (pureMemcpy src n dst dOff sOff).size = dst.size := by
  intro n
  induction n with
  | zero => intros; rfl
  | succ n ih => intro dst dOff sOff; simp [pureMemcpy, ih]

theorem pureAppendBytesLoop_size (src : Mem) (bytePos pib : Nat) :
    ∀ n i buf, (pureAppendBytesLoop src bytePos pib n i buf).size = buf.size := by
  intro n
  induction n with
  | zero => intros; rfl
  | succ n ih => intro i buf; simp [pureAppendBytesLoop, ih]

theorem writeBytes_size (buf : Mem) (p : Nat) (src : Mem) (n : Nat) :
    (writeBytes buf p src n).size = buf.size := by
  unfold writeBytes
  split
  · exact pureMemcpy_size _ _ _ _ _
  · exact pureAppendBytesLoop_size _ _ _ _ _ _

theorem writeNnbi_size (value : UInt64) (size : Nat) :
    ∀ n i buf p, (writeNnbi value size n i buf p).size = buf.size := by
  intro n
  induction n with
  | zero => intros; rfl
  | succ n ih => intro i buf p; simp [writeNnbi, ih, writeBit_size]

theorem pureReadBytesLoop_size (src : Mem) (bytePos pib : Nat) :
    ∀ n i dst, (pureReadBytesLoop src bytePos pib n i dst).size = dst.size := by
  intro n
  induction n with
  | zero => intros; rfl
  | succ n ih => intro i dst; simp [pureReadBytesLoop, ih]

theorem readBytesVal_size (buf : Mem) (p : Nat) (dst : Mem) (n : Nat) :
    (readBytesVal buf p dst n).size = dst.size := by
  unfold readBytesVal
  split
  · exact pureMemcpy_size _ _ _ _ _
  · exact pureReadBytesLoop_size _ _ _ _ _ _

theorem bitsFrom_take (m : Mem) (p n k : Nat) : (bitsFrom m p n).take k = bitsFrom m p (min k n) := by
  apply List.ext_getElem
  · simp
  · intro i h1 h2
    rw [List.getElem_take, bitsFrom_getElem, bitsFrom_getElem]

theorem bitsFrom_drop (m : Mem) (p n k : Nat) : (bitsFrom m p n).drop k = bitsFrom m (p + k) (n - k) := by
  apply List.ext_getElem
  · simp
  · intro i h1 h2
    rw [List.getElem_drop, bitsFrom_getElem, bitsFrom_getElem, Nat.add_assoc]

theorem bitsToNat_bitsFrom_byte (m : Mem) (j : Nat) : bitsToNat (bitsFrom m (8 * j) 8) = m[j]!.toNat := by
  rw [bitsFrom_byte, bitsToNat_natToBits]
  have := m[j]!.toNat_lt
  omega

theorem bitsFrom_pad (m : Mem) (j n : Nat) (hn0 : 0 < n) (hn : n ≤ 8) (hpad : Padded m (8 * j + n)) :
    bitsFrom m (8 * j) n ++ List.replicate (8 - n) false = bitsFrom m (8 * j) 8 := by
  apply List.ext_getElem
  · simp; omega
  · intro k h1 h2
    have hk : k < 8 := by simpa using h2
    rw [bitsFrom_getElem]
    by_cases hkn : k < n
    · rw [List.getElem_append_left (by simpa using hkn), bitsFrom_getElem]
    · rw [List.getElem_append_right (by simpa using hkn)]
      simp only [List.getElem_replicate]
      exact (hpad (8 * j + k) (by omega) (by omega)).symm

theorem bitsToBytes_bitsFrom (buf : Mem) :
    ∀ (fuel j n : Nat), n + 1 ≤ fuel → Padded buf (8 * j + n) →
      bitsToBytes fuel (bitsFrom buf (8 * j) n)
        = (List.range ((n + 7) / 8)).map fun i => buf[j + i]!.toNat := by
  intro fuel
  induction fuel with
  | zero => intro j n h; omega
  | succ fuel ih =>
    intro j n hf hpad
    rw [bitsToBytes]
    by_cases hn : n = 0
    · subst hn; simp
    · have hne : (bitsFrom buf (8 * j) n).isEmpty = false := by
        cases n with
        | zero => omega
        | succ n => rw [bitsFrom_succ']; rfl
      rw [hne]
      simp only [Bool.false_eq_true, if_false]
      rw [bitsFrom_take, bitsFrom_drop, bitsFrom_length]
      have hpad' : Padded buf (8 * j + min 8 n) := by
        by_cases h8 : 8 ≤ n
        · rw [Nat.min_eq_left h8]; exact padded_aligned _ _ (by omega)
        · rw [Nat.min_eq_right (by omega)]; exact hpad
      rw [bitsFrom_pad buf j (min 8 n) (by omega) (Nat.min_le_left _ _) hpad', bitsToNat_bitsFrom_byte]
      have e8 : 8 * j + 8 = 8 * (j + 1) := by omega
      rw [e8, ih (j + 1) (n - 8) (by omega) (by
        by_cases h8 : 8 ≤ n
        · have : 8 * (j + 1) + (n - 8) = 8 * j + n := by omega
          rw [this]; exact hpad
        · exact padded_aligned _ _ (by omega))]
      have ek : (n + 7) / 8 = (n - 8 + 7) / 8 + 1 := by omega
      rw [ek, List.range_succ_eq_map]
      simp only [List.map_cons, List.map_map, Nat.add_zero, List.cons.injEq, true_and]
      apply List.map_congr_left
      intro i _
      simp only [Function.comp]
      congr 2; omega

theorem bytes_take_eq (buf : Mem) (k : Nat) (h : k ≤ buf.size) :
    (buf.toList.take k).map UInt8.toNat = (List.range k).map fun i => buf[i]!.toNat := by
  have := window_eq buf 0 k (by omega)
  simp only [List.drop_zero, Nat.zero_add] at this
  rw [this, List.map_map]
  rfl

theorem packBits_bitsFrom (buf : Mem) (p : Nat) (hpad : Padded buf p) (hsz : (p + 7) / 8 ≤ buf.size) :
    (buf.toList.take ((p + 7) / 8)).map UInt8.toNat = packBits (bitsFrom buf 0 p) := by
  rw [bytes_take_eq buf _ hsz]
  unfold packBits
  have := bitsToBytes_bitsFrom buf (p + 1) 0 p (Nat.le_refl _) (by simpa using hpad)
  simp only [Nat.mul_zero, Nat.zero_add] at this
  rw [bitsFrom_length, this]

theorem bitsFrom_of_bytes (m : Mem) (p : Nat) (f : Nat → Nat) :
    ∀ n, (∀ i, i < n → bitsFrom m (p + 8 * i) 8 = natToBits 8 (f i)) →
      bitsFrom m p (8 * n) = bytesToBits ((List.range n).map f) := by
  intro n
  induction n with
  | zero => intro _; rfl
  | succ n ih =>
    intro h
    have e : 8 * (n + 1) = 8 * n + 8 := by omega
    rw [e, bitsFrom_add, ih (fun i hi => h i (by omega)), h n (by omega), List.range_succ,
      List.map_append, bytesToBits_append]
    rfl

theorem bitsFrom_at_of_append (m : Mem) (p n : Nat) (A B : Bits) (hA : A.length = p)
    (h : bitsFrom m 0 (p + n) = A ++ B) : bitsFrom m p n = B := by
  rw [bitsFrom_add, Nat.zero_add] at h
  exact (List.append_inj h (by simp [hA])).2

theorem pureMemcpy_spec (src : Mem) :
    ∀ (n : Nat) (dst : Mem) (dOff sOff : Nat), dOff + n ≤ dst.size →
      (∀ i, i < n → (pureMemcpy src n dst dOff sOff)[dOff + i]! = src[sOff + i]!)
      ∧ (∀ j, j < dOff ∨ dOff + n ≤ j → (pureMemcpy src n dst dOff sOff)[j]! = dst[j]!) := by
  intro n
  induction n with
  | zero => intro dst dOff sOff _; simp [pureMemcpy]
  | succ n ih =>
    intro dst dOff sOff hsz
    simp only [pureMemcpy]
    obtain ⟨h2, h3⟩ := ih (dst.set! dOff src[sOff]!) (dOff + 1) (sOff + 1)
      (by rw [Mem.size_set!]; omega)
    refine ⟨?_, ?_⟩
    · intro i hi
      cases i with
      | zero =>
        show (pureMemcpy src n (dst.set! dOff src[sOff]!) (dOff + 1) (sOff + 1))[dOff]! = src[sOff]!
        rw [h3 dOff (by omega), get_set!_same _ _ _ (by omega)]
      | succ i =>
        have := h2 i (by omega)
        rw [show dOff + 1 + i = dOff + (i + 1) by omega,
          show sOff + 1 + i = sOff + (i + 1) by omega] at this
        exact this
    · intro j hj
      rw [h3 j (by omega), get_set!_ne _ _ _ _ (by omega)]

end Asn1.CCursor
