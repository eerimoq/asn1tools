import Asn1Proofs.Lemmas.X691Clauses
import Asn1Proofs.Lemmas.X691PerPrim
/-
  The specification encoder is total on well-typed values: for a well-formed type `t` (`Ty.wf`, and
  `Ty.optOk`, the one scope limit of the specification) and a value the library's checkers accept
  (`hasType`), `X691.enc aligned t pos v` is defined, in both variants and at every position.  So the
  refinement theorems are not vacuous.
-/
namespace Asn1

mutual
  /-- The scope limit of the specification model, a hypothesis of `C05.spec_total`, `uper_refines_eq`
  and `per_refines_eq`: every SEQUENCE in the type has fewer than 64K OPTIONAL / DEFAULT root
  components, so that the preamble needs no length determinant (X.691 18.3; `X691.enc` answers
  `unmodelled` otherwise).  The preamble has one bit per such component whatever the value
  (`preamble_length`), hence `preamble root []` counts them. -/
  def Ty.optOk : Ty → Bool
    | .sequence root _ adds => decide ((X691.preamble root []).length < 65536) && root.optOk && adds.optOk
    | .sequenceOf e _ => e.optOk
    | .choice root _ adds => root.optOk && adds.optOk
    | _ => true
  def Members.optOk : Members → Bool
    | .nil => true
    | .cons _ _ t rest => t.optOk && rest.optOk
  def Alts.optOk : Alts → Bool
    | .nil => true
    | .cons _ t rest => t.optOk && rest.optOk
end

namespace X691
open Asn1.Uper (mapM_length)

/-- the specification encoder is defined on every well-typed value of `t`, in both variants and at
every position -/
def ST (t : Ty) : Prop :=
  ∀ (aligned : Bool) (v : Val) (pos : Nat), t.wf = true → t.optOk = true → hasType t v = true →
    ∃ bits, enc aligned t pos v = .ok bits


section generic
variable {α : Type} (aligned : Bool) (f : Nat → α → EncM Bits)

/- `seqM` and the aligned code model's `Per.encSeqM` are one function (`encSeqM_eq`): totality is
proved once, on the code's -/
theorem seqM_total (vs : List α) (h : ∀ v ∈ vs, ∀ p, ∃ b, f p v = .ok b) (pos : Nat) :
    ∃ b, seqM f pos vs = .ok b :=
  encSeqM_eq f pos vs ▸ Per.encSeqM_total f vs h pos

theorem fragM_total (fuel : Nat) (vs : List α) (h : ∀ v ∈ vs, ∀ p, ∃ b, f p v = .ok b) (pos : Nat) :
    ∃ b, fragM aligned f fuel pos vs = .ok b := by
  induction fuel generalizing vs pos with
  | zero => exact ⟨[], rfl⟩
  | succ fuel ih =>
    rw [fragM]
    simp only
    obtain ⟨body, hb⟩ := seqM_total f (vs.take (lengthOctets vs.length).2)
      (fun x hx => h x (List.mem_of_mem_take hx))
      (pos + (pad aligned pos).length + (lengthOctets vs.length).1.length)
    rw [hb]
    simp only
    split
    · exact ⟨_, rfl⟩
    · obtain ⟨rest, hr⟩ := ih (vs.drop (lengthOctets vs.length).2)
        (fun x hx => h x (List.mem_of_mem_drop hx))
        (pos + (pad aligned pos).length + (lengthOctets vs.length).1.length + body.length)
      rw [hr]
      exact ⟨_, rfl⟩

theorem sizedM_total (lo : Nat) (hi : Option Nat) (af av : Bool) (pos : Nat) (vs : List α)
    (h : ∀ v ∈ vs, ∀ p, ∃ b, f p v = .ok b)
    (hlo : lo ≤ vs.length) (hhi : ∀ ub, hi = some ub → vs.length ≤ ub) :
    ∃ b, sizedM aligned f lo hi af av pos vs = .ok b := by
  unfold sizedM
  simp only
  rw [if_neg (by omega)]
  cases hi with
  | none => exact fragM_total aligned f _ vs h pos
  | some ub =>
    simp only
    have := hhi ub rfl
    rw [if_neg (by omega)]
    split
    · split
      · obtain ⟨b, hb⟩ := seqM_total f vs h
          (pos + (if af = true then pad aligned pos else []).length)
        rw [hb]; exact ⟨_, rfl⟩
      · obtain ⟨b, hb⟩ := seqM_total f vs h
          (pos + (cwn aligned pos (vs.length - lo) (ub - lo + 1)).length +
            (if av = true then pad aligned (pos + (cwn aligned pos (vs.length - lo) (ub - lo + 1)).length)
              else []).length)
        rw [hb]; exact ⟨_, rfl⟩
    · exact fragM_total aligned f _ vs h pos

theorem extSizedM_total (c : SizeC) (af av : Bool) (pos : Nat) (vs : List α)
    (h : ∀ v ∈ vs, ∀ p, ∃ b, f p v = .ok b)
    (hs : c.ext = true ∨ sizeOk c vs.length = true) :
    ∃ b, extSizedM aligned f c af av pos vs = .ok b := by
  have hsized : ∀ p, sizeOk c vs.length = true →
      ∃ b, sizedM aligned f c.lo c.hi af av p vs = .ok b := by
    intro p hok
    unfold sizeOk at hok
    simp only [Bool.and_eq_true, decide_eq_true_eq] at hok
    apply sizedM_total aligned f _ _ _ _ _ _ h hok.1
    intro ub hub
    rw [hub] at hok
    simpa using hok.2
  unfold extSizedM
  by_cases hext : c.ext = true
  · rw [if_pos hext, inRoot_eq_sizeOk]
    cases hok : sizeOk c vs.length with
    | true =>
      simp only [if_true]
      obtain ⟨b, hb⟩ := hsized (pos + 1) hok
      rw [hb]; exact ⟨_, rfl⟩
    | false =>
      simp only [Bool.false_eq_true, if_false]
      obtain ⟨b, hb⟩ := fragM_total aligned f (vs.length / 16384 + 2) vs h (pos + 1)
      unfold genLenM
      rw [hb]; exact ⟨_, rfl⟩
  · rw [if_neg hext]
    rcases hs with hs | hs
    · exact absurd hs hext
    · exact hsized pos hs

end generic

theorem leaf_total (items : List Bits) : ∀ v ∈ items, ∀ p, ∃ b, leaf p v = .ok b :=
  fun v _ _ => ⟨v, rfl⟩


theorem st_boolean : ST .boolean := by
  intro aligned v pos _ _ ht
  obtain ⟨b, rfl⟩ := hasType_boolean ht
  unfold enc
  exact ⟨_, rfl⟩

theorem st_null : ST .null := by
  intro aligned v pos _ _ ht
  cases hasType_null ht
  unfold enc
  exact ⟨_, rfl⟩

theorem st_integer (c : IntC) : ST (.integer c) := by
  intro aligned v pos hwf _ ht
  obtain ⟨i, rfl, -⟩ := hasType_integer ht
  simp only [hasType] at ht
  obtain ⟨lo, hi, ext⟩ := c
  show ∃ bits, encInteger aligned ⟨lo, hi, ext⟩ pos i = .ok bits
  unfold encInteger
  simp only [Ty.wf] at hwf
  simp only [intInRange, Bool.or_eq_true, Bool.and_eq_true] at ht
  -- a missing bound excludes the extension marker (`wf`), so the value is in range; with both
  -- bounds and a marker either branch of 12.1 is defined
  cases lo <;> cases hi <;> cases ext <;> simp at hwf ht ⊢
  all_goals first | exact ⟨_, by rw [if_pos ht]⟩ | (split <;> simp [*])

theorem st_enumerated (root : List (String × Int)) (ext : Option (List (String × Int))) :
    ST (.enumerated root ext) := by
  intro aligned v pos _ _ ht
  obtain ⟨name, rfl, -⟩ := hasType_enumerated ht
  simp only [hasType] at ht
  unfold enc
  unfold encEnumerated
  simp only [sortAsc_eq, indexOfName_map_fst]
  by_cases hr : name ∈ namesOf root
  · obtain ⟨i, hi⟩ := Uper.nameIndex_of_mem name (Uper.sortByVal root)
      ((Uper.mem_namesOf_sortByVal _ _).2 hr)
    cases ext <;> simp only [hi] <;> exact ⟨_, rfl⟩
  · have hnone := Uper.nameIndex_none name (Uper.sortByVal root)
      (fun h => hr ((Uper.mem_namesOf_sortByVal _ _).1 h))
    have hc : (namesOf root).contains name = false := by simpa using hr
    cases ext with
    | none => simp at ht; exact absurd ht hr
    | some adds =>
      simp only [hc, Bool.false_or, List.contains_iff_mem] at ht
      obtain ⟨i, hi⟩ := Uper.nameIndex_of_mem name adds (by simpa using ht)
      simp only [hnone, hi]
      exact ⟨_, rfl⟩

theorem st_octetString (c : SizeC) : ST (.octetString c) := by
  intro aligned v pos _ _ ht
  obtain ⟨data, rfl, -⟩ := hasType_octetString ht
  simp only [hasType] at ht
  simp only [Bool.and_eq_true, Bool.or_eq_true] at ht
  unfold enc
  unfold encOctetString
  have hall : (data.all fun x => decide (x < 256)) = true := ht.1
  rw [if_pos hall]
  exact extSizedM_total aligned leaf c _ _ pos _ (leaf_total _) (by simpa using ht.2)

theorem st_bitString (c : SizeC) : ST (.bitString c) := by
  intro aligned v pos _ _ ht
  obtain ⟨data, n, rfl, _, hlen, hsz⟩ := hasType_bitString ht
  unfold enc
  unfold encBitString
  have hn : n ≤ 8 * data.length := by omega
  rw [if_pos hn]
  apply extSizedM_total aligned leaf c _ _ pos _ (leaf_total _)
  right
  have : (List.take n (bytesToBits data)).length = n := by
    rw [List.length_take, bytesToBits_length]; omega
  rw [List.length_map, this]
  exact hsz

theorem charValue_total (aligned : Bool) (k : StrKind) (cp : Nat)
    (h : (Uper.alphabetOf k).contains cp = true) : ∃ v, charValue aligned k cp = .ok v := by
  rw [charValue_eq]
  unfold Uper.charCode
  by_cases hk : k = .numeric
  · subst hk
    obtain ⟨i, hi, _⟩ := Uper.indexOf?_of_contains cp _ h
    exact ⟨i, by simp only [hi]⟩
  · exact ⟨cp, by cases k <;> first | exact absurd rfl hk | simp only [h, if_true]⟩

theorem st_charString (k : StrKind) (c : SizeC) : ST (.charString k c) := by
  intro aligned v pos _ _ ht
  obtain ⟨cps, rfl, -⟩ := hasType_charString ht
  simp only [hasType] at ht
  have hkm : k ≠ .utf8 → cps.all (fun cp => (Uper.alphabetOf k).contains cp) = true →
      sizeOk c cps.length = true → ∃ b, encKnownMultiplier aligned k c pos cps = .ok b := by
    intro _ hal hsz
    unfold encKnownMultiplier
    obtain ⟨vals, hv⟩ := Uper.mapM_ok_of_forall (charValue aligned k) cps (by
      intro cp hcp
      exact charValue_total aligned k cp (List.all_eq_true.mp hal cp hcp))
    rw [hv]
    simp only
    apply extSizedM_total aligned leaf c _ _ pos _ (leaf_total _)
    right
    rw [List.length_map, mapM_length _ _ _ hv]
    exact hsz
  cases k with
  | utf8 =>
    simp only at ht
    unfold enc
    unfold encUtf8
    rw [if_pos ht]
    exact ⟨_, rfl⟩
  | _ =>
    simp only [Bool.and_eq_true] at ht
    unfold enc
    exact hkm (by decide) ht.1 ht.2


theorem st_sequenceOf (e : Ty) (c : SizeC) (ih : ST e) : ST (.sequenceOf e c) := by
  intro aligned v pos hwf hopt ht
  obtain ⟨vs, rfl, hty, -⟩ := hasType_sequenceOf ht
  rw [Ty.optOk] at hopt
  simp only [hasType, Bool.and_eq_true, Bool.or_eq_true] at ht
  unfold enc
  exact extSizedM_total aligned (enc aligned e) c _ _ pos vs
    (fun v hv p => ih aligned v p (wf_sequenceOf hwf) hopt (hty v hv)) ht.2


theorem preamble_length (ms : Members) (fs : List (String × Val)) :
    (preamble ms fs).length = (preamble ms []).length := by
  induction ms using Members.ind with
  | nil => rfl
  | cons name p t rest ih =>
    rw [preamble.eq_def, preamble.eq_def]
    simp only
    cases p with
    | mandatory => exact ih
    | optional => simp [ih]
    | default d =>
      simp only [lookup]
      cases lookup name fs <;> simp [ih]

theorem all_optOk (ms : Members) (h : ms.optOk = true) : ms.All (fun t => t.optOk = true) := by
  induction ms using Members.ind with
  | nil => trivial
  | cons n p t rest ih =>
    simp only [Members.optOk, Bool.and_eq_true] at h
    exact ⟨h.1, ih h.2⟩

theorem all_wf_members (ms : Members) (h : ms.wf = true) : ms.All (fun t => t.wf = true) := by
  induction ms using Members.ind with
  | nil => trivial
  | cons n p t rest ih =>
    simp only [Members.wf, Bool.and_eq_true] at h
    exact ⟨h.1, ih h.2⟩

theorem encRoot_total (aligned : Bool) (fs : List (String × Val)) (ms : Members) :
    ms.All ST → ms.wf = true → ms.optOk = true → membersOk ms fs = true →
    ∀ pos, ∃ body, encRoot aligned ms fs pos = .ok body := by
  induction ms using Members.ind with
  | nil => intros; exact ⟨[], by unfold encRoot; rfl⟩
  | cons name p t rest ih =>
    intro hall hwf hopt hok pos
    obtain ⟨ht, hrest⟩ := hall
    simp only [Members.wf, Bool.and_eq_true] at hwf
    simp only [Members.optOk, Bool.and_eq_true] at hopt
    simp only [membersOk, Bool.and_eq_true] at hok
    have hthen : ∀ a : Bits, ∃ body, (match encRoot aligned rest fs (pos + a.length) with
        | .error e => (.error e : EncM Bits)
        | .ok b => .ok (a ++ b)) = .ok body := by
      intro a
      obtain ⟨b, hb⟩ := ih hrest hwf.2 hopt.2 hok.2 (pos + a.length)
      exact ⟨a ++ b, by rw [hb]⟩
    unfold encRoot
    cases hl : lookup name fs with
    | none =>
      rw [hl] at hok
      cases p with
      | mandatory => simp at hok
      | optional => exact hthen []
      | default d => exact hthen []
    | some v =>
      rw [hl] at hok
      obtain ⟨a, ha⟩ := ht aligned v pos hwf.1 hopt.1 hok.1
      cases p with
      | mandatory => simp only [ha]; exact hthen a
      | optional => simp only [ha]; exact hthen a
      | default d =>
        by_cases hdef : isDefault t v d = true
        · simp only [if_pos hdef]; exact hthen []
        · simp only [if_neg hdef, ha]; exact hthen a

theorem encAdds_total (aligned : Bool) (fs : List (String × Val)) (ms : Members) :
    ms.All ST → ms.wf = true → ms.optOk = true → membersOk ms fs = true →
    ∃ r, encAdds aligned ms fs = .ok r := by
  induction ms using Members.ind with
  | nil => intros; exact ⟨_, by rw [encAdds.eq_def]⟩
  | cons name p t rest ih =>
    intro hall hwf hopt hok
    obtain ⟨ht, hrest⟩ := hall
    simp only [Members.wf, Bool.and_eq_true] at hwf
    simp only [Members.optOk, Bool.and_eq_true] at hopt
    simp only [membersOk, Bool.and_eq_true] at hok
    obtain ⟨⟨bm, es⟩, hr⟩ := ih hrest hwf.2 hopt.2 hok.2
    rw [encAdds.eq_def]
    simp only [hr]
    cases hl : lookup name fs with
    | none =>
      rw [hl] at hok
      cases p with
      | mandatory => simp at hok
      | optional => exact ⟨_, rfl⟩
      | default d => exact ⟨_, rfl⟩
    | some v =>
      rw [hl] at hok
      simp only at hok ⊢
      obtain ⟨b, hb⟩ := ht aligned v 0 hwf.1 hopt.1 hok.1
      rw [hb]
      exact ⟨_, rfl⟩

theorem st_sequence (root : Members) (ext : Bool) (adds : Members)
    (ihr : root.All ST) (iha : adds.All ST) : ST (.sequence root ext adds) := by
  intro aligned v pos hwf hopt ht
  obtain ⟨fs, rfl, -⟩ := hasType_sequence ht
  obtain ⟨hrwf, hawf, hnd, _⟩ := wf_sequence hwf
  rw [Ty.optOk] at hopt
  simp only [Bool.and_eq_true, decide_eq_true_eq] at hopt
  obtain ⟨⟨hpre, hropt⟩, haopt⟩ := hopt
  obtain ⟨hokr, hoka⟩ := membersOk_of_hasType root adds ext fs hnd ht
  simp only [enc]
  rw [if_neg (by rw [preamble_length]; omega)]
  obtain ⟨body, hbody⟩ := encRoot_total aligned fs root ihr hrwf hropt hokr
    (pos + (if ext = true then 1 else 0) + (preamble root fs).length)
  rw [hbody]
  simp only
  obtain ⟨⟨bm, es⟩, hr⟩ := encAdds_total aligned fs adds iha hawf haopt hoka
  rw [hr]
  simp only
  split
  · split <;> exact ⟨_, rfl⟩
  · exact ⟨_, rfl⟩


theorem all_optOk_alts (as : Alts) (h : as.optOk = true) : as.All (fun t => t.optOk = true) := by
  induction as using Alts.ind with
  | nil => trivial
  | cons n t rest ih =>
    simp only [Alts.optOk, Bool.and_eq_true] at h
    exact ⟨h.1, ih h.2⟩

theorem st_choice (root : Alts) (ext : Bool) (adds : Alts)
    (ihr : root.All ST) (iha : adds.All ST) : ST (.choice root ext adds) := by
  intro aligned v pos hwf hopt ht
  obtain ⟨name, w, rfl, hor⟩ := hasType_choice ht
  obtain ⟨_, _, _, _, hext⟩ := wf_choice hwf
  obtain ⟨idx, t, sel, hwt, hty⟩ := Alts.sel_of_hasType hwf hor
  rw [Ty.optOk, Bool.and_eq_true] at hopt
  have hst := sel.all ihr iha aligned w
  have hot := sel.all (all_optOk_alts root hopt.1) (all_optOk_alts adds hopt.2)
  unfold enc
  simp only [indexOfName_find, encAlt_find]
  rcases sel with hf | ⟨hf, j, hfa, _⟩
  · obtain ⟨body, hbody⟩ := hst (pos + (if ext = true then 1 else 0) +
      (cwn aligned (pos + if ext = true then 1 else 0) idx root.length).length) hwt hot hty
    simp only [hf, Option.map_some, hbody]
    exact ⟨_, rfl⟩
  · have hj := Alts.find_lt hfa
    obtain ⟨body, hbody⟩ := hst 0 hwt hot hty
    simp only [hf, hfa, Option.map_none, hext.resolve_right (by omega), if_true, Option.map_some, hbody]
    exact ⟨_, rfl⟩


theorem st_all (t : Ty) : ST t :=
  Ty.induct (P := ST)
    st_boolean st_null st_integer st_enumerated st_octetString st_bitString st_charString
    (fun root ext adds ihr iha => st_sequence root ext adds ihr iha)
    (fun e c ih => st_sequenceOf e c ih)
    (fun root ext adds ihr iha => st_choice root ext adds ihr iha) t

theorem enc_total (aligned : Bool) (t : Ty) (v : Val) (pos : Nat)
    (hwf : t.wf = true) (hopt : t.optOk = true) (ht : hasType t v = true) :
    ∃ bits, enc aligned t pos v = .ok bits :=
  st_all t aligned v pos hwf hopt ht

end X691
end Asn1

#print axioms Asn1.X691.enc_total
