import Asn1Proofs.Lemmas.CCursorOerEnc
import Asn1Proofs.Lemmas.OerPrim
/-
  C10, functional layer (encoder side): the bytes the OER C helpers append are the big-endian /
  length-determinant encodings of the Python-codec model (`Asn1Model/Prim.lean`, `Asn1Model/Oer.lean`), and the
  run-time C function `length_determinant_length` returns the true length of a length determinant.
-/
namespace Asn1.C10
open Asn1 Asn1.CCursor Asn1.CCursorOer

theorem be16_toNat (v : UInt16) : (be16 v).map UInt8.toNat = natToBytesN 2 v.toNat := bytesU16_toNat v

theorem be32_toNat (v : UInt32) : (be32 v).map UInt8.toNat = natToBytesN 4 v.toNat := bytesU32_toNat v

theorem be64_toNat (v : UInt64) : (be64 v).map UInt8.toNat = natToBytesN 8 v.toNat := bytesU64_toNat v

/-- `encoder_append_long_uint(value, n)` appends the `n` low-order octets, big endian: the object
representation is little endian, and the loop reverses its first `n` bytes -/
theorem luintBytes_toNat (v : UInt64) (n : UInt8) (hn : n.toNat ≤ 8) :
    (luintBytes v n).map UInt8.toNat = natToBytesN n.toNat v.toNat := by
  have h : (OEnc.u64Object v).toList.map UInt8.toNat = (List.range 8).map fun i => v.toNat >>> (8 * i) % 256 := by
    simp [OEnc.u64Object, List.range_succ]
  rw [luintBytes, List.map_reverse, List.map_take, h, ← List.map_take, List.take_range, Nat.min_eq_left hn,
    natToBytesN_eq_range]

theorem toNat_eq_toInt_emod {w : Nat} (x : BitVec w) : (x.toNat : Int) = x.toInt % ((2 ^ w : Nat) : Int) := by
  rw [BitVec.toInt_eq_toNat_bmod, Int.bmod_emod]
  exact (Int.emod_eq_of_lt (by omega) (by exact_mod_cast x.isLt)).symm

theorem intToBytesN_toInt {w : Nat} (x : BitVec w) (k : Nat) (hk : 256 ^ k = 2 ^ w) :
    intToBytesN k x.toInt = natToBytesN k x.toNat := by
  rw [intToBytesN, hk, ← toNat_eq_toInt_emod, Int.toNat_natCast]

theorem lenDet_short {n : Nat} (h : n < 128) : Oer.lenDet n = .ok [n] := by
  simp [Oer.lenDet_def, h]

theorem lenDet_long {n k : Nat} (h0 : 128 ≤ n) (h1 : 256 ^ k ≤ n) (h2 : n < 256 ^ (k + 1))
    (hk : k < 127) : Oer.lenDet n = .ok ((0x80 + (k + 1)) :: natToBytesN (k + 1) n) := by
  have hb : byteLength n = k + 1 := by
    have := (byteLength_le_iff n (k + 1)).mpr h2
    have := mt (byteLength_le_iff n k).mp (by omega)
    omega
  simp [Oer.lenDet_def, natToBytesMin, hb, show ¬ n < 128 by omega, show ¬ k + 1 > 127 by omega]

/-- all octets `encoder_append_length_determinant(n)` appends, whatever calls of `encoder_append_bytes` it makes -/
def lenDetBytes (n : UInt32) : List UInt8 := (lenDetChunks n).flatten

theorem lenDetBytes_eq (n : UInt32) : Oer.lenDet n.toNat = .ok ((lenDetBytes n).map UInt8.toNat) := by
  have hlt := n.toNat_lt
  unfold lenDetBytes lenDetChunks
  split
  · rename_i h
    rw [lenDet_short h]
    simp
    omega
  split
  · rename_i h1 h
    rw [lenDet_long (k := 0) (by omega) (by omega) (by omega) (by omega)]
    simp [natToBytesN_eq_range]
  split
  · rename_i h2 h1 h
    have e : n.toUInt16.toNat = n.toNat := by simp; omega
    rw [lenDet_long (k := 1) (by omega) (by omega) (by omega) (by omega)]
    simp [be16_toNat, e]
  split
  · rename_i h3 h2 h1 h
    rw [lenDet_long (k := 2) (by omega) (by omega) (by omega) (by omega)]
    -- 2197815296 = 0x83 <<< 24: the first octet `0x83` in front of the three octets of `n < 2^24`
    have hor : (n ||| (0x83 : UInt32) <<< 24).toNat = 2197815296 + n.toNat := by
      rw [UInt32.toNat_or, Nat.or_comm, show ((0x83 : UInt32) <<< 24).toNat = 131 <<< 24 by decide,
        ← Nat.shiftLeft_add_eq_or_of_lt (show n.toNat < 2 ^ 24 by omega)]
      rfl
    simp [be32_toNat, natToBytesN, hor]
    omega
  · rename_i h3 h2 h1 h
    rw [lenDet_long (k := 3) (by omega) (by omega) (by omega) (by omega)]
    simp [be32_toNat]

theorem lenDetBytes_length (n : UInt32) : (lenDetBytes n).length = (lengthDeterminantLength n).toNat := by
  simp only [lenDetBytes, lenDetChunks, lengthDeterminantLength, apply_ite List.flatten, apply_ite List.length,
    apply_ite UInt32.toNat]
  rfl

/-- true length of the OER length determinant of `n` (0 if it cannot be encoded) -/
def trueLenDetLen (n : Nat) : Nat :=
  match Oer.lenDet n with
  | .ok l => l.length
  | .error _ => 0

theorem trueLenDetLen_eq (n : Nat) (h : n < 4294967296) :
    trueLenDetLen n = (lengthDeterminantLength (UInt32.ofNat n)).toNat := by
  have h1 := lenDetBytes_eq (UInt32.ofNat n)
  have : (UInt32.ofNat n).toNat = n := by simp; omega
  rw [this] at h1
  simp [trueLenDetLen, h1, lenDetBytes_length]

theorem runtime_len_cases (n : Nat) (h : n < 4294967296) :
    (lengthDeterminantLength (UInt32.ofNat n)).toNat =
      if n < 128 then 1 else if n < 256 then 2 else if n < 65536 then 3 else if n < 16777216 then 4 else 5 := by
  have : (UInt32.ofNat n).toNat = n := by simp; omega
  simp only [lengthDeterminantLength, this, apply_ite UInt32.toNat, UInt32.reduceToNat]

/-- the octets an operation appends, as `Bytes` of the Python-codec model -/
def encBytes (op : OEncOp) : Bytes := (chunks op).flatten.map UInt8.toNat

theorem encBytes_length (op : OEncOp) : (encBytes op).length = need op := by
  rw [need_eq_length, encBytes, List.length_map]

theorem need_lendet (n : UInt32) : need (.lendet n) = (lengthDeterminantLength n).toNat :=
  (need_eq_length _).trans (lenDetBytes_length n)

theorem run_content {e : OEnc} (h : EInv e) (h0 : 0 ≤ e.size) (op : OEncOp) (hp : op.Pre)
    (hna : ¬ op.isAbort) (hfit : e.pos + (need op : Nat) ≤ e.size) :
    ∃ e', e.run op = .ok e' ∧ e'.size = e.size ∧ e'.pos = e.pos + (need op : Nat) ∧
      e'.buf.size = e.buf.size ∧
      e'.buf.toList.take e.pos.toNat = e.buf.toList.take e.pos.toNat ∧
      ((e'.buf.toList.drop e.pos.toNat).take (need op)).map UInt8.toNat = encBytes op ∧
      e'.buf.toList.drop (e.pos.toNat + need op) = e.buf.toList.drop (e.pos.toNat + need op) := by
  have hpos : 0 ≤ e.pos := by rcases h.2 with h | h <;> omega
  have hle : e.size ≤ e.buf.size := by rcases h.2 with h | h <;> omega
  rw [need_eq_length] at hfit ⊢
  have hw : e.pos.toNat + (chunks op).flatten.length ≤ e.buf.size := by omega
  refine ⟨_, run_eq h op hp hna, ?_⟩
  rw [putAll_fits _ h0 hpos hfit]
  refine ⟨rfl, rfl, by simp, take_write _ _ _ hw, ?_, drop_write _ _ _ hw⟩
  simp only [region_write _ _ _ hw, encBytes]

theorem encBytes_lendet (n : UInt32) : Oer.lenDet n.toNat = .ok (encBytes (.lendet n)) := lenDetBytes_eq n

theorem encBytes_u8 (v : UInt8) : encBytes (.u8 v) = natToBytesN 1 v.toNat := by
  simp [encBytes, chunks, natToBytesN_eq_range]

theorem encBytes_u16 (v : UInt16) : encBytes (.u16 v) = natToBytesN 2 v.toNat := by
  simp [encBytes, chunks, be16_toNat]

theorem encBytes_u32 (v : UInt32) : encBytes (.u32 v) = natToBytesN 4 v.toNat := by
  simp [encBytes, chunks, be32_toNat]

theorem encBytes_u64 (v : UInt64) : encBytes (.u64 v) = natToBytesN 8 v.toNat := by
  simp [encBytes, chunks, be64_toNat]

theorem encBytes_f32 (v : UInt32) : encBytes (.f32 v) = natToBytesN 4 v.toNat := encBytes_u32 v

theorem encBytes_f64 (v : UInt64) : encBytes (.f64 v) = natToBytesN 8 v.toNat := encBytes_u64 v

theorem encBytes_bool (b : Bool) : encBytes (.bool b) = [if b then 255 else 0] := by
  cases b <;> rfl

theorem encBytes_luint (v : UInt64) (n : UInt8) (junk : Mem) (hn : n.toNat ≤ 8) :
    encBytes (.luint v n junk) = natToBytesN n.toNat v.toNat := by
  simp [encBytes, chunks, luintBytes_toNat v n hn]

theorem encBytes_uint (v : UInt32) (k : UInt8) (hk : 1 ≤ k.toNat ∧ k.toNat ≤ 4) :
    encBytes (.uint v k) = natToBytesN k.toNat v.toNat := by
  rcases uint8_cases_1_4 k hk with rfl | rfl | rfl | rfl <;>
    simp [encBytes, chunks, uintChunks, be16, be32, natToBytesN_eq_range, List.range_succ,
      Nat.shiftRight_eq_div_pow] <;> omega

theorem encBytes_i8 (v : Int8) : encBytes (.i8 v) = intToBytesN 1 v.toInt :=
  (encBytes_u8 v.toUInt8).trans (intToBytesN_toInt v.toBitVec 1 rfl).symm

theorem encBytes_i16 (v : Int16) : encBytes (.i16 v) = intToBytesN 2 v.toInt :=
  (encBytes_u16 v.toUInt16).trans (intToBytesN_toInt v.toBitVec 2 rfl).symm

theorem encBytes_i32 (v : Int32) : encBytes (.i32 v) = intToBytesN 4 v.toInt :=
  (encBytes_u32 v.toUInt32).trans (intToBytesN_toInt v.toBitVec 4 rfl).symm

theorem encBytes_i64 (v : Int64) : encBytes (.i64 v) = intToBytesN 8 v.toInt :=
  (encBytes_u64 v.toUInt64).trans (intToBytesN_toInt v.toBitVec 8 rfl).symm

end Asn1.C10
