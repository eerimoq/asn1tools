import Asn1Model.Uper
import Asn1Proofs.Lemmas.OerBits
/-
  A decoder run on a cut input, for the decoders that read their input from left to right without
  looking ahead: UPER, OER, aligned PER (DER and BER go by the shape of an encoding instead, see
  `PrefixDer.lean`).  One relation, `Follows`, has two readings.  With something cut off: the decoder is
  prefix deterministic and rejects a truncated encoding with `decodeError` (C16).  With nothing cut off:
  its outcome does not depend on the fuel (C08).
  Names in the codec files: `pf_r` ("prefix") is the statement `Cut` for the reader `r` -- packaged as `Mono`
  for a reader without fuel, as `PF` for a pair of readers `r f`, `r f'` that differ in their fuel --, `pt_c`
  ("prefix, type") the one for the decoder of the type constructor `c`, `PT` its statement; `ni` (as in
  `Cost.NI`) is the reading that a successful run does not lengthen the input.
-/
namespace Asn1
open Asn1.Uper (Err)

section
variable {α α' γ γ' : Type} {R : α → α' → Prop} {lost B : Prop}

/-- The outcome `m'` of a run on a cut input against the outcome `m` of the same run on the whole input:
`m'` is `m` (values related by `R`, the same error), except that when something was cut off (`lost`)
`m'` may be `decodeError` instead -- never another value, never another error class.

The guard `B` says that the run behind `m` has the fuel it needs.  Only then are its errors claimed for
`m'`: a run starved of fuel raises an error that the run on the cut input, which has its own fuel, does
not repeat.  Values of `m` are claimed whatever its fuel. -/
def Follows (R : α → α' → Prop) (lost B : Prop) (m : Except Err α) (m' : Except Err α') : Prop :=
  (∀ a, m = .ok a → (∃ a', m' = .ok a' ∧ R a a') ∨ (lost ∧ m' = .error .decodeError)) ∧
  (B → ∀ e, m = .error e → m' = .error e ∨ (lost ∧ m' = .error .decodeError))

theorem Follows.ok {a : α} {a' : α'} (h : R a a') : Follows R lost B (.ok a) (.ok a') :=
  ⟨fun _ e => by cases e; exact .inl ⟨a', rfl, h⟩, fun _ _ e => (nomatch e)⟩

theorem Follows.error {e : Err} : Follows R lost B (.error e) (.error e) :=
  ⟨fun _ h => (nomatch h), fun _ _ h => by cases h; exact .inl rfl⟩

theorem Follows.fail {m : Except Err α} (h : lost ∨ m = .error .decodeError) :
    Follows R lost B m (.error .decodeError : Except Err α') := by
  rcases h with h | h
  · exact ⟨fun _ _ => .inr ⟨h, rfl⟩, fun _ _ _ => .inr ⟨h, rfl⟩⟩
  · rw [h]; exact .error

theorem Follows.imp {R' : α → α' → Prop} {m : Except Err α} {m' : Except Err α'}
    (h : Follows R lost B m m') (hR : ∀ a a', R a a' → R' a a') : Follows R' lost B m m' :=
  ⟨fun a e => (h.1 a e).imp (fun ⟨a', h1, h2⟩ => ⟨a', h1, hR a a' h2⟩) id, h.2⟩

theorem Follows.ite {c : Prop} [Decidable c] {a b : Except Err α} {a' b' : Except Err α'}
    (ht : c → Follows R lost B a a') (he : ¬c → Follows R lost B b b') :
    Follows R lost B (if c then a else b) (if c then a' else b') := by
  by_cases h : c
  · rw [if_pos h, if_pos h]; exact ht h
  · rw [if_neg h, if_neg h]; exact he h

theorem Follows.bind {R' : γ → γ' → Prop} {m : Except Err α} {m' : Except Err α'}
    {g : α → Except Err γ} {g' : α' → Except Err γ'} (hm : Follows R lost B m m')
    (hg : ∀ a a', R a a' → Follows R' lost B (g a) (g' a')) : Follows R' lost B (m >>= g) (m' >>= g') := by
  have lose : ∀ {k : Except Err γ}, lost → Follows R' lost B k (.error .decodeError) := fun h => .fail (.inl h)
  cases m with
  | error e =>
    refine ⟨fun _ h => (nomatch h), fun hB e' h => ?_⟩
    cases h
    rcases hm.2 hB e rfl with h1 | ⟨hl, h1⟩ <;> rw [h1]
    · exact .inl rfl
    · exact .inr ⟨hl, rfl⟩
  | ok a =>
    rcases hm.1 a rfl with ⟨a', h1, h2⟩ | ⟨hl, h1⟩ <;> rw [h1]
    · exact hg a a' h2
    · exact lose hl

theorem Follows.eq {R : α → α → Prop} {m m' : Except Err α} (hl : ¬lost) (hB : B)
    (hR : ∀ a a', R a a' → a' = a) (h : Follows R lost B m m') : m' = m := by
  cases m with
  | error e =>
    rcases h.2 hB e rfl with h1 | ⟨h1, _⟩
    · exact h1
    · exact absurd h1 hl
  | ok a =>
    rcases h.1 a rfl with ⟨a', h1, h2⟩ | ⟨h1, _⟩
    · rw [h1, hR a a' h2]
    · exact absurd h1 hl

end

section
variable {σ : Type} (ext : σ → σ) (len : σ → Nat) (inv : σ → Prop) (lost B : Prop)

/-- `Follows` for readers of a state: a state `s'` of the run on the cut input stands for the state
`ext s'` of the run on the whole input, satisfies `inv`, and has at most `n` items left (the loops
measure their fuel against `n`).  The relation is closed under what the decoders are made of (`pure`,
`bind`, `ite`), so the statement for a decoder is read off its definition. -/
def Cut {β : Type} (n : Nat) (m m' : Except Err (β × σ)) : Prop :=
  Follows (fun a a' => a'.1 = a.1 ∧ a.2 = ext a'.2 ∧ len a'.2 ≤ n ∧ inv a'.2) lost B m m'

/-- `CutU` ("unit"): `Cut` for readers that return only the state -/
def CutU (n : Nat) (m m' : Except Err σ) : Prop :=
  Follows (fun s s' => s = ext s' ∧ len s' ≤ n ∧ inv s') lost B m m'

/-- `CutO` ("option"): `Cut` for a reader that may be absent (the alternative of a CHOICE found by its tag) -/
def CutO {β : Type} (n : Nat) (o o' : Option (Except Err (β × σ))) : Prop :=
  (o = none ∧ o' = none) ∨ ∃ m m', o = some m ∧ o' = some m' ∧ Cut ext len inv lost B n m m'

variable {ext len inv lost B} {β γ : Type} {n k : Nat}

theorem Cut.mono {m m' : Except Err (β × σ)} (h : Cut ext len inv lost B n m m') (hk : n ≤ k) :
    Cut ext len inv lost B k m m' :=
  Follows.imp h fun _ _ ⟨h1, h2, h3, h4⟩ => ⟨h1, h2, Nat.le_trans h3 hk, h4⟩

theorem CutU.mono {m m' : Except Err σ} (h : CutU ext len inv lost B n m m') (hk : n ≤ k) :
    CutU ext len inv lost B k m m' :=
  Follows.imp h fun _ _ ⟨h2, h3, h4⟩ => ⟨h2, Nat.le_trans h3 hk, h4⟩

theorem Cut.of_eq {m m₁ m' m₁' : Except Err (β × σ)} (h : m = m₁) (h' : m' = m₁')
    (ht : Cut ext len inv lost B n m₁ m₁') : Cut ext len inv lost B n m m' :=
  h ▸ h' ▸ ht

theorem Cut.pure {b : β} {s : σ} (hs : inv s) :
    Cut ext len inv lost B (len s) (.ok (b, ext s)) (.ok (b, s)) :=
  Follows.ok ⟨rfl, rfl, Nat.le_refl _, hs⟩

theorem CutU.pure {s : σ} (hs : inv s) : CutU ext len inv lost B (len s) (.ok (ext s)) (.ok s) :=
  Follows.ok ⟨rfl, Nat.le_refl _, hs⟩

theorem Cut.error {e : Err} : Cut ext len inv lost B n (.error e : Except Err (β × σ)) (.error e) :=
  Follows.error

theorem Cut.fail {m : Except Err (β × σ)} (h : lost ∨ m = .error .decodeError) :
    Cut ext len inv lost B n m (.error .decodeError) :=
  Follows.fail h

theorem CutU.fail {m : Except Err σ} (h : lost ∨ m = .error .decodeError) :
    CutU ext len inv lost B n m (.error .decodeError) :=
  Follows.fail h

theorem Cut.ite {c : Prop} [Decidable c] {a b a' b' : Except Err (β × σ)}
    (ht : c → Cut ext len inv lost B n a a') (he : ¬c → Cut ext len inv lost B n b b') :
    Cut ext len inv lost B n (if c then a else b) (if c then a' else b') :=
  Follows.ite ht he

/-- reached by `.ite` on goals stated with `CutLO` (the alternatives of OER's CHOICE) -/
theorem CutO.ite {c : Prop} [Decidable c] {a b a' b' : Option (Except Err (β × σ))}
    (ht : c → CutO ext len inv lost B n a a') (he : ¬c → CutO ext len inv lost B n b b') :
    CutO ext len inv lost B n (if c then a else b) (if c then a' else b') := by
  by_cases h : c
  · rw [if_pos h, if_pos h]; exact ht h
  · rw [if_neg h, if_neg h]; exact he h

theorem Cut.bind {m m' : Except Err (β × σ)} {g g' : β × σ → Except Err (γ × σ)}
    (hm : Cut ext len inv lost B n m m')
    (hg : ∀ b s, len s ≤ n → inv s → Cut ext len inv lost B (len s) (g (b, ext s)) (g' (b, s))) :
    Cut ext len inv lost B n (m >>= g) (m' >>= g') :=
  Follows.bind hm fun ⟨_, _⟩ ⟨_, _⟩ ⟨h1, h2, h3, h4⟩ => by
    cases h1; cases h2; exact (hg _ _ h3 h4).mono h3

theorem CutU.bind_stateLast {m m' : Except Err (β × σ)} {g g' : β × σ → Except Err σ}
    (hm : Cut ext len inv lost B n m m')
    (hg : ∀ b s, len s ≤ n → inv s → CutU ext len inv lost B (len s) (g (b, ext s)) (g' (b, s))) :
    CutU ext len inv lost B n (m >>= g) (m' >>= g') :=
  Follows.bind hm fun ⟨_, _⟩ ⟨_, _⟩ ⟨h1, h2, h3, h4⟩ => by
    cases h1; cases h2; exact (hg _ _ h3 h4).mono h3

theorem Cut.bind_val {α : Type} {m : Except Err α} {g g' : α → Except Err (γ × σ)}
    (hg : ∀ a, Cut ext len inv lost B n (g a) (g' a)) : Cut ext len inv lost B n (m >>= g) (m >>= g') := by
  cases m with
  | error e => exact .error
  | ok a => exact hg a

theorem Cut.bind_stateFirst {m m' : Except Err σ} {g g' : σ → Except Err (γ × σ)}
    (hm : CutU ext len inv lost B n m m')
    (hg : ∀ s, len s ≤ n → inv s → Cut ext len inv lost B (len s) (g (ext s)) (g' s)) :
    Cut ext len inv lost B n (m >>= g) (m' >>= g') :=
  Follows.bind hm fun _ _ ⟨h2, h3, h4⟩ => by
    cases h2; exact (hg _ h3 h4).mono h3

theorem Cut.eq {m m' : Except Err (β × σ)} (hl : ¬lost) (hB : B) (he : ∀ s, ext s = s)
    (h : Cut ext len inv lost B n m m') : m' = m :=
  Follows.eq hl hB (fun ⟨_, _⟩ ⟨_, _⟩ ⟨h1, h2, _⟩ => by cases h1; cases h2; rw [he]) h

theorem Cut.value {m m' : Except Err (β × σ)} (h : Cut ext len inv lost B n m m') {b : β} {s : σ}
    (e : m = .ok (b, s)) :
    (∃ s', m' = .ok (b, s') ∧ s = ext s' ∧ len s' ≤ n ∧ inv s') ∨ (lost ∧ m' = .error .decodeError) :=
  (h.1 _ e).imp (fun ⟨⟨_, s'⟩, h1, h2, h3⟩ => by cases h2; exact ⟨s', h1, h3⟩) id

theorem Cut.len_le {m : Except Err (β × σ)} (hl : ¬lost) (he : ∀ s, ext s = s)
    (h : Cut ext len inv lost B n m m) {b : β} {s : σ} (e : m = .ok (b, s)) : len s ≤ n := by
  rcases h.value e with ⟨s', _, h2, h3, _⟩ | ⟨h1, _⟩
  · rw [h2, he]; exact h3
  · exact absurd h1 hl

theorem CutU.len_le {m : Except Err σ} (hl : ¬lost) (he : ∀ s, ext s = s)
    (h : CutU ext len inv lost B n m m) {s : σ} (e : m = .ok s) : len s ≤ n := by
  rcases h.1 _ e with ⟨s', _, h2, h3, _⟩ | ⟨h1, _⟩
  · rw [h2, he]; exact h3
  · exact absurd h1 hl

/-- the reading with nothing cut off starts here: a run whose values leave at most `n` items is `Cut`
against itself -/
theorem Cut.self {m : Except Err (β × σ)} (he : ∀ s, ext s = s)
    (h : ∀ b s, m = .ok (b, s) → len s ≤ n ∧ inv s) : Cut ext len inv lost B n m m :=
  ⟨fun ⟨b, s⟩ e => .inl ⟨(b, s), e, rfl, (he s).symm, h b s e⟩, fun _ _ e => .inl e⟩

end

/-- `CutL` ("list"; `CutLU`, `CutLO` likewise): `Cut` for a remaining input `q` that stands for `q ++ x` -/
abbrev CutL {ι β : Type} (x : List ι) (B : Prop) (n : Nat) (m m' : Except Err (β × List ι)) : Prop :=
  Cut (· ++ x) List.length (fun _ => True) (x ≠ []) B n m m'

abbrev CutLU {ι : Type} (x : List ι) (B : Prop) (n : Nat) (m m' : Except Err (List ι)) : Prop :=
  CutU (· ++ x) List.length (fun _ => True) (x ≠ []) B n m m'

abbrev CutLO {ι β : Type} (x : List ι) (B : Prop) (n : Nat) (o o' : Option (Except Err (β × List ι))) : Prop :=
  CutO (· ++ x) List.length (fun _ => True) (x ≠ []) B n o o'

theorem lost_or {ι : Type} {x : List ι} {P : Prop} (h : x = [] → P) : x ≠ [] ∨ P := by
  cases x with
  | nil => exact .inr (h rfl)
  | cons a l => exact .inl (List.cons_ne_nil a l)

/-- a reader monotone in its INPUT (`Cut.mono` is monotonicity in the bound `n`): its run on a prefix `q` of `q ++ x` is its run on `q ++ x`, unless it
needs more than `q`, and then it fails with `decodeError` -/
def Mono {ι β : Type} (x : List ι) (B : Prop) (p : List ι → Except Err (β × List ι)) : Prop :=
  ∀ q, CutL x B q.length (p (q ++ x)) (p q)

theorem Mono.ni {ι β : Type} {p : List ι → Except Err (β × List ι)} (h : Mono [] True p)
    {q : List ι} {b : β} {r : List ι} (e : p q = .ok (b, r)) : r.length ≤ q.length := by
  have := h q
  rw [List.append_nil] at this
  exact this.len_le (fun h => h rfl) List.append_nil e

theorem CutL.eq_nil {ι β : Type} {B : Prop} {n : Nat} {m m' : Except Err (β × List ι)}
    (h : CutL ([] : List ι) B n m m') (hB : B) : m' = m :=
  h.eq (fun h => h rfl) hB List.append_nil

theorem CutL.take {ι β : Type} {B : Prop} (f : List ι → β) (n : Nat) (q x : List ι) :
    CutL x B (q.length - n)
      (if n ≤ (q ++ x).length then .ok (f ((q ++ x).take n), (q ++ x).drop n) else .error .decodeError)
      (if n ≤ q.length then .ok (f (q.take n), q.drop n) else .error .decodeError) := by
  by_cases hn : n ≤ q.length
  · rw [if_pos (by simp only [List.length_append]; omega), List.take_append_of_le_length hn,
      List.drop_append_of_le_length hn, if_pos hn]
    exact (Cut.pure trivial).mono (Nat.le_of_eq List.length_drop)
  · rw [if_neg hn]
    exact .fail (lost_or fun hx => by rw [hx, List.append_nil, if_neg hn])

/-- the octets of `bits` cut after `k` of them: what is cut off holds more bits than the padding, so a
run that consumes `bits` reads beyond the cut (`hr` of `dec_cut`) -/
theorem packBits_cut (bits : Bits) {k : Nat} (hk : k < (packBits bits).length) :
    ∃ pad, bytesToBits ((packBits bits).take k) ++ bytesToBits ((packBits bits).drop k) = bits ++ pad ∧
      pad.length < (bytesToBits ((packBits bits).drop k)).length := by
  obtain ⟨pad, hpad⟩ : ∃ pad, bytesToBits (packBits bits) = bits ++ pad := ⟨_, bytesToBits_packBits bits⟩
  have hlen := congrArg List.length hpad
  rw [bytesToBits_length, List.length_append] at hlen
  have := packBits_length bits
  refine ⟨pad, by rw [← bytesToBits_append_oer, List.take_append_drop, hpad], ?_⟩
  rw [bytesToBits_length, List.length_drop]
  omega

end Asn1
