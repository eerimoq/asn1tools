import Asn1Model.Gser
import Asn1Proofs.Lemmas.JsonLex
/-
  The lexical level of the GSER reader on what the writer produces: words, strings, hstrings / bstrings,
  numbers, and the writer's layout of `{ … }` in the form in which the reader meets it.
-/
namespace Asn1.Gser
open Asn1.Json (isWs skipWs isDigit spanDigits digitsVal renderInt natDigits natDigits_spec spanDigits_append notDigitHead skipWs_of_not_ws skipWs_ws_append
  headP stops okFollow_ws_append)
open Asn1.Jer (hexDigitU)

/-- what else GSER needs of the characters that may follow a value (`Json.stops`) -/
theorem stops_table : ∀ c ∈ stops, isWordChar c = false ∧ c ≠ 34 ∧ c ≠ 58 := by
  decide

/-- What may follow a value in a GSER text: nothing, or `,` / `}` possibly after white space: `Json.okFollow`
(the next character; it also admits `]`, which does no harm) and what comes after the white space. -/
def okFollow (rest : List Nat) : Prop :=
  headP (· ∈ stops) rest ∧ headP (fun c => c = 44 ∨ c = 125) (skipWs rest)

theorem okFollow_nil : okFollow [] := ⟨trivial, trivial⟩

theorem okFollow_comma (r : List Nat) : okFollow (44 :: r) := by
  refine ⟨List.mem_cons_self .., ?_⟩
  rw [skipWs_of_not_ws 44 r (by decide)]
  exact Or.inl rfl

theorem okFollow_close (w r : List Nat) (hw : ∀ c ∈ w, isWs c = true) : okFollow (w ++ 125 :: r) := by
  refine ⟨okFollow_ws_append w 125 r hw (by decide), ?_⟩
  rw [skipWs_ws_append w _ hw, skipWs_of_not_ws 125 r (by decide)]
  exact Or.inr rfl

theorem isWordChar_cases {c : Nat} (h : isWordChar c = true) :
    (97 ≤ c ∧ c ≤ 122) ∨ (65 ≤ c ∧ c ≤ 90) ∨ (48 ≤ c ∧ c ≤ 57) ∨ c = 45 := by
  simp only [isWordChar, isLetter, isLower, isUpper, isDigit, Bool.or_eq_true, Bool.and_eq_true,
    decide_eq_true_eq, beq_iff_eq] at h
  omega

theorem isLower_cases {c : Nat} (h : isLower c = true) : 97 ≤ c ∧ c ≤ 122 := by
  simp only [isLower, Bool.and_eq_true, decide_eq_true_eq] at h
  exact h

theorem isLetter_of_isLower {c : Nat} (h : isLower c = true) : isLetter c = true := by
  simp [isLetter, h]

/-- a character a rendered Value can begin with: not white space and none of `}` `,` `:`, so that `skipWs`
stops at it and `namePrefix` / `items` do not take it for the end of a component -/
def valueStart (h : Nat) : Prop := isWs h = false ∧ h ≠ 125 ∧ h ≠ 44 ∧ h ≠ 58

instance (h : Nat) : Decidable (valueStart h) := inferInstanceAs (Decidable (_ ∧ _))

/-- a letter is none of the characters the reader dispatches on before it looks for a word -/
theorem letter_dispatch {c : Nat} (h : isLetter c = true) :
    c ≠ 123 ∧ c ≠ 34 ∧ c ≠ 39 ∧ ¬ (c = 45 ∨ isDigit c = true) ∧ valueStart c := by
  simp only [isLetter, isLower, isUpper, Bool.or_eq_true, Bool.and_eq_true, decide_eq_true_eq] at h
  simp only [valueStart, isDigit, isWs, Bool.and_eq_true, decide_eq_true_eq, Bool.or_eq_false_iff,
    beq_eq_false_iff_ne]
  omega

theorem number_dispatch {c : Nat} (h : c = 45 ∨ isDigit c = true) :
    c ≠ 123 ∧ c ≠ 34 ∧ c ≠ 39 ∧ isLower c = false ∧ valueStart c := by
  simp only [isDigit, Bool.and_eq_true, decide_eq_true_eq] at h
  simp only [valueStart, isLower, isWs, Bool.and_eq_false_iff, decide_eq_false_iff_not, Bool.or_eq_false_iff,
    beq_eq_false_iff_ne]
  omega

theorem spanWord_append (w rest : List Nat) (hw : ∀ c ∈ w, isWordChar c = true)
    (hr : headP (isWordChar · = false) rest) : spanWord (w ++ rest) = (w, rest) := by
  induction w with
  | nil =>
    cases rest with
    | nil => rfl
    | cons c r => rw [List.nil_append, spanWord, if_neg (by rw [show isWordChar c = false from hr]; decide)]
  | cons d w ih =>
    have hdd := hw d (List.mem_cons_self ..)
    simp only [List.cons_append, spanWord, hdd, if_true]
    rw [ih (fun c hc => hw c (List.mem_cons_of_mem _ hc))]

theorem isWord_of_isIdent {w : List Nat} (h : isIdent w = true) : isWord w = true := by
  cases w with
  | nil => simp [isIdent] at h
  | cons c r =>
    simp only [isIdent, Bool.and_eq_true] at h
    simp only [isWord, Bool.and_eq_true]
    exact ⟨⟨isLetter_of_isLower h.1.1, h.1.2⟩, h.2⟩

theorem isWord_parts {w : List Nat} (h : isWord w = true) :
    ∃ c r, w = c :: r ∧ isLetter c = true ∧ (∀ x ∈ w, isWordChar x = true) ∧ hyphensOk w = true := by
  cases w with
  | nil => simp [isWord] at h
  | cons c r =>
    simp only [isWord, Bool.and_eq_true, List.all_eq_true] at h
    exact ⟨c, r, rfl, h.1.1, h.1.2, h.2⟩

theorem isWord_of_isTypeRef {w : List Nat} (h : isTypeRef w = true) : isWord w = true := by
  cases w with
  | nil => simp [isTypeRef] at h
  | cons c r =>
    simp only [isTypeRef, Bool.and_eq_true] at h
    simp only [isWord, isLetter, Bool.and_eq_true, Bool.or_eq_true]
    exact ⟨⟨Or.inr h.1.1, h.1.2⟩, h.2⟩

theorem spanWord_word {w : List Nat} (hw : isWord w = true) (rest : List Nat)
    (hr : headP (isWordChar · = false) rest) : spanWord (w ++ rest) = (w, rest) := by
  obtain ⟨_, _, _, _, hall, _⟩ := isWord_parts hw
  exact spanWord_append w rest hall hr

theorem skipWs_word {w : List Nat} (hw : isWord w = true) (rest : List Nat) : skipWs (w ++ rest) = w ++ rest := by
  obtain ⟨c, r, rfl, hc, _⟩ := isWord_parts hw
  exact skipWs_of_not_ws c _ (letter_dispatch hc).2.2.2.2.1

theorem skipWs_space (h : Nat) (tl : List Nat) (hh : isWs h = false) : skipWs (32 :: h :: tl) = h :: tl := by
  rw [skipWs, if_pos (by decide), skipWs_of_not_ws h tl hh]

theorem ws_sp : ∀ c ∈ [32], isWs c = true := by decide
theorem ws_nl : ∀ c ∈ [10], isWs c = true := by decide

theorem lexStrAux_render (cps rest : List Nat) (hr : headP (· ≠ 34) rest) :
    lexStrAux false (cps.flatMap quoteChar ++ 34 :: rest) = some (cps, rest) := by
  induction cps with
  | nil =>
    simp only [List.flatMap_nil, List.nil_append, lexStrAux, if_true]
    cases rest with
    | nil => rfl
    | cons d r => simp only [lexStrAux, if_neg (show ¬ d = 34 from hr)]
  | cons c cps ih =>
    by_cases hc : c = 34
    · subst hc
      have : ([34] : List Nat).flatMap quoteChar = [34, 34] := rfl
      rw [List.flatMap_cons]
      simp only [quoteChar, if_true, List.cons_append, List.nil_append, lexStrAux]
      rw [ih]
    · rw [List.flatMap_cons]
      simp only [quoteChar, if_neg hc, List.cons_append, List.nil_append]
      rw [lexStrAux, if_neg hc, ih]

theorem lexStr_render (cps rest : List Nat) (hr : headP (· ≠ 34) rest) :
    lexStr (cps.flatMap quoteChar ++ 34 :: rest) = some (cps, rest) :=
  lexStrAux_render cps rest hr

theorem spanQuote_append (body r : List Nat) (hb : ∀ c ∈ body, c ≠ 39) :
    spanQuote (body ++ 39 :: r) = some (body, r) := by
  induction body with
  | nil => simp [spanQuote]
  | cons c body ih =>
    have hc := hb c (List.mem_cons_self ..)
    rw [List.cons_append, spanQuote, if_neg hc, ih (fun x hx => hb x (List.mem_cons_of_mem _ hx))]

theorem hexUp_hexDigitU (d : Nat) (h : d < 16) : hexUp (hexDigitU d) = some d := by
  unfold hexDigitU hexUp
  by_cases h10 : d < 10
  · rw [if_pos h10, if_pos (by omega)]; congr 1; omega
  · rw [if_neg h10, if_neg (by omega), if_pos (by omega)]; congr 1; omega

theorem mapOpt_hexUp (ds : List Nat) (h : ∀ d ∈ ds, d < 16) : mapOpt hexUp (ds.map hexDigitU) = some ds := by
  induction ds with
  | nil => rfl
  | cons d ds ih =>
    simp only [List.map_cons, mapOpt, hexUp_hexDigitU d (h d (List.mem_cons_self ..)),
      ih (fun x hx => h x (List.mem_cons_of_mem _ hx))]

theorem mapOpt_binDigit (bs : List Bool) : mapOpt binDigit (bs.map bitChar) = some bs := by
  induction bs with
  | nil => rfl
  | cons b bs ih => cases b <;> simp only [List.map_cons, mapOpt, ih] <;> rfl

theorem lexQuoted_hstr (ds : List Nat) (h : ∀ d ∈ ds, d < 16) (rest : List Nat) :
    lexQuoted (ds.map hexDigitU ++ 39 :: 72 :: rest) = some (.hstr ds, rest) := by
  unfold lexQuoted
  rw [spanQuote_append _ _ (by
    intro c hc
    simp only [List.mem_map] at hc
    obtain ⟨d, _, rfl⟩ := hc
    unfold hexDigitU; split <;> omega)]
  simp only [if_true, mapOpt_hexUp ds h]

theorem lexQuoted_bstr (bs : List Bool) (rest : List Nat) :
    lexQuoted (bs.map bitChar ++ 39 :: 66 :: rest) = some (.bstr bs, rest) := by
  unfold lexQuoted
  rw [spanQuote_append _ _ (by
    intro c hc
    simp only [List.mem_map] at hc
    obtain ⟨b, _, rfl⟩ := hc
    cases b <;> decide)]
  simp only [show ¬ ((66 : Nat) = 72) by decide, if_false, if_true, mapOpt_binDigit bs]

theorem lexNat_digits (neg : Bool) (ds rest : List Nat) (hd : ∀ c ∈ ds, isDigit c = true) (hne : ds ≠ [])
    (hz : ds.head? = some 48 → ds = [48]) (hneg : neg = true → digitsVal ds ≠ 0) (hr : notDigitHead rest) :
    lexNat neg (ds ++ rest) = some (Json.signed neg (digitsVal ds), rest) := by
  have hsp := spanDigits_append ds rest hd hr
  unfold lexNat
  rw [hsp]
  cases ds with
  | nil => exact absurd rfl hne
  | cons d ds' =>
    simp only
    by_cases h48 : d = 48
    · subst h48
      have := hz rfl
      simp only [List.cons.injEq, true_and] at this
      subst this
      have hv : digitsVal [48] = 0 := by simp [digitsVal]
      cases neg with
      | true => exact absurd hv (hneg rfl)
      | false => simp [hv, Json.signed]
    · rw [if_neg h48]

theorem lexNumber_renderInt (i : Int) (rest : List Nat) (hr : notDigitHead rest) :
    lexNumber (renderInt i ++ rest) = some (i, rest) := by
  unfold renderInt
  by_cases hneg : i < 0
  · rw [if_pos hneg]
    obtain ⟨h1, h2, h3, h4⟩ := natDigits_spec (-i).toNat
    rw [List.cons_append, lexNumber, if_pos rfl,
      lexNat_digits true _ rest h1 h2 h4 (by intro _; rw [h3]; omega) hr, h3]
    simp only [Json.signed, if_true]
    congr 2
    omega
  · rw [if_neg hneg]
    obtain ⟨h1, h2, h3, h4⟩ := natDigits_spec i.toNat
    have key := lexNat_digits false _ rest h1 h2 h4 (by intro h; cases h) hr
    cases hd : natDigits i.toNat with
    | nil => exact absurd hd h2
    | cons d ds' =>
      have hd45 : ¬ d = 45 := by
        have := h1 d (by rw [hd]; exact List.mem_cons_self ..)
        simp only [isDigit, Bool.and_eq_true, decide_eq_true_eq] at this
        omega
      rw [hd] at key h3
      rw [List.cons_append] at key ⊢
      rw [lexNumber, if_neg hd45, key, h3]
      simp only [Json.signed, Bool.false_eq_true, if_false]
      congr 2
      omega

theorem commaIf_nil : commaIf ([] : List (Option (List Nat) × GVal)) = [] := rfl
theorem commaIf_cons (x : Option (List Nat) × GVal) (xs : List (Option (List Nat) × GVal)) :
    commaIf (x :: xs) = [44] := rfl

theorem renderItems_cons_append (ind : Nat) (msep : List Nat) (nm : Option (List Nat)) (v : GVal)
    (xs : List (Option (List Nat) × GVal)) (tail : List Nat) :
    renderItems ind msep ((nm, v) :: xs) ++ tail =
      msep ++ ((renderName nm ++ renderV ind msep v) ++ (commaIf xs ++ (renderItems ind msep xs ++ tail))) := by
  rw [renderItems]
  simp only [List.append_assoc]

theorem renderV_braces_append (ind : Nat) (sep : List Nat) (its : List (Option (List Nat) × GVal)) (rest : List Nat) :
    renderV ind sep (.braces its) ++ rest =
      123 :: (renderItems ind (sep ++ List.replicate ind 32) its ++ (sep ++ 125 :: rest)) := by
  rw [renderV]
  simp only [List.append_assoc, List.cons_append, List.nil_append]

theorem replicate_ws (sep : List Nat) (ind : Nat) (hs : ∀ c ∈ sep, isWs c = true) :
    ∀ c ∈ sep ++ List.replicate ind 32, isWs c = true := by
  intro c hc
  simp only [List.mem_append, List.mem_replicate] at hc
  rcases hc with hc | ⟨_, hc⟩
  · exact hs c hc
  · subst hc; decide

end Asn1.Gser
