import Asn1Proofs.Lemmas.X696Leaf
/-
  C06: what the declarative readings of the primitives of the specification `X696` (Properties/C06)
  rest on.  The INTEGER form chosen by `intForm` is the entry of the code's width table, whose
  least-width facts are in OerLeaf; variable-size numbers use the least number of octets and are read
  back as the value; the length determinant has no encoding from 256^127 on.
-/
namespace Asn1.X696
open Asn1.Uper (Err)

/-- the widths of fixed-size numbers in OER (X.696 10.2, 10.3) -/
def widths : List Nat := [1, 2, 4, 8]

/-- an extensible constraint is not OER-visible: always the variable-size signed form -/
theorem ext_varSigned (lo hi : Option Int) : intForm ⟨lo, hi, true⟩ = .varSigned := rfl

theorem noLower_varSigned (hi : Option Int) (ext : Bool) : intForm ⟨none, hi, ext⟩ = .varSigned := by
  cases ext <;> rfl

theorem semi_varUnsigned {lb : Int} (h : 0 ≤ lb) : intForm ⟨some lb, none, false⟩ = .varUnsigned := by
  simp [intForm, visibleLo, visibleHi, h]

theorem semi_varSigned {lb : Int} (h : lb < 0) : intForm ⟨some lb, none, false⟩ = .varSigned := by
  have : ¬ 0 ≤ lb := by omega
  simp [intForm, visibleLo, visibleHi, this]

theorem intFixed_of_intForm {c : IntC} {k : Nat} {s : Bool}
    (h : intForm c = if s then .fixedSigned k else .fixedUnsigned k) : Oer.intFixed c = some (k, s) := by
  rw [intForm_eq] at h
  cases hfx : Oer.intFixed c with
  | none =>
    rw [hfx] at h
    cases hs : Oer.intSigned c <;> rw [hs] at h <;> cases s <;> cases h
  | some ks =>
    obtain ⟨k', s'⟩ := ks
    rw [hfx] at h
    cases s' <;> cases s <;> cases h <;> rfl

theorem unsignedOctets_pos (n : Nat) : 1 ≤ unsignedOctets n := Nat.le_max_left _ _

theorem unsignedOctets_fits (n : Nat) : n < 256 ^ unsignedOctets n :=
  (byteLength_le_iff n _).1 (Nat.le_max_right _ _)

theorem unsignedOctets_least (n k : Nat) (hk : 1 ≤ k) (h : n < 256 ^ k) : unsignedOctets n ≤ k :=
  Nat.max_le.2 ⟨hk, (byteLength_le_iff n k).2 h⟩

theorem unsigned_value (n : Nat) : bytesToNat (natToBytesN (unsignedOctets n) n) = n :=
  bytesToNat_natToBytesN_of_lt (unsignedOctets_fits n)

theorem signedOctets_least (i : Int) (k : Nat) (hk : 1 ≤ k)
    (hlo : -((2 ^ (8 * k - 1) : Nat) : Int) ≤ i) (hhi : i < ((2 ^ (8 * k - 1) : Nat) : Int)) :
    signedOctets i ≤ k := by
  unfold signedOctets intByteLength
  split
  · have := bitLength_le_of_lt_pow (show i.toNat < 2 ^ (8 * k - 1) by omega)
    omega
  · have := bitLength_le_of_lt_pow (show (-i - 1).toNat < 2 ^ (8 * k - 1) by omega)
    omega

/-- the three cases of 8.6 -/
theorem lengthDet_cases (n : Nat) :
    (n < 128 ∧ lengthDet n = .ok [n]) ∨
    (128 ≤ n ∧ byteLength n ≤ 127 ∧
      lengthDet n = .ok ((128 + byteLength n) :: natToBytesN (byteLength n) n)) ∨
    (128 ≤ n ∧ ¬ byteLength n ≤ 127 ∧ lengthDet n = .error .encodeError) := by
  unfold lengthDet
  by_cases h : n < 128
  · exact .inl ⟨h, if_pos h⟩
  · rw [if_neg h]
    by_cases hk : byteLength n ≤ 127
    · exact .inr (.inl ⟨by omega, hk, if_pos hk⟩)
    · exact .inr (.inr ⟨by omega, hk, if_neg hk⟩)

theorem lengthDet_error {n : Nat} {e : Err} (h : lengthDet n = .error e) : e = .encodeError := by
  rcases lengthDet_cases n with ⟨_, e'⟩ | ⟨_, _, e'⟩ | ⟨_, _, e'⟩ <;> rw [e'] at h <;> cases h
  rfl

end Asn1.X696
