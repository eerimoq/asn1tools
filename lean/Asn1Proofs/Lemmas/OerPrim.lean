import Asn1Model.OerTyping
import Asn1Proofs.Lemmas.OerBits
import Asn1Proofs.Lemmas.UperUtf8
import Asn1Proofs.Lemmas.UperMisc
/-
  Primitives of the OER model: totality of an encoder (`Total`), the readers, length-prefixed blocks,
  integers, enumerations, strings, repetition.
-/
namespace Asn1.Oer

/-- `x` is `.ok` of something OR `.error .encodeError`: no other exception.  Weaker than totality in
the strict sense: `lenDet` raises `EncodeError` on lengths that need more than 127 length octets. -/
def Total {α : Type} (x : EncM α) : Prop := (∃ a, x = .ok a) ∨ x = .error .encodeError

theorem Total.ok {α : Type} (a : α) : Total (.ok a : EncM α) := Or.inl ⟨a, rfl⟩

theorem Total.bind {α β : Type} {x : EncM α} {f : α → EncM β} (hx : Total x)
    (hf : ∀ a, Total (f a)) : Total (x >>= f) := by
  rcases hx with ⟨a, rfl⟩ | rfl
  · exact hf a
  · exact Or.inr rfl

/- The first rewrites with `enc` and `dec` in the import chain: Lean derives the equation lemmas of the
two functions here, once, and not again in each proof of an importing module. -/

theorem enc_null (v : Val) : enc .null v = .ok [] := by rw [enc]

theorem dec_null (bs : Bytes) : dec .null bs = .ok (.null, bs) := by rw [dec]

theorem dec_integer (c : IntC) (bs : Bytes) : dec (.integer c) bs =
    (match intFixed c with
    | some (k, signed) => do
      let (ds, r) ← readBytes k bs
      .ok (.int (if signed then bytesToInt ds else bytesToNat ds), r)
    | none =>
      if intSigned c then do let (i, r) ← decSigned bs; .ok (.int i, r)
      else do let (n, r) ← decUnsigned bs; .ok (.int n, r)) := rfl

theorem dec_enumerated_cons (root : List (String × Int)) (ext : Option (List (String × Int)))
    (b : Nat) (t : Bytes) : dec (.enumerated root ext) (b :: t) = (do
      let (v, r) ← (if b ≥ 128 then decSigned ((b - 128) :: t) else .ok ((b : Int), t))
      match enumName v (root ++ ext.getD []) with
      | some n => .ok (.enum n, r)
      | none => if ext.isSome then .ok (.absent, r) else .error .decodeError) := rfl

theorem dec_bitString (c : SizeC) (bs : Bytes) : dec (.bitString c) bs =
    (match fixedSize c with
    | some n => do
      let (body, r) ← readBytes ((n + 7) / 8) bs
      .ok (.bits body n, r)
    | none => do
      let (len, r) ← readLenDet bs
      let (unused, r') ← readByte r
      if len = 0 ∨ 8 * (len - 1) < unused then .error .unmodelled
      else do
        let (body, r'') ← readBytes (len - 1) r'
        .ok (.bits body (8 * (len - 1) - unused), r'')) := rfl

/-- `body` behind the length determinant of `k` (the callers pass `k = body.length`) -/
def lenPrefixed (k : Nat) (body : Bytes) : EncM Bytes := lenDet k >>= fun l => .ok (l ++ body)

/-- the octets of an OCTET STRING or character string: bare under a fixed size, else length-prefixed -/
def sized (c : SizeC) (body : Bytes) : EncM Bytes :=
  match fixedSize c with
  | some _ => .ok body
  | none => lenPrefixed body.length body

/-- the decoders' side of `sized`: as many octets as the fixed size says, or as a length determinant announces -/
def readSized (c : SizeC) (bs : Bytes) : DecM (Bytes × Bytes) :=
  (match fixedSize c with | some n => .ok (n, bs) | none => readLenDet bs) >>= fun (n, r) =>
    readBytes n r

theorem splitAux_append (a b acc : Bytes) :
    splitAux a.length (a ++ b) acc = some (acc.reverse ++ a, b) := by
  rw [splitAux_eq, if_pos (List.length_append ▸ Nat.le_add_right _ _), List.take_left' rfl, List.drop_left' rfl]

theorem readBytes_append {n : Nat} (a b : Bytes) (h : a.length = n) :
    readBytes n (a ++ b) = .ok (a, b) := by
  subst h; unfold readBytes; rw [splitAux_append]; simp

theorem readBytes_zero (b : Bytes) : readBytes 0 b = .ok ([], b) := rfl

theorem readByte_cons (b : Nat) (r : Bytes) : readByte (b :: r) = .ok (b, r) := rfl

theorem lenDet_def (n : Nat) : lenDet n =
    if n < 128 then .ok [n]
    else if (natToBytesMin n).length > 127 then .error .encodeError
    else .ok ((0x80 + (natToBytesMin n).length) :: natToBytesMin n) := rfl

theorem lenDet_total (n : Nat) : Total (lenDet n) := by
  rw [lenDet_def]
  split
  · exact .ok _
  · split
    · exact Or.inr rfl
    · exact .ok _

theorem lenDet_ne_nil {n : Nat} {l : Bytes} (h : lenDet n = .ok l) : l ≠ [] := by
  rw [lenDet_def] at h
  split at h
  · cases h; simp
  · split at h
    · cases h
    · cases h; simp

theorem readLenDet_lenDet {n : Nat} {l : Bytes} (h : lenDet n = .ok l) (rest : Bytes) :
    readLenDet (l ++ rest) = .ok (n, rest) := by
  rw [lenDet_def] at h
  unfold readLenDet
  split at h
  · rename_i hn
    cases h
    rw [List.cons_append, readByte_cons, ok_bind]
    exact if_pos hn
  · split at h
    · cases h
    · rename_i hl
      cases h
      rw [List.cons_append, readByte_cons, ok_bind]
      show (if _ then _ else _) = _
      rw [if_neg (by omega), readBytes_append _ _ (by omega), ok_bind]
      show Except.ok (bytesToNat (natToBytesMin n), rest) = _
      rw [bytesToNat_natToBytesMin]

theorem lenPrefixed_total (k : Nat) (body : Bytes) : Total (lenPrefixed k body) :=
  (lenDet_total k).bind fun _ => .ok _

theorem readLenDet_lenPrefixed {k body bs} (h : lenPrefixed k body = .ok bs)
    (rest : Bytes) : readLenDet (bs ++ rest) = .ok (k, body ++ rest) := by
  obtain ⟨l, hl, hbs⟩ := bind_ok h
  cases hbs
  rw [List.append_assoc, readLenDet_lenDet hl]

theorem sized_total (c : SizeC) (body : Bytes) : Total (sized c body) := by
  unfold sized
  split
  · exact .ok _
  · exact lenPrefixed_total _ _

theorem readSized_sized {c body bs} (h : sized c body = .ok bs)
    (hn : ∀ n, fixedSize c = some n → body.length = n) (rest : Bytes) :
    readSized c (bs ++ rest) = .ok (body, rest) := by
  unfold sized at h
  unfold readSized
  cases hf : fixedSize c with
  | some n =>
    rw [hf] at h
    cases h
    rw [ok_bind]
    exact readBytes_append _ _ (hn n hf)
  | none =>
    rw [hf] at h
    show (readLenDet _ >>= _) = _
    rw [readLenDet_lenPrefixed h, ok_bind]
    exact readBytes_append _ _ rfl

theorem encSigned_total (i : Int) : Total (encSigned i) := lenPrefixed_total _ _

theorem encUnsigned_total (n : Nat) : Total (encUnsigned n) := lenPrefixed_total _ _

theorem decSigned_encSigned {i : Int} {bs : Bytes} (h : encSigned i = .ok bs) (rest : Bytes) :
    decSigned (bs ++ rest) = .ok (i, rest) := by
  unfold decSigned
  rw [readLenDet_lenPrefixed h, ok_bind]
  show (readBytes _ _ >>= _) = _
  rw [readBytes_append _ _ (intToBytesN_length _ _), ok_bind]
  show (if _ then _ else _) = _
  have := intByteLength_pos i
  rw [if_neg (by omega), bytesToInt_intToBytesMin]

theorem encSigned_ne_nil {i : Int} {bs : Bytes} (h : encSigned i = .ok bs) : bs ≠ [] := by
  obtain ⟨l, hl, hbs⟩ := bind_ok h
  cases hbs
  simp [lenDet_ne_nil hl]

theorem decUnsigned_encUnsigned {n : Nat} {bs : Bytes} (h : encUnsigned n = .ok bs) (rest : Bytes) :
    decUnsigned (bs ++ rest) = .ok (n, rest) := by
  unfold decUnsigned
  rw [readLenDet_lenPrefixed h, ok_bind]
  show (readBytes _ _ >>= _) = _
  rw [readBytes_append _ _ (natToBytesN_length _ _), ok_bind]
  show Except.ok (bytesToNat _, rest) = _
  rw [bytesToNat_natToBytesN_of_lt]
  rw [pow256]
  exact Nat.lt_of_lt_of_le (lt_two_pow_bitLength n) (Nat.pow_le_pow_right (by omega) (by omega))

theorem mem_of_enumValue {name v l} (h : enumValue name l = some v) : v ∈ l.map (·.2) := by
  induction l with
  | nil => cases h
  | cons x r ih =>
    unfold enumValue at h
    split at h
    · cases h; simp
    · exact List.mem_cons_of_mem _ (ih h)

theorem enumName_of_enumValue (name : String) (v : Int) (l : List (String × Int))
    (hnd : (l.map (·.2)).Nodup) (h : enumValue name l = some v) : enumName v l = some name := by
  induction l with
  | nil => cases h
  | cons x r ih =>
    obtain ⟨n, w⟩ := x
    rw [List.map_cons, List.nodup_cons] at hnd
    unfold enumValue at h
    unfold enumName
    split at h
    · rename_i hn
      cases h
      rw [if_pos rfl, eq_of_beq hn]
    · rw [if_neg fun e => hnd.1 (by rw [e]; exact mem_of_enumValue h)]
      exact ih hnd.2 h

theorem enumValue_of_mem (name : String) (l : List (String × Int)) (h : name ∈ namesOf l) :
    ∃ v, enumValue name l = some v := by
  induction l with
  | nil => cases h
  | cons x r ih =>
    unfold enumValue
    split
    · exact ⟨_, rfl⟩
    · rename_i hn
      exact ih ((List.mem_cons.1 h).resolve_left fun e => hn (by simp [e]))

theorem mapM_cons_bind {α β : Type} (f : α → EncM β) (a : α) (l : List α) :
    (a :: l).mapM f = f a >>= fun b => l.mapM f >>= fun bs => .ok (b :: bs) := by
  rw [List.mapM_cons]; rfl

theorem mapM_total {α β : Type} (f : α → EncM β) (l : List α) (h : ∀ a ∈ l, Total (f a)) :
    Total (l.mapM f) := by
  induction l with
  | nil => exact Or.inl ⟨[], Uper.mapM_nil' f⟩
  | cons a l ih =>
    rw [mapM_cons_bind]
    exact (h a (by simp)).bind fun _ => (ih fun x hx => h x (by simp [hx])).bind fun _ => .ok _

theorem decRepeat_mapM {α : Type} (f : α → EncM Bytes) (g : α → Val) (p : Bytes → DecM (Val × Bytes))
    (vs : List α) (items : List Bytes) (rest : Bytes)
    (hp : ∀ v ∈ vs, ∀ bs r, f v = .ok bs → p (bs ++ r) = .ok (g v, r))
    (h : vs.mapM f = .ok items) :
    decRepeat p vs.length (items.flatten ++ rest) = .ok (vs.map g, rest) := by
  induction vs generalizing items with
  | nil =>
    rw [Uper.mapM_nil'] at h; cases h
    rfl
  | cons v vs ih =>
    rw [mapM_cons_bind] at h
    obtain ⟨b, hb, h⟩ := bind_ok h
    obtain ⟨bs, hbs, h⟩ := bind_ok h
    cases h
    rw [List.length_cons, decRepeat, List.flatten_cons, List.append_assoc,
      hp v (by simp) b _ hb, ok_bind]
    show (decRepeat _ _ _ >>= _) = _
    rw [ih bs (fun x hx => hp x (by simp [hx])) hbs]
    rfl

theorem readLenDet_ok {bs r : Bytes} {v : Nat} (h : readLenDet bs = .ok (v, r)) :
    ∃ b t, bs = b :: t ∧ ((b < 128 ∧ v = b ∧ r = t) ∨
      (128 ≤ b ∧ ∃ ds, readBytes (b - 128) t = .ok (ds, r) ∧ v = bytesToNat ds)) := by
  cases bs with
  | nil => cases h
  | cons b t =>
    refine ⟨b, t, rfl, ?_⟩
    simp only [readLenDet, readByte_cons, ok_bind] at h
    rcases ite_cases h with ⟨hb, h⟩ | ⟨hb, h⟩
    · cases h
      exact .inl ⟨hb, rfl, rfl⟩
    · obtain ⟨⟨ds, r'⟩, hrb, h⟩ := bind_ok h
      cases h
      exact .inr ⟨by omega, ds, hrb, rfl⟩

theorem readTagRest_ok {f : Nat} {bs tb r : Bytes} (h : readTagRest f bs = .ok (tb, r)) :
    ∃ f' b t, f = f' + 1 ∧ bs = b :: t ∧ ((b < 128 ∧ tb = [b] ∧ r = t) ∨
      (128 ≤ b ∧ ∃ t', readTagRest f' t = .ok (t', r) ∧ tb = b :: t')) := by
  cases f with
  | zero => cases h
  | succ f' =>
    cases bs with
    | nil => cases h
    | cons b t =>
      refine ⟨f', b, t, rfl, rfl, ?_⟩
      simp only [readTagRest, readByte_cons, ok_bind] at h
      rcases ite_cases h with ⟨hb, h⟩ | ⟨hb, h⟩
      · cases h
        exact .inl ⟨hb, rfl, rfl⟩
      · obtain ⟨⟨t', r'⟩, hrr, h⟩ := bind_ok h
        cases h
        exact .inr ⟨by omega, t', hrr, rfl⟩

end Asn1.Oer
