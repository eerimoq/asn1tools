import Asn1Proofs.Lemmas.Bridge
/-
  Shared by the translated decoder classes and the translated `oer.Encoder`: the outcome classes `errOk`, the value
  relations, and the checked shifts `shlE` / `shrE` with the sign-bit facts.  The refinement relation `Refines` with the rules
  by which refinements compose serves `per.Decoder`; `oer.Decoder` has `ORefines` (Bridge2OerDec), `oer.Encoder`
  `OEncRefines` (Bridge2OerEnc).
-/
namespace Asn1.Bridge
open Asn1 Asn1.Translated
open Asn1.Uper (Err)

/-- which Python exception class a model error stands for -/
def errOk : Err → String → Prop
  | .decodeError, s => s = "OutOfDataError" ∨ s = "DecodeError"
  | .notImplemented, s => s = "NotImplementedError"
  | .foreign, s => s = "ValueError"
  | .encodeError, s => s = "EncodeError"
  | .unmodelled, _ => False

/-- result refinement: same outcome class; on success the new concrete state satisfies the invariant and abstracts to
the model's new state, and the returned values correspond -/
def Refines {σ τ α β : Type} (inv : σ → Prop) (abs : σ → τ) (val : α → β → Prop) :
    Except String (σ × α) → Except Err (β × τ) → Prop
  | .ok (s', a), .ok (b, t) => inv s' ∧ abs s' = t ∧ val a b
  | .error e, .error m => errOk m e
  | _, _ => False

def bitVal (a : Int) (b : Bool) : Prop := a = if b then 1 else 0
def natVal (a : Int) (n : Nat) : Prop := a = (n : Int)
def bytesVal (a : List Int) (bs : Bytes) : Prop := a = ofNats bs

theorem ite_bind {m : Type → Type} [Bind m] {α β : Type} (c : Prop) [Decidable c] (a b : m α) (k : α → m β) :
    (if c then a else b) >>= k = if c then a >>= k else b >>= k :=
  apply_ite (· >>= k) c a b

section
variable {σ τ α β α' β' : Type} {inv : σ → Prop} {abs : σ → τ} {val : α → β → Prop} {val' : α' → β' → Prop}
  {x : Except String (σ × α)} {y : Except Err (β × τ)}

theorem Refines.ok {s : σ} {a : α} {b : β} {t : τ}
    (h1 : inv s) (h2 : abs s = t) (h3 : val a b) : Refines inv abs val (.ok (s, a)) (.ok (b, t)) := ⟨h1, h2, h3⟩

theorem Refines.err {e : String} {m : Err}
    (h : errOk m e) : Refines inv abs val (.error e : Except String (σ × α)) (.error m : Except Err (β × τ)) := h

theorem Refines.bind {f : σ × α → Except String (σ × α')} {g : β × τ → Except Err (β' × τ)} (h : Refines inv abs val x y)
    (hf : ∀ s a b, inv s → val a b → Refines inv abs val' (f (s, a)) (g (b, abs s))) :
    Refines inv abs val' (x >>= f) (y >>= g) :=
  match x, y, h with
  | .error _, .error _, h => h
  | .error _, .ok _, h => h.elim
  | .ok _, .error _, h => h.elim
  | .ok (s, a), .ok (b, _), ⟨h1, h2, h3⟩ => h2 ▸ hf s a b h1 h3

/-- a step of the code alone that cannot fail and keeps the state -/
theorem Refines.bind_left {f : σ × α → Except String (σ × α')} {val' : α' → β → Prop} (h : Refines inv abs val x y)
    (hf : ∀ s a b, inv s → val a b → Refines inv abs val' (f (s, a)) (.ok (b, abs s))) :
    Refines inv abs val' (x >>= f) y := by
  rw [← bind_pure y]
  exact h.bind hf

theorem Refines.mono {val' : α → β → Prop} (h : Refines inv abs val x y) (hv : ∀ a b, val a b → val' a b) :
    Refines inv abs val' x y := by
  rw [← bind_pure x]
  exact h.bind_left fun s a b hs hab => Refines.ok hs rfl (hv a b hab)

theorem Refines.ite {q p : Prop} [Decidable q] [Decidable p] {x1 x2 : Except String (σ × α)}
    {y1 y2 : Except Err (β × τ)} (hqp : q ↔ p) (h1 : p → Refines inv abs val x1 y1) (h2 : ¬ p → Refines inv abs val x2 y2) :
    Refines inv abs val (if decide q then x1 else x2) (if p then y1 else y2) := by
  by_cases c : p
  · rw [if_pos c, if_pos (decide_eq_true (hqp.2 c))]
    exact h1 c
  · rw [if_neg c, if_neg (fun hh => c (hqp.1 (of_decide_eq_true hh)))]
    exact h2 c
end

theorem shlE_natCast (a : Int) (n : Nat) : Py.shlE a (n : Int) = .ok (a * 2 ^ n) := by
  unfold Py.shlE Py.shl
  rw [if_neg (by omega), Int.toNat_natCast]

theorem shrE_natCast (a n : Nat) : Py.shrE (a : Int) (n : Int) = .ok (((a / 2 ^ n : Nat) : Int)) := by
  unfold Py.shrE
  rw [if_neg (by omega), Py.shr_natCast_div]

theorem shlE_of_nonneg (a n : Int) (h : 0 ≤ n) : Py.shlE a n = .ok (Py.shl a n) := by
  unfold Py.shlE; rw [if_neg (by omega)]

theorem shlE_neg (a n : Int) (h : n < 0) : Py.shlE a n = .error "ValueError" := by
  unfold Py.shlE; rw [if_pos h]

/-- `x & ((1 << n) - 1)` -/
theorem band_mask (x n : Nat) : Py.band (x : Int) ((1 : Int) * 2 ^ n - 1) = ((x % 2 ^ n : Nat) : Int) := by
  have hp : 0 < 2 ^ n := Nat.two_pow_pos n
  have : (1 : Int) * 2 ^ n - 1 = ((2 ^ n - 1 : Nat) : Int) := by
    rw [Int.one_mul, ← cast_two_pow]; omega
  rw [this, Py.band_natCast, Nat.and_two_pow_sub_one_eq_mod]

/-- `decoded & (1 << (w - 1))` as a truth value, for `decoded` of at most `w` bits: the sign bit of two's complement -/
theorem truthy_sign_bit (n w : Nat) (hw : 1 ≤ w) (hlt : n < 2 ^ w) :
    Py.truthyInt (Py.band (n : Int) ((1 : Int) * 2 ^ (w - 1))) = decide (2 ^ (w - 1) ≤ n) := by
  have hz := Py.and_two_pow_eq_zero_of_lt (show n < 2 ^ (w - 1 + 1) by rw [Nat.sub_add_cancel hw]; exact hlt)
  rw [Int.one_mul, ← cast_two_pow, Py.band_natCast]
  by_cases c : n < 2 ^ (w - 1)
  · rw [hz.2 c, decide_eq_false (by omega)]; rfl
  · rw [decide_eq_true (by omega)]
    simp only [Py.truthyInt, bne_iff_ne, ne_eq, Int.natCast_eq_zero]
    exact fun h => c (hz.1 h)

/-- `decoded - ((1 << w) - 1) - 1` -/
theorem sub_mask (n w : Nat) : (n : Int) - ((1 : Int) * 2 ^ w - 1) - 1 = (n : Int) - ((2 ^ w : Nat) : Int) := by
  rw [Int.one_mul, ← cast_two_pow]; omega

end Asn1.Bridge
