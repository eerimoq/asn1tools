import Asn1Proofs.Lemmas.PrepPerm
import Asn1Proofs.Lemmas.PrepSpec
/-
  Reordering the type assignments of one module commutes with the rewrite of every module
  (`procModule_permTypes`); for the whole dictionary see `C19.run_permutation`.
-/
namespace Asn1.SpecDict
open Preprocess

/-- the dictionary with the type assignments of module `i` reordered by `π` -/
def permTypes (π : NatPerm) (i : Nat) (s : Spec) : Spec :=
  modifyAt (fun m => { m with types := π.app m.types }) i s

/-- the type assignments of module `i` have pairwise distinct names (always true for a Python
dictionary).  Stated on the skeleton, which no pass changes, so that it holds along the whole
rewrite (`NodupNames_of_skel_eq`). -/
def NodupNames (s : Spec) (i : Nat) : Prop :=
  ∀ mn ms, (skel s)[i]? = some (mn, ms) → (ms.types.map Prod.fst).Nodup

theorem NodupNames.at {s : Spec} {i : Nat} (h : NodupNames s i) {mn : String} {m : Module}
    (hi : s[i]? = some (mn, m)) : (m.types.map Prod.fst).Nodup := by
  have := h mn m.skel (by rw [skel_getElem?, hi]; rfl)
  simpa [Module.skel, typesSkel_eq_map, List.map_map, Function.comp_def] using this

section
variable (π : NatPerm) (i : Nat)

theorem LookupEquiv_permTypes {s : Spec} (hN : NodupNames s i) :
    LookupEquiv (permTypes π i s) s := fun mod =>
  find?_modifyAt_map _ Module.view i s mod fun v hv =>
    congrArg (Prod.mk v.imports)
      (funext fun name => (find?_perm name (π.perm v.types).symm (hN.at hv)).symm)

theorem countTypes_skel_modifyAt {g : Module → Module}
    (hg : ∀ m, (g m).types.length = m.types.length) (s : Spec) :
    countTypes (skel (modifyAt g i s)) = countTypes (skel s) := by
  induction s generalizing i with
  | nil => cases i <;> rfl
  | cons x t ih =>
    obtain ⟨k, m⟩ := x
    cases i with
    | zero => simp [modifyAt, skel, countTypes, Module.skel, typesSkel_length, hg]
    | succ i => simp [modifyAt, skel, countTypes, ih]

theorem SkelEquiv_permTypes {s : Spec} (hN : NodupNames s i) :
    SkelEquiv (skel (permTypes π i s)) (skel s) := by
  refine ⟨?_, ?_, ?_⟩
  · intro f name mod
    rw [lookupCore_skel, lookupCore_skel, lookupType_congr (LookupEquiv_permTypes π i hN)]
  · simp [lookupFuel, permTypes]
  · unfold resolveFuel permTypes
    rw [countTypes_skel_modifyAt i (fun m => (π.perm m.types).length_eq)]

theorem compOfType_permTypes {s : Spec} (hN : NodupNames s i) (mn : String) (d : Desc) :
    compOfType (permTypes π i s) mn d = compOfType s mn d := by
  have hs := SkelEquiv_permTypes π i hN
  cases d with
  | mk a b =>
    cases b with
    | leaf => rfl
    | element e => rfl
    | members ms =>
      simp only [compOfType]
      rw [hs.lf, hs.rf, expandItems_congr (LookupEquiv_permTypes π i hN)]

theorem NodupNames_of_skel_eq {s s' : Spec} (h : skel s' = skel s) (hN : NodupNames s i) :
    NodupNames s' i := by
  intro mn ms hm; rw [h] at hm; exact hN mn ms hm

theorem compOfStep_permTypes {s : Spec} (hN : NodupNames s i) {j : Nat} (hj : j ≠ i)
    (mn : String) (k : Nat) :
    compOfStep j mn (permTypes π i s) k = permTypes π i (compOfStep j mn s k) := by
  unfold compOfStep permTypes
  rw [modifyAt_comm _ _ hj]
  congr 1
  refine modifyAt_congr ?_
  intro key m _
  have : compOfType (modifyAt (fun m : Module => { m with types := π.app m.types }) i s) mn
      = compOfType s mn := funext (compOfType_permTypes π i hN mn)
  rw [this]

theorem foldl_compOfStep_permTypes {j : Nat} (hj : j ≠ i) (mn : String) (l : List Nat) {s : Spec}
    (hN : NodupNames s i) :
    l.foldl (compOfStep j mn) (permTypes π i s) = permTypes π i (l.foldl (compOfStep j mn) s) :=
  foldl_comm (permTypes π i) _ (NodupNames · i)
    (fun s k hN => ⟨compOfStep_permTypes π i hN hj mn k,
      NodupNames_of_skel_eq i (skel_compOfStep j mn s k) hN⟩) l s hN

theorem ModClean_permTypes {s : Spec} (hC : ModClean s i) : ModClean (permTypes π i s) i := by
  intro mn m hm k d hd
  unfold permTypes at hm
  cases hs : s[i]? with
  | none => rw [modifyAt_of_none _ hs, hs] at hm; cases hm
  | some p =>
    rw [getElem?_modifyAt_of_eq _ hs] at hm
    cases hm
    exact hC p.1 p.2 hs k d ((π.perm p.2.types).mem_iff.1 hd)

theorem procModule_permTypes (n : Bool) {s : Spec} (hN : NodupNames s i) (hC : ModClean s i)
    (j : Nat) : procModule n (permTypes π i s) j = permTypes π i (procModule n s j) := by
  have hl : ∀ mn mt ext,
      locDesc (skel (permTypes π i s)) n mn mt ext = locDesc (skel s) n mn mt ext :=
    fun mn mt ext => funext (locDesc_congr (SkelEquiv_permTypes π i hN) n mn mt ext)
  cases hj : s[j]? with
  | none =>
    have : (permTypes π i s)[j]? = none := by
      rw [List.getElem?_eq_none_iff] at hj ⊢
      rwa [permTypes, modifyAt_length]
    rw [procModule_of_none n this, procModule_of_none n hj]
  | some p =>
    obtain ⟨mn, m⟩ := p
    by_cases hji : j = i
    · -- the reordered module itself: no COMPONENTS OF, the three passes are maps
      subst hji
      have hj' : (permTypes π j s)[j]? = some (mn, { m with types := π.app m.types }) :=
        getElem?_modifyAt_of_eq _ hj
      rw [procModule_eq n hj', procModule_eq n hj, hl,
        compOfModule_of_clean j mn (ModClean_permTypes π j hC), compOfModule_of_clean j mn hC,
        permTypes, permTypes, modifyAt_modifyAt, modifyAt_modifyAt]
      refine modifyAt_congr fun key m' _ => ?_
      simp only [Module.mapTypes, mapSnd_eq_map, π.map]
    · -- another module: its COMPONENTS OF entries and references see the same assignments
      have hj' : (permTypes π i s)[j]? = some (mn, m) := by
        rw [permTypes, getElem?_modifyAt_ne _ hji, hj]
      rw [procModule_eq n hj', procModule_eq n hj, hl, compOfModule,
        foldl_compOfStep_permTypes π i hji mn _ hN, permTypes, permTypes, modifyAt_comm _ _ hji]
      rfl

end

end Asn1.SpecDict
