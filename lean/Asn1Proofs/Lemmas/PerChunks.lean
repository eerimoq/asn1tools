import Asn1Proofs.Lemmas.PerPrim
/-
  Repetition and fragmentation for the aligned PER model (`encSeqM` / `decRepeat`, `encChunksM` /
  `decChunks`, `Uper.encChunks` / `decChunksBits`).

  The induction over the fragments is here twice and a third time in `UperChunks`, and none is an
  instance of another: `decChunks` and `decChunksBits` are two functions of the model (the second
  reads a fragment as one block of bits), and `Uper.decChunks` runs on bits without a position; an
  agreement between any two of them is itself an induction over the fragments.
-/
namespace Asn1.Per
open Asn1.Uper (lenDet encChunks encChunked All2 EncM DecM)

/-- per-item round trip under the bound `L`, as `Uper.ItemRT` (see there for the bound).  There the
item is a list of bits, encoded beforehand; here what an item is encoded to depends on where it
starts, so the notion is about the encoder `f` and the value `v`, with `g v` what the decoder gives
back, and the loops run the encoder themselves.  Encoder and decoder may stand at different
positions that agree modulo 8. -/
def ItemRT {α β : Type} (p : St → DecM (β × St)) (L : Nat) (f : Nat → α → EncM Bits) (g : α → β)
    (v : α) : Prop :=
  ∀ (pos pos' : Nat) (bits rest : Bits), pos' % 8 = pos % 8 → f pos v = .ok bits →
    bits.length + rest.length ≤ L → p ⟨pos', bits ++ rest⟩ = .ok (g v, ⟨pos' + bits.length, rest⟩)

theorem encSeqM_nil {α : Type} (f : Nat → α → EncM Bits) (pos : Nat) : encSeqM f pos [] = .ok [] := rfl

theorem encSeqM_cons {α : Type} (f : Nat → α → EncM Bits) (pos : Nat) (v : α) (r : List α) :
    encSeqM f pos (v :: r) =
      (match f pos v with
       | .error e => .error e
       | .ok a =>
         match encSeqM f (pos + a.length) r with
         | .error e => .error e
         | .ok b => .ok (a ++ b)) := rfl

theorem decRepeat_encSeqM {α β : Type} (p : St → DecM (β × St)) (L : Nat)
    (f : Nat → α → EncM Bits) (g : α → β) (vs : List α) (h : ∀ v ∈ vs, ItemRT p L f g v)
    (pos pos' : Nat) (bits rest : Bits) (hp : pos' % 8 = pos % 8)
    (he : encSeqM f pos vs = .ok bits) (hL : bits.length + rest.length ≤ L) :
    decRepeat p vs.length ⟨pos', bits ++ rest⟩ = .ok (vs.map g, ⟨pos' + bits.length, rest⟩) := by
  induction vs generalizing pos pos' bits with
  | nil =>
    cases he
    rfl
  | cons v r ih =>
    rw [encSeqM_cons] at he
    cases ha : f pos v with
    | error e => rw [ha] at he; cases he
    | ok a =>
    rw [ha] at he
    simp only at he
    cases hb : encSeqM f (pos + a.length) r with
    | error e => rw [hb] at he; cases he
    | ok b =>
    rw [hb] at he
    cases he
    simp only [List.length_append, Nat.add_assoc] at hL
    simp only [List.length_cons, decRepeat, List.append_assoc, ok_bind,
      h v (by simp) pos pos' a (b ++ rest) hp ha (by simpa only [List.length_append] using hL),
      ih (fun x hx => h x (by simp [hx])) (pos + a.length) (pos' + a.length) b (mod8_add hp _) hb
        (Nat.le_trans (Nat.le_add_left _ _) hL), List.map_cons, List.length_append, Nat.add_assoc]

theorem encChunksM_succ {α : Type} (f : Nat → α → EncM Bits) (fl pos : Nat) (items : List α) :
    encChunksM f (fl + 1) pos items =
      (match encSeqM f (pos + (lenDet items.length).1.length) (items.take (lenDet items.length).2) with
       | .error e => .error e
       | .ok body =>
         if (lenDet items.length).2 < 16384 then .ok ((lenDet items.length).1 ++ body)
         else
           match encChunksM f fl (pos + (lenDet items.length).1.length + body.length)
               (items.drop (lenDet items.length).2) with
           | .error e => .error e
           | .ok rest => .ok ((lenDet items.length).1 ++ body ++ rest)) := rfl

theorem decChunks_encChunksM {α β : Type} (p : St → DecM (β × St)) (L : Nat) (fl : Nat)
    (f : Nat → α → EncM Bits) (g : α → β) (vs : List α) (h : ∀ v ∈ vs, ItemRT p L f g v)
    (hf : vs.length / 16384 + 2 ≤ fl)
    (pos pos' : Nat) (bits rest : Bits) (hp : pos' % 8 = pos % 8)
    (he : encChunksM f fl pos vs = .ok bits) (hL : bits.length + rest.length ≤ L)
    (fuel : Nat) (hfuel : bits.length < fuel) :
    decChunks p fuel ⟨pos', bits ++ rest⟩ = .ok (vs.map g, ⟨pos' + bits.length, rest⟩) := by
  induction fl generalizing vs pos pos' bits fuel with
  | zero => omega
  | succ fl ih =>
    cases fuel with
    | zero => omega
    | succ fuel =>
      have hk := Uper.lenDet_snd_le vs.length
      have hh := Uper.lenDet_length_ge vs.length
      have htake : (vs.take (lenDet vs.length).2).length = (lenDet vs.length).2 := by
        rw [List.length_take, Nat.min_eq_left hk]
      rw [encChunksM_succ] at he
      cases hb : encSeqM f (pos + (lenDet vs.length).1.length) (vs.take (lenDet vs.length).2) with
      | error e => rw [hb] at he; cases he
      | ok body =>
      rw [hb] at he
      simp only at he
      split at he
      · rename_i hlt
        cases he
        have hall : (lenDet vs.length).2 = vs.length := Uper.lenDet_snd_eq_of_snd_lt hlt
        rw [hall, List.take_length] at hb
        simp only [List.length_append, Nat.add_assoc] at hL
        simp only [decChunks, List.append_assoc, readLenDet_lenDet, hall, ok_bind,
          decRepeat_encSeqM p L f g vs h _ _ body rest (mod8_add hp _) hb
            (Nat.le_trans (Nat.le_add_left _ _) hL), hall ▸ hlt, if_true, List.length_append,
          Nat.add_assoc]
      · rename_i hge
        cases hr : encChunksM f fl (pos + (lenDet vs.length).1.length + body.length)
            (vs.drop (lenDet vs.length).2) with
        | error e => rw [hr] at he; cases he
        | ok more =>
        rw [hr] at he
        cases he
        simp only [List.length_append, Nat.add_assoc] at hL hfuel
        have hrep := decRepeat_encSeqM p L f g (vs.take (lenDet vs.length).2)
          (fun v hv => h v (List.mem_of_mem_take hv)) _ (pos' + (lenDet vs.length).1.length) body
          (more ++ rest) (mod8_add hp _) hb
          (by rw [List.length_append]; exact Nat.le_trans (Nat.le_add_left _ _) hL)
        rw [htake] at hrep
        simp only [decChunks, List.append_assoc, readLenDet_lenDet, ok_bind, hrep, hge, if_false,
          ih (vs.drop (lenDet vs.length).2) (fun v hv => h v (List.mem_of_mem_drop hv))
          (by rw [List.length_drop]; omega) _
          (pos' + (lenDet vs.length).1.length + body.length) more (mod8_add (mod8_add hp _) _) hr
          (Nat.le_trans (Nat.le_add_left _ _) (Nat.le_trans (Nat.le_add_left _ _) hL)) fuel
          (by omega)]
        simp only [← List.map_append, List.take_append_drop, List.length_append, Nat.add_assoc]

theorem encSeqM_of_all2 {α : Type} (h : α → EncM Bits) (vs : List α) (items : List Bits)
    (hall : All2 (fun a item => h a = .ok item) vs items) (pos : Nat) :
    encSeqM (fun _ a => h a) pos vs = .ok items.flatten := by
  induction hall generalizing pos with
  | nil => rfl
  | @cons a item vs items hx _ ih =>
    rw [encSeqM_cons]
    simp only [hx, ih, List.flatten_cons]

theorem encChunksM_of_all2 {α : Type} (h : α → EncM Bits) (fl : Nat) (vs : List α)
    (items : List Bits) (hall : All2 (fun a item => h a = .ok item) vs items) (pos : Nat) :
    encChunksM (fun _ a => h a) fl pos vs = .ok (encChunks fl items) := by
  induction fl generalizing vs items pos with
  | zero => rfl
  | succ fl ih =>
    have hlen := Uper.All2.length_eq hall
    rw [encChunksM_succ, hlen]
    rw [encSeqM_of_all2 h _ _ (hall.take _)]
    simp only [encChunks]
    split
    · rfl
    · rw [ih _ _ (hall.drop _)]

theorem flatten_length_uniform (u : Nat) (l : List Bits) (h : ∀ x ∈ l, x.length = u) :
    l.flatten.length = u * l.length := by
  induction l with
  | nil => simp
  | cons a r ih =>
    rw [List.flatten_cons, List.length_append, ih (fun x hx => h x (by simp [hx])),
      h a (by simp), List.length_cons, Nat.mul_succ]
    omega

theorem decChunksBits_encChunks (u fl : Nat) (items : List Bits) (hu : ∀ x ∈ items, x.length = u)
    (hf : items.length / 16384 + 2 ≤ fl) (pos : Nat) (rest : Bits)
    (fuel : Nat) (hfuel : (encChunks fl items).length < fuel) :
    decChunksBits u fuel ⟨pos, encChunks fl items ++ rest⟩ =
      .ok (items.flatten, ⟨pos + (encChunks fl items).length, rest⟩) := by
  induction fl generalizing items pos fuel with
  | zero => omega
  | succ fl ih =>
    cases fuel with
    | zero => omega
    | succ fuel =>
      have hk := Uper.lenDet_snd_le items.length
      have hh := Uper.lenDet_length_ge items.length
      have htake : ((items.take (lenDet items.length).2).flatten).length
          = u * (lenDet items.length).2 := by
        rw [flatten_length_uniform u _ (fun x hx => hu x (List.mem_of_mem_take hx)),
          List.length_take, Nat.min_eq_left hk]
      unfold encChunks at hfuel ⊢
      simp only at hfuel ⊢
      split
      · rename_i hlt
        simp only [hlt, if_true, List.length_append] at hfuel
        have hall : (lenDet items.length).2 = items.length := Uper.lenDet_snd_eq_of_snd_lt hlt
        rw [hall, List.take_length] at htake
        rw [hall, List.take_length]
        simp only [decChunksBits, List.append_assoc, readLenDet_lenDet, hall, ok_bind,
          readBits_append _ _ _ htake, hall ▸ hlt, if_true, List.length_append, Nat.add_assoc, htake]
      · rename_i hge
        simp only [hge, if_false, List.length_append] at hfuel
        simp only [decChunksBits, List.append_assoc, readLenDet_lenDet, ok_bind,
          readBits_append _ _ _ htake, hge, if_false,
          ih (items.drop (lenDet items.length).2) (fun x hx => hu x (List.mem_of_mem_drop hx))
            (by rw [List.length_drop]; omega) _ fuel (by omega)]
        simp only [← List.flatten_append, List.take_append_drop, List.length_append, Nat.add_assoc,
          htake]

theorem decChunksBits_encChunked (u : Nat) (items : List Bits) (hu : ∀ x ∈ items, x.length = u)
    (pos : Nat) (rest : Bits) (fuel : Nat) (hfuel : (encChunked items).length < fuel) :
    decChunksBits u fuel ⟨pos, encChunked items ++ rest⟩ =
      .ok (items.flatten, ⟨pos + (encChunked items).length, rest⟩) :=
  decChunksBits_encChunks u _ items hu (Nat.le_refl _) pos rest fuel hfuel

theorem encSeqM_total {α : Type} (f : Nat → α → EncM Bits) (vs : List α)
    (h : ∀ v ∈ vs, ∀ pos, ∃ b, f pos v = .ok b) (pos : Nat) : ∃ b, encSeqM f pos vs = .ok b := by
  induction vs generalizing pos with
  | nil => exact ⟨[], rfl⟩
  | cons v r ih =>
    obtain ⟨a, ha⟩ := h v (by simp) pos
    obtain ⟨b, hb⟩ := ih (fun x hx => h x (by simp [hx])) (pos + a.length)
    exact ⟨a ++ b, by rw [encSeqM_cons, ha]; simp only [hb]⟩

theorem encChunksM_total {α : Type} (f : Nat → α → EncM Bits) (fl : Nat) (vs : List α)
    (h : ∀ v ∈ vs, ∀ pos, ∃ b, f pos v = .ok b) (pos : Nat) :
    ∃ b, encChunksM f fl pos vs = .ok b := by
  induction fl generalizing vs pos with
  | zero => exact ⟨[], rfl⟩
  | succ fl ih =>
    rw [encChunksM_succ]
    obtain ⟨body, hbody⟩ := encSeqM_total f (vs.take (lenDet vs.length).2)
      (fun v hv => h v (List.mem_of_mem_take hv)) (pos + (lenDet vs.length).1.length)
    rw [hbody]
    simp only
    split
    · exact ⟨_, rfl⟩
    · obtain ⟨more, hmore⟩ := ih (vs.drop (lenDet vs.length).2)
        (fun v hv => h v (List.mem_of_mem_drop hv))
        (pos + (lenDet vs.length).1.length + body.length)
      rw [hmore]
      exact ⟨_, rfl⟩

end Asn1.Per
