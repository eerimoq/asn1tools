import Asn1Proofs.Lemmas.BridgeFun
/-
  The translated `per.Encoder` class (`Asn1Model/Translated.lean`, regenerated from /repo by harness/py2lean.py on every
  run) refines the bit-list abstraction `absBits` of the UPER / PER models: the invariant, the abstraction, what a write to
  the working integer does, and the two's-complement selection `uncSel`.  The theorems, method by method, are in
  `Properties/C05t.lean`.
-/
namespace Asn1.Bridge
open Asn1 Asn1.Translated

/-- representation invariant of the big-integer bit buffer -/
structure EncInv (s : per_EncoderS) : Prop where
  nb : 0 ≤ s.number_of_bits
  v0 : 0 ≤ s.value
  vlt : s.value < 2 ^ s.number_of_bits.toNat
  ch : ∀ c ∈ s.chunks, 0 ≤ c.2 ∧ 0 ≤ c.1 ∧ c.1 < 2 ^ c.2.toNat
  cnb : s.chunks_number_of_bits = (s.chunks.map (·.2)).sum

/-- the bits the buffer stands for: the flushed chunks, then the working integer -/
def absBits (s : per_EncoderS) : Bits :=
  s.chunks.flatMap (fun c => natToBits c.2.toNat c.1.toNat) ++ natToBits s.number_of_bits.toNat s.value.toNat

/-- `Encoder()` -/
def empty : per_EncoderS := { number_of_bits := 0, value := 0, chunks_number_of_bits := 0, chunks := [] }

theorem cast_mul_pow (a n : Nat) : (a : Int) * 2 ^ n = ((a * 2 ^ n : Nat) : Int) := by
  rw [Int.natCast_mul, cast_two_pow]

theorem word_view {nb val : Int} (h0 : 0 ≤ nb) (h1 : 0 ≤ val) (h2 : val < 2 ^ nb.toNat) :
    ∃ N V : Nat, nb = (N : Int) ∧ val = (V : Int) ∧ V < 2 ^ N := by
  obtain ⟨N, rfl⟩ := Int.eq_ofNat_of_zero_le h0
  obtain ⟨V, rfl⟩ := Int.eq_ofNat_of_zero_le h1
  rw [Int.toNat_natCast, ← cast_two_pow] at h2
  exact ⟨N, V, rfl, rfl, Int.ofNat_lt.1 h2⟩

theorem word_push {nb val : Int} (h0 : 0 ≤ nb) (h1 : 0 ≤ val) (h2 : val < 2 ^ nb.toNat) (v n : Nat) (hv : v < 2 ^ n)
    (x : Int) (hx : x = val * 2 ^ n + (v : Int)) :
    (0 ≤ nb + (n : Int) ∧ 0 ≤ x ∧ x < 2 ^ (nb + (n : Int)).toNat) ∧
    natToBits (nb + (n : Int)).toNat x.toNat = natToBits nb.toNat val.toNat ++ natToBits n v := by
  obtain ⟨N, V, rfl, rfl, hlt⟩ := word_view h0 h1 h2
  have hx' : x = ((V * 2 ^ n + v : Nat) : Int) := by
    rw [hx, cast_mul_pow, ← Int.natCast_add]
  rw [hx', ← Int.natCast_add, Int.toNat_natCast, Int.toNat_natCast, Int.toNat_natCast, Int.toNat_natCast,
    ← cast_two_pow, natToBits_shift_add _ _ _ _ hv]
  exact ⟨⟨by omega, by omega, Int.ofNat_lt.2 (shift_add_lt hlt hv)⟩, rfl⟩

theorem push_core (s : per_EncoderS) (h : EncInv s) (v n : Nat) (hv : v < 2 ^ n) (x : Int)
    (hx : x = s.value * 2 ^ n + (v : Int)) :
    EncInv { s with number_of_bits := s.number_of_bits + (n : Int), value := x } ∧
    absBits { s with number_of_bits := s.number_of_bits + (n : Int), value := x } = absBits s ++ natToBits n v := by
  obtain ⟨⟨a, b, c⟩, d⟩ := word_push h.nb h.v0 h.vlt v n hv x hx
  refine ⟨⟨a, b, c, h.ch, h.cnb⟩, ?_⟩
  show _ ++ natToBits (s.number_of_bits + (n : Int)).toNat x.toNat = absBits s ++ _
  rw [d, absBits, List.append_assoc]

theorem bor_shl (a : Int) (ha : 0 ≤ a) (v n : Nat) (hv : v < 2 ^ n) :
    Py.bor (Py.shl a (n : Int)) (v : Int) = a * 2 ^ n + (v : Int) := by
  obtain ⟨m, rfl⟩ := Int.eq_ofNat_of_zero_le ha
  rw [Py.shl_natCast, Py.bor_natCast, Py.mul_pow_or _ hv, Int.natCast_add, cast_mul_pow]

/-- the branch `if self.number_of_bits > 4096:` of `append_non_negative_binary_integer`: the working integer becomes the
last chunk and starts again at zero -/
def flush (s : per_EncoderS) : per_EncoderS :=
  { s with chunks := s.chunks ++ [(s.value, s.number_of_bits)],
           chunks_number_of_bits := s.chunks_number_of_bits + s.number_of_bits,
           number_of_bits := 0, value := 0 }

theorem flush_refines (s : per_EncoderS) (h : EncInv s) : EncInv (flush s) ∧ absBits (flush s) = absBits s := by
  constructor
  · refine ⟨Int.le_refl 0, Int.le_refl 0, by show (0 : Int) < 2 ^ (0 : Int).toNat; decide, ?_, ?_⟩
    · intro c hc
      rcases List.mem_append.1 hc with hc | hc
      · exact h.ch c hc
      · simp at hc; subst hc; exact ⟨h.nb, h.v0, h.vlt⟩
    · show s.chunks_number_of_bits + s.number_of_bits = _
      simp [flush, h.cnb]
  · simp [absBits, flush, natToBits]

theorem nnbi_eq (s : per_EncoderS) (v n : Int) :
    per_Encoder_append_non_negative_binary_integer s v n =
      (let s1 := if s.number_of_bits > 4096 then flush s else s
       { s1 with number_of_bits := s1.number_of_bits + n, value := Py.bor (Py.shl s1.value n) v }) := by
  unfold per_Encoder_append_non_negative_binary_integer flush
  by_cases h : s.number_of_bits > 4096 <;> simp [h]

theorem chunks_length (cs : List (Int × Int)) (h : ∀ c ∈ cs, 0 ≤ c.2) :
    (((cs.flatMap (fun c => natToBits c.2.toNat c.1.toNat)).length : Nat) : Int) = (cs.map (·.2)).sum := by
  induction cs with
  | nil => rfl
  | cons c r ih =>
    have h1 := h c (by simp)
    have h2 := ih (fun x hx => h x (by simp [hx]))
    simp only [List.flatMap_cons, List.length_append, natToBits_length, List.map_cons, List.sum_cons,
      Int.natCast_add, h2]
    omega

theorem abs_length (s : per_EncoderS) (h : EncInv s) :
    (((absBits s).length : Nat) : Int) = s.chunks_number_of_bits + s.number_of_bits := by
  unfold absBits
  rw [List.length_append, Int.natCast_add, chunks_length _ (fun c hc => (h.ch c hc).1), natToBits_length, h.cnb]
  have := h.nb
  omega

/-- `value >> (8 * len(data) - number_of_bits)` for `value = int(hexlify(data), 16)`: the first `n` bits of the octets -/
theorem bits_of_bytes (data : Bytes) (hd : ∀ b ∈ data, b < 256) (n : Nat) (hn : n ≤ 8 * data.length) :
    ∃ v : Nat, Py.shr (Py.bytesToInt (ofNats data)) ((8 : Int) * Py.len (ofNats data) - (n : Int)) = (v : Int) ∧
      v < 2 ^ n ∧ natToBits n v = (bytesToBits data).take n := by
  have hsplit : 8 * data.length = n + (8 * data.length - n) := by omega
  refine ⟨bytesToNat data / 2 ^ (8 * data.length - n), ?_, ?_, ?_⟩
  · rw [bytesToInt_ofNats, Py.len_eq, ofNats_length,
      show (8 : Int) * (data.length : Int) - (n : Int) = ((8 * data.length - n : Nat) : Int) by omega, Py.shr_natCast_div]
  · rw [Nat.div_lt_iff_lt_mul (Nat.two_pow_pos _), ← Nat.pow_add, ← hsplit]
    exact bytesToNat_lt data hd
  · rw [bytesToBits_eq data hd]
    conv => rhs; rw [hsplit, natToBits_add]
    rw [List.take_left' (natToBits_length _ _)]

/-- the two-octet length determinant `0x8000 | n` of `append_length_determinant`, octet by octet -/
theorem lenDet_two (n : Nat) :
    bytesToBits [128 + n / 256, n % 256] = natToBits 16 (0x8000 + n) := by
  rw [show (16 : Nat) = 8 + 8 from rfl, natToBits_add, ← natToBits_mod 8 (0x8000 + n)]
  have e1 : (0x8000 + n) / 2 ^ 8 = 128 + n / 256 := by omega
  have e2 : (0x8000 + n) % 2 ^ 8 = n % 256 := by omega
  rw [e1, e2]
  simp only [bytesToBits, List.flatMap_cons, List.flatMap_nil, List.append_nil]

/-- the `(number_of_bytes, value)` selection of `append_unconstrained_whole_number`, flattened -/
def uncSel (i : Int) : Int × Int :=
  if i < 0 then
    (if Py.band (Py.shl 1 (8 * Py.fdiv (Py.bitLength i + 7) 8) + i) (Py.shl 1 (8 * Py.fdiv (Py.bitLength i + 7) 8 - 1)) = 0
      then (Py.fdiv (Py.bitLength i + 7) 8 + 1,
            Py.bor (Py.shl 1 (8 * Py.fdiv (Py.bitLength i + 7) 8) + i) (Py.shl 255 (8 * Py.fdiv (Py.bitLength i + 7) 8)))
      else (Py.fdiv (Py.bitLength i + 7) 8, Py.shl 1 (8 * Py.fdiv (Py.bitLength i + 7) 8) + i))
  else if i > 0 then
    (if Py.bitLength i = 8 * Py.fdiv (Py.bitLength i + 7) 8 then (Py.fdiv (Py.bitLength i + 7) 8 + 1, i)
      else (Py.fdiv (Py.bitLength i + 7) 8, i))
  else (1, i)

theorem unconstrained_unfold (s : per_EncoderS) (i : Int) :
    per_Encoder_append_unconstrained_whole_number s i =
      per_Encoder_append_non_negative_binary_integer (per_Encoder_append_length_determinant s (uncSel i).1).1
        (uncSel i).2 (8 * (uncSel i).1) := by
  unfold per_Encoder_append_unconstrained_whole_number uncSel
  dsimp only
  by_cases c1 : i < 0
  · by_cases c2 : Py.band (Py.shl 1 (8 * Py.fdiv (Py.bitLength i + 7) 8) + i)
        (Py.shl 1 (8 * Py.fdiv (Py.bitLength i + 7) 8 - 1)) = 0
    · simp only [c1, c2, decide_true, if_true]
    · simp only [c1, c2, decide_true, decide_false, if_true, if_false, Bool.false_eq_true]
  · by_cases c2 : i > 0
    · by_cases c3 : Py.bitLength i = 8 * Py.fdiv (Py.bitLength i + 7) 8
      · simp only [c1, c2, decide_true, decide_false, if_true, if_false, Bool.false_eq_true]
        rw [decide_eq_true c3, if_pos c3, if_pos rfl]
      · simp only [c1, c2, c3, decide_true, decide_false, if_true, if_false, Bool.false_eq_true]
    · simp only [c1, c2, decide_false, if_false, Bool.false_eq_true]

theorem neg_emod (M C : Nat) (h1 : 1 ≤ M) (h2 : M ≤ C) : ((-(M : Int)) % (C : Int)).toNat = C - M := by
  have e : (-(M : Int)) % (C : Int) = ((C - M : Nat) : Int) := by
    rw [← Int.add_mul_emod_self_left (-(M : Int)) (C : Int) 1, Int.mul_one]
    rw [Int.emod_eq_of_lt (by omega) (by omega)]
    omega
  rw [e, Int.toNat_natCast]

theorem two_pow_pred {a : Nat} (h : 1 ≤ a) : 2 ^ a = 2 * 2 ^ (a - 1) := by
  obtain ⟨b, rfl⟩ : ∃ b, a = b + 1 := ⟨a - 1, by omega⟩
  rw [Nat.pow_succ]; simp; omega

/-- the two's complement of `-M` needs one octet more than `M` itself exactly when `M` exceeds half the range of
`M`'s octets -/
theorem neg_case (M nb : Nat) (hM : 1 ≤ M) (hnb : (bitLength M + 7) / 8 = nb) :
    1 ≤ nb ∧ M < 2 ^ (8 * nb) ∧
    bitLength (M - 1) / 8 + 1 = if 2 ^ (8 * nb - 1) < M then nb + 1 else nb := by
  have hbl : ¬ bitLength M ≤ 0 := fun h => by have := (bitLength_le_iff M 0).1 h; omega
  have hlt : M < 2 ^ (8 * nb) := (bitLength_le_iff M _).1 (by omega)
  have hge : ¬ M < 2 ^ (8 * (nb - 1)) := fun h => by have := (bitLength_le_iff M _).2 h; omega
  refine ⟨by omega, hlt, ?_⟩
  have u : bitLength (M - 1) ≤ 8 * nb := (bitLength_le_iff _ _).2 (by omega)
  by_cases c : 2 ^ (8 * nb - 1) < M
  · have l : ¬ bitLength (M - 1) ≤ 8 * nb - 1 := fun h => by have := (bitLength_le_iff _ _).1 h; omega
    rw [if_pos c]; omega
  · have u' : bitLength (M - 1) ≤ 8 * nb - 1 := (bitLength_le_iff _ _).2 (by omega)
    have l : nb = 1 ∨ ¬ bitLength (M - 1) ≤ 8 * (nb - 1) - 1 := by
      by_cases h1 : nb = 1
      · exact .inl h1
      · refine .inr fun h => ?_
        have := (bitLength_le_iff _ _).1 h
        have hQ := two_pow_pred (show 1 ≤ 8 * (nb - 1) by omega)
        omega
    rw [if_neg c]; omega

/-- `(1 << 8 nb) - M` for `1 ≤ M < 2^(8 nb)`: its top bit is clear exactly when `M` exceeds half the range, and then
`| (0xff << 8 nb)` makes it the two's complement in one octet more -/
theorem neg_octets (M nb : Nat) (hM : 1 ≤ M) (h1 : 1 ≤ nb) (hlt : M < 2 ^ (8 * nb)) :
    (2 ^ (8 * nb) - M &&& 2 ^ (8 * nb - 1) = 0 ↔ 2 ^ (8 * nb - 1) < M) ∧
    2 ^ (8 * nb) - M ||| 255 * 2 ^ (8 * nb) = 256 ^ (nb + 1) - M ∧ M ≤ 256 ^ (nb + 1) ∧ M ≤ 256 ^ nb := by
  have hP := two_pow_pred (show 1 ≤ 8 * nb by omega)
  have h256 : 256 ^ (nb + 1) = 256 * 2 ^ (8 * nb) := by
    rw [pow256, show 8 * (nb + 1) = 8 + 8 * nb by omega, Nat.pow_add]
  refine ⟨?_, ?_, by omega, by rw [pow256]; omega⟩
  · rw [Py.and_two_pow_eq_zero_of_lt (by rw [Nat.sub_add_cancel (by omega)]; omega)]
    omega
  · rw [Nat.or_comm, Py.mul_pow_or _ (by omega), h256]
    omega

theorem fdiv8_add7 (b : Nat) : Py.fdiv ((b : Int) + 7) 8 = (((b + 7) / 8 : Nat) : Int) := by
  rw [show (b : Int) + 7 = ((b + 7 : Nat) : Int) by omega, Py.fdiv8]

/-- a negative `i` as the code sees it: `i = -M`, and `(i.bit_length() + 7) // 8` counts the octets of `M` -/
theorem neg_view {i : Int} (c1 : i < 0) :
    ∃ M : Nat, i = -(M : Int) ∧ 1 ≤ M ∧ Py.fdiv (Py.bitLength i + 7) 8 = (((bitLength M + 7) / 8 : Nat) : Int) := by
  obtain ⟨M, rfl⟩ : ∃ M : Nat, i = -(M : Int) := ⟨(-i).toNat, by omega⟩
  refine ⟨M, rfl, by omega, ?_⟩
  rw [← fdiv8_add7, ← Py.bitLength_natCast]
  simp [Py.bitLength]

/-- The pair `(number_of_bytes, value)` that `append_unconstrained_whole_number` / `append_integer` compute with
`bit_length`, `1 << 8 n` and the test of the top bit is `(intByteLength i, i mod 256 ^ intByteLength i)`: the minimal number
of two's-complement octets and the unsigned value of those octets. -/
theorem uncSel_eq (i : Int) :
    uncSel i = (((intByteLength i : Nat) : Int), (((i % ((256 ^ intByteLength i : Nat) : Int)).toNat : Nat) : Int)) := by
  unfold uncSel
  by_cases c1 : i < 0
  · obtain ⟨M, rfl, hM1, hfd⟩ := neg_view c1
    have hk : intByteLength (-(M : Int)) = bitLength (M - 1) / 8 + 1 := by
      unfold intByteLength
      rw [if_neg (by omega)]
      congr 3; omega
    generalize hnb : (bitLength M + 7) / 8 = nb at hfd
    obtain ⟨n1, n2, hcase⟩ := neg_case M nb hM1 hnb
    have hW : ((2 ^ (8 * nb) : Nat) : Int) + -(M : Int) = ((2 ^ (8 * nb) - M : Nat) : Int) := by omega
    obtain ⟨hz, hor, hA, hB⟩ := neg_octets M nb hM1 n1 n2
    rw [if_pos c1, hfd, Py.shl_of_eq 1 (8 * nb) 1 _ rfl (by omega), Py.shl_of_eq 1 (8 * nb - 1) 1 _ rfl (by omega),
      Py.shl_of_eq 255 (8 * nb) 255 _ rfl (by omega), Nat.one_mul, Nat.one_mul, hW, Py.band_natCast, hk, hcase]
    by_cases cA : 2 ^ (8 * nb - 1) < M
    · rw [if_pos (Int.natCast_eq_zero.2 (hz.2 cA)), if_pos cA, neg_emod M _ hM1 hA, Py.bor_natCast, hor]
      rfl
    · rw [if_neg (fun hh => cA (hz.1 (Int.natCast_eq_zero.1 hh))), if_neg cA, neg_emod M _ hM1 hB, pow256]
  · rw [if_neg c1]
    by_cases c2 : i > 0
    · obtain ⟨n, rfl⟩ := Int.eq_ofNat_of_zero_le (show 0 ≤ i by omega)
      have hk : intByteLength (n : Int) = bitLength n / 8 + 1 := by
        unfold intByteLength
        rw [if_pos (by omega), Int.toNat_natCast]
      have hU : ((n : Int) % ((256 ^ (bitLength n / 8 + 1) : Nat) : Int)).toNat = n := by
        have : n < 256 ^ (bitLength n / 8 + 1) := by
          rw [pow256]
          exact Nat.lt_of_lt_of_le (lt_two_pow_bitLength n) (Nat.pow_le_pow_right (by omega) (by omega))
        rw [Int.emod_eq_of_lt (by omega) (by omega), Int.toNat_natCast]
      rw [if_pos c2, Py.bitLength_natCast, fdiv8_add7, hk, hU]
      by_cases c3 : bitLength n = 8 * ((bitLength n + 7) / 8)
      · rw [if_pos (by omega)]
        congr 1; omega
      · rw [if_neg (by omega)]
        congr 2; omega
    · have : i = 0 := by omega
      subst this
      rw [if_neg c2]
      rfl

theorem emod_pow256_lt (i : Int) (k : Nat) : (i % ((256 ^ k : Nat) : Int)).toNat < 2 ^ (8 * k) := by
  have hp : (0 : Int) < ((256 ^ k : Nat) : Int) := by
    have := Nat.pow_pos (n := k) (show 0 < 256 by omega)
    omega
  have h1 := Int.emod_lt_of_pos i hp
  have h2 := Int.emod_nonneg i (Int.ne_of_gt hp)
  rw [← pow256]
  omega

end Asn1.Bridge
