import Asn1Proofs.Lemmas.UperMisc
import Asn1Proofs.Lemmas.TyInduct
/-
  The side condition `Ty.nsOk` of the UPER and aligned PER round trips (a hypothesis of C01, C01p, C07,
  C07p), and the statements proved per type: `RT` (round trip), `ET` (totality of the encoder).
-/
namespace Asn1

/-- an index `< n` written as a normally small non-negative whole number needs a length
determinant `< 16384` (always true for types that fit in memory: `n ≤ 2^131064`) -/
def nsIndexOk (n : Nat) : Bool := decide ((bitLength (n - 1) + 7) / 8 < 16384)

mutual
  /-- side condition missing from `Ty.wf`: the number of ENUMERATED additions / CHOICE additions is
  small enough that `encNsnnwn` of an index never needs a fragmented length determinant -/
  def Ty.nsOk : Ty → Bool
    | .enumerated _ (some adds) => nsIndexOk adds.length
    | .sequence root _ adds => root.nsOk && adds.nsOk
    | .sequenceOf e _ => e.nsOk
    | .choice root _ adds => root.nsOk && adds.nsOk && nsIndexOk adds.length
    | _ => true
  def Members.nsOk : Members → Bool
    | .nil => true
    | .cons _ _ t rest => t.nsOk && rest.nsOk
  def Alts.nsOk : Alts → Bool
    | .nil => true
    | .cons _ t rest => t.nsOk && rest.nsOk
end

theorem nsIndexOk_lt {n i : Nat} (h : nsIndexOk n = true) (hi : i < n) :
    (bitLength i + 7) / 8 < 16384 := by
  simp only [nsIndexOk, decide_eq_true_eq] at h
  have := bitLength_mono (m := i) (n := n - 1) (by omega)
  omega

theorem nsIndexOk_mono {m n : Nat} (h : m ≤ n) (hn : nsIndexOk n = true) : nsIndexOk m = true := by
  simp only [nsIndexOk, decide_eq_true_eq] at hn ⊢
  have := bitLength_mono (m := m - 1) (n := n - 1) (by omega)
  omega

theorem nsIndexOk_of_le_pow {n w : Nat} (hw : (w + 7) / 8 < 16384) (h : n ≤ 2 ^ w) :
    nsIndexOk n = true := by
  have h1 : n - 1 < 2 ^ w := by
    have : 0 < 2 ^ w := Nat.pow_pos (by omega)
    omega
  have := bitLength_le_of_lt_pow h1
  simp only [nsIndexOk, decide_eq_true_eq]
  omega

theorem Alts.all_nsOk (as : Alts) (h : as.nsOk = true) : as.All (fun t => t.nsOk = true) :=
  Alts.all_of_and (fun _ _ _ => rfl) as h

namespace Uper

/- The first rewrites with `enc` and `dec` in the import chain: Lean derives the equation lemmas of the
two functions here, once; without these two lemmas every proof of the first importing module that
says `rw [enc]` derives them again. -/
theorem enc_null (v : Val) : enc .null v = .ok [] := by rw [enc]

theorem dec_null (fuel : Nat) (bs : Bits) : dec .null fuel bs = .ok (.null, bs) := by rw [dec]

/-- round trip at type `t`: the decoder, given an encoding of a well-typed `v` followed by anything,
returns the canonical form of `v` and exactly what followed.
`fuel` only limits the number of fragments `decChunks` reads, and every fragment is longer than its
length octet, so any `fuel` above the number of bits in front of the decoder is enough.  The margin
`+ 2` is the one `decode` runs with (`8 * bs.length + 2`); it keeps the bound true behind an extension
bit and lets it pass unchanged to the elements of a SEQUENCE OF (`ItemRT … (fuel - 2)`). -/
def RT (t : Ty) : Prop :=
  ∀ (v : Val) (bits rest : Bits) (fuel : Nat),
    t.wf = true → t.defaultsOk = true → t.nsOk = true → hasType t v = true → fragFree t v = true →
    enc t v = .ok bits → bits.length + rest.length + 2 ≤ fuel →
    dec t fuel (bits ++ rest) = .ok (canon t v, rest)

/-- at type `t` the encoder accepts every well-typed value -/
def ET (t : Ty) : Prop :=
  ∀ (v : Val), t.wf = true → hasType t v = true → ∃ bits, enc t v = .ok bits

end Uper
end Asn1
