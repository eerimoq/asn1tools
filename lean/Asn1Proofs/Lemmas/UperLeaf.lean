import Asn1Proofs.Lemmas.UperDefs
import Asn1Proofs.Lemmas.Typed
/-
  Round trip and totality for the leaf types.
-/
namespace Asn1.Uper

theorem rt_boolean : RT .boolean := by
  intro v bits rest fuel _ _ _ ht _ he _
  obtain ⟨b, rfl⟩ := hasType_boolean ht
  cases he
  rfl

theorem rt_null : RT .null := by
  intro v bits rest fuel _ _ _ ht _ he _
  cases hasType_null ht
  cases he
  rfl

theorem rt_integer (c : IntC) : RT (.integer c) := by
  intro v bits rest fuel hwf _ _ ht hf he _
  obtain ⟨i, rfl, hin⟩ := hasType_integer ht
  rw [canon_integer]
  rw [enc] at he
  rw [dec]
  rw [Ty.wf] at hwf
  rw [fragFree] at hf
  have hrange : ∀ lo hi : Int, lo ≤ i ∧ i ≤ hi → ∀ X : Bits,
      (readNat (bitLength (hi - lo).toNat)
          (natToBits (bitLength (hi - lo).toNat) (i - lo).toNat ++ X) >>=
        fun x => (.ok (.int (x.1 + lo), x.2) : DecM (Val × Bits))) = .ok (.int i, X) := by
    intro lo hi h X
    rw [readNat_natToBits _ (lt_two_pow_bitLength_of_le (by omega)), ok_bind,
      show (((i - lo).toNat : Nat) : Int) + lo = i by omega]
  split at he
  · rename_i lo hi hlo hhi
    simp only [hlo, hhi, decide_eq_true_eq] at hwf hf ⊢
    cases hext : c.ext
    · simp only [hext, Bool.false_eq_true, if_false, Bool.false_or, intInRange, hlo, hhi,
        Bool.and_eq_true, decide_eq_true_eq] at he hin ⊢
      cases he
      exact hrange lo hi hin rest
    · simp only [hext, if_true] at he ⊢
      split at he
      · cases he
        simp only [List.cons_append, List.nil_append, readBit_cons, ok_bind, Bool.false_eq_true,
          if_false]
        exact hrange lo hi ‹_› rest
      · rename_i hin
        cases he
        have hs : intByteLength i < 16384 := by
          simpa only [Bool.or_eq_true, Bool.and_eq_true, decide_eq_true_eq, smallLen, hin,
            false_or] using hf
        simp only [List.cons_append, List.nil_append, readBit_cons, ok_bind, if_true]
        rw [decUnconstrained_enc i rest hs, ok_bind]
  · rename_i hno
    have hext := wf_integer_ext hwf hno
    have hs : intByteLength i < 16384 := by
      split at hf
      · rename_i lo hi hlo hhi; exact absurd hhi (hno lo hi hlo)
      · simpa [smallLen] using hf
    simp only [hext, Bool.false_eq_true, if_false] at he ⊢
    cases he
    rw [decUnconstrained_enc i rest hs, ok_bind]

theorem rt_enumerated (root : List (String × Int)) : RT (.enumerated root none) := by
  intro v bits rest fuel hwf _ hns ht hf he _
  obtain ⟨name, rfl, -⟩ := hasType_enumerated ht
  rw [canon_enumerated]
  rw [enc] at he
  rw [dec]
  simp only at he ⊢
  split at he
  · rename_i i hi
    cases he
    obtain ⟨h1, x, h2⟩ := nameIndex_spec _ _ _ hi
    rw [readNat_natToBits rest (lt_two_pow_bitLength_of_le (by omega))]
    simp only [ok_bind, h2]
  · cases he

/-- a well-typed ENUMERATED value is found in the sorted root, or not there and among the additions -/
theorem enumIndex_cases {root : List (String × Int)} {ext : Option (List (String × Int))} {name : String}
    (ht : hasType (.enumerated root ext) (.enum name) = true) :
    (∃ i, nameIndex name (sortByVal root) = some i) ∨
    (nameIndex name (sortByVal root) = none ∧ ∃ adds i, ext = some adds ∧ nameIndex name adds = some i) := by
  simp only [hasType] at ht
  by_cases hr : name ∈ namesOf root
  · exact .inl (nameIndex_of_mem name (sortByVal root) ((mem_namesOf_sortByVal _ _).2 hr))
  · have hnone := nameIndex_none name (sortByVal root) (fun h => hr ((mem_namesOf_sortByVal _ _).1 h))
    have hc : (namesOf root).contains name = false := by simpa using hr
    cases ext with
    | none => simp at ht; exact absurd ht hr
    | some adds =>
      simp only [hc, Bool.false_or, List.contains_iff_mem] at ht
      obtain ⟨i, hi⟩ := nameIndex_of_mem name adds (by simpa using ht)
      exact .inr ⟨hnone, adds, i, rfl, hi⟩

theorem et_enumerated (root : List (String × Int)) (ext : Option (List (String × Int))) :
    ET (.enumerated root ext) := by
  intro v hwf ht
  obtain ⟨name, rfl, -⟩ := hasType_enumerated ht
  rcases enumIndex_cases ht with ⟨i, hi⟩ | ⟨hnone, adds, i, rfl, hi⟩
  · cases ext <;> rw [enc] <;> simp only [hi] <;> exact ⟨_, rfl⟩
  · rw [enc]; simp only [hnone, hi]; exact ⟨_, rfl⟩

theorem et_boolean : ET .boolean := by
  intro v _ ht
  obtain ⟨b, rfl⟩ := hasType_boolean ht
  exact ⟨_, rfl⟩

theorem et_null : ET .null := by
  intro v _ _
  exact ⟨_, rfl⟩

theorem et_integer (c : IntC) : ET (.integer c) := by
  intro v hwf ht
  obtain ⟨i, rfl, hin⟩ := hasType_integer ht
  rw [enc]
  rw [Ty.wf] at hwf
  split
  · split
    · split <;> exact ⟨_, rfl⟩
    · exact ⟨_, rfl⟩
  · rename_i hno
    have hext := wf_integer_ext hwf hno
    simp only [hext, Bool.false_eq_true, if_false]
    exact ⟨_, rfl⟩

end Asn1.Uper
