import Asn1Proofs.Lemmas.X690CompDefs
import Asn1Proofs.Lemmas.DerCodecInst
import Asn1Proofs.Lemmas.DerChoice
/-
  C04 completeness (`COMP`, X690CompDefs.lean) for CHOICE, bare or inside the EXPLICIT wrapper `[i]`
  with a definite or the indefinite length.
-/
namespace Asn1.X690
open Asn1.Der (mkTag tagOf readTag gAlt gBare gChoice)
open Asn1.BerCodec (berTest ber_isCodec)

theorem cc_isString_eq (t : Ty) : isStringType t = BerCodec.isString t := by
  cases t <;> rfl

/-- a component found present starts with identifier octets the code has in `tag_to_member` -/
theorem cc_present {t : Ty} {i : Nat} {b : Bytes} (h : componentPresent t i b = true) :
    ∃ (c : Bool) (r0 : Bytes), b = mkTag 0 c (some i) ++ r0 ∧ berTest t i (mkTag 0 c (some i)) = true := by
  obtain ⟨c, r, e, hc⟩ := componentPresent_tag h
  refine ⟨c, r, e, ?_⟩
  rcases hc with rfl | ⟨hst, rfl⟩
  · have : mkTag 0 (derConstructed t) (some i) = tagOf t (some i) := by
      rw [derConstructed_eq]; rfl
    rw [this]
    exact ber_isCodec.test_self t i
  · rw [cc_isString_eq] at hst
    have : mkTag 0 true (some i) = mkTag (Der.univNumber t) true (some i) := rfl
    simp only [berTest, hst, this, beq_self_eq_true, Bool.and_self, Bool.or_true]

/-- the list of alternatives: the first one present (reference) is the one selected by tag (code) -/
theorem cc_alts (as : Alts) (hall : as.All COMP) (i fuel fuelC : Nat) (b rest extra : Bytes) (v : Val)
    (h : decAlternativesS as i fuel b = some (v, rest)) (hf : (b ++ extra).length < fuelC) :
    ∃ (j : Nat) (c : Bool) (r0 : Bytes), i ≤ j ∧ b = mkTag 0 c (some j) ++ r0 ∧ r0 ≠ [] ∧
      ∃ k, gAlt BerCodec.dec berTest as i (mkTag 0 c (some j)) fuelC (b ++ extra)
          = some (.ok (some (v, k, rest ++ extra))) ∧ b.length = k + rest.length ∧ 0 < k := by
  induction as using Alts.ind generalizing i with
  | nil => cases h
  | cons n t as' ih =>
    rw [decAlternativesS_cons] at h
    by_cases hp : componentPresent t i b = true
    · rw [if_pos hp] at h
      obtain ⟨c, r0, hb, htest⟩ := cc_present hp
      split at h
      · rename_i v' r' hd
        cases h
        obtain ⟨k, hk, hlen, (hk0 : (mkTag 0 true (some i)).length < k)⟩ :=
          hall.1 (some i) fuel fuelC b rest extra v' hd hf
        have hr0 : r0 ≠ [] := by
          intro e
          have := Der.mkTag_ctx_length_mono (u := 0) (u' := 0) (c := c) (c' := true) (Nat.le_refl i)
          rw [hb, e, List.append_nil] at hlen
          omega
        refine ⟨i, c, r0, Nat.le_refl _, hb, hr0, k, ?_, hlen, by omega⟩
        rw [gAlt, if_pos htest, hk]
      · cases h
    · rw [if_neg hp] at h
      obtain ⟨j, c, r0, hij, hb, hr0, k, hk, hlen⟩ := ih hall.2 (i + 1) h
      refine ⟨j, c, r0, by omega, hb, hr0, k, ?_, hlen⟩
      rw [gAlt, ber_isCodec.test_ne t i j 0 c (by omega)]
      simp only [Bool.false_eq_true, if_false]
      exact hk

theorem cc_bare (root : Alts) (ext : Bool) (adds : Alts)
    (ihr : root.All COMP) (iha : adds.All COMP) (fuel fuelC : Nat) (b rest extra : Bytes) (v : Val)
    (h : chosenRefS root adds fuel b = some (v, rest)) (hf : (b ++ extra).length < fuelC) :
    ∃ k, gBare BerCodec.dec berTest root ext adds fuelC (b ++ extra) = .ok (some (v, k, rest ++ extra)) ∧
      b.length = k + rest.length ∧ 0 < k := by
  have htag : ∀ {j : Nat} {c : Bool} {r0 : Bytes}, b = mkTag 0 c (some j) ++ r0 → r0 ≠ [] →
      readTag (b ++ extra) = .ok (mkTag 0 c (some j), r0 ++ extra) := by
    intro j c r0 hb hr0
    rw [hb, List.append_assoc]
    exact Der.readTag_mkTag_ctx _ _ _ _ (by simp [hr0])
  unfold chosenRefS at h
  split at h
  · rename_i x hx
    cases h
    obtain ⟨j, c, r0, _, hb, hr0, k, hk, hlen⟩ := cc_alts root ihr 0 fuel fuelC b rest extra v hx hf
    refine ⟨k, ?_, hlen⟩
    rw [gBare, htag hb hr0]
    simp only []
    rw [hk]
  · obtain ⟨j, c, r0, hj, hb, hr0, k, hk, hlen⟩ :=
      cc_alts adds iha root.length fuel fuelC b rest extra v h hf
    have hn : gAlt BerCodec.dec berTest root 0 (mkTag 0 c (some j)) fuelC (b ++ extra) = none :=
      Der.gAlt_none ber_isCodec root _ _ _ 0 fuelC _ (by omega)
    refine ⟨k, ?_, hlen⟩
    rw [gBare, htag hb hr0]
    simp only []
    rw [hn]
    simp only []
    rw [hk]

theorem comp_choice (root : Alts) (ext : Bool) (adds : Alts)
    (ihr : root.All COMP) (iha : adds.All COMP) : COMP (.choice root ext adds) := by
  intro tg fuel fuelC bs rest extra v h hf
  rw [ber_isCodec.choice]
  rw [decVS_choice] at h
  cases tg with
  | none => exact cc_bare root ext adds ihr iha fuel fuelC bs rest extra v h hf
  | some i =>
    rw [gChoice]
    simp only [] at h ⊢
    split at h
    · cases h
    · rename_i r hs
      have hbs := stripPrefix_some hs
      rw [identifier_context 0] at hbs
      subst hbs
      simp only [List.length_append] at hf ⊢
      rw [List.append_assoc, Der.matchTag_self]
      simp only []
      rw [constructedContents_eq] at h
      rcases readLen_of_constructedContentsI h extra with ⟨hdr, c, hch, hrl, hl, hd0⟩ | ⟨z, hch, hrl, hl⟩
      · obtain ⟨k, hk, hkl, hk0⟩ := cc_bare root ext adds ihr iha fuel fuelC c [] (rest ++ extra) v hch
          (by simp only [List.length_append]; omega)
        simp only [List.nil_append, List.length_nil, Nat.add_zero] at hk hkl
        refine ⟨(mkTag 0 true (some i)).length + hdr + k, ?_, by omega, by show (mkTag 0 true (some i)).length < _; omega⟩
        rw [hrl]
        simp only []
        rw [hk]
      · obtain ⟨k, hk, hkl, hk0⟩ := cc_bare root ext adds ihr iha fuel fuelC z (0 :: 0 :: rest) extra v hch
          (by simp only [List.length_append]; omega)
        simp only [List.length_cons] at hkl
        refine ⟨(mkTag 0 true (some i)).length + 1 + k + 2, ?_, by omega, by show (mkTag 0 true (some i)).length < _; omega⟩
        rw [hrl]
        simp only []
        rw [hk]
        simp only [List.cons_append, Der.eoc, List.drop_succ_cons, List.drop_zero]

end Asn1.X690

#print axioms Asn1.X690.comp_choice
