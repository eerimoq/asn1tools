import Asn1Proofs.Lemmas.UperComp
import Asn1Proofs.Lemmas.Records
/-
  SEQUENCE: the equations of encoder and decoder per member (preamble, root members, extension
  additions), and totality of the encoder for every type (`et_all`).
-/
namespace Asn1
namespace Uper

/-- what `encMembers` writes for one root member, given the value the record has for it -/
def encHere (p : Presence) (t : Ty) (ov : Option Val) (encDefault : Bool) : EncM Bits :=
  match ov with
  | some v =>
    match p with
    | .default d => if !(isDefault t v d) || encDefault then enc t v else .ok []
    | _ => enc t v
  | none =>
    match p with
    | .mandatory => .error .encodeError
    | _ => .ok []

theorem encMembers_cons (name : String) (p : Presence) (t : Ty) (rest : Members)
    (fs : List (String × Val)) (b : Bool) :
    encMembers (.cons name p t rest) fs b =
      (match encHere p t (lookup name fs) b, encMembers rest fs b with
       | .ok a, .ok b => .ok (a ++ b)
       | .error e, _ => .error e
       | _, .error e => .error e) := by
  cases p <;> rfl

theorem encPreamble_cons (name : String) (p : Presence) (t : Ty) (rest : Members)
    (fs : List (String × Val)) :
    encPreamble (.cons name p t rest) fs =
      (match encPreamble rest fs with
       | .error e => .error e
       | .ok r =>
         match p with
         | .mandatory => .ok r
         | .optional => .ok ((lookup name fs).isSome :: r)
         | .default d =>
           match lookup name fs with
           | some v => .ok ((!(isDefault t v d)) :: r)
           | none => .ok (false :: r)) := by
  cases p <;> rfl

theorem encPreamble_ok (fs : List (String × Val)) (ms : Members) :
    ∃ pre, encPreamble ms fs = .ok pre := by
  induction ms using Members.ind with
  | nil => exact ⟨[], rfl⟩
  | cons name p t rest ih =>
    obtain ⟨r, hr⟩ := ih
    rw [encPreamble_cons, hr]
    cases p with
    | mandatory | optional => exact ⟨_, rfl⟩
    | default d => cases lookup name fs <;> exact ⟨_, rfl⟩

/-- what `decMembers` does at a member that is present: decode it, then the rest -/
def decHere (name : String) (t : Ty) (rest : Members) (fuel : Nat) (fl bs : Bits) :
    DecM (List (String × Val) × Bits) := do
  let (v, r) ← dec t fuel bs
  let (fs, r') ← decMembers rest fuel fl r
  .ok ((name, v) :: fs, r')

theorem decMembers_mandatory (name : String) (t : Ty) (rest : Members) (fuel : Nat) (fl bs : Bits) :
    decMembers (.cons name .mandatory t rest) fuel fl bs = decHere name t rest fuel fl bs := rfl

theorem decMembers_optional_true (name : String) (t : Ty) (rest : Members) (fuel : Nat) (fl bs : Bits) :
    decMembers (.cons name .optional t rest) fuel (true :: fl) bs = decHere name t rest fuel fl bs := rfl

theorem decMembers_optional_false (name : String) (t : Ty) (rest : Members) (fuel : Nat) (fl bs : Bits) :
    decMembers (.cons name .optional t rest) fuel (false :: fl) bs = decMembers rest fuel fl bs := rfl

theorem decMembers_default_true (name : String) (d : Val) (t : Ty) (rest : Members) (fuel : Nat)
    (fl bs : Bits) :
    decMembers (.cons name (.default d) t rest) fuel (true :: fl) bs = decHere name t rest fuel fl bs := rfl

theorem decMembers_default_false (name : String) (d : Val) (t : Ty) (rest : Members) (fuel : Nat)
    (fl bs : Bits) :
    decMembers (.cons name (.default d) t rest) fuel (false :: fl) bs =
      (do let (fs, r') ← decMembers rest fuel fl bs; .ok ((name, d) :: fs, r')) := rfl

theorem optionalCount_cons (name : String) (p : Presence) (t : Ty) (rest : Members) :
    optionalCount (.cons name p t rest) =
      (match p with | .mandatory => optionalCount rest | _ => optionalCount rest + 1) := by
  cases p <;> rfl

theorem et_members (fs : List (String × Val)) (b : Bool) (ms : Members) :
    ms.All ET → ms.wf = true → membersOk ms fs = true → ∃ body, encMembers ms fs b = .ok body := by
  induction ms using Members.ind with
  | nil => intros; exact ⟨[], rfl⟩
  | cons name p t ms ih =>
    intro hall hwf hok
    simp only [Members.wf, membersOk, Bool.and_eq_true] at hwf hok
    obtain ⟨body, hbody⟩ := ih hall.2 hwf.2 hok.2
    rw [encMembers_cons, hbody]
    have : ∃ a, encHere p t (lookup name fs) b = .ok a := by
      unfold encHere
      cases hl : lookup name fs with
      | some v =>
        simp only [hl] at hok
        obtain ⟨a, ha⟩ := hall.1 v hwf.1 hok.1
        cases p with
        | mandatory | optional => exact ⟨a, ha⟩
        | default d =>
          simp only
          split
          · exact ⟨a, ha⟩
          · exact ⟨[], rfl⟩
      | none =>
        simp only [hl] at hok
        cases p with
        | mandatory => simp at hok
        | optional | default _ => exact ⟨[], rfl⟩
    obtain ⟨a, ha⟩ := this
    rw [ha]
    exact ⟨_, rfl⟩

/-- the open-type wrapping of the present additions (each: length determinant, the encoding, padding to
whole octets -- the unaligned twin of `Per.openType`, concatenated) -/
def wrapOpen (encs : List Bits) : Bits :=
  encs.flatMap (fun e => let p := padToByte e; (lenDet (p.length / 8)).1 ++ p)

theorem wrapOpen_cons (e : Bits) (encs : List Bits) :
    wrapOpen (e :: encs) = (lenDet ((padToByte e).length / 8)).1 ++ (padToByte e ++ wrapOpen encs) := by
  simp [wrapOpen]

/-- what `encAdditions` asks of one addition: its encoding, nothing if it is absent and omissible -/
def addHere (p : Presence) (t : Ty) (ov : Option Val) : EncM Bits :=
  match ov with
  | some v => enc t v
  | none =>
    match p with
    | .mandatory => .error .encodeError
    | _ => .ok []

theorem encAdditions_cons (name : String) (p : Presence) (t : Ty) (rest : Members)
    (fs : List (String × Val)) :
    encAdditions (.cons name p t rest) fs =
      (match addHere p t (lookup name fs) with
       | .error _ => ([], [])
       | .ok e =>
         if e.length > 0 ∨ (lookup name fs).isSome then
           (true :: (encAdditions rest fs).1, e :: (encAdditions rest fs).2)
         else (false :: (encAdditions rest fs).1, (encAdditions rest fs).2)) := by
  cases p <;> rfl

theorem decAdditions_cons_true (name : String) (p : Presence) (t : Ty) (rest : Members) (fuel : Nat)
    (bitmap bs : Bits) :
    decAdditions (.cons name p t rest) fuel (true :: bitmap) bs =
      (do
        let (_, r) ← readLenDet bs
        let (v, r1) ← dec t fuel r
        let r2 ← skipPad r.length r1
        let (fs, r3) ← decAdditions rest fuel bitmap r2
        .ok ((name, v) :: fs, r3)) := rfl

theorem decAdditions_cons_false (name : String) (p : Presence) (t : Ty) (rest : Members) (fuel : Nat)
    (bitmap bs : Bits) :
    decAdditions (.cons name p t rest) fuel (false :: bitmap) bs = decAdditions rest fuel bitmap bs := rfl

/-- `skipPad` behind a decoded addition `e`: its first argument is what stood in front of the decoder
at the start of the open type, `padToByte e ++ X`, so it takes `e.length` for consumed and drops the
padding of `e` (in the closed form of `padToByte_eq`, as `xta_cons` meets it) -/
theorem skipPad_pad (e X : Bits) :
    skipPad (padToByte e ++ X).length
      (List.replicate (8 * ((e.length + 7) / 8) - e.length) false ++ X) = .ok X := by
  unfold skipPad
  rw [padToByte_eq]
  simp only [List.length_append, List.length_replicate, Nat.add_assoc, Nat.add_sub_cancel, padLength_eq]
  rw [if_pos (Nat.le_add_right ..), List.drop_left' List.length_replicate]

/-- nothing is asked of the additions: `encAdditions` swallows their errors -/
theorem et_sequence (root : Members) (ext : Bool) (adds : Members)
    (ihr : root.All ET) : ET (.sequence root ext adds) := by
  intro v hwf ht
  obtain ⟨fs, rfl, ht⟩ := hasType_sequence ht
  obtain ⟨hrwf, hawf, hnd, hext, h64⟩ := wf_sequence hwf
  obtain ⟨hokr, hoka⟩ := membersOk_of_hasType root adds ext fs hnd ht
  obtain ⟨pre, hpre⟩ := encPreamble_ok fs root
  obtain ⟨body, hbody⟩ := et_members fs false root ihr hrwf hokr
  rw [enc, hpre, hbody]
  simp only
  split
  · split
    · exact ⟨_, rfl⟩
    · split
      · exact ⟨_, rfl⟩
      · rw [encNsLength_small h64]
        exact ⟨_, rfl⟩
  · exact ⟨_, rfl⟩

theorem et_all (t : Ty) : ET t :=
  Ty.induct (P := ET)
    et_boolean et_null et_integer et_enumerated et_octetString et_bitString et_charString
    (fun root ext adds ihr _ => et_sequence root ext adds ihr)
    (fun e c ih => et_sequenceOf e c ih)
    (fun root ext adds ihr iha => et_choice root ext adds ihr iha) t

theorem encAdditions_length (fs : List (String × Val)) (ms : Members) :
    ms.wf = true → membersOk ms fs = true → (encAdditions ms fs).1.length = ms.length := by
  induction ms using Members.ind with
  | nil => intro _ _; rfl
  | cons name p t ms ih =>
    intro hwf hok
    simp only [Members.wf, membersOk, Bool.and_eq_true] at hwf hok
    rw [encAdditions_cons]
    cases hl : lookup name fs with
    | some v =>
      simp only [hl] at hok
      obtain ⟨e, he⟩ := et_all t v hwf.1 hok.1
      simp [addHere, he, ih hwf.2 hok.2, Members.length]
    | none =>
      simp only [hl] at hok
      cases p with
      | mandatory => simp at hok
      | optional | default _ => simp [addHere, ih hwf.2 hok.2, Members.length]

end Uper
end Asn1
