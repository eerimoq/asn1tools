import Asn1Proofs.Lemmas.CostPer
import Asn1Proofs.Lemmas.PerStr
/-
  C08 for the ALIGNED PER model: the allocation bound of `Per.dec` as a potential (`Pot`, `Alloc` of
  `CostReader.lean`) at the leaf types and SEQUENCE OF; `szp_c` is the case of the type constructor `c`.
-/
namespace Asn1.CostP
open Asn1.Per
open Asn1.Uper (DecM charDecode sortByVal)
open Asn1.Cost (Pot Alloc)

/-- "size, PER" -/
def SzP : Ty → Prop := Alloc left dec KP

theorem szp_boolean : SzP .boolean :=
  fun _ _ _ s => .bind0 (ni_readBit s) fun _ _ => .pure (Nat.le_refl 1)

theorem szp_null : SzP .null := fun _ _ _ _ => .pure (Nat.le_refl 1)

theorem szp_integer (c : IntC) : SzP (.integer c) := by
  intro K _ f s
  have un : ∀ s : St, Pot left Val.nodes K 1 (left s)
      (do let (i, r) ← decUnconstrained (align s); .ok (.int i, r)) := fun s =>
    .bind0 (ni_decUnconstrained s) fun i _ => .pure (Nat.le_refl 1)
  have ci : ∀ lo hi (s : St), Pot left Val.nodes K 1 (left s)
      (do let (i, r) ← decConstrainedInt lo hi s; .ok (.int i, r)) := fun lo hi s =>
    .bind0 (fun _ _ => (pf_decConstrainedInt _ _).ni) fun i _ => .pure (Nat.le_refl 1)
  -- with the bounds as constructors `dec (.integer c) f` unfolds to the branch taken
  obtain ⟨_ | lo, hi, e⟩ := c
  · exact .ite (fun _ => .bind0 (ni_readBit s) fun _ r => un r) fun _ => un s
  · cases hi with
    | none => exact .ite (fun _ => .bind0 (ni_readBit s) fun _ r => un r) fun _ => un s
    | some hi =>
      exact .ite (fun _ => .bind0 (ni_readBit s) fun b r => .ite (fun _ => un r) fun _ => ci lo hi r)
        fun _ => ci lo hi s

theorem bitsPerChar_pos (k : StrKind) (hk : k ≠ .utf8) : 1 ≤ bitsPerChar k :=
  Nat.le_trans (Cost.bitsPerChar_pos k hk) (Per.bitsPerChar_ge k)

theorem szp_enumerated (root : List (String × Int)) (ext : Option (List (String × Int))) :
    SzP (.enumerated root ext) := by
  intro K _ f s
  have hroot : ∀ s : St, Pot left Val.nodes K 1 (left s) (do
        let (i, r) ← readNat (bitLength ((sortByVal root).length - 1)) s
        match (sortByVal root)[i]? with
        | some (n, _) => .ok (.enum n, r)
        | none => .error .decodeError : DecM (Val × St)) := fun s =>
    .bind0 (ni_readNat _ s) fun i r => by
      dsimp only
      split
      · exact .pure (Nat.le_refl 1)
      · exact .error
  cases ext with
  | none => exact hroot s
  | some adds =>
    refine .bind0 (ni_readBit s) fun b r => .ite (fun _ => hroot r) fun _ => ?_
    refine .bind0 (fun _ _ => pf_decNsnnwn.ni) fun i r1 => ?_
    dsimp only
    split <;> exact .pure (Nat.le_refl 1)

theorem szp_octetString (c : SizeC) : SzP (.octetString c) := by
  intro K hK f s
  have hK : 1 ≤ K := hK  -- `KP` of a leaf type unfolds to 1
  have bytes : ∀ (n : Nat) (r : St), Pot left Val.nodes K 1 (left r)
      (do let (body, r') ← readBits n r; .ok (.bytes (packBits body), r')) := fun n r =>
    .map (g := fun b => Val.bytes (packBits b)) 1 (pot_readBits n hK r) fun _ => Nat.le_refl _
  refine .bind0 (fun _ _ h => optBit_ok h) fun ext s0 => .ite (fun _ => ?_) fun _ => ?_
  · exact .bind0 (ni_alignedLenDet s0) fun len r1 => bytes _ r1
  · dsimp only
    split
    · exact .map (g := fun b => Val.bytes (packBits b)) 1 (pot_decChunksBits 8 hK f s0)
        fun b => Nat.add_le_add_left (Cost.packBits_length_le b) 1
    · exact .bind0 (fun _ _ h => (readSize_ok h).1) fun len r1 => bytes _ r1

theorem szp_bitString (c : SizeC) : SzP (.bitString c) := by
  intro K hK f s
  have hK : 1 ≤ K := hK
  refine .bind0 (fun _ _ h => optBit_ok h) fun ext s0 => .ite (fun _ => .error) fun _ => ?_
  dsimp only
  split
  · exact .map (g := fun xs => Val.bits (packBits xs) xs.length) 1 (pot_decChunksBits 1 hK f s0)
      fun xs => Nat.add_le_add_left (Cost.packBits_length_le xs) 1
  · refine .bind0 (fun _ _ h => (readSize_ok h).1) fun len r1 => ?_
    exact .map (g := fun b => Val.bits (packBits b) len) 1 (pot_readBits _ hK r1) fun _ => Nat.le_refl _

theorem szp_utf8 (c : SizeC) : SzP (.charString .utf8 c) := by
  intro K hK f s
  have hK : 1 ≤ K := hK
  refine (Pot.bind (c2 := 1) (pot_decChunksBits 8 hK f s) fun xs r1 => ?_).mono (fun _ => Nat.le_refl _)
    (Nat.le_refl _)
  dsimp only
  split
  · rename_i cps hu
    have := Cost.utf8Dec_length _ _ _ hu
    have := Cost.packBits_length_le xs
    exact .pure (by show 1 + cps.length - xs.length ≤ 1; omega)
  · exact .error

theorem oneChar_lt (k : StrKind) (hk : k ≠ .utf8) (s : St) (a : Nat) (r : St)
    (h : oneChar k s = .ok (a, r)) : r.bs.length < s.bs.length := by
  obtain ⟨⟨v, r1⟩, h1, h⟩ := bind_ok h
  dsimp only at h
  have := (readNat_ok h1).1
  have := bitsPerChar_pos k hk
  obtain ⟨ch, h2, h⟩ := bind_ok h
  cases h; omega

theorem szp_charString (k : StrKind) (hk : k ≠ .utf8) (c : SizeC) : SzP (.charString k c) := by
  intro K hK f s
  have hK : 1 ≤ K := hK
  -- `rw [dec]` takes the equation of the catch-all `charString` case; its side goals are `k ≠ .utf8`
  rw [dec]
  · refine .bind0 (fun _ _ h => optBit_ok h) fun ext s0 => .ite (fun _ => .error) fun _ => ?_
    dsimp only
    split
    · exact (Pot.map (g := Val.str) 1 (pot_decChunks (oneChar_lt k hk) hK f (align s0)) fun _ => Nat.le_refl _).start_le
        (align_le s0)
    · refine .bind0 (fun _ _ h => (readSize_ok h).1) fun len r1 => ?_
      exact .map (g := Val.str) 1 ((pot_decRepeat (oneChar_lt k hk) hK len r1).mono
        (fun xs => Nat.le_of_eq (Cost.sumSize_one xs).symm) (Nat.le_of_eq (Nat.mul_zero len))) fun _ => Nat.le_refl _
  all_goals (first | exact hk | (intro c' heq; cases heq; exact hk rfl))

theorem szp_sequenceOf (e : Ty) (c : SizeC) (ih : SzP e) : SzP (.sequenceOf e c) := by
  intro K hK f s
  have hK : 1 + KP e * (1 + seqOfMaxP c) ≤ K := hK
  have hKe : KP e ≤ K := by
    have := Nat.mul_le_mul_left (KP e) (Nat.le_add_right 1 (seqOfMaxP c)); omega
  have hrep := Cost.repeat_pot (rep := decRepeat (dec e f)) (fun _ => rfl) (fun _ _ => rfl) (ih K hKe f)
  exact Cost.seqOf_pot (readers _ _) (S := dec (.sequenceOf e c) f) (chunks := decChunks (dec e f) f)
    (fun _ => rfl) hK hrep
    (fun hK8 =>
      Cost.chunks_pot (chunks := decChunks (dec e f)) (fun _ => rfl) (fun _ _ => rfl) lenDet_readLenDet hK8 hrep f) s

end Asn1.CostP
