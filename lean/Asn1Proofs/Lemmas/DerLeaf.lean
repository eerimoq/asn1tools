import Asn1Proofs.Lemmas.DerCodecInst
import Asn1Proofs.Lemmas.OerLeaf
/-
  Round trip (DER decoder and BER decoder) and encoder totality for the leaf types of the
  BER / DER model.
-/
namespace Asn1.Der
open Asn1.X690 (canonV)
open Asn1.Oer (splitAux_append readBytes_append)

theorem pcDecode_tlv {α : Type} (prim : Bytes → Bytes → DecM α) (join : List α → α) (segTag segCtag : Bytes)
    (fuel : Nat) (tag ctag content rest : Bytes) (hf : 0 < fuel) :
    BerCodec.pcDecode prim join segTag segCtag fuel tag ctag (tlv tag content ++ rest)
      = prim content rest >>= fun a => .ok (some (a, (tlv tag content).length, rest)) := by
  obtain ⟨fuel, rfl⟩ : ∃ f, fuel = f + 1 := ⟨fuel - 1, by omega⟩
  rw [tlv_append, BerCodec.pcDecode, splitAux_append]
  simp only [List.reverse_nil, List.nil_append, beq_self_eq_true, if_true, readLen_encLength,
    readBytes_append _ _ rfl, tlv_length]
  cases prim content rest <;> rfl

theorem rt_boolean_der : RT dec .boolean := by
  intro tg v bytes rest fuel hwf hwf2 hd ht he hf
  obtain ⟨b, rfl⟩ := hasType_boolean ht
  rw [enc] at he; cases he
  rw [dec, canonV_boolean]
  simp only [bind, Except.bind, readPrim_tlv]
  cases b <;> rfl

/-- BOOLEAN, NULL and INTEGER are decoded by the same code in ber.py and der.py (so is ENUMERATED:
`ber_dec_enumerated`; `DerX.xtg_all` takes that equation instead of a round trip) -/
theorem rt_boolean_ber : RT BerCodec.dec .boolean := rt_boolean_der.congr fun _ _ _ => rfl

theorem et_boolean : ET .boolean := by
  intro tg v hwf ht
  obtain ⟨b, rfl⟩ := hasType_boolean ht
  exact ⟨_, by rw [enc]⟩

theorem readLen_zero (d : Bool) (rest : Bytes) : readLen d (0 :: rest) = .ok (some 0, 1, rest) := by
  simp [readLen, hasN]

theorem rt_null_der : RT dec .null := by
  intro tg v bytes rest fuel hwf hwf2 hd ht he hf
  cases hasType_null ht
  rw [enc_null] at he; cases he
  rw [dec, canonV_null, List.append_assoc]
  simp only [bind, Except.bind, matchTag_self, List.cons_append, List.nil_append, readLen_zero,
    List.length_append, List.length_cons, List.length_nil]

theorem rt_null_ber : RT BerCodec.dec .null := rt_null_der.congr ber_dec_null

theorem et_null : ET .null := by
  intro tg v hwf ht
  cases hasType_null ht
  exact ⟨_, enc_null tg⟩

theorem bytesToInt_intToBytesMin' (i : Int) : bytesToInt (intToBytesMin i) = i :=
  bytesToInt_intToBytesMin i

theorem rt_integer_der (c : IntC) : RT dec (.integer c) := by
  intro tg v bytes rest fuel hwf hwf2 hd ht he hf
  obtain ⟨i, rfl, _⟩ := hasType_integer ht
  rw [enc] at he; cases he
  rw [dec, canonV_integer]
  simp only [bind, Except.bind, readPrim_tlv, bytesToInt_intToBytesMin']

theorem rt_integer_ber (c : IntC) : RT BerCodec.dec (.integer c) := (rt_integer_der c).congr fun _ _ _ => rfl

theorem et_integer (c : IntC) : ET (.integer c) := by
  intro tg v hwf ht
  obtain ⟨i, rfl, _⟩ := hasType_integer ht
  exact ⟨_, by rw [enc]⟩

/-- the decoder that knows the additions `extD`, on the encoding of `name` under the additions `extE`: it
finds the item by the value `val` that `name` has for the encoder -/
theorem dec_enc_enumerated {root : List (String × Int)} {extD extE : Option (List (String × Int))}
    {tg : Option Nat} {name : String} {bytes : Bytes} (rest : Bytes) (fuel : Nat)
    (hwf2 : Oer.oerWf (.enumerated root extE) = true)
    (he : enc (.enumerated root extE) tg (.enum name) = .ok bytes) :
    ∃ val, Oer.enumName val (root ++ extE.getD []) = some name ∧
      dec (.enumerated root extD) tg fuel (bytes ++ rest) =
        (match Oer.enumName val (root ++ extD.getD []) with
         | some n => .ok (some (.enum n, bytes.length, rest))
         | none => if extD.isSome then .ok (some (.absent, bytes.length, rest)) else .error .decodeError) := by
  rw [Oer.oerWf, decide_eq_true_eq] at hwf2
  rw [enc] at he
  split at he
  · cases he
  · rename_i val hval
    cases he
    refine ⟨val, Oer.enumName_of_enumValue name val _ hwf2 hval, ?_⟩
    rw [dec]
    simp only [bind, Except.bind, readPrim_tlv, enumOfContent, bytesToInt_intToBytesMin']
    cases Oer.enumName val (root ++ extD.getD []) with
    | some n => rfl
    | none => cases extD <;> rfl

theorem rt_enumerated_der (root : List (String × Int)) (ext : Option (List (String × Int))) :
    RT dec (.enumerated root ext) := by
  intro tg v bytes rest fuel hwf hwf2 hd ht he hf
  obtain ⟨name, rfl, _⟩ := hasType_enumerated ht
  obtain ⟨val, hname, hdec⟩ := dec_enc_enumerated (extD := ext) rest fuel hwf2 he
  rw [canonV_enumerated, hdec, hname]

theorem et_enumerated (root : List (String × Int)) (ext : Option (List (String × Int))) :
    ET (.enumerated root ext) := by
  intro tg v hwf ht
  obtain ⟨name, rfl, _⟩ := hasType_enumerated ht
  have hmem : name ∈ namesOf (root ++ ext.getD []) := enum_hasType_mem ht
  obtain ⟨val, hval⟩ := Oer.enumValue_of_mem name _ hmem
  rw [enc]
  simp only [hval]
  exact ⟨_, rfl⟩

theorem rt_octetString_der (c : SizeC) : RT dec (.octetString c) := by
  intro tg v bytes rest fuel hwf hwf2 hd ht he hf
  obtain ⟨data, rfl, _⟩ := hasType_octetString ht
  rw [enc] at he; cases he
  rw [dec, canonV_octetString]
  simp only [bind, Except.bind, readPrim_tlv]

/-- on a primitive TLV the BER string decoders do what the DER ones do -/
theorem rt_octetString_ber (c : SizeC) : RT BerCodec.dec (.octetString c) :=
  (rt_octetString_der c).congr_tlv (Nat.succ_ne_zero _) fun tg fuel content rest hf => by
    rw [BerCodec.dec, dec, BerCodec.decOctets]
    simp only [tagOf, univNumber, isConstructed, pcDecode_tlv _ _ _ _ _ _ _ _ _ hf, readPrim_tlv]
    rfl

theorem et_octetString (c : SizeC) : ET (.octetString c) := by
  intro tg v hwf ht
  obtain ⟨data, rfl, _⟩ := hasType_octetString ht
  exact ⟨_, by rw [enc]⟩

theorem bitsOfContent_bitContent (data : Bytes) (n : Nat) (rest : Bytes)
    (hdl : data.length = (n + 7) / 8) :
    bitsOfContent (bitContent data n) rest = .ok (cleanBits data n, n) := by
  have hcl := Asn1.cleanBits_length data n (by omega)
  have hn : 8 * (cleanBits data n).length = n + (8 - n % 8) % 8 := by omega
  simp only [bitContent, bitsOfContent, hn, Nat.add_sub_cancel]
  rw [if_neg (Nat.not_lt.mpr (Nat.le_add_left _ _))]

theorem rt_bitString_der (c : SizeC) : RT dec (.bitString c) := by
  intro tg v bytes rest fuel hwf hwf2 hd ht he hf
  obtain ⟨data, n, rfl, _, hdl, _⟩ := hasType_bitString ht
  rw [enc] at he; cases he
  rw [dec, X690.canonV]
  simp only [bind, Except.bind, readPrim_tlv, bitsOfContent_bitContent data n rest hdl]

theorem rt_bitString_ber (c : SizeC) : RT BerCodec.dec (.bitString c) :=
  (rt_bitString_der c).congr_tlv (Nat.succ_ne_zero _) fun tg fuel content rest hf => by
    rw [BerCodec.dec, dec, BerCodec.decBits]
    simp only [tagOf, univNumber, isConstructed, pcDecode_tlv _ _ _ _ _ _ _ _ _ hf, readPrim_tlv, ok_bind]
    cases bitsOfContent content rest <;> rfl

theorem et_bitString (c : SizeC) : ET (.bitString c) := by
  intro tg v hwf ht
  obtain ⟨data, n, rfl, _⟩ := hasType_bitString ht
  exact ⟨_, by rw [enc]⟩

theorem rt_charString_der (k : StrKind) (c : SizeC) : RT dec (.charString k c) := by
  intro tg v bytes rest fuel hwf hwf2 hd ht he hf
  obtain ⟨cps, rfl, _⟩ := hasType_charString ht
  obtain ⟨bs, hbs, hdec, _⟩ := Oer.str_rt ht
  rw [canonV_charString]
  rw [enc] at he
  simp only [hbs] at he
  cases he
  rw [dec]
  simp only [bind, Except.bind, readPrim_tlv, hdec]

theorem rt_charString_ber (k : StrKind) (c : SizeC) : RT BerCodec.dec (.charString k c) :=
  (rt_charString_der k c).congr_tlv (by cases k <;> exact Nat.succ_ne_zero _) fun tg fuel content rest hf => by
    rw [BerCodec.dec, dec, BerCodec.decOctets]
    simp only [tagOf, isConstructed, pcDecode_tlv _ _ _ _ _ _ _ _ _ hf, readPrim_tlv]
    rfl

theorem et_charString (k : StrKind) (c : SizeC) : ET (.charString k c) := by
  intro tg v hwf ht
  obtain ⟨cps, rfl, _⟩ := hasType_charString ht
  obtain ⟨bs, hbs, _, _⟩ := Oer.str_rt ht
  rw [enc]
  simp only [hbs]
  exact ⟨_, rfl⟩

end Asn1.Der

#print axioms Asn1.Der.rt_enumerated_der
#print axioms Asn1.Der.rt_bitString_ber
#print axioms Asn1.Der.rt_charString_ber
#print axioms Asn1.Der.et_charString
