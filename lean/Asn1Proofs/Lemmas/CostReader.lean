import Asn1Proofs.Lemmas.CostDefs
import Asn1Proofs.Lemmas.Typed
import Asn1Proofs.Lemmas.UperMisc
/-
  The allocation bound of C08 for the bit-oriented codecs (UPER, aligned PER), over an arbitrary decoder
  state `σ` with a measure `μ : σ → Nat` of what is left of the input.  The bound is the potential `Pot`
  below; it is closed under the constructs of a `do` block, so the statement for a decoder is a term that
  follows its definition.  The loops of the models (`decRepeat`, `decChunks`, `decMembers`, `decAdditions`,
  SEQUENCE OF) are treated once for both codecs: each loop lemma takes the model function and its own
  defining equations as hypotheses (`fun _ => rfl` at the use).
-/
namespace Asn1.Cost
open Asn1.Uper (DecM)

theorem bitsPerChar_pos (k : StrKind) (hk : k ≠ .utf8) : 1 ≤ Uper.bitsPerChar k := by
  cases k
  · rw [Uper.bitsPerChar_ia5]; omega
  · rw [Uper.bitsPerChar_visible]; omega
  · rw [Uper.bitsPerChar_numeric]; omega
  · rw [Uper.bitsPerChar_printable]; omega
  · exact absurd rfl hk

section
variable {σ α : Type} (μ : σ → Nat)

/-- `NI` ("no increase"): a successful run of the reader `p` does not lengthen the input, `μ` does not grow -/
def NI (p : σ → DecM (α × σ)) : Prop := ∀ s a r, p s = .ok (a, r) → μ r ≤ μ s

/-- a length determinant costs at least 8 units and announces at most 8192 items per unit it costs.  (The
unit is the bit: a length octet is 8 bits, and the one that announces most, `c4`, announces 4 * 16384 =
65536 = 8192 * 8 items.) -/
def LenDet (ld : σ → DecM (Nat × σ)) : Prop :=
  ∀ s n r, ld s = .ok (n, r) → μ r + 8 ≤ μ s ∧ n ≤ 8192 * (μ s - μ r)

variable {μ} {ld : σ → DecM (Nat × σ)}

theorem LenDet.ni (h : LenDet μ ld) : NI μ ld := fun s n r hr => by
  have := (h s n r hr).1; omega

end

section
variable {σ α β : Type} {μ : σ → Nat}

/-- The outcome `m` of a run from a state of measure `n` pays for its value: a value `a` comes with a
state `r` no longer than `n` and `size a + K * μ r ≤ K * n + c`.  `K` units of `size` are allowed per unit
of input consumed -- ONE multiplier for a whole walk, any number at least the constant of the type --
and `c` is a budget of units that cost no input (a NULL, the node of a record, a DEFAULT).  Budgets add
under `bind`, `K` does not change, and every side condition is linear in the products `K * μ _`. -/
def Pot (μ : σ → Nat) (size : α → Nat) (K c n : Nat) (m : DecM (α × σ)) : Prop :=
  ∀ a r, m = .ok (a, r) → μ r ≤ n ∧ size a + K * μ r ≤ K * n + c

/-- the form the statements of C08 have: `K` units per unit consumed (+1) -/
theorem Pot.bound {size : α → Nat} {K n : Nat} {m : DecM (α × σ)} (h : Pot μ size K K n m) {a : α} {r : σ}
    (e : m = .ok (a, r)) : μ r ≤ n ∧ size a ≤ K * (n - μ r + 1) := by
  obtain ⟨l, b⟩ := h a r e
  refine ⟨l, ?_⟩
  have e : K * n = K * (n - μ r) + K * μ r := by rw [← Nat.mul_add]; congr 1; omega
  rw [Nat.mul_add, Nat.mul_one]
  omega

/-- the header pays `sz b`, the body pays the rest -/
theorem Pot.bind {size : α → Nat} {sz : β → Nat} {K c1 c2 n : Nat} {m : DecM (β × σ)}
    {g : β × σ → DecM (α × σ)} (hm : Pot μ sz K c1 n m)
    (hg : ∀ b s, Pot μ (fun a => size a - sz b) K c2 (μ s) (g (b, s))) :
    Pot μ size K (c1 + c2) n (m >>= g) := by
  intro a r h
  obtain ⟨⟨b, s1⟩, h1, h⟩ := bind_ok h
  obtain ⟨l1, b1⟩ := hm _ _ h1
  obtain ⟨l2, b2⟩ := hg b s1 a r h
  dsimp only at b2
  exact ⟨by omega, by omega⟩

/-- a header that is only read (`0`: it pays for nothing -- no size, no budget) -/
theorem Pot.bind0 {size : α → Nat} {K c n : Nat} {m : DecM (β × σ)} {g : β × σ → DecM (α × σ)}
    (hm : ∀ b s, m = .ok (b, s) → μ s ≤ n) (hg : ∀ b s, Pot μ size K c (μ s) (g (b, s))) :
    Pot μ size K c n (m >>= g) := by
  intro a r h
  obtain ⟨⟨b, s1⟩, h1, h⟩ := bind_ok h
  have l1 := hm _ _ h1
  obtain ⟨l2, b2⟩ := hg b s1 a r h
  have := Nat.mul_le_mul_left K l1
  exact ⟨by omega, by omega⟩

/-- for a step that does not read (an alignment) before a reader -/
theorem Pot.start_le {size : α → Nat} {K c n k : Nat} {m : DecM (α × σ)} (h : Pot μ size K c k m) (hk : k ≤ n) :
    Pot μ size K c n m := fun a r e => by
  obtain ⟨l, b⟩ := h a r e
  have := Nat.mul_le_mul_left K hk
  exact ⟨by omega, by omega⟩

theorem Pot.bind_stateFirst {size : α → Nat} {K c n : Nat} {m : DecM σ} {g : σ → DecM (α × σ)}
    (hm : ∀ s, m = .ok s → μ s ≤ n) (hg : ∀ s, Pot μ size K c (μ s) (g s)) :
    Pot μ size K c n (m >>= g) := by
  intro a r h
  obtain ⟨s1, h1, h⟩ := bind_ok h
  exact (hg s1).start_le (hm _ h1) a r h

theorem Pot.pure {size : α → Nat} {K c : Nat} {a : α} {s : σ} (h : size a ≤ c) :
    Pot μ size K c (μ s) (.ok (a, s)) := by
  intro a' r h'
  cases h'
  exact ⟨Nat.le_refl _, by omega⟩

theorem Pot.error {size : α → Nat} {K c n : Nat} {e : Uper.Err} :
    Pot μ size K c n (.error e : DecM (α × σ)) :=
  fun _ _ h => nomatch h

theorem Pot.ite {size : α → Nat} {K c n : Nat} {p : Prop} [Decidable p] {m m' : DecM (α × σ)}
    (h : p → Pot μ size K c n m) (h' : ¬p → Pot μ size K c n m') :
    Pot μ size K c n (if p then m else m') := by
  by_cases hp : p
  · rw [if_pos hp]; exact h hp
  · rw [if_neg hp]; exact h' hp

theorem Pot.mono {size size' : α → Nat} {K c c' n : Nat} {m : DecM (α × σ)} (h : Pot μ size K c n m)
    (hs : ∀ a, size' a ≤ size a) (hc : c ≤ c') : Pot μ size' K c' n m := fun a r e => by
  have h1 := h a r e
  have := hs a
  exact ⟨h1.1, by omega⟩

/-- `g` is given explicitly at each use: `?g x.1` is not a pattern the unifier solves -/
theorem Pot.map {size' : β → Nat} {size : α → Nat} {K c n : Nat} {m : DecM (β × σ)} {g : β → α} (k : Nat)
    (hm : Pot μ size' K c n m) (hg : ∀ b, size (g b) ≤ k + size' b) :
    Pot μ size K (k + c) n (m >>= fun x => .ok (g x.1, x.2)) := by
  intro a r h
  obtain ⟨⟨b, s1⟩, h1, h⟩ := bind_ok h
  cases h
  obtain ⟨l, b1⟩ := hm _ _ h1
  have := hg b
  refine ⟨l, ?_⟩
  show size (g b) + K * μ s1 ≤ K * n + (k + c)
  omega

/-- a value paid unit for unit by the input it consumed (beyond `c`) is paid at every multiplier `K ≥ 1` -/
theorem Pot.consumed {size : α → Nat} {K c n : Nat} {m : DecM (α × σ)} (hK : 1 ≤ K)
    (h : ∀ a r, m = .ok (a, r) → μ r ≤ n ∧ size a + μ r ≤ n + c) : Pot μ size K c n m := fun a r e => by
  obtain ⟨l, b⟩ := h a r e
  refine ⟨l, ?_⟩
  have e : K * n = K * (n - μ r) + K * μ r := by rw [← Nat.mul_add]; congr 1; omega
  have := Nat.mul_le_mul_right (n - μ r) hK
  omega

variable {p : σ → DecM (α × σ)} {ld : σ → DecM (Nat × σ)}

/-- the budgets `c` of the items a length determinant announces are paid by what it cost, at a
multiplier of `8192 * c` -/
theorem LenDet.pay (hld : LenDet μ ld) {K c : Nat} (hK : 8192 * c ≤ K) {s r : σ} {len : Nat}
    (h : ld s = .ok (len, r)) : μ r + 8 ≤ μ s ∧ len * c + K * μ r ≤ K * μ s := by
  obtain ⟨hl, hlen⟩ := hld _ _ _ h
  refine ⟨hl, ?_⟩
  have e : K * μ s = K * (μ s - μ r) + K * μ r := by rw [← Nat.mul_add]; congr 1; omega
  have := Nat.mul_le_mul_right c hlen
  have := Nat.mul_le_mul_right (μ s - μ r) hK
  rw [Nat.mul_right_comm] at this
  omega

theorem repeat_pot {rep : Nat → σ → DecM (List α × σ)}
    (h0 : ∀ s, rep 0 s = .ok ([], s))
    (hS : ∀ n s, rep (n + 1) s = do let (a, r) ← p s; let (as, r') ← rep n r; .ok (a :: as, r'))
    {size : α → Nat} {K c : Nat} (hp : ∀ s, Pot μ size K c (μ s) (p s)) (n : Nat) :
    ∀ s, Pot μ (sumSize size) K (n * c) (μ s) (rep n s) := by
  induction n with
  | zero => intro s; rw [h0]; exact .pure (Nat.zero_le _)
  | succ n ih =>
    intro s
    rw [hS, Nat.succ_mul]
    exact (Pot.bind (hp s) fun a r => .map (size := fun as => sumSize size as - size a)
      (g := fun as => a :: as) 0 (ih r) fun as => by
        show size a + sumSize size as - size a ≤ _; omega).mono (fun _ => Nat.le_refl _) (by omega)

/-- The chunk loop of `read_length_determinant_chunks` (`rep` its inner loop): the determinants pay the
budgets of the items (`LenDet.pay`), so the loop needs no budget of its own. -/
theorem chunks_pot {rep chunks : Nat → σ → DecM (List α × σ)}
    (h0 : ∀ s, chunks 0 s = .error .unmodelled)
    (hS : ∀ f s, chunks (f + 1) s = do
      let (len, r) ← ld s
      let (xs, r') ← rep len r
      if len < 16384 then .ok (xs, r')
      else do
        let (ys, r'') ← chunks f r'
        .ok (xs ++ ys, r''))
    {size : α → Nat} {K c : Nat} (hld : LenDet μ ld) (hK : 8192 * c ≤ K)
    (hrep : ∀ n s, Pot μ (sumSize size) K (n * c) (μ s) (rep n s)) (f : Nat) :
    ∀ s, Pot μ (sumSize size) K 0 (μ s) (chunks f s) := by
  induction f with
  | zero => intro s; rw [h0]; exact .error
  | succ f ih =>
    intro s xs r h
    rw [hS] at h
    obtain ⟨⟨len, r1⟩, h1, h⟩ := bind_ok h
    obtain ⟨hl1, pay⟩ := hld.pay hK h1
    obtain ⟨⟨ys, r2⟩, h2, h⟩ := bind_ok h
    obtain ⟨hl2, hs2⟩ := hrep len r1 _ _ h2
    rcases ite_cases h with ⟨_, h⟩ | ⟨_, h⟩
    · cases h
      exact ⟨by omega, by omega⟩
    · obtain ⟨⟨zs, r3⟩, h3, h⟩ := bind_ok h
      cases h
      obtain ⟨hl3, hs3⟩ := ih r2 _ _ h3
      rw [sumSize_append]
      exact ⟨by omega, by omega⟩

end

section
variable {σ : Type} (μ : σ → Nat) (D : Ty → Nat → σ → DecM (Val × σ))

/-- the allocation bound of the decoder `D` at type `t`, with `Kt t` as the budget and for every multiplier
from `Kt t` up, so that a component's statement can be used at the multiplier of the type that contains it -/
def Alloc (Kt : Ty → Nat) (t : Ty) : Prop :=
  ∀ K, Kt t ≤ K → ∀ f s, Pot μ Val.nodes K (Kt t) (μ s) (D t f s)

variable {μ D} {Kt : Ty → Nat}

/-- `decode_root` (`mem`).  `Km` is the sum over the members of `1 + presenceNodes p + Kt t`: every field
costs a node, a DEFAULT may be filled in without any input. -/
theorem members_pot {mem : Members → Nat → Bits → σ → DecM (List (String × Val) × σ)}
    (hnil : ∀ f flags s, mem .nil f flags s = .ok ([], s))
    (hcons : ∀ name p t rest f flags s, mem (.cons name p t rest) f flags s =
      match p with
      | .mandatory => do
        let (v, r) ← D t f s
        let (fs, r') ← mem rest f flags r
        .ok ((name, v) :: fs, r')
      | .optional =>
        match flags with
        | true :: fl => do
          let (v, r) ← D t f s
          let (fs, r') ← mem rest f fl r
          .ok ((name, v) :: fs, r')
        | _ :: fl => mem rest f fl s
        | [] => .error .unmodelled
      | .default d =>
        match flags with
        | true :: fl => do
          let (v, r) ← D t f s
          let (fs, r') ← mem rest f fl r
          .ok ((name, v) :: fs, r')
        | _ :: fl => do
          let (fs, r') ← mem rest f fl s
          .ok ((name, d) :: fs, r')
        | [] => .error .unmodelled)
    {Km : Members → Nat}
    (hKm : ∀ n p t rest, Km (.cons n p t rest) = 1 + presenceNodes p + Kt t + Km rest) (ms : Members) :
    ms.All (Alloc μ D Kt) → ∀ K, Km ms ≤ K → ∀ f flags s,
      Pot μ Val.nodesFields K (Km ms) (μ s) (mem ms f flags s) := by
  induction ms using Members.ind with
  | nil => intro _ _ _ f flags s; rw [hnil]; exact .pure (Nat.zero_le _)
  | cons name p t rest ih =>
    intro ⟨ht, hrest⟩ K hK f flags s
    rw [hKm] at hK ⊢
    rw [hcons]
    have present : ∀ fl, Pot μ Val.nodesFields K (1 + presenceNodes p + Kt t + Km rest) (μ s) (do
        let (v, r) ← D t f s
        let (fs, r') ← mem rest f fl r
        .ok ((name, v) :: fs, r')) := fun fl =>
      (Pot.bind (ht K (by omega) f s) fun v r1 =>
        .map (g := fun fs => (name, v) :: fs) 1 (ih hrest K (by omega) f fl r1) fun fs => by
          show 1 + v.nodes + Val.nodesFields fs - v.nodes ≤ _; omega).mono (fun _ => Nat.le_refl _) (by omega)
    cases p with
    | mandatory => exact present flags
    | optional =>
      rcases flags with _ | ⟨_ | _, fl⟩
      · exact .error
      · exact (ih hrest K (by omega) f fl s).mono (fun _ => Nat.le_refl _) (by omega)
      · exact present fl
    | default d =>
      rcases flags with _ | ⟨_ | _, fl⟩
      · exact .error
      · exact (Pot.map (g := fun fs => (name, d) :: fs) (1 + d.nodes) (ih hrest K (by omega) f fl s)
          fun fs => by show 1 + d.nodes + Val.nodesFields fs ≤ _; omega).mono (fun _ => Nat.le_refl _)
            (by show _ ≤ 1 + d.nodes + Kt t + Km rest; omega)
      · exact present fl

/-- `decAlt` of either codec is the lookup `Alts.nth` (`decAlt_nth`) -/
theorem alt_pot {Ka : Alts → Nat} (hKa : ∀ n t rest, Ka (.cons n t rest) = Kt t + Ka rest) :
    ∀ {as : Alts} {i : Nat} {nt : String × Ty}, as.All (Alloc μ D Kt) → as.nth i = some nt → ∀ K, Ka as ≤ K →
      ∀ f s, Pot μ Val.nodes K (1 + Ka as) (μ s) (do let (v, r) ← D nt.2 f s; .ok (.choice nt.1 v, r))
  | .cons n t rest, 0, _, h, e, K, hK, f, s => by
    cases e
    rw [hKa] at hK ⊢
    exact (Pot.map (g := Val.choice n) 1 (h.1 K (by omega) f s) fun _ => Nat.le_refl _).mono
      (fun _ => Nat.le_refl _) (by omega)
  | .cons n t rest, i + 1, _, h, e, K, hK, f, s => by
    rw [hKa] at hK ⊢
    exact (alt_pot hKa h.2 e K (by omega) f s).mono (fun _ => Nat.le_refl _) (by omega)

/-- `decode_additions` (`A`): `ld` reads the length of an open type, `pad r1 r2` skips from the state `r2`
behind the element to the next octet boundary counted from its start `r1`, `skip` passes the additions this
version does not know -/
theorem adds_pot {ld : σ → DecM (Nat × σ)} {pad : σ → σ → DecM σ} {skip : Bits → σ → DecM σ}
    {A : Members → Nat → Bits → σ → DecM (List (String × Val) × σ)}
    (hnil : ∀ f bitmap s, A .nil f bitmap s = do let r ← skip bitmap s; .ok ([], r))
    (hcons : ∀ name p t rest f bitmap s, A (.cons name p t rest) f bitmap s =
      match bitmap with
      | [] => .ok ([], s)
      | present :: bitmap =>
        if present then do
          let (_, r1) ← ld s
          let (v, r2) ← D t f r1
          let r3 ← pad r1 r2
          let (fs, r4) ← A rest f bitmap r3
          .ok ((name, v) :: fs, r4)
        else A rest f bitmap s)
    {Km : Members → Nat}
    (hKm : ∀ n p t rest, Km (.cons n p t rest) = 1 + presenceNodes p + Kt t + Km rest)
    (hld : NI μ ld) (hpad : ∀ r1 r2 r3, pad r1 r2 = .ok r3 → μ r3 ≤ μ r2)
    (hskip : ∀ bm s r, skip bm s = .ok r → μ r ≤ μ s) (ms : Members) :
    ms.All (Alloc μ D Kt) → ∀ K, Km ms ≤ K → ∀ f bitmap s,
      Pot μ Val.nodesFields K (Km ms) (μ s) (A ms f bitmap s) := by
  induction ms using Members.ind with
  | nil =>
    intro _ _ _ f bitmap s
    rw [hnil]
    exact .bind_stateFirst (hskip bitmap s) fun r => .pure (Nat.zero_le _)
  | cons name p t rest ih =>
    intro ⟨ht, hrest⟩ K hK f bitmap s
    rw [hKm] at hK ⊢
    rw [hcons]
    rcases bitmap with _ | ⟨present, bitmap⟩
    · exact .pure (Nat.zero_le _)
    · refine .ite (fun _ => ?_) fun _ =>
        (ih hrest K (by omega) f bitmap s).mono (fun _ => Nat.le_refl _) (by omega)
      refine .bind0 (fun _ _ h => hld _ _ _ h) fun _ r1 => ?_
      refine (Pot.bind (ht K (by omega) f r1) fun v r2 => .bind_stateFirst (hpad r1 r2) fun r3 =>
        .map (g := fun fs => (name, v) :: fs) 1 (ih hrest K (by omega) f bitmap r3) fun fs => by
          show 1 + v.nodes + Val.nodesFields fs - v.nodes ≤ _; omega).mono (fun _ => Nat.le_refl _) (by omega)

/-- what the bounds need of them: `bit` reads the extension bit, `al` aligns (the identity for UPER),
`ld` reads a length determinant, `readSize c w` the length field of `w` bits of a bounded SIZE, which
announces at most `M c` items -/
structure Readers (μ : σ → Nat) (bit : σ → DecM (Bool × σ)) (al : σ → σ) (ld : σ → DecM (Nat × σ))
    (readSize : SizeC → Nat → σ → DecM (Nat × σ)) (M : SizeC → Nat) : Prop where
  bit_ni : NI μ bit
  al_le : ∀ s, μ (al s) ≤ μ s
  ld_ok : LenDet μ ld
  readSize_ok : ∀ c w s n r, Uper.sizeBits c = some w → readSize c w s = .ok (n, r) → μ r ≤ μ s ∧ n ≤ M c
  /-- so that the one constant also covers the branch behind an extension bit, where the count comes from a
  length determinant (`hK'` in `seqOf_pot`) -/
  M_ge : ∀ c, 8192 ≤ M c

variable {bit : σ → DecM (Bool × σ)} {al : σ → σ} {ld : σ → DecM (Nat × σ)}
  {readSize : SizeC → Nat → σ → DecM (Nat × σ)} {M : SizeC → Nat}

theorem Readers.optBit (R : Readers μ bit al ld readSize M) {c b : Bool} {s r : σ}
    (h : (if c = true then bit s else .ok (false, s)) = .ok (b, r)) : μ r ≤ μ s := by
  rcases ite_cases h with ⟨_, h⟩ | ⟨_, h⟩
  · exact R.bit_ni _ _ _ h
  · cases h; exact Nat.le_refl _

/-- SEQUENCE OF: `heq` is the equation of the model's decoder at this type.  A count read from a length
determinant is paid by what the determinant cost; a count read from a size field is at most `M c`. -/
theorem seqOf_pot (R : Readers μ bit al ld readSize M) {rep : Nat → σ → DecM (List Val × σ)}
    {chunks : σ → DecM (List Val × σ)} {S : σ → DecM (Val × σ)} {c : SizeC}
    (heq : ∀ s, S s = do
      let (ext, s0) ← (if c.ext then bit s else .ok (false, s))
      if ext then do
        let (len, r) ← ld (al s0)
        let (xs, r') ← rep len r
        .ok (.list xs, r')
      else
        match Uper.sizeBits c with
        | none => do
          let (xs, r) ← chunks (al s0)
          .ok (.list xs, r)
        | some w => do
          let (len, r) ← readSize c w s0
          let (xs, r') ← rep len r
          .ok (.list xs, r'))
    {K ce : Nat} (hK : 1 + ce * (1 + M c) ≤ K)
    (hrep : ∀ n s, Pot μ (sumSize Val.nodes) K (n * ce) (μ s) (rep n s))
    (hchunks : 8192 * ce ≤ K → ∀ s, Pot μ (sumSize Val.nodes) K 0 (μ s) (chunks s)) (s : σ) :
    Pot μ Val.nodes K (1 + ce * (1 + M c)) (μ s) (S s) := by
  have hm := R.M_ge c
  have hK' : 8192 * ce ≤ K := by
    have := Nat.mul_le_mul_right ce hm
    rw [Nat.mul_add, Nat.mul_one, Nat.mul_comm ce (M c)] at hK
    omega
  have hb : M c * ce ≤ ce * (1 + M c) := by rw [Nat.mul_add, Nat.mul_comm ce (M c)]; omega
  rw [heq]
  refine .bind0 (fun _ _ h => R.optBit h) fun ext s0 => ?_
  have ha := R.al_le s0
  have list : ∀ {n k : Nat} {m : DecM (List Val × σ)}, Pot μ (sumSize Val.nodes) K k n m → 1 + k ≤ 1 + ce * (1 + M c) →
      Pot μ Val.nodes K (1 + ce * (1 + M c)) n (m >>= fun x => .ok (.list x.1, x.2)) := fun h hk =>
    (Pot.map (size := Val.nodes) (g := Val.list) 1 h fun xs => by rw [sumSize_nodes]; exact Nat.le_refl _).mono
      (fun _ => Nat.le_refl _) hk
  refine .ite (fun _ => ?_) fun _ => ?_
  · intro v r h
    obtain ⟨⟨len, r1⟩, h1, h⟩ := bind_ok h
    obtain ⟨hl1, pay⟩ := R.ld_ok.pay hK' h1
    obtain ⟨l, b⟩ := (Pot.map (size := Val.nodes) (g := Val.list) 1 (hrep len r1) fun xs => by
      rw [sumSize_nodes]; exact Nat.le_refl _) v r h
    have := Nat.mul_le_mul_left K ha
    exact ⟨by omega, by omega⟩
  · split
    · exact (list (hchunks hK' (al s0)) (by omega)).start_le ha
    · rename_i w hsb
      intro v r h
      obtain ⟨⟨len, r1⟩, h1, h⟩ := bind_ok h
      obtain ⟨hl1, hlen⟩ := R.readSize_ok _ _ _ _ _ hsb h1
      have := Nat.mul_le_mul_right ce hlen
      have := Nat.mul_le_mul_left K hl1
      obtain ⟨l, b⟩ := (Pot.map (size := Val.nodes) (g := Val.list) 1 (hrep len r1) fun xs => by
        rw [sumSize_nodes]; exact Nat.le_refl _) v r h
      exact ⟨by omega, by omega⟩

end

end Asn1.Cost
