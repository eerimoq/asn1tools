import Asn1Proofs.Lemmas.ExtView
import Asn1Proofs.Lemmas.ExtLemmas
import Asn1Proofs.Lemmas.DerSeq
/-
  C07, BER and DER: the cross-version round trip as a statement about a decoder `D` (`XTg D`), and
  the cases that do not go through the SEQUENCE / CHOICE code the two decoders share: a leaf type
  against itself (from the round trip of `D` at that leaf, `xt_same`), ENUMERATED, SEQUENCE OF.
-/
namespace Asn1.Ext.DerX
open Asn1 Asn1.Der Asn1.Ext
open Asn1.Oer (enumName)

/-- cross-version round trip of the pair decoder type `tD` / encoder type `tE`, in any tagging context,
for the decoder `D` (`Der.dec` or `BerCodec.dec`; the two models share the encoder) -- `g` for "generic in
the decoder": `DerX.XT` is `XTg Der.dec` -/
def XTg (D : Decoder) (tD tE : Ty) : Prop :=
  ∀ (tg : Option Nat) (v : Val) (bytes rest : Bytes) (fuel : Nat),
    tE.wf = true → Oer.oerWf tE = true → X690.defaultsOkV tE = true → dOk true tD tE →
    hasType tE v = true → enc tE tg v = .ok bytes → bytes.length < fuel →
    D tD tg fuel (bytes ++ rest) = .ok (some (view true tD tE v, bytes.length, rest))

/-- what the induction carries for a pair of component types -/
def XCg (D : Decoder) (tD tE : Ty) : Prop := XTg D tD tE ∧ Compat tD tE

theorem compat_tagOf {tD tE : Ty} (h : Compat tD tE) (tg : Option Nat) : tagOf tD tg = tagOf tE tg := by
  cases h <;> rfl

theorem view_of_isDefaultB {tD tE : Ty} (hc : Compat tD tE) (v d : Val)
    (hd : view true tD tE d = d) (h : isDefaultB tE v d = true) : view true tD tE v = d :=
  view_of_isDefault true hc v d hd (isDefault_of_isDefaultB h)

theorem xt_same {D : Decoder} {t : Ty} (hrt : RT D t) : XTg D t t := by
  intro tg v bytes rest fuel hwf hwf2 hd _ ht he hf
  rw [view_self true hwf ht, canonG_true]
  exact hrt tg v bytes rest fuel hwf hwf2 hd ht he hf

theorem xt_enumeratedD {D : Decoder} (root adds new : List (String × Int))
    (henum : ∀ tg fuel bs,
      D (.enumerated root (some adds)) tg fuel bs = dec (.enumerated root (some adds)) tg fuel bs) :
    XTg D (.enumerated root (some adds)) (.enumerated root (some (adds ++ new))) := by
  intro tg v bytes rest fuel hwf hwf2 hd _ ht he hf
  obtain ⟨name, rfl, ht⟩ := hasType_enumerated ht
  obtain ⟨val, hname, hdec⟩ := dec_enc_enumerated (extD := some adds) rest fuel hwf2 he
  simp only [Option.getD_some, Option.isSome_some, if_true] at hname hdec
  simp only [Ty.wf, Bool.and_eq_true, decide_eq_true_eq] at hwf
  rw [henum, hdec, view_enumD true _ hwf.1.2 hname]
  cases enumName val (root ++ adds) <;> rfl

theorem xt_enumeratedE {D : Decoder} (root adds new : List (String × Int))
    (henum : ∀ tg fuel bs, D (.enumerated root (some (adds ++ new))) tg fuel bs
      = dec (.enumerated root (some (adds ++ new))) tg fuel bs) :
    XTg D (.enumerated root (some (adds ++ new))) (.enumerated root (some adds)) := by
  intro tg v bytes rest fuel hwf hwf2 hd _ ht he hf
  obtain ⟨name, rfl, ht⟩ := hasType_enumerated ht
  obtain ⟨val, hname, hdec⟩ := dec_enc_enumerated (extD := some (adds ++ new)) rest fuel hwf2 he
  simp only [Option.getD_some] at hname hdec
  rw [henum, hdec, enumName_more new hname, view_enum_known true _ (hasType_enum_more new ht)]

theorem xt_sequenceOf {D : Decoder} {eD eE : Ty} (c : SizeC) (ih : XTg D eD eE)
    (hD : ∀ (tg : Option Nat) (fuel : Nat) (content rest : Bytes),
      D (.sequenceOf eD c) tg fuel (tlv (mkTag 16 true tg) content ++ rest) =
        match derElems (D eD none fuel) fuel content.length (content ++ rest) with
        | .error err => .error err
        | .ok (vs, k, r) => .ok (some (.list vs,
            (mkTag 16 true tg).length + (Ber.encLength content.length).length + k, r))) :
    XTg D (.sequenceOf eD c) (.sequenceOf eE c) := by
  intro tg v bytes rest fuel hwf hwf2 hd hdk ht he hf
  obtain ⟨vs, rfl, hvs, -⟩ := hasType_sequenceOf ht
  simp only [Oer.oerWf] at hwf2
  simp only [X690.defaultsOkV] at hd
  simp only [dOk] at hdk
  rw [enc] at he
  split at he
  · cases he
  · rename_i items hitems
    cases he
    rw [tlv_length] at hf
    rw [view, hD, derElems_mapM (enc eE none) (view true eD eE) (D eD none fuel) items.flatten.length vs
      items rest (fun x hx b hb => enc_ne_nil hb)
      (fun x hx b r hb hl => ih none x b r fuel (wf_sequenceOf hwf) hwf2 hd hdk (hvs x hx) hb (by omega))
      hitems (Nat.le_refl _) fuel (by omega)]
    simp only [tlv_length]

end Asn1.Ext.DerX
