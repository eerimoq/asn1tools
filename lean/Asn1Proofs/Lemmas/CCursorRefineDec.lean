import Asn1Proofs.Lemmas.CCursorRefine
/-
  C09 memory safety, decoder side: under `Dec.Inv` every decoder helper returns `.ok` for all buffer contents
  (arbitrary input bytes).  Each helper has one equation, valid in every cursor state, giving its value and the
  cursor `Dec.adv d n`, and a sequence of helper calls ends in `d.adv` of the sum of the bits asked for.
  `Dec.adv` and its lemmas repeat `Enc.put`'s on the decoder struct (`decoder_free` is `encoder_alloc` with
  `EOUTOFDATA` for `ENOMEM`): the model has one Lean structure per C `struct`.
-/
namespace Asn1.CCursor

theorem Dec.inv_step {d : Dec} (hi : d.Inv) {p' : Int}
    (h0 : 0 ≤ p') (h1 : p' ≤ d.size) : ({ d with pos := p' } : Dec).Inv := by
  obtain ⟨hbs, hl | hl⟩ := hi
  · exact ⟨hbs, Or.inl ⟨h0, h1, hl.2.2⟩⟩
  · omega

/-- the cursor is live and the next `n` bits are inside the claimed size -/
def Dec.fits (d : Dec) (n : Nat) : Prop := 0 ≤ d.size ∧ d.pos + (n : Int) ≤ d.size

instance (d : Dec) (n : Nat) : Decidable (d.fits n) := by unfold Dec.fits; infer_instance

/-- the cursor after `decoder_free(n)`: frozen if latched, advanced if the bits are there, else `-EOUTOFDATA`
(= -500) is latched -/
def Dec.adv (d : Dec) (n : Nat) : Dec :=
  if d.size < 0 then d else if d.pos + (n : Int) ≤ d.size then { d with pos := d.pos + (n : Int) } else d.latch 500

theorem Dec.adv_latched {d : Dec} (h : d.size < 0) (n : Nat) : d.adv n = d := if_pos h

theorem Dec.adv_fits {d : Dec} {n : Nat} (h : d.fits n) : d.adv n = { d with pos := d.pos + (n : Int) } := by
  rw [Dec.adv, if_neg (by have := h.1; omega), if_pos h.2]

theorem Dec.adv_short {d : Dec} {n : Nat} (h0 : 0 ≤ d.size) (h : d.size < d.pos + (n : Int)) :
    d.adv n = d.latch 500 := by
  rw [Dec.adv, if_neg (by omega), if_neg (by omega)]

@[simp] theorem Dec.adv_buf (d : Dec) (n : Nat) : (d.adv n).buf = d.buf := by
  unfold Dec.adv; split
  · rfl
  · split <;> rfl

theorem Dec.adv_inv {d : Dec} (hi : d.Inv) (n : Nat) : (d.adv n).Inv := by
  unfold Dec.adv
  split
  · exact hi
  · split
    · exact Dec.inv_step hi (by obtain ⟨_, h | h⟩ := hi <;> omega) (by assumption)
    · exact Dec.latch_inv hi.1 (by decide) (by decide)

theorem Dec.adv_zero {d : Dec} (hi : d.Inv) : d.adv 0 = d := by
  by_cases hl : d.size < 0
  · exact Dec.adv_latched hl 0
  · rw [Dec.adv_fits ⟨by omega, by obtain ⟨_, h | h⟩ := hi <;> omega⟩]; simp

theorem Dec.adv_adv (d : Dec) (a b : Nat) : (d.adv a).adv b = d.adv (a + b) := by
  by_cases hl : d.size < 0
  · rw [Dec.adv_latched hl, Dec.adv_latched hl, Dec.adv_latched hl]
  · by_cases ha : d.pos + (a : Int) ≤ d.size
    · rw [Dec.adv_fits (n := a) ⟨by omega, ha⟩]
      unfold Dec.adv
      simp only [if_neg hl, Dec.latch, Int.natCast_add, Int.add_assoc]
    · rw [Dec.adv_short (d := d) (n := a) (by omega) (by omega), Dec.adv_latched (by simp [Dec.latch]),
        Dec.adv_short (by omega) (by omega)]

theorem Dec.fits_add {d : Dec} {a b : Nat} (h : d.fits (a + b)) : d.fits a ∧ (d.adv a).fits b := by
  have ha : d.fits a := ⟨h.1, by have := h.2; omega⟩
  rw [Dec.adv_fits ha]
  exact ⟨ha, h.1, by have := h.2; simp only []; omega⟩

/-- `decoder_free` in every cursor state, for a request below 2^62 bits -/
theorem Dec.free_eq {d : Dec} (hi : d.Inv) {n : UInt64} {k : Nat} (hk : n.toNat = k)
    (hn : k < 4611686018427387904) :
    ∃ p, d.free n = .ok (p, d.adv k) ∧ (d.fits k → p = d.pos) ∧ (¬ d.fits k → p < 0) := by
  subst hk
  obtain ⟨hb, hi⟩ := hi
  unfold Dec.free Dec.adv Dec.fits
  rw [toSsize_small (by omega), ssz_ok (by omega) (by omega), ok_bind]
  by_cases hfit : d.pos + (n.toNat : Int) ≤ d.size
  · refine ⟨d.pos, ?_, fun _ => rfl, fun _ => by omega⟩
    rw [if_pos hfit]
    show Except.ok (d.pos, ({ d with pos := d.pos + (n.toNat : Int) } : Dec)) = _
    by_cases h0 : d.size < 0
    · have : d.pos + (n.toNat : Int) = d.pos := by omega
      rw [if_pos h0, this]
    · rw [if_neg h0, if_pos hfit]
  · refine ⟨-500, ?_, fun _ => by omega, fun _ => by omega⟩
    rw [if_neg hfit]
    simp only [EOUTOFDATA]
    rw [ssz_ok (by omega) (by omega), ok_bind]
    by_cases h0 : d.size < 0
    · rw [Dec.abort_latched h0, if_pos h0, ok_bind]
    · rw [Dec.abort_live (by omega) (by omega) (by omega), if_neg h0, if_neg hfit, ok_bind]

theorem Dec.readBit_eq {d : Dec} (hi : d.Inv) :
    d.readBit = .ok (if d.fits 1 then readBitVal d.buf d.pos.toNat else 0, d.adv 1) := by
  obtain ⟨p, hf, hp⟩ := Dec.free_eq (n := 1) (k := 1) hi rfl (by decide)
  unfold Dec.readBit
  rw [hf, ok_bind]
  simp only [Dec.adv_buf]
  by_cases hfit : d.fits 1
  · obtain ⟨hb, hl | hl⟩ := hi
    · obtain ⟨hd0, hdn, hsn, _⟩ := bit_index hl.1
      have := hfit.2
      rw [hp.1 hfit, if_pos hfit, if_pos (by omega), Int.tmod_eq_emod_of_nonneg (by omega),
        Int.tdiv_eq_ediv_of_nonneg (by omega), Mem.loadI_ok hd0 (by omega), ok_bind, ssz_ok (by omega) (by omega),
        ok_bind, if_neg (by omega), hsn, shrS32_ok (by omega), ok_bind, hdn]
      rfl
    · have := hfit.1; omega
  · rw [if_neg hfit, if_neg (by have := hp.2 hfit; omega)]

theorem Dec.readBytesLoop_ok (src : Mem) (bytePos pib : UInt64)
    (hp8 : pib.toNat < 8) (hsz : src.size < 576460752303423488) :
    ∀ n (i : UInt64) (dst : Mem), i.toNat + n ≤ dst.size →
      bytePos.toNat + i.toNat + n + 1 ≤ src.size →
      Dec.readBytesLoop src bytePos pib n i dst
        = .ok (pureReadBytesLoop src bytePos.toNat pib.toNat n i.toNat dst) := by
  intro n
  induction n with
  | zero => intros; rfl
  | succ n ih =>
    intro i dst hd hs
    obtain ⟨e1, e2, e3, e4⟩ := loop_index (bytePos := bytePos) (i := i) (pib := pib) (by omega) hp8
    have hsl : src[bytePos.toNat + i.toNat]!.toNat < 256 := UInt8.toNat_lt _
    unfold Dec.readBytesLoop pureReadBytesLoop
    rw [e1, e2, e4, Mem.load_ok (by omega), ok_bind,
      shlS32_ok (by omega) (shl_bound (by omega) (by omega)), ok_bind, Mem.store_ok (by omega), ok_bind,
      Mem.load_ok (by omega), ok_bind, shrS32_ok (by omega), ok_bind,
      Mem.load_ok (by rw [Mem.size_set!]; omega), ok_bind, Mem.store_ok (by rw [Mem.size_set!]; omega), ok_bind,
      ih _ _ (by simp only [Mem.size_set!]; omega) (by omega), e3]

/-- the destination object after `decoder_read_bytes(dst, n)`: when the read fails `dst` comes back untouched, so
`decoder_read_uint16/32/64` assemble their value from the uninitialised automatic array
(`C09.read_uint16_out_of_data_returns_junk`) -/
def Dec.got (d : Dec) (dst : Mem) (n : Nat) : Mem :=
  if d.fits (8 * n) then readBytesVal d.buf d.pos.toNat dst n else dst

@[simp] theorem Dec.got_size (d : Dec) (dst : Mem) (n : Nat) : (d.got dst n).size = dst.size := by
  unfold Dec.got; split
  · exact readBytesVal_size _ _ _ _
  · rfl

/- `n` is explicit: from `h : d.fits 16` alone the unifier would have to solve `8 * ?n = 16`. -/
theorem Dec.got_fits {d : Dec} (n : Nat) (h : d.fits (8 * n)) (dst : Mem) :
    d.got dst n = readBytesVal d.buf d.pos.toNat dst n := if_pos h

theorem Dec.readBytes_eq {d : Dec} (hi : d.Inv) {dst : Mem} {n : UInt64}
    (hn : n.toNat < 576460752303423488) (hdst : n.toNat ≤ dst.size) :
    d.readBytes dst n = .ok (d.got dst n.toNat, d.adv (8 * n.toNat)) := by
  obtain ⟨p, hf, hp⟩ := Dec.free_eq (n := 8 * n) (k := 8 * n.toNat) hi
    (by have := eight_mul_toNat hn; omega) (by omega)
  unfold Dec.readBytes Dec.got
  rw [hf, ok_bind]
  simp only [Dec.adv_buf]
  by_cases hfit : d.fits (8 * n.toNat)
  · obtain ⟨hb, hl | hl⟩ := id hi
    · obtain ⟨hbp, hpib, hal⟩ := toSize_div_mod (p := d.pos) (by omega) (by omega)
      have := hfit.2
      unfold readBytesVal
      rw [hp.1 hfit, if_pos hfit, if_neg (by omega)]
      by_cases hz : toSize d.pos % 8 = 0
      · rw [if_pos hz, if_pos (hal.1 hz), hbp, Mem.ptr_ok (by omega), ok_bind,
          memcpy_ok _ _ _ _ _ (by omega) (by omega), ok_bind]
      · have hz' := mt hal.2 hz
        rw [if_neg hz, if_neg hz',
          Dec.readBytesLoop_ok d.buf _ _ (by omega) hb _ _ _ (by simp; omega) (by rw [hbp]; simp; omega),
          ok_bind, hbp, hpib]
        rfl
    · have := hfit.1; omega
  · rw [if_neg hfit, if_pos (hp.2 hfit)]

theorem Dec.readU8_of_readBytes {d d' : Dec} {m : Mem} (hr : d.readBytes #[0] 1 = .ok (m, d'))
    (hm : m.size = 1) : d.readU8 = .ok (m[0]!, d') := by
  unfold Dec.readU8
  rw [hr, ok_bind]
  simp only []
  rw [Mem.load_ok (by omega), ok_bind]

theorem Dec.readU16_of_readBytes {d d' : Dec} {junk m : Mem} (hr : d.readBytes junk 2 = .ok (m, d'))
    (hm : m.size = 2) : d.readU16 junk = .ok (valU16 m, d') := by
  have hb : m[0]!.toNat < 256 := UInt8.toNat_lt _
  unfold Dec.readU16
  rw [hr, ok_bind]
  simp only []
  rw [Mem.load_ok (by omega), ok_bind, Mem.load_ok (by omega), ok_bind,
    shlS32_ok (by omega) (by rw [Nat.shiftLeft_eq]; omega), ok_bind]
  rfl

theorem Dec.readU32_of_readBytes {d d' : Dec} {junk m : Mem} (hr : d.readBytes junk 4 = .ok (m, d'))
    (hm : m.size = 4) : d.readU32 junk = .ok (valU32 m, d') := by
  unfold Dec.readU32
  rw [hr, ok_bind]
  simp only []
  rw [Mem.load_ok (by omega), ok_bind, Mem.load_ok (by omega), ok_bind, Mem.load_ok (by omega), ok_bind,
    Mem.load_ok (by omega), ok_bind, shlU32_ok (by omega), ok_bind, shlU32_ok (by omega), ok_bind,
    shlU32_ok (by omega), ok_bind]
  rfl

theorem Dec.readU64_of_readBytes {d d' : Dec} {junk m : Mem} (hr : d.readBytes junk 8 = .ok (m, d'))
    (hm : m.size = 8) : d.readU64 junk = .ok (valU64 m, d') := by
  unfold Dec.readU64
  rw [hr, ok_bind]
  simp only []
  rw [Mem.load_ok (by omega), ok_bind, Mem.load_ok (by omega), ok_bind, Mem.load_ok (by omega), ok_bind,
    Mem.load_ok (by omega), ok_bind, Mem.load_ok (by omega), ok_bind, Mem.load_ok (by omega), ok_bind,
    Mem.load_ok (by omega), ok_bind, Mem.load_ok (by omega), ok_bind,
    shlU64_ok (by omega), ok_bind, shlU64_ok (by omega), ok_bind, shlU64_ok (by omega), ok_bind,
    shlU64_ok (by omega), ok_bind, shlU64_ok (by omega), ok_bind, shlU64_ok (by omega), ok_bind,
    shlU64_ok (by omega), ok_bind]
  rfl

theorem Dec.readU8_eq {d : Dec} (hi : d.Inv) : d.readU8 = .ok ((d.got #[0] 1)[0]!, d.adv 8) :=
  Dec.readU8_of_readBytes (Dec.readBytes_eq hi (n := 1) (by decide) (by decide)) (by simp)

theorem Dec.readU16_eq {d : Dec} (hi : d.Inv) {junk : Mem} (hj : junk.size = 2) :
    d.readU16 junk = .ok (valU16 (d.got junk 2), d.adv 16) :=
  Dec.readU16_of_readBytes (Dec.readBytes_eq hi (n := 2) (by decide) (Nat.le_of_eq hj.symm)) (by simp [hj])

theorem Dec.readU32_eq {d : Dec} (hi : d.Inv) {junk : Mem} (hj : junk.size = 4) :
    d.readU32 junk = .ok (valU32 (d.got junk 4), d.adv 32) :=
  Dec.readU32_of_readBytes (Dec.readBytes_eq hi (n := 4) (by decide) (Nat.le_of_eq hj.symm)) (by simp [hj])

theorem Dec.readU64_eq {d : Dec} (hi : d.Inv) {junk : Mem} (hj : junk.size = 8) :
    d.readU64 junk = .ok (valU64 (d.got junk 8), d.adv 64) :=
  Dec.readU64_of_readBytes (Dec.readBytes_eq hi (n := 8) (by decide) (Nat.le_of_eq hj.symm)) (by simp [hj])

theorem Dec.nnbiLoop_eq : ∀ n (v : UInt64) (d : Dec), d.Inv →
    ∃ v', Dec.nnbiLoop n v d = .ok (v', d.adv n) ∧ (d.fits n → v' = readNnbiVal d.buf n v d.pos.toNat) := by
  intro n
  induction n with
  | zero =>
    intro v d hi
    exact ⟨v, by rw [Dec.adv_zero hi]; rfl, fun _ => rfl⟩
  | succ n ih =>
    intro v d hi
    obtain ⟨v', hr, hv⟩ := ih (v <<< 1 ||| UInt64.ofNat (if d.fits 1 then readBitVal d.buf d.pos.toNat else 0))
      (d.adv 1) (Dec.adv_inv hi 1)
    refine ⟨v', ?_, fun hf => ?_⟩
    · rw [Dec.nnbiLoop, shlU64_ok (by omega), ok_bind, Dec.readBit_eq hi, ok_bind]
      exact hr.trans (by rw [Dec.adv_adv, Nat.add_comm])
    · obtain ⟨h1, hn⟩ := Dec.fits_add (a := 1) (b := n) (by rw [Nat.add_comm]; exact hf)
      have hp0 : 0 ≤ d.pos := by obtain ⟨_, h | h⟩ := hi <;> have := h1.1 <;> omega
      have hp : (d.pos + ((1 : Nat) : Int)).toNat = d.pos.toNat + 1 := by omega
      rw [hv hn, if_pos h1, Dec.adv_fits h1, readNnbiVal]
      simp only [hp]

theorem Dec.readNnbi_eq {d : Dec} (hi : d.Inv) (n : UInt64) :
    ∃ v, d.readNnbi n = .ok (v, d.adv n.toNat) ∧ (d.fits n.toNat → v = readNnbiVal d.buf n.toNat 0 d.pos.toNat) :=
  Dec.nnbiLoop_eq n.toNat 0 d hi

theorem Dec.readNnbi_ok {d : Dec} (hi : d.Inv) (h0 : 0 ≤ d.size) {n : UInt64}
    (h : d.pos + (n.toNat : Int) ≤ d.size) :
    d.readNnbi n = .ok (readNnbiVal d.buf n.toNat 0 d.pos.toNat, { d with pos := d.pos + (n.toNat : Int) }) := by
  obtain ⟨v, hr, hv⟩ := Dec.readNnbi_eq hi n
  rw [hr, hv ⟨h0, h⟩, Dec.adv_fits ⟨h0, h⟩]

/-- the bits `op` consumes -/
def DecOp.need : DecOp → Nat
  | .bit => 1
  | .bool => 1
  | .bytes _ n => 8 * n.toNat
  | .u8 => 8 | .u16 _ => 16 | .u32 _ => 32 | .u64 _ => 64
  | .i8 => 8 | .i16 _ => 16 | .i32 _ => 32 | .i64 _ => 64
  | .nnbi n => n.toNat
  | .abort _ => 0

/-- Argument preconditions of the decoder helpers: a destination object at least as large as the
claimed size (< 2^59), automatic arrays of their declared size, a positive error code.  NO condition
on the input bytes, on the cursor position, or on the number of bits requested. -/
def DecOp.Pre : DecOp → Prop
  | .bytes dst n => n.toNat ≤ dst.size ∧ n.toNat < 576460752303423488
  | .u16 j => j.size = 2
  | .u32 j => j.size = 4
  | .u64 j => j.size = 8
  | .i16 j => j.size = 2
  | .i32 j => j.size = 4
  | .i64 j => j.size = 8
  | .abort err => 0 < err ∧ err ≤ 4611686018427387904
  | _ => True

theorem Dec.run_eq {d : Dec} (hi : d.Inv) {op : DecOp} (hpre : op.Pre) (hna : ∀ err, op ≠ .abort err) :
    ∃ v, d.run op = .ok (v, d.adv op.need) := by
  cases op with
  | bit => exact ⟨_, by rw [Dec.run, Dec.readBit_eq hi]; rfl⟩
  | bool => exact ⟨_, by rw [Dec.run, Dec.readBool, Dec.readBit_eq hi]; rfl⟩
  | bytes dst n => exact ⟨_, by rw [Dec.run, Dec.readBytes_eq hi hpre.2 hpre.1]; rfl⟩
  | u8 => exact ⟨_, by rw [Dec.run, Dec.readU8_eq hi]; rfl⟩
  | u16 j => exact ⟨_, by rw [Dec.run, Dec.readU16_eq hi hpre]; rfl⟩
  | u32 j => exact ⟨_, by rw [Dec.run, Dec.readU32_eq hi hpre]; rfl⟩
  | u64 j => exact ⟨_, by rw [Dec.run, Dec.readU64_eq hi hpre]; rfl⟩
  | i8 => exact ⟨_, by rw [Dec.run, Dec.readI8, Dec.readU8_eq hi]; rfl⟩
  | i16 j => exact ⟨_, by rw [Dec.run, Dec.readI16, Dec.readU16_eq hi hpre]; rfl⟩
  | i32 j => exact ⟨_, by rw [Dec.run, Dec.readI32, Dec.readU32_eq hi hpre]; rfl⟩
  | i64 j => exact ⟨_, by rw [Dec.run, Dec.readI64, Dec.readU64_eq hi hpre]; rfl⟩
  | nnbi n =>
    obtain ⟨v, hr, _⟩ := Dec.readNnbi_eq hi n
    exact ⟨_, by rw [Dec.run, hr]; rfl⟩
  | abort err => exact absurd rfl (hna err)

theorem Dec.runAll_cons {d d1 d2 : Dec} {op : DecOp} {ops : List DecOp} {v : DecVal} {vs : List DecVal}
    (h1 : d.run op = .ok (v, d1)) (h2 : d1.runAll ops = .ok (vs, d2)) :
    d.runAll (op :: ops) = .ok (v :: vs, d2) := by
  rw [Dec.runAll, h1, ok_bind]
  simp only []
  rw [h2, ok_bind]

theorem Dec.runAll_eq : ∀ (ops : List DecOp) {d : Dec}, d.Inv → (∀ op ∈ ops, op.Pre) →
    (∀ op ∈ ops, ∀ err, op ≠ .abort err) →
    ∃ vs, d.runAll ops = .ok (vs, d.adv (ops.map DecOp.need).sum) ∧ vs.length = ops.length := by
  intro ops
  induction ops with
  | nil =>
    intro d hi _ _
    exact ⟨[], by rw [List.map_nil, List.sum_nil, Dec.adv_zero hi]; rfl, rfl⟩
  | cons op ops ih =>
    intro d hi hpre hna
    obtain ⟨v, h1⟩ := Dec.run_eq hi (hpre op (by simp)) (hna op (by simp))
    obtain ⟨vs, h2, hl⟩ := ih (Dec.adv_inv hi op.need) (fun o ho => hpre o (by simp [ho])) fun o ho => hna o (by simp [ho])
    exact ⟨v :: vs, by rw [Dec.runAll_cons h1 h2, Dec.adv_adv]; rfl, by simp [hl]⟩

end Asn1.CCursor
