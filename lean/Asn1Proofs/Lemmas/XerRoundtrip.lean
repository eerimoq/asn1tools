import Asn1Proofs.Lemmas.XerLeaf
import Asn1Proofs.Lemmas.UperNum
import Asn1Proofs.Lemmas.UperMisc
import Asn1Proofs.Lemmas.Records
/-
  Tree-level round trip of the XER model: decoding the element tree the encoder builds returns
  the canonical value (`X690.canonV`: absent DEFAULT members filled in, root and additions;
  unused bits of a BIT STRING cleared) — for the normal element form and for the form used inside
  SEQUENCE OF (`inList`).
-/
namespace Asn1.Xer
open Asn1.Xml Asn1.X690
open Asn1.Uper (mapM_nil' mapM_cons')

/-- `intsOk`: `str()` refuses integers of more than 4300 digits.  The last conjunct, the element carries the
name asked for, is how `decMembers` and the CHOICE decoder find the child again. -/
def RT (t : Ty) : Prop :=
  ∀ (inList : Bool) (nm : String) (v : Val),
    t.wf = true → hasType t v = true → intsOk t v = true →
    ∃ x, enc t inList nm v = .ok x ∧ dec t inList x = .ok (canonV t v) ∧
      (inList = false → x.name = nm)

theorem rt_boolean : RT .boolean := by
  intro inList nm v hwf ht hi
  obtain ⟨b, rfl⟩ := hasType_boolean ht
  cases inList <;> cases b
  · exact ⟨_, rfl, rfl, fun _ => rfl⟩
  · exact ⟨_, rfl, rfl, fun _ => rfl⟩
  · exact ⟨_, rfl, rfl, fun h => by cases h⟩
  · exact ⟨_, rfl, rfl, fun h => by cases h⟩

theorem rt_null : RT .null := by
  intro inList nm v hwf ht hi
  rw [hasType_null ht]
  exact ⟨leaf nm [], rfl, rfl, fun _ => rfl⟩

theorem rt_integer (c : IntC) : RT (.integer c) := by
  intro inList nm v _ ht hi
  obtain ⟨i, rfl, -⟩ := hasType_integer ht
  simp only [intsOk, decide_eq_true_eq] at hi
  obtain ⟨x, h1, h2, h3⟩ := integer_roundtrip c inList nm i hi
  exact ⟨x, h1, h2, fun _ => h3⟩

theorem rt_enumerated (root : List (String × Int)) (ext : Option (List (String × Int))) :
    RT (.enumerated root ext) := by
  intro inList nm v hwf ht hi
  obtain ⟨n, rfl, -⟩ := hasType_enumerated ht
  have hmem : n ∈ enumNames root ext := by
    have := mem_enumNames_of_hasType ht
    cases ext <;> exact this
  cases inList
  · refine ⟨.elem nm [] [leaf n []], by simp [enc, hmem], ?_, fun _ => rfl⟩
    simp [dec, XmlT.kids, leaf, XmlT.name, hmem, canonV]
  · refine ⟨leaf n [], by simp [enc, hmem], ?_, fun h => by cases h⟩
    simp [dec, leaf, XmlT.name, hmem, canonV]

theorem rt_octetString (c : SizeC) : RT (.octetString c) := by
  intro inList nm v hwf ht hi
  obtain ⟨bs, rfl, hb, -⟩ := hasType_octetString ht
  refine ⟨leaf nm (hexText bs), rfl, ?_, fun _ => rfl⟩
  simp only [dec, leaf, XmlT.text, hexText_isEmpty, canonV]
  cases bs with
  | nil => rfl
  | cons b r =>
    simp only [List.isEmpty_cons, Bool.false_eq_true, if_false]
    rw [parseHex_hexText _ hb]

theorem rt_bitString (c : SizeC) : RT (.bitString c) := by
  intro inList nm v hwf ht hi
  obtain ⟨data, n, rfl, -, hlen, -⟩ := hasType_bitString ht
  have h8 : ¬ 8 * data.length < n := by omega
  refine ⟨leaf nm (bitText ((bytesToBits data).take n)), by simp only [enc, if_neg h8], ?_, fun _ => rfl⟩
  simp only [dec, leaf, XmlT.text, canonV, cleanBits]
  have hl : ((bytesToBits data).take n).length = n := by
    rw [List.length_take, bytesToBits_length]; omega
  by_cases h0 : n = 0
  · subst h0
    simp only [List.take_zero, bitText, List.map_nil, List.isEmpty_nil, if_true]
    rfl
  · have hne : (bitText ((bytesToBits data).take n)).isEmpty = false := by
      cases h : (bytesToBits data).take n with
      | nil => rw [h] at hl; simp at hl; omega
      | cons _ _ => rfl
    simp only [hne, Bool.false_eq_true, if_false]
    rw [parseBits_bitText, hl]

theorem rt_charString (k : StrKind) (c : SizeC) : RT (.charString k c) := by
  intro inList nm v hwf ht hi
  obtain ⟨cps, rfl, -⟩ := hasType_charString ht
  exact ⟨leaf nm cps, rfl, rfl, fun _ => rfl⟩

theorem findKid_append (name : String) (a b : List XmlT) :
    findKid name (a ++ b) = (findKid name a).or (findKid name b) := by
  induction a with
  | nil => rfl
  | cons x r ih =>
    rw [List.cons_append, findKid, findKid]
    split
    · rfl
    · exact ih

theorem findKid_none_of_ne (name : String) (l : List XmlT)
    (h : ∀ x ∈ l, x.name ≠ name) : findKid name l = none := by
  induction l with
  | nil => rfl
  | cons x r ih =>
    rw [findKid, if_neg (by simpa using h x (List.mem_cons_self ..))]
    exact ih fun y hy => h y (List.mem_cons_of_mem _ hy)

theorem decMembers_congr (ms : Members) {k k' : List XmlT}
    (h : ∀ n ∈ ms.names, findKid n k = findKid n k') : decMembers ms k = decMembers ms k' := by
  induction ms using Members.ind with
  | nil => rfl
  | cons name p t rest ih =>
    simp only [decMembers, h name (List.mem_cons_self ..), ih fun n hn => h n (List.mem_cons_of_mem _ hn)]

theorem encMembers_spec (ms : Members) (hall : Members.All RT ms) (fs : List (String × Val))
    (hwf : ms.wf = true) (hnd : ms.names.Nodup) (hok : membersOk ms fs = true)
    (hint : intsOkMembers ms fs = true) :
    ∃ xs, encMembers ms fs = .ok xs ∧ (∀ x ∈ xs, x.name ∈ ms.names) ∧
      decMembers ms xs = .ok (canonMembersV ms fs) := by
  induction ms using Members.ind with
  | nil => exact ⟨[], rfl, nofun, rfl⟩
  | cons name p t rest ih =>
    simp only [Members.wf, Bool.and_eq_true] at hwf
    simp only [Members.names, List.nodup_cons] at hnd
    simp only [membersOk, Bool.and_eq_true] at hok
    simp only [intsOkMembers, Bool.and_eq_true] at hint
    obtain ⟨xs', he', hn', hd'⟩ := ih hall.2 hwf.2 hnd.2 hok.2 hint.2
    cases hl : lookup name fs with
    | some v =>
      rw [hl] at hok hint
      obtain ⟨x, hex, hdx, hnx⟩ := hall.1 false name v hwf.1 hok.1 hint.1
      have hxn : x.name = name := hnx rfl
      have hrest : decMembers rest (x :: xs') = decMembers rest xs' :=
        decMembers_congr rest fun n hn => by
          rw [findKid, if_neg (by simpa [hxn] using fun e : name = n => hnd.1 (e ▸ hn))]
      refine ⟨x :: xs', by simp only [encMembers, hl, hex, he'], ?_, ?_⟩
      · intro y hy
        rcases List.mem_cons.1 hy with rfl | hy
        · exact hxn ▸ List.mem_cons_self ..
        · exact List.mem_cons_of_mem _ (hn' y hy)
      · simp only [decMembers, findKid, hxn, beq_self_eq_true, if_true, hdx, hrest, hd', canonMembersV, hl]
    | none =>
      rw [hl] at hok
      have hnone : findKid name xs' = none :=
        findKid_none_of_ne name xs' fun y hy e => hnd.1 (e ▸ hn' y hy)
      cases p with
      | mandatory => simp at hok
      | _ =>
        exact ⟨xs', by simp only [encMembers, hl, he'], fun y hy => List.mem_cons_of_mem _ (hn' y hy),
          by simp only [decMembers, hnone, hd', canonMembersV, hl]⟩

theorem rt_sequence (root : Members) (ext : Bool) (adds : Members)
    (ihr : Members.All RT root) (iha : Members.All RT adds) : RT (.sequence root ext adds) := by
  intro inList nm v hwf ht hi
  obtain ⟨fs, rfl, -⟩ := hasType_sequence ht
  obtain ⟨hwr, hwa, hnd, _⟩ := wf_sequence hwf
  obtain ⟨hokr, hoka⟩ := membersOk_of_hasType root adds ext fs hnd ht
  obtain ⟨ndr, nda, disj⟩ := List.nodup_append.mp hnd
  simp only [intsOk, Bool.and_eq_true] at hi
  obtain ⟨a, hea, hna, hda⟩ := encMembers_spec root ihr fs hwr ndr hokr hi.1
  obtain ⟨b, heb, hnb, hdb⟩ := encMembers_spec adds iha fs hwa nda hoka hi.2
  refine ⟨.elem nm [] (a ++ b), by simp only [enc, hea, heb], ?_, fun _ => rfl⟩
  have h1 : decMembers root (a ++ b) = .ok (canonMembersV root fs) :=
    (decMembers_congr root fun n hn => by
      rw [findKid_append, findKid_none_of_ne n b fun y hy e => disj n hn _ (hnb y hy) e.symm, Option.or_none]).trans hda
  have h2 : decMembers adds (a ++ b) = .ok (canonMembersV adds fs) :=
    (decMembers_congr adds fun n hn => by
      rw [findKid_append, findKid_none_of_ne n a fun y hy e => disj _ (hna y hy) n hn e, Option.none_or]).trans hdb
  simp only [dec, XmlT.kids, h1, h2, canonV]

theorem seqOf_items (e : Ty) (ih : RT e) (hwf : e.wf = true) (vs : List Val)
    (hty : ∀ v ∈ vs, hasType e v = true) (hint : ∀ v ∈ vs, intsOk e v = true) :
    ∃ xs, vs.mapM (enc e true (typeName e)) = .ok xs ∧
      xs.mapM (dec e true) = .ok (vs.map (canonV e)) := by
  induction vs with
  | nil => exact ⟨[], mapM_nil' _, mapM_nil' _⟩
  | cons v r ihr =>
    obtain ⟨x, hex, hdx, _⟩ := ih true (typeName e) v hwf (hty v (List.mem_cons_self ..))
      (hint v (List.mem_cons_self ..))
    obtain ⟨xs, hexs, hdxs⟩ := ihr (fun w hw => hty w (List.mem_cons_of_mem _ hw))
      (fun w hw => hint w (List.mem_cons_of_mem _ hw))
    exact ⟨x :: xs, by rw [mapM_cons', hex, hexs], by rw [mapM_cons', hdx, hdxs]; rfl⟩

theorem rt_sequenceOf (e : Ty) (c : SizeC) (ih : RT e) : RT (.sequenceOf e c) := by
  intro inList nm v hwf ht hi
  obtain ⟨vs, rfl, hvs, -⟩ := hasType_sequenceOf ht
  simp only [intsOk, List.all_eq_true] at hi
  obtain ⟨xs, hexs, hdxs⟩ := seqOf_items e ih (wf_sequenceOf hwf) vs hvs hi
  refine ⟨.elem nm [] xs, by simp only [enc, hexs], ?_, fun _ => rfl⟩
  simp only [dec, XmlT.kids, hdxs, canonV]

theorem rt_choice (root : Alts) (ext : Bool) (adds : Alts)
    (ihr : Alts.All RT root) (iha : Alts.All RT adds) : RT (.choice root ext adds) := by
  intro inList nm v hwf ht hi
  obtain ⟨n, v, rfl, hor⟩ := hasType_choice ht
  obtain ⟨_, t, sel, hwt, htv⟩ := Alts.sel_of_hasType hwf hor
  have ih := sel.all ihr iha
  have hit : intsOk t v = true := by
    have e := Alts.search_eq n (f := fun as => intsOkAlt as n v) fun _ _ _ => rfl
    simp only [intsOk, Bool.and_eq_true, e root, e adds] at hi
    rcases sel.finds with h | h
    · simpa only [h] using hi.1
    · simpa only [h] using hi.2
  obtain ⟨x, hex, hdx, hnx⟩ := ih false n v hwt htv hit
  have hxn : x.name = n := hnx rfl
  have e1 := Alts.search_eq n (f := fun as => encAlt as n v) fun _ _ _ => rfl
  have e2 := Alts.search_eq n (f := fun as => decAlt as n x) fun _ _ _ => rfl
  have e3 := Alts.search_eq n (f := fun as => canonAltV as n v) fun _ _ _ => rfl
  -- the three searches are opened at the selected alternative, found in the root or in the additions
  cases inList
  · refine ⟨.elem nm [] [x], ?_, ?_, fun _ => rfl⟩
    all_goals
      rcases sel.finds with h | h <;>
        simp only [enc, dec, XmlT.kids, Bool.false_eq_true, if_false, hxn, canonV, e1 root, e1 adds, e2 root, e2 adds,
          e3 root, e3 adds, h, encAlt, decAlt, canonAltV, hex, hdx]
  · refine ⟨x, ?_, ?_, nofun⟩
    all_goals
      rcases sel.finds with h | h <;>
        simp only [enc, dec, if_true, hxn, canonV, e1 root, e1 adds, e2 root, e2 adds, e3 root, e3 adds, h, encAlt,
          decAlt, canonAltV, hex, hdx]

theorem rt_all (t : Ty) : RT t :=
  Ty.induct (P := RT)
    rt_boolean rt_null rt_integer rt_enumerated rt_octetString rt_bitString rt_charString
    rt_sequence rt_sequenceOf rt_choice t

#print axioms Asn1.Xer.rt_choice

end Asn1.Xer
