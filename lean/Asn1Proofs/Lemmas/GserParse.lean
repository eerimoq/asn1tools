import Asn1Proofs.Lemmas.GserLex
/-
  `Gser.parseValue cw (Gser.renderV ind sep g) = some g`: every text the writer lays out -- for every
  white-space separator and indent width -- is parsed completely by the RFC 3641 reader, which gives back
  the tree (`parseValue_ws_renderV`; for the strict reader `cw = false` when the tree has no ChoiceValue).
  The whole text `name Name ::= Value` is `parseAssignment_render`.
-/
namespace Asn1.Gser
open Asn1.Json (isWs skipWs isDigit renderInt renderInt_head skipWs_of_not_ws skipWs_ws_append headP okFollow_not_digit)
open Asn1.Jer (hexDigitU)

/-- the trees the writer can produce, for which the reader is proved: words are words, names are identifiers, hex
digits are below 16 (`wfG`, with `nameOk` for the optional member name) -/
def nameOk : Option (List Nat) → Bool
  | some n => isIdent n
  | none => true

mutual
  def wfG : GVal → Bool
    | .word w => isWord w
    | .num _ => true
    | .hstr ds => ds.all (fun d => decide (d < 16))
    | .bstr _ => true
    | .str _ => true
    | .braces its => wfItems its
    | .choice id v => isIdent id && wfG v
  def wfItems : List (Option (List Nat) × GVal) → Bool
    | [] => true
    | (nm, v) :: r => nameOk nm && wfG v && wfItems r
end

theorem wfG_choice {id : List Nat} {v : GVal} (h : wfG (.choice id v) = true) : isIdent id = true ∧ wfG v = true := by
  rw [wfG, Bool.and_eq_true] at h
  exact h

theorem wfItems_cons {nm : Option (List Nat)} {v : GVal} {r : List (Option (List Nat) × GVal)}
    (h : wfItems ((nm, v) :: r) = true) : nameOk nm = true ∧ wfG v = true ∧ wfItems r = true := by
  rw [wfItems, Bool.and_eq_true, Bool.and_eq_true] at h
  exact ⟨h.1.1, h.1.2, h.2⟩

theorem value_open (cw : Bool) (fuel : Nat) (r : List Nat) :
    value cw (fuel + 1) (123 :: r) =
      match skipWs r with
      | [] => none
      | d :: r' =>
        if d = 125 then some (.braces [], r')
        else
          match items cw fuel (d :: r') with
          | none => none
          | some (xs, r'') => some (.braces xs, r'') := rfl

theorem value_quote (cw : Bool) (fuel : Nat) (r : List Nat) :
    value cw (fuel + 1) (34 :: r) =
      match lexStr r with
      | none => none
      | some (s, rest) => some (.str s, rest) := rfl

theorem value_apos (cw : Bool) (fuel : Nat) (r : List Nat) : value cw (fuel + 1) (39 :: r) = lexQuoted r := rfl

theorem value_word_eq (cw : Bool) (fuel : Nat) {w : List Nat} (hw : isWord w = true) (r1 : List Nat)
    (hr : headP (isWordChar · = false) r1) :
    value cw (fuel + 1) (w ++ r1) =
      match optWs cw r1 with
      | [] => some (.word w, r1)
      | d :: r3 =>
        if d = 58 then
          if isIdent w then
            match value cw fuel (optWs cw r3) with
            | none => none
            | some (v, r4) => some (.choice w v, r4)
          else none
        else some (.word w, r1) := by
  have hsp := spanWord_word hw r1 hr
  obtain ⟨c, r, rfl, hc, _, hh⟩ := isWord_parts hw
  obtain ⟨d1, d2, d3, d4, _⟩ := letter_dispatch hc
  rw [List.cons_append] at hsp ⊢
  rw [value, if_neg d1, if_neg d2, if_neg d3, if_neg d4, if_pos hc, hsp]
  simp only [hh, if_true]
  rfl

theorem value_word (cw : Bool) (w rest : List Nat) (hw : isWord w = true) (hr : okFollow rest) (fuel : Nat) :
    value cw (fuel + 1) (w ++ rest) = some (.word w, rest) := by
  rw [value_word_eq cw fuel hw rest (hr.1.mono fun c hc => (stops_table c hc).1)]
  -- no `:` follows, with or without white space
  have h58 : headP (· ≠ 58) (optWs cw rest) := by
    cases cw with
    | true => exact hr.2.mono fun c hc => by omega
    | false => exact hr.1.mono fun c hc => (stops_table c hc).2.2
  cases h : optWs cw rest with
  | nil => rfl
  | cons d r3 =>
    rw [h] at h58
    exact if_neg h58

theorem value_choice (id : List Nat) (hid : isIdent id = true) (h : Nat) (tl : List Nat) (hh : isWs h = false)
    (v : GVal) (rest : List Nat) (fuel : Nat) (hv : value true fuel (h :: tl) = some (v, rest)) :
    value true (fuel + 1) (id ++ 32 :: 58 :: 32 :: h :: tl) = some (.choice id v, rest) := by
  rw [value_word_eq true fuel (isWord_of_isIdent hid) (32 :: 58 :: 32 :: h :: tl) (show isWordChar 32 = false by decide)]
  have e1 : optWs true (32 :: 58 :: 32 :: h :: tl) = 58 :: 32 :: h :: tl := skipWs_space 58 _ (by decide)
  have e2 : optWs true (32 :: h :: tl) = h :: tl := skipWs_space h tl hh
  simp only [e1, e2, if_true, hid, hv]

theorem namePrefix_not_lower (c : Nat) (r : List Nat) (hc : isLower c = false) : namePrefix (c :: r) = none := by
  rw [namePrefix]
  simp only [hc, Bool.false_eq_true, if_false]

theorem namePrefix_word {w : List Nat} (hw : isWord w = true) (r1 : List Nat)
    (hr : headP (isWordChar · = false) r1) :
    namePrefix (w ++ r1) =
      if isIdent w then
        match r1 with
        | [] => none
        | x :: _ =>
          if isWs x then
            match skipWs r1 with
            | [] => none
            | d :: r2 => if d = 58 ∨ d = 44 ∨ d = 125 then none else some (w, d :: r2)
          else none
      else none := by
  have hsp := spanWord_word hw r1 hr
  obtain ⟨c, r, rfl, _, hall, hh⟩ := isWord_parts hw
  have hid : isIdent (c :: r) = isLower c := by
    simp only [isIdent, List.all_eq_true.mpr hall, hh, Bool.and_true]
  rw [List.cons_append] at hsp ⊢
  rw [namePrefix, hid]
  simp only [hsp, hh, if_true]
  rfl

theorem namePrefix_named (n : List Nat) (hn : isIdent n = true) (h : Nat) (tl : List Nat) (hh : valueStart h) :
    namePrefix (n ++ 32 :: h :: tl) = some (n, h :: tl) := by
  rw [namePrefix_word (isWord_of_isIdent hn) (32 :: h :: tl) (show isWordChar 32 = false by decide), if_pos hn]
  simp only [show isWs 32 = true by decide, if_true, skipWs_space h tl hh.1,
    if_neg (show ¬ (h = 58 ∨ h = 44 ∨ h = 125) from fun e => by have := hh.2; omega)]

theorem value_num (cw : Bool) (i : Int) (rest : List Nat) (hr : okFollow rest) (fuel : Nat) :
    value cw (fuel + 1) (renderInt i ++ rest) = some (.num i, rest) := by
  obtain ⟨h, tl, e, hh⟩ := renderInt_head i
  obtain ⟨d1, d2, d3, _⟩ := number_dispatch hh
  have key := lexNumber_renderInt i rest (okFollow_not_digit hr.1)
  rw [e, List.cons_append] at key ⊢
  rw [value, if_neg d1, if_neg d2, if_neg d3, if_pos hh, key]

theorem value_hstr (cw : Bool) (ds : List Nat) (hd : ∀ d ∈ ds, d < 16) (rest : List Nat) (fuel : Nat) :
    value cw (fuel + 1) ([39] ++ ds.map hexDigitU ++ [39, 72] ++ rest) = some (.hstr ds, rest) := by
  simp only [List.cons_append, List.nil_append, List.append_assoc]
  exact (value_apos cw fuel _).trans (lexQuoted_hstr ds hd rest)

theorem value_bstr (cw : Bool) (bs : List Bool) (rest : List Nat) (fuel : Nat) :
    value cw (fuel + 1) ([39] ++ bs.map bitChar ++ [39, 66] ++ rest) = some (.bstr bs, rest) := by
  simp only [List.cons_append, List.nil_append, List.append_assoc]
  exact (value_apos cw fuel _).trans (lexQuoted_bstr bs rest)

theorem value_str (cw : Bool) (cps rest : List Nat) (hr : okFollow rest) (fuel : Nat) :
    value cw (fuel + 1) ([34] ++ cps.flatMap quoteChar ++ [34] ++ rest) = some (.str cps, rest) := by
  simp only [List.cons_append, List.nil_append, List.append_assoc]
  rw [value_quote, lexStr_render cps rest (hr.1.mono fun c hc => (stops_table c hc).2.1)]

theorem renderV_head (ind : Nat) (sep : List Nat) (g : GVal) (hg : wfG g = true) :
    ∃ h tl, renderV ind sep g = h :: tl ∧ valueStart h := by
  cases g with
  | word w =>
    obtain ⟨c, r, rfl, hc, _, _⟩ := isWord_parts (show isWord w = true from hg)
    exact ⟨c, r, by rw [renderV], (letter_dispatch hc).2.2.2.2⟩
  | num i =>
    obtain ⟨h, tl, e, hh⟩ := renderInt_head i
    exact ⟨h, tl, by rw [renderV, e], (number_dispatch hh).2.2.2.2⟩
  | hstr ds => exact ⟨39, _, by rw [renderV]; rfl, by decide⟩
  | bstr bs => exact ⟨39, _, by rw [renderV]; rfl, by decide⟩
  | str cps => exact ⟨34, _, by rw [renderV]; rfl, by decide⟩
  | braces its => exact ⟨123, _, by rw [renderV]; rfl, by decide⟩
  | choice id v =>
    obtain ⟨c, r, rfl, hc, _, _⟩ := isWord_parts (isWord_of_isIdent (wfG_choice hg).1)
    exact ⟨c, _, by rw [renderV]; rfl, (letter_dispatch hc).2.2.2.2⟩

theorem item_head (ind : Nat) (msep : List Nat) (nm : Option (List Nat)) (v : GVal)
    (hn : nameOk nm = true) (hv : wfG v = true) :
    ∃ h tl, renderName nm ++ renderV ind msep v = h :: tl ∧ valueStart h := by
  cases nm with
  | none => exact renderV_head ind msep v hv
  | some n =>
    obtain ⟨c, r, rfl, hc, _, _⟩ := isWord_parts (isWord_of_isIdent hn)
    exact ⟨c, _, rfl, (letter_dispatch hc).2.2.2.2⟩

/-- a component written without an identifier is not mistaken for a NamedValue -/
theorem namePrefix_unnamed (ind : Nat) (sep : List Nat) (g : GVal) (hg : wfG g = true) (follow : List Nat)
    (hf : okFollow follow) (hne : follow ≠ []) :
    namePrefix (renderV ind sep g ++ follow) = none := by
  cases g with
  | word w =>
    rw [renderV, namePrefix_word (show isWord w = true from hg) follow (hf.1.mono fun c hc => (stops_table c hc).1)]
    cases follow with
    | nil => exact absurd rfl hne
    | cons x fr =>
      -- white space after the word is followed by `,` or `}`, not by a Value
      have h2 := hf.2
      cases hs : skipWs (x :: fr) with
      | nil => simp only [ite_self]
      | cons d r2 =>
        rw [hs] at h2
        simp only [if_pos (show d = 58 ∨ d = 44 ∨ d = 125 from by rcases h2 with h | h <;> omega), ite_self]
  | num i =>
    obtain ⟨h, tl, e, hh⟩ := renderInt_head i
    rw [renderV, e, List.cons_append]
    exact namePrefix_not_lower h _ (number_dispatch hh).2.2.2.1
  | hstr ds => rw [renderV]; exact namePrefix_not_lower 39 _ (by decide)
  | bstr bs => rw [renderV]; exact namePrefix_not_lower 39 _ (by decide)
  | str cps => rw [renderV]; exact namePrefix_not_lower 34 _ (by decide)
  | braces its => rw [renderV]; exact namePrefix_not_lower 123 _ (by decide)
  | choice id v =>
    rw [renderV]
    simp only [List.cons_append, List.nil_append, List.append_assoc]
    rw [namePrefix_word (isWord_of_isIdent (wfG_choice hg).1) (32 :: 58 :: 32 :: (renderV ind sep v ++ follow))
      (show isWordChar 32 = false by decide)]
    simp only [show isWs 32 = true by decide, if_true, skipWs_space 58 _ (show isWs 58 = false by decide), true_or,
      ite_self]

theorem itemStart_render (ind : Nat) (msep : List Nat) (nm : Option (List Nat)) (v : GVal) (hn : nameOk nm = true)
    (hv : wfG v = true) (follow : List Nat) (hf : okFollow follow) (hne : follow ≠ []) :
    itemStart ((renderName nm ++ renderV ind msep v) ++ follow) = (nm, renderV ind msep v ++ follow) := by
  unfold itemStart
  cases nm with
  | none => rw [renderName, List.nil_append, namePrefix_unnamed ind msep v hv _ hf hne]
  | some n =>
    obtain ⟨h, tl, e, hh⟩ := renderV_head ind msep v hv
    rw [renderName, e]
    simp only [List.append_assoc, List.cons_append, List.nil_append]
    rw [namePrefix_named n hn h _ hh]

theorem okFollow_items (ind : Nat) (msep : List Nat) (xs : List (Option (List Nat) × GVal)) (w rest : List Nat)
    (hw : ∀ c ∈ w, isWs c = true) :
    okFollow (commaIf xs ++ (renderItems ind msep xs ++ (w ++ 125 :: rest))) ∧
      commaIf xs ++ (renderItems ind msep xs ++ (w ++ 125 :: rest)) ≠ [] := by
  cases xs with
  | nil => exact ⟨by rw [commaIf_nil, renderItems]; exact okFollow_close w rest hw, by simp [commaIf_nil, renderItems]⟩
  | cons x xs => exact ⟨okFollow_comma _, List.cons_ne_nil _ _⟩

theorem skipWs_renderItems (ind : Nat) (msep : List Nat) (hm : ∀ c ∈ msep, isWs c = true) (nm : Option (List Nat))
    (v : GVal) (hn : nameOk nm = true) (hv : wfG v = true) (xs : List (Option (List Nat) × GVal)) (tail : List Nat) :
    ∃ h tl, valueStart h ∧ skipWs (renderItems ind msep ((nm, v) :: xs) ++ tail) = h :: tl ∧
      (renderName nm ++ renderV ind msep v) ++ (commaIf xs ++ (renderItems ind msep xs ++ tail)) = h :: tl := by
  obtain ⟨h, tl, e, hh⟩ := item_head ind msep nm v hn hv
  rw [renderItems_cons_append, skipWs_ws_append msep _ hm, e, List.cons_append, skipWs_of_not_ws h _ hh.1]
  exact ⟨h, _, hh, rfl, rfl⟩

/-- Induction on the fuel, of which the reader spends one unit per call: with more than twice the remaining
input it reads back a rendered value, and the components of `{ … }` up to the closing brace (twice: a
component costs one call of `items` and one of `value` and is at least one character long).
`cw = true`: the X.680 reading (white space around `:`); `cw = false`: the strict ABNF, which reads every
text without a ChoiceValue. -/
theorem render_inv (cw : Bool) (ind fuel : Nat) :
    (∀ g (sep rest : List Nat), wfG g = true → (cw = true ∨ hasChoiceText g = false) →
      (∀ c ∈ sep, isWs c = true) → okFollow rest → 2 * (renderV ind sep g ++ rest).length + 1 ≤ fuel →
      value cw fuel (renderV ind sep g ++ rest) = some (g, rest)) ∧
    (∀ nm v xs (msep w rest : List Nat), wfItems ((nm, v) :: xs) = true → (cw = true ∨ hasChoiceItems ((nm, v) :: xs) = false) →
      (∀ c ∈ msep, isWs c = true) → (∀ c ∈ w, isWs c = true) →
      2 * (renderItems ind msep ((nm, v) :: xs) ++ (w ++ 125 :: rest)).length + 2 ≤ fuel →
      items cw fuel (skipWs (renderItems ind msep ((nm, v) :: xs) ++ (w ++ 125 :: rest))) =
        some ((nm, v) :: xs, rest)) := by
  induction fuel with
  | zero => exact ⟨fun _ _ _ _ _ _ _ hf => by omega, fun _ _ _ _ _ _ _ _ _ _ hf => by omega⟩
  | succ f ih =>
    obtain ⟨ihv, ihi⟩ := ih
    refine ⟨?_, ?_⟩
    · intro g sep rest hg hc hs hr hf
      match g, hg, hc with
      | .word w, hg, _ => rw [renderV]; exact value_word cw w rest hg hr f
      | .num i, _, _ => rw [renderV]; exact value_num cw i rest hr f
      | .hstr ds, hg, _ =>
        rw [renderV]
        exact value_hstr cw ds (fun d hd => of_decide_eq_true (List.all_eq_true.mp hg d hd)) rest f
      | .bstr bs, _, _ => rw [renderV]; exact value_bstr cw bs rest f
      | .str cps, _, _ => rw [renderV]; exact value_str cw cps rest hr f
      | .braces [], _, _ =>
        rw [renderV_braces_append, renderItems, List.nil_append, value_open, skipWs_ws_append sep _ hs,
          skipWs_of_not_ws 125 _ (by decide)]
        rfl
      | .braces ((nm, v) :: xs), hg, hc =>
        rw [hasChoiceText] at hc
        obtain ⟨hn, hv, _⟩ := wfItems_cons (show wfItems ((nm, v) :: xs) = true from hg)
        have hm := replicate_ws sep ind hs
        obtain ⟨h, tl, hh, e, _⟩ := skipWs_renderItems ind _ hm nm v hn hv xs (sep ++ 125 :: rest)
        have hi := ihi nm v xs _ sep rest hg hc hm hs
        rw [renderV_braces_append] at hf ⊢
        rw [value_open, e]
        rw [e] at hi
        simp only [if_neg hh.2.1, hi (by rw [List.length_cons] at hf; omega)]
      | .choice id v, hg, hc =>
        have hcw : cw = true := hc.resolve_right (by rw [hasChoiceText]; exact Bool.noConfusion)
        subst hcw
        replace hg := wfG_choice hg
        obtain ⟨h, tl, e, hh⟩ := renderV_head ind sep v hg.2
        have hv := ihv v sep rest hg.2 (Or.inl rfl) hs hr
        rw [renderV] at hf ⊢
        simp only [List.cons_append, List.nil_append, List.append_assoc] at hf ⊢
        rw [e, List.cons_append] at hv hf ⊢
        exact value_choice id hg.1 h _ hh.1 v rest f (hv (by
          simp only [List.length_append, List.length_cons] at hf ⊢; omega))
    · intro nm v xs msep w rest hl hc hm hw hf
      obtain ⟨hn, hv, hxs⟩ := wfItems_cons hl
      have hc' := hc.imp_right fun h =>
        Bool.or_eq_false_iff.mp (show (hasChoiceText v || hasChoiceItems xs) = false from h)
      obtain ⟨h, tl, _, e1, e2⟩ := skipWs_renderItems ind msep hm nm v hn hv xs (w ++ 125 :: rest)
      obtain ⟨hfo, hne⟩ := okFollow_items ind msep xs w rest hw
      rw [renderItems_cons_append] at hf
      -- The fuel bounds here and below are refuted (`hlt`) rather than proved as `_ ≤ f`: both work, this form is
      -- the cheaper to check.
      rw [e1, ← e2, items, itemStart_render ind msep nm v hn hv _ hfo hne,
        ihv v msep _ hv (hc'.imp_right And.left) hm hfo (Nat.le_of_not_lt fun hlt => by
          simp only [List.length_append] at hf hlt; omega)]
      match xs, hxs, hc'.imp_right And.right with
      | [], _, _ =>
        simp only [commaIf_nil, renderItems, List.nil_append, skipWs_ws_append w _ hw,
          skipWs_of_not_ws 125 rest (show isWs 125 = false by decide), show ¬ (125 : Nat) = 44 by decide, if_false,
          if_true]
      | (nm', v') :: ys, hys, hcys =>
        rw [commaIf_cons, List.cons_append, List.nil_append] at hf ⊢
        simp only [skipWs_of_not_ws 44 _ (show isWs 44 = false by decide), if_true,
          ihi nm' v' ys msep w rest hys hcys hm hw (Nat.le_of_not_lt fun hlt => by
            simp only [List.length_append, List.length_cons] at hf hlt; omega)]

theorem items_render (cw : Bool) (ind : Nat) (l : List (Option (List Nat) × GVal)) (hne : l ≠ []) (hl : wfItems l = true)
      (hc : cw = true ∨ hasChoiceItems l = false)
      (msep w rest : List Nat) (hm : ∀ c ∈ msep, isWs c = true) (hw : ∀ c ∈ w, isWs c = true) (fuel : Nat)
      (hf : 2 * (renderItems ind msep l ++ (w ++ 125 :: rest)).length + 2 ≤ fuel) :
      match (generalizing := false) l with
      | [] => True
      | (nm, v) :: xs =>
        items cw fuel (renderName nm ++ (renderV ind msep v ++ (commaIf xs ++ (renderItems ind msep xs ++
          (w ++ 125 :: rest))))) = some (l, rest) := by
  match l, hne, hl, hc, hf with
  | [], hne, _, _, _ => exact absurd rfl hne
  | (nm, v) :: xs, _, hl, hc, hf =>
    obtain ⟨hn, hv, _⟩ := wfItems_cons hl
    obtain ⟨h, tl, _, e1, e2⟩ := skipWs_renderItems ind msep hm nm v hn hv xs (w ++ 125 :: rest)
    show items cw fuel _ = _
    rw [← List.append_assoc (renderName nm), e2, ← e1]
    exact (render_inv cw ind fuel).2 nm v xs msep w rest hl hc hm hw hf

theorem parseValue_ws_renderV (cw : Bool) (ind : Nat) (sep : List Nat) (g : GVal) (hg : wfG g = true)
    (hc : cw = true ∨ hasChoiceText g = false)
    (hs : ∀ c ∈ sep, isWs c = true) (w : List Nat) (hw : ∀ c ∈ w, isWs c = true) :
    parseValue cw (w ++ renderV ind sep g) = some g := by
  obtain ⟨h, tl, e, hh⟩ := renderV_head ind sep g hg
  have key := (render_inv cw ind (2 * (w ++ renderV ind sep g).length + 2)).1 g sep [] hg hc hs okFollow_nil (by
    simp only [List.append_nil, List.length_append]; omega)
  rw [List.append_nil] at key
  rw [parseValue, skipWs_ws_append w _ hw]
  have : skipWs (renderV ind sep g) = renderV ind sep g := by
    rw [e]; exact skipWs_of_not_ws h _ hh.1
  rw [this, key]
  rfl

theorem render_eq (indent : Option Nat) (g : GVal) :
    ∃ ind sep, (∀ c ∈ sep, isWs c = true) ∧ render indent g = renderV ind sep g := by
  cases indent with
  | none => exact ⟨0, [32], ws_sp, rfl⟩
  | some n => exact ⟨n, [10], ws_nl, rfl⟩

theorem parseValue_ws_render (cw : Bool) (indent : Option Nat) (g : GVal) (hg : wfG g = true)
    (hc : cw = true ∨ hasChoiceText g = false) (w : List Nat) (hw : ∀ c ∈ w, isWs c = true) :
    parseValue cw (w ++ render indent g) = some g := by
  obtain ⟨ind, sep, hs, e⟩ := render_eq indent g
  rw [e]
  exact parseValue_ws_renderV cw ind sep g hg hc hs w hw

theorem parseValue_render (cw : Bool) (indent : Option Nat) (g : GVal) (hg : wfG g = true)
    (hc : cw = true ∨ hasChoiceText g = false) :
    parseValue cw (render indent g) = some g :=
  parseValue_ws_render cw indent g hg hc [] (List.forall_mem_nil _)

/-- `lstrip(' ')` does nothing: a rendered value never starts with a space -/
theorem lstrip_render (indent : Option Nat) (g : GVal) (hg : wfG g = true) :
    lstrip (render indent g) = render indent g := by
  obtain ⟨ind, sep, _, e⟩ := render_eq indent g
  obtain ⟨h, tl, e', hh⟩ := renderV_head ind sep g hg
  rw [e, e', lstrip, if_neg (by intro h32; subst h32; exact absurd hh.1 (by decide))]

theorem lowerAscii_wordChar {c : Nat} (h : isWordChar c = true) : isWordChar (lowerAscii c) = true := by
  have := isWordChar_cases h
  unfold lowerAscii
  split
  · simp only [isWordChar, isLetter, isLower, isUpper, isDigit, Bool.or_eq_true, Bool.and_eq_true,
      decide_eq_true_eq, beq_iff_eq]; omega
  · exact h

theorem lowerAscii_eq_45 (c : Nat) : (lowerAscii c == 45) = (c == 45) := by
  unfold lowerAscii
  split
  · rename_i h
    have h1 : (c + 32 == 45) = false := by simp; omega
    have h2 : (c == 45) = false := by simp; omega
    rw [h1, h2]
  · rfl

theorem hyphensOk_lower (w : List Nat) : hyphensOk (w.map lowerAscii) = hyphensOk w := by
  induction w with
  | nil => rfl
  | cons c r ih =>
    cases r with
    | nil => simp only [List.map_cons, List.map_nil, hyphensOk, bne, lowerAscii_eq_45]
    | cons d r' =>
      simp only [List.map_cons] at ih ⊢
      rw [hyphensOk, hyphensOk, ih]
      simp only [lowerAscii_eq_45]

theorem isIdent_lower_of_isTypeRef {w : List Nat} (h : isTypeRef w = true) : isIdent (w.map lowerAscii) = true := by
  cases w with
  | nil => simp [isTypeRef] at h
  | cons c r =>
    simp only [isTypeRef, Bool.and_eq_true, List.all_eq_true] at h
    obtain ⟨⟨hu, hall⟩, hh⟩ := h
    have hl : isLower (lowerAscii c) = true := by
      simp only [isUpper, Bool.and_eq_true, decide_eq_true_eq] at hu
      simp only [lowerAscii, if_pos hu, isLower, Bool.and_eq_true, decide_eq_true_eq]
      omega
    rw [← hyphensOk_lower] at hh
    simp only [List.map_cons] at hh
    simp only [List.map_cons, isIdent, hl, hh, Bool.true_and, Bool.and_true, List.all_eq_true]
    intro x hx
    obtain ⟨y, hy, rfl⟩ := List.mem_map.mp (List.map_cons ▸ hx)
    exact lowerAscii_wordChar (hall y hy)

theorem parseAssignment_render (cw : Bool) (tn : List Nat) (htn : isTypeRef tn = true) (indent : Option Nat) (g : GVal)
    (hg : wfG g = true) (hcc : cw = true ∨ hasChoiceText g = false) :
    parseAssignment cw (tn.map lowerAscii ++ [32] ++ tn ++ [32] ++ kAssign ++ [32] ++ lstrip (render indent g))
      = some (tn.map lowerAscii, tn, g) := by
  rw [lstrip_render indent g hg]
  have hvn := isIdent_lower_of_isTypeRef htn
  have hwv := isWord_of_isIdent hvn
  have hwt := isWord_of_isTypeRef htn
  have h32 : isWordChar 32 = false := by decide
  simp only [List.append_assoc, List.cons_append, List.nil_append]
  unfold parseAssignment
  rw [skipWs_word hwv, spanWord_word hwv (32 :: (tn ++ 32 :: (kAssign ++ 32 :: render indent g))) h32]
  simp only [hvn, if_true]
  have hs1 : skipWs (32 :: (tn ++ 32 :: (kAssign ++ 32 :: render indent g)))
      = tn ++ 32 :: (kAssign ++ 32 :: render indent g) := by
    rw [skipWs, if_pos (by decide), skipWs_word hwt]
  rw [hs1, spanWord_word hwt (32 :: (kAssign ++ 32 :: render indent g)) h32, if_pos ⟨htn, List.cons_ne_self _ _⟩]
  have hs2 : skipWs (32 :: (kAssign ++ 32 :: render indent g)) = 58 :: 58 :: 61 :: 32 :: render indent g :=
    skipWs_space 58 _ (by decide)
  simp only [hs2]
  rw [if_pos (by rfl)]
  simp only [List.drop_succ_cons, List.drop_zero]
  rw [show parseValue cw (32 :: render indent g) = some g from parseValue_ws_render cw indent g hg hcc [32] ws_sp]

end Asn1.Gser
