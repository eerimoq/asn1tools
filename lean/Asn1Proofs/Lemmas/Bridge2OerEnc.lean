import Asn1Proofs.Lemmas.Bridge2Defs
import Asn1Proofs.Lemmas.ExceptLemmas
/-
  The translated `oer.Encoder` against the bit-list abstraction `oEncBits` and the byte writers of `Asn1Model/Oer.lean`;
  `append_length_determinant` and `append_integer` with their loop and selection resolved.  The theorems, method by method,
  are in `Properties/C06u.lean`.
-/
namespace Asn1.Bridge
open Asn1 Asn1.Translated
open Asn1.Uper (Err)

/-- representation invariant of `oer.Encoder`: `EncInv` without the chunk fields (this class never flushes) -/
structure OEncInv (s : oer_EncoderS) : Prop where
  nb : 0 ≤ s.number_of_bits
  v0 : 0 ≤ s.value
  vlt : s.value < 2 ^ s.number_of_bits.toNat

/-- the bits written so far -/
def oEncBits (s : oer_EncoderS) : Bits := natToBits s.number_of_bits.toNat s.value.toNat

theorem oEncBits_length (s : oer_EncoderS) : (oEncBits s).length = s.number_of_bits.toNat := by
  unfold oEncBits; rw [natToBits_length]

theorem o_push_core (s : oer_EncoderS) (h : OEncInv s) (v n : Nat) (hv : v < 2 ^ n) (x : Int)
    (hx : x = s.value * 2 ^ n + (v : Int)) :
    OEncInv { number_of_bits := s.number_of_bits + (n : Int), value := x } ∧
    oEncBits { number_of_bits := s.number_of_bits + (n : Int), value := x } = oEncBits s ++ natToBits n v :=
  have ⟨⟨a, b, c⟩, d⟩ := word_push h.nb h.v0 h.vlt v n hv x hx
  ⟨⟨a, b, c⟩, d⟩

/-- a writer that can raise, against the model's octets: on success they are appended to the bits of `s`, and both fail
together (`errOk`) -/
def OEncRefines (s : oer_EncoderS) : Except String oer_EncoderS → Except Err Bytes → Prop
  | .ok s', .ok bs => OEncInv s' ∧ oEncBits s' = oEncBits s ++ bytesToBits bs
  | .error e, .error m => errOk m e
  | _, _ => False

theorem oer_length_determinant_unfold (s : oer_EncoderS) (n : Nat) :
    oer_Encoder_append_length_determinant s n =
      if n < 128 then .ok (oer_Encoder_append_non_negative_binary_integer s n 8)
      else if (natToBytesMin n).length > 127 then .error "EncodeError"
      else .ok (oer_Encoder_append_bytes
        (oer_Encoder_append_u8 s (Py.bor 128 ((natToBytesMin n).length : Int))) (ofNats (natToBytesMin n))) := by
  unfold oer_Encoder_append_length_determinant
  rw [Py.ite_natCast_lt n 128 128 rfl]
  by_cases c1 : n < 128
  · rw [if_pos c1, if_pos c1]; rfl
  rw [if_neg c1, if_neg c1]
  have hl := bytes_loop (fun fuel x a => oer_Encoder_append_length_determinant_loop1 fuel s x a) .ok (fun _ _ _ => rfl)
    (1 + Py.fuelOfInt s.number_of_bits + Py.fuelOfInt s.value + Py.fuelOfInt (n : Int)
      + Py.fuelOfList ([] : List Int)) n (by rw [Py.fuelOfInt_natCast]; omega)
  simp only [bind, Except.bind, hl, Py.len_eq, ofNats_length,
    List.length_reverse, ofNats_reverse, List.reverse_reverse]
  by_cases c2 : (natToBytesMin n).length > 127
  · rw [decide_eq_true (show ((natToBytesMin n).length : Int) > 127 by omega), if_pos c2]; rfl
  · rw [decide_eq_false (show ¬ ((natToBytesMin n).length : Int) > 127 by omega), if_neg c2]; rfl

/-- `append_integer` has the text of `per.Encoder.append_unconstrained_whole_number`, so the selection is `uncSel` again
(same case tree as `unconstrained_unfold`); the difference is that the shifts are the checked `shlE` here, and `neg_case`
is called only for `1 ≤ nb`, which makes their counts `8 nb`, `8 nb - 1` non-negative. -/
theorem oer_integer_unfold (s : oer_EncoderS) (i : Int) :
    oer_Encoder_append_integer s i =
      (oer_Encoder_append_length_determinant s (uncSel i).1).map
        (fun s' => oer_Encoder_append_non_negative_binary_integer s' (uncSel i).2 (8 * (uncSel i).1)) := by
  unfold oer_Encoder_append_integer
  refine (bind_eq_of_ok (a := uncSel i) ?_).trans ?_
  · unfold uncSel
    by_cases c1 : i < 0
    · obtain ⟨M, _, hM1, hfd⟩ := neg_view c1
      generalize hnb : (bitLength M + 7) / 8 = nb at hfd
      obtain ⟨n1, _, _⟩ := neg_case M nb hM1 hnb
      rw [if_pos (decide_eq_true c1), if_pos c1, hfd]
      dsimp only
      rw [shlE_of_nonneg 1 (8 * (nb : Int)) (by omega), ok_bind,
        shlE_of_nonneg 1 (8 * (nb : Int) - 1) (by omega), ok_bind, shlE_of_nonneg 255 (8 * (nb : Int)) (by omega)]
      by_cases c2 : Py.band (Py.shl 1 (8 * (nb : Int)) + i) (Py.shl 1 (8 * (nb : Int) - 1)) = 0
      · rw [if_pos (decide_eq_true c2), if_pos c2]; rfl
      · rw [if_neg (fun h => c2 (of_decide_eq_true h)), if_neg c2]; rfl
    · rw [if_neg (fun h => c1 (of_decide_eq_true h)), if_neg c1]
      by_cases c2 : i > 0
      · rw [if_pos (decide_eq_true c2), if_pos c2]
        by_cases c3 : Py.bitLength i = 8 * Py.fdiv (Py.bitLength i + 7) 8
        · dsimp only
          rw [if_pos (decide_eq_true c3), if_pos c3]; rfl
        · dsimp only
          rw [if_neg (fun h => c3 (of_decide_eq_true h)), if_neg c3]; rfl
      · rw [if_neg (fun h => c2 (of_decide_eq_true h)), if_neg c2]; rfl
  · obtain ⟨nb, v⟩ := uncSel i
    dsimp only
    cases oer_Encoder_append_length_determinant s nb <;> rfl

end Asn1.Bridge
