import Asn1Proofs.Lemmas.CCursorOerBase
/-
  C10, encoder layer: every encoder helper of the OER C library model equals a sequence of
  specification-level `put`s of explicitly given bytes (`run_eq`), from which absence of faults,
  preservation of the invariant, the frozen latch and the short-buffer behaviour follow.
-/
namespace Asn1.C10
open Asn1.CCursor Asn1.CCursorOer

/-- the octets `encoder_append_uint16/32/64` hand to `encoder_append_bytes`, most significant first: as lists, what
`CCursor.bytesU16/32/64` (the same C expressions in the UPER library) are as `Mem` -/
def be16 (v : UInt16) : List UInt8 := [UInt8.ofNat (v.toNat >>> 8), UInt8.ofNat v.toNat]

def be32 (v : UInt32) : List UInt8 :=
  [(v >>> 24).toUInt8, (v >>> 16).toUInt8, (v >>> 8).toUInt8, v.toUInt8]

def be64 (v : UInt64) : List UInt8 :=
  [(v >>> 56).toUInt8, (v >>> 48).toUInt8, (v >>> 40).toUInt8, (v >>> 32).toUInt8,
   (v >>> 24).toUInt8, (v >>> 16).toUInt8, (v >>> 8).toUInt8, v.toUInt8]

/-- `encoder_append_long_uint`: the `n` low-order bytes of the object representation, reversed -/
def luintBytes (v : UInt64) (n : UInt8) : List UInt8 :=
  ((OEnc.u64Object v).toList.take n.toNat).reverse

/-- bytes of `encoder_append_uint` (one chunk per `encoder_append_bytes` call) -/
def uintChunks (v : UInt32) (n : UInt8) : List (List UInt8) :=
  if n = 1 then [[v.toUInt8]]
  else if n = 2 then [be16 v.toUInt16]
  else if n = 3 then [[(v >>> 16).toUInt8], be16 v.toUInt16]
  else [be32 v]

/-- bytes of `encoder_append_int`: the casts `(int8_t)`, `(int16_t)`, `(uint32_t)` of the C text, then as `uintChunks` -/
def intChunks (v : Int32) (n : UInt8) : List (List UInt8) :=
  if n = 1 then [[v.toInt8.toUInt8]]
  else if n = 2 then [be16 v.toInt16.toUInt16]
  else if n = 3 then [[(v.toUInt32 >>> 16).toUInt8], be16 v.toInt16.toUInt16]
  else [be32 v.toUInt32]

/-- bytes of `encoder_append_length_determinant`; the short form goes through `encoder_append_int8((int8_t)length)`,
hence the casts of its first branch -/
def lenDetChunks (n : UInt32) : List (List UInt8) :=
  if n.toNat < 128 then [[n.toUInt8.toInt8.toUInt8]]
  else if n.toNat < 256 then [[0x81], [n.toUInt8]]
  else if n.toNat < 65536 then [[0x82], be16 n.toUInt16]
  else if n.toNat < 16777216 then [be32 (n ||| ((0x83 : UInt32) <<< 24))]
  else [[0x84], be32 n]

/-- the chunks an encoder operation appends (one per `encoder_append_bytes` call) -/
def chunks : OEncOp → List (List UInt8)
  | .bool b => [[if b then 255 else 0]]
  | .bytes src n => [src.toList.take n.toNat]
  | .u8 v => [[v]] | .u16 v => [be16 v] | .u32 v => [be32 v] | .u64 v => [be64 v]
  | .i8 v => [[v.toUInt8]] | .i16 v => [be16 v.toUInt16] | .i32 v => [be32 v.toUInt32]
  | .i64 v => [be64 v.toUInt64]
  | .uint v n => uintChunks v n
  | .luint v n _ => [luintBytes v n]
  | .int v n => intChunks v n
  | .f32 b => [be32 b] | .f64 b => [be64 b]
  | .lendet n => lenDetChunks n
  | .abort _ => []

/-- argument preconditions of the encoder helpers -/
def _root_.Asn1.CCursorOer.OEncOp.Pre : OEncOp → Prop
  | .bytes src n => n.toNat ≤ src.size ∧ n.toNat < 4611686018427387904
  | .luint _ n junk => n.toNat ≤ 8 ∧ junk.size = 8
  | .abort err => 0 < err ∧ err ≤ 4611686018427387904
  | _ => True

/-- the operation is an explicit `encoder_abort`: the one helper that does not go through `encoder_append_bytes` -/
def _root_.Asn1.CCursorOer.OEncOp.isAbort : OEncOp → Prop
  | .abort _ => True
  | _ => False

theorem appendU8_eq {e : OEnc} (h : EInv e) (v : UInt8) : e.appendU8 v = .ok (e.put [v]) :=
  appendBytes_eq h #[v] 1 (by decide) (Nat.le_refl _)

theorem appendU16_eq {e : OEnc} (h : EInv e) (v : UInt16) : e.appendU16 v = .ok (e.put (be16 v)) := by
  unfold OEnc.appendU16
  rw [shrS32_ok (by decide), ok_bind]
  exact appendBytes_eq h _ 2 (by decide) (Nat.le_refl _)

theorem appendU32_eq {e : OEnc} (h : EInv e) (v : UInt32) : e.appendU32 v = .ok (e.put (be32 v)) := by
  unfold OEnc.appendU32
  rw [shrU32_ok (by decide), ok_bind, shrU32_ok (by decide), ok_bind, shrU32_ok (by decide), ok_bind]
  exact appendBytes_eq h _ 4 (by decide) (Nat.le_refl _)

theorem appendU64_eq {e : OEnc} (h : EInv e) (v : UInt64) : e.appendU64 v = .ok (e.put (be64 v)) := by
  unfold OEnc.appendU64
  rw [shrU64_ok (by decide), ok_bind, shrU64_ok (by decide), ok_bind, shrU64_ok (by decide), ok_bind,
    shrU64_ok (by decide), ok_bind, shrU64_ok (by decide), ok_bind, shrU64_ok (by decide), ok_bind,
    shrU64_ok (by decide), ok_bind]
  exact appendBytes_eq h _ 8 (by decide) (Nat.le_refl _)

theorem array_of_size_eight (m : Mem) (h : m.size = 8) : ∃ a b c d e f g i, m = #[a, b, c, d, e, f, g, i] := by
  obtain ⟨l⟩ := m
  match l, h with
  | [a, b, c, d, e, f, g, i], _ => exact ⟨a, b, c, d, e, f, g, i, rfl⟩

theorem uint8_cases_1_4 (k : UInt8) (hk : 1 ≤ k.toNat ∧ k.toNat ≤ 4) : k = 1 ∨ k = 2 ∨ k = 3 ∨ k = 4 := by
  simp only [← UInt8.toNat_inj, UInt8.reduceToNat]
  omega

theorem longUintLoop_eq (v : UInt64) (n : UInt8) (hn : n.toNat ≤ 8) (junk : Mem) (hj : junk.size = 8) :
    ∃ buf, OEnc.longUintLoop (OEnc.u64Object v) n n.toNat 0 junk = .ok buf ∧ buf.size = 8 ∧
      buf.toList.take n.toNat = luintBytes v n := by
  obtain ⟨a, b, c, d, e, f, g, i, rfl⟩ := array_of_size_eight junk hj
  have hc : n = 0 ∨ n = 1 ∨ n = 2 ∨ n = 3 ∨ n = 4 ∨ n = 5 ∨ n = 6 ∨ n = 7 ∨ n = 8 := by
    simp only [← UInt8.toNat_inj, UInt8.reduceToNat]
    omega
  rcases hc with h | h | h | h | h | h | h | h | h <;> subst h <;>
    simp [OEnc.longUintLoop, OEnc.u64Object, luintBytes, Mem.load, Mem.store, Mem.ptr, bind, Except.bind]

theorem appendLongUint_eq {e : OEnc} (h : EInv e) (v : UInt64) (n : UInt8) (hn : n.toNat ≤ 8)
    (junk : Mem) (hj : junk.size = 8) :
    e.appendLongUint v n junk = .ok (e.put (luintBytes v n)) := by
  obtain ⟨buf, h1, h2, h3⟩ := longUintLoop_eq v n hn junk hj
  have hsz : n.toUInt64.toNat = n.toNat := by simp
  unfold OEnc.appendLongUint
  rw [h1, ok_bind, appendBytes_eq h _ _ (by omega) (by omega), hsz, h3]

theorem appendUint_eq {e : OEnc} (h : EInv e) (v : UInt32) (n : UInt8) :
    e.appendUint v n = .ok (e.putAll (uintChunks v n)) := by
  unfold OEnc.appendUint uintChunks
  simp only [apply_ite e.putAll, apply_ite Except.ok]
  refine ite_congr rfl (fun _ => appendU8_eq h _) fun _ => ite_congr rfl (fun _ => appendU16_eq h _) fun _ =>
    ite_congr rfl (fun _ => ?_) fun _ => appendU32_eq h _
  rw [shrU32_ok (by decide), ok_bind, appendU8_eq h, ok_bind, appendU16_eq (put_inv h _)]
  rfl

theorem appendInt_eq {e : OEnc} (h : EInv e) (v : Int32) (n : UInt8) :
    e.appendInt v n = .ok (e.putAll (intChunks v n)) := by
  unfold OEnc.appendInt intChunks
  simp only [apply_ite e.putAll, apply_ite Except.ok]
  refine ite_congr rfl (fun _ => appendU8_eq h _) fun _ => ite_congr rfl (fun _ => appendU16_eq h _) fun _ =>
    ite_congr rfl (fun _ => ?_) fun _ => appendU32_eq h _
  rw [shrU32_ok (by decide), ok_bind, appendU8_eq h, ok_bind]
  exact appendU16_eq (put_inv h _) _

theorem appendLengthDeterminant_eq {e : OEnc} (h : EInv e) (n : UInt32) :
    e.appendLengthDeterminant n = .ok (e.putAll (lenDetChunks n)) := by
  unfold OEnc.appendLengthDeterminant lenDetChunks
  simp only [apply_ite e.putAll, apply_ite Except.ok]
  refine ite_congr rfl (fun _ => appendU8_eq h _) fun _ => ite_congr rfl (fun _ => ?_) fun _ =>
    ite_congr rfl (fun _ => ?_) fun _ => ite_congr rfl (fun _ => ?_) fun _ => ?_
  · rw [appendU8_eq h, ok_bind]; exact appendU8_eq (put_inv h _) _
  · rw [appendU8_eq h, ok_bind]; exact appendU16_eq (put_inv h _) _
  · rw [shlU32_ok (by decide), ok_bind]; exact appendU32_eq h _
  · rw [appendU8_eq h, ok_bind]; exact appendU32_eq (put_inv h _) _

theorem run_eq {e : OEnc} (h : EInv e) (op : OEncOp) (hp : op.Pre) (hna : ¬ op.isAbort) :
    e.run op = .ok (e.putAll (chunks op)) := by
  cases op with
  | bool _ | u8 _ | i8 _ => exact appendU8_eq h _
  | u16 _ | i16 _ => exact appendU16_eq h _
  | u32 _ | i32 _ | f32 _ => exact appendU32_eq h _
  | u64 _ | i64 _ | f64 _ => exact appendU64_eq h _
  | bytes src n => exact appendBytes_eq h src n hp.2 hp.1
  | uint v n => exact appendUint_eq h v n
  | luint v n junk => exact appendLongUint_eq h v n hp.1 junk hp.2
  | int v n => exact appendInt_eq h v n
  | lendet n => exact appendLengthDeterminant_eq h n
  | abort err => exact absurd trivial hna

theorem abort_eq {e : OEnc} (err : Int) (hp : 0 < err ∧ err ≤ 4611686018427387904) :
    e.abort err = .ok (if e.size ≥ 0 then e.latch err else e) := by
  unfold OEnc.abort
  split
  · rw [ssz_ok (by omega) (by omega)]; rfl
  · rfl

theorem EInv_abort {e : OEnc} (h : EInv e) (err : Int) (hp : 0 < err ∧ err ≤ 4611686018427387904) :
    EInv (if e.size ≥ 0 then e.latch err else e) := by
  split
  · exact latch_inv h hp
  · exact h

theorem run_latched {e : OEnc} (h : EInv e) (hl : e.size < 0) (op : OEncOp) (hp : op.Pre) :
    e.run op = .ok e := by
  cases op with
  | abort err => exact (abort_eq err hp).trans (by rw [if_neg (by omega)])
  | _ => rw [run_eq h _ hp id, putAll_latched hl]

theorem init_eq (buf : Mem) (size : UInt64) (h : size.toNat < 4611686018427387904) :
    OEnc.init buf size = .ok { buf := buf, size := size.toNat, pos := 0 } := by
  simp [OEnc.init, toSsize_small (n := size) (by omega)]

theorem EInv_init (buf : Mem) (size : UInt64) (h : size.toNat = buf.size)
    (hb : buf.size < 4611686018427387904) :
    EInv { buf := buf, size := size.toNat, pos := 0 } :=
  ⟨hb, Or.inl ⟨by simp, by simp only; omega, by simp only; omega⟩⟩

theorem putAll_append (e : OEnc) (a b : List (List UInt8)) : e.putAll (a ++ b) = (e.putAll a).putAll b := by
  induction a generalizing e with
  | nil => rfl
  | cons c a ih => exact ih (e.put c)

theorem runAll_eq (ops : List OEncOp) : ∀ {e : OEnc}, EInv e → (∀ op ∈ ops, op.Pre ∧ ¬ op.isAbort) →
    e.runAll ops = .ok (e.putAll (ops.flatMap chunks)) := by
  induction ops with
  | nil => intro e _ _; rfl
  | cons op ops ih =>
    intro e h hp
    rw [OEnc.runAll, run_eq h op (hp op (by simp)).1 (hp op (by simp)).2, ok_bind,
      ih (putAll_inv h _) (fun o ho => hp o (by simp [ho])), List.flatMap_cons, putAll_append]

/-- the bytes `op` appends -/
def need (op : OEncOp) : Nat := ((chunks op).map List.length).sum

theorem need_def (op : OEncOp) : ((chunks op).map List.length).sum = need op := rfl

theorem need_eq_length (op : OEncOp) : need op = (chunks op).flatten.length := by
  rw [need, List.length_flatten]

theorem length_flatMap_chunks (ops : List OEncOp) :
    ((ops.flatMap chunks).flatten.length : Nat) = (ops.map need).sum := by
  induction ops with
  | nil => rfl
  | cons op ops ih => simp [List.flatMap_cons, need_eq_length, ih]

theorem putAll_fits (cs : List (List UInt8)) : ∀ {e : OEnc}, 0 ≤ e.size → 0 ≤ e.pos →
    e.pos + (cs.flatten.length : Nat) ≤ e.size →
    e.putAll cs = { e with buf := write e.buf e.pos.toNat cs.flatten, pos := e.pos + (cs.flatten.length : Nat) } := by
  induction cs with
  | nil => intro e _ _ _; simp [OEnc.putAll]
  | cons c cs ih =>
    intro e h0 hp hfit
    simp only [List.flatten_cons, List.length_append] at hfit ⊢
    have hput : e.put c = { e with buf := write e.buf e.pos.toNat c, pos := e.pos + c.length } := by
      rw [OEnc.put, if_neg (by omega), if_pos (by omega)]
    rw [OEnc.putAll, hput, ih (by exact h0) (by simp only; omega) (by simp only; omega)]
    have : (e.pos + (c.length : Int)).toNat = e.pos.toNat + c.length := by omega
    simp only [this, write_append]
    congr 1
    omega

theorem putAll_nofit (cs : List (List UInt8)) : ∀ {e : OEnc}, 0 ≤ e.size → e.pos ≤ e.size →
    ¬ e.pos + (cs.flatten.length : Nat) ≤ e.size → (e.putAll cs).pos = -12 := by
  induction cs with
  | nil => intro e _ hp hfit; simp at hfit; omega
  | cons c cs ih =>
    intro e h0 hp hfit
    simp only [List.flatten_cons, List.length_append] at hfit
    rw [OEnc.putAll, OEnc.put, if_neg (by omega)]
    split
    · exact ih (by exact h0) (by simp only; omega) (by simp only; omega)
    · rw [putAll_latched (by simp [OEnc.latch])]
      rfl

end Asn1.C10
