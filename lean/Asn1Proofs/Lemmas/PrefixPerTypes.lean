import Asn1Proofs.Lemmas.PrefixPer
import Asn1Proofs.Lemmas.PerChoice
import Asn1Proofs.Lemmas.TyInduct
/-
  The ALIGNED PER decoder on a cut input (`pt_all`): no hypothesis on the type, only enough fuel for the
  prefix.  With something cut off, at an octet boundary of the message, the decoder is prefix
  deterministic (`dec_prefix`, `dec_cut`: C16); with nothing cut off, on any state, its outcome does not
  depend on the fuel (`dec_fuel`: C08).
-/
namespace Asn1.Per
open Asn1.Uper (DecM sizeBits sortByVal)
variable {x : Bits} {T : Option Nat} {B : Prop}

/-- the decoder of `t` on a cut input, with the fuel as in `Uper.PT` -/
def PT (x : Bits) (T : Option Nat) (t : Ty) : Prop :=
  ∀ (f f' N : Nat), N < f' → PF x T (N + x.length < f) N (dec t f) (dec t f')

theorem pt_boolean : PT x T .boolean :=
  fun _ _ _ _ s _ hi => .bind (pf_readBit s hi) fun _ _ _ hi1 => .pure hi1

theorem pt_null : PT x T .null :=
  fun _ _ _ _ _ _ hi => .pure hi

theorem pt_integer (c : IntC) : PT x T (.integer c) := by
  intro f f' N hf s hN hs
  obtain ⟨lo, hi, e⟩ := c
  cases lo <;> cases hi
  case some.some lo hi =>
    refine .ite (fun _ => ?_) fun _ => .bind (pf_decConstrainedInt _ _ s hs) fun i s2 _ hi2 => .pure hi2
    refine .bind (pf_readBit s hs) fun b s1 _ hi1 => ?_
    exact .ite
      (fun _ => .bind (.align hi1 fun _ hi' => pf_decUnconstrained _ hi') fun i s2 _ hi2 => .pure hi2)
      fun _ => .bind (pf_decConstrainedInt _ _ s1 hi1) fun i s2 _ hi2 => .pure hi2
  all_goals
    refine .ite (fun _ => ?_)
      fun _ => .bind (.align hs fun _ hi' => pf_decUnconstrained _ hi') fun i s2 _ hi2 => .pure hi2
    refine .bind (pf_readBit s hs) fun b s1 _ hi1 => ?_
    exact .bind (.align hi1 fun _ hi' => pf_decUnconstrained _ hi') fun i s2 _ hi2 => .pure hi2

theorem pt_enumerated (root : List (String × Int)) (ext : Option (List (String × Int))) :
    PT x T (.enumerated root ext) := by
  intro f f' N hf s hN hi
  have hroot : Mono x T (N + x.length < f) (fun s => do
      let (i, r) ← readNat (bitLength ((sortByVal root).length - 1)) s
      match (sortByVal root)[i]? with
      | some (n, _) => .ok (.enum n, r)
      | none => .error .decodeError : St → DecM (Val × St)) := by
    intro s hi
    refine .bind (pf_readNat _ s hi) fun i s1 _ hi1 => ?_
    dsimp only
    split
    · exact .pure hi1
    · exact .error
  cases ext with
  | none => exact hroot s hi
  | some adds =>
    refine .bind (pf_readBit s hi) fun b s1 _ hi1 => ?_
    refine .ite (fun _ => hroot s1 hi1) fun _ => ?_
    refine .bind (pf_decNsnnwn s1 hi1) fun i s2 _ hi2 => ?_
    dsimp only
    split <;> exact .pure hi2

theorem pt_octetString (c : SizeC) : PT x T (.octetString c) := by
  intro f f' N hf s hN hi
  refine .bind (pf_optBit c.ext s hi) fun ext s0 hl0 hi0 => ?_
  refine .ite (fun _ => ?_) fun _ => ?_
  · refine .bind (.align hi0 fun _ hi' => pf_readLenDet _ hi') fun len s1 _ hi1 => ?_
    exact .bind (pf_readBits _ s1 hi1) fun body s2 _ hi2 => .pure hi2
  · generalize sizeBits c = w
    cases w
    · exact .bind (.align hi0 fun hl' hi' => pf_decChunksBits 8 f f' N hf id _ (by omega) hi')
        fun xs s1 _ hi1 => .pure hi1
    · refine .bind (pf_readSize c _ _ _ s0 hi0) fun len s1 _ hi1 => ?_
      exact .bind (pf_readBits _ s1 hi1) fun body s2 _ hi2 => .pure hi2

theorem pt_bitString (c : SizeC) : PT x T (.bitString c) := by
  intro f f' N hf s hN hi
  refine .bind (pf_optBit c.ext s hi) fun ext s0 hl0 hi0 => ?_
  refine .ite (fun _ => .error) fun _ => ?_
  generalize sizeBits c = w
  cases w
  · exact .bind (.align hi0 fun hl' hi' => pf_decChunksBits 1 f f' N hf id _ (by omega) hi')
      fun xs s1 _ hi1 => .pure hi1
  · refine .bind (pf_readSize c _ _ _ s0 hi0) fun len s1 _ hi1 => ?_
    exact .bind (pf_readBits _ s1 hi1) fun body s2 _ hi2 => .pure hi2

theorem pf_oneChar (k : StrKind) : Mono x T B (oneChar k) :=
  fun s hi => .bind (pf_readNat _ s hi) fun _ _ _ hi1 => .bind_val fun _ => .pure hi1

theorem pt_utf8 (c : SizeC) : PT x T (.charString .utf8 c) := by
  intro f f' N hf s hN hi
  refine .bind (.align hi fun hl' hi' => pf_decChunksBits 8 f f' N hf id _ (by omega) hi')
    fun xs s1 _ hi1 => ?_
  dsimp only
  split
  · exact .pure hi1
  · exact .error

theorem pt_charString (k : StrKind) (hk : k ≠ .utf8) (c : SizeC) : PT x T (.charString k c) := by
  intro f f' N hf s hN hi
  refine .of_eq (dec_charString k hk c f _) (dec_charString k hk c f' _) ?_
  refine .bind (pf_optBit c.ext s hi) fun ext s0 hl0 hi0 => ?_
  refine .ite (fun _ => .error) fun _ => ?_
  generalize sizeBits c = w
  cases w
  · exact .bind (.align hi0 fun hl' hi' =>
        pf_decChunks f f' N (fun s _ hi => pf_oneChar k s hi) hf id _ (by omega) hi')
      fun xs s1 _ hi1 => .pure hi1
  · refine .bind (pf_readSize c _ _ _ s0 hi0) fun len s1 hl1 hi1 => ?_
    exact .bind (pf_decRepeat (fun s _ hi => pf_oneChar k s hi) len s1 (by omega) hi1)
      fun body s2 _ hi2 => .pure hi2

theorem pt_sequenceOf (e : Ty) (c : SizeC) (ih : PT x T e) : PT x T (.sequenceOf e c) := by
  intro f f' N hf s hN hi
  refine .bind (pf_optBit c.ext s hi) fun ext s0 hl0 hi0 => ?_
  refine .ite (fun _ => ?_) fun _ => ?_
  · refine .bind (.align hi0 fun _ hi' => pf_readLenDet _ hi') fun len s1 hl1 hi1 => ?_
    exact .bind (pf_decRepeat (ih f f' N hf) len s1 (by omega) hi1) fun xs s2 _ hi2 => .pure hi2
  · generalize sizeBits c = w
    cases w
    · exact .bind (.align hi0 fun hl' hi' => pf_decChunks f f' N (ih f f' N hf) hf id _ (by omega) hi')
        fun xs s1 _ hi1 => .pure hi1
    · refine .bind (pf_readSize c _ _ _ s0 hi0) fun len s1 hl1 hi1 => ?_
      exact .bind (pf_decRepeat (ih f f' N hf) len s1 (by omega) hi1) fun xs s2 _ hi2 => .pure hi2

theorem pf_decMembers (ms : Members) : ms.All (PT x T) → ∀ (f f' N : Nat), N < f' → ∀ flags,
    PF x T (N + x.length < f) N (decMembers ms f flags) (decMembers ms f' flags) := by
  induction ms using Members.ind with
  | nil => exact fun _ _ _ _ _ _ _ _ hi => .pure hi
  | cons name p t rest ih =>
    intro ⟨ht, hrest⟩ f f' N hf flags s hN hi
    have present : ∀ fl, CutP x T (N + x.length < f) s.bs.length
        (decMembers (.cons name .mandatory t rest) f fl ⟨s.pos, s.bs ++ x⟩)
        (decMembers (.cons name .mandatory t rest) f' fl s) := fun fl =>
      .bind (ht f f' N hf s hN hi) fun v s1 hl hi1 =>
        .bind (ih hrest f f' N hf fl s1 (by omega) hi1) fun fs s2 _ hi2 => .pure hi2
    cases p with
    | mandatory => exact present flags
    | optional =>
      rcases flags with _ | ⟨_ | _, fl⟩
      · exact .error
      · exact ih hrest f f' N hf fl s hN hi
      · exact present fl
    | default d =>
      rcases flags with _ | ⟨_ | _, fl⟩
      · exact .error
      · exact .bind (ih hrest f f' N hf fl s hN hi) fun fs s1 _ hi1 => .pure hi1
      · exact present fl

theorem pf_decAdditions (ms : Members) : ms.All (PT x T) → ∀ (f f' N : Nat), N < f' → ∀ bitmap,
    PF x T (N + x.length < f) N (decAdditions ms f bitmap) (decAdditions ms f' bitmap) := by
  induction ms using Members.ind with
  | nil =>
    exact fun _ _ _ _ _ bitmap s _ hi => .bind_stateFirst (pf_skipUnknown bitmap s hi) fun s1 _ hi1 => .pure hi1
  | cons name p t rest ih =>
    intro ⟨ht, hrest⟩ f f' N hf bitmap s hN hi
    rcases bitmap with _ | ⟨present, bitmap⟩
    · exact .pure hi
    · refine .ite (fun _ => ?_) fun _ => ih hrest f f' N hf bitmap s hN hi
      refine .bind (pf_readLenDet s hi) fun len s1 hl1 hi1 => ?_
      refine .bind (ht f f' N hf s1 (by omega) hi1) fun v s2 hl2 hi2 => ?_
      refine .bind (pf_readBits _ s2 hi2) fun pad s3 hl3 hi3 => ?_
      exact .bind (ih hrest f f' N hf bitmap s3 (by omega) hi3) fun fs s4 _ hi4 => .pure hi4

theorem pt_sequence (root : Members) (ext : Bool) (adds : Members)
    (ihr : root.All (PT x T)) (iha : adds.All (PT x T)) : PT x T (.sequence root ext adds) := by
  intro f f' N hf s hN hi
  refine .bind (pf_optBit ext s hi) fun e s0 hl0 hi0 => ?_
  refine .bind (pf_readBits _ s0 hi0) fun flags s1 hl1 hi1 => ?_
  refine .bind (pf_decMembers root ihr f f' N hf flags s1 (by omega) hi1) fun fields s2 hl2 hi2 => ?_
  refine .ite (fun _ => ?_) fun _ => .pure hi2
  refine .bind (pf_decNsLength s2 hi2) fun n s3 hl3 hi3 => ?_
  refine .bind (pf_readBits _ s3 hi3) fun bitmap s4 hl4 hi4 => ?_
  exact .bind (.align hi4 fun hl' hi' => pf_decAdditions adds iha f f' N hf bitmap _ (by omega) hi')
    fun more s5 _ hi5 => .pure hi5

theorem pt_choice (root : Alts) (ext : Bool) (adds : Alts)
    (ihr : root.All (PT x T)) (iha : adds.All (PT x T)) : PT x T (.choice root ext adds) := by
  intro f f' N hf s hN hi
  refine .bind (pf_optBit ext s hi) fun e s0 hl0 hi0 => ?_
  refine .ite (fun _ => ?_) fun _ => ?_
  · refine .bind (pf_decNsnnwn s0 hi0) fun idx s1 hl1 hi1 => ?_
    refine .bind (.align hi1 fun _ hi' => pf_readLenDet _ hi') fun len s2 hl2 hi2 => ?_
    dsimp only
    rw [decAlt_nth, decAlt_nth]
    cases e : adds.nth idx with
    | none => exact .bind (pf_readBits _ s2 hi2) fun body s3 _ hi3 => .pure hi3
    | some nt =>
      refine .bind (.bind (iha.nth e f f' N hf s2 (by omega) hi2) fun v s _ hi => .pure hi) fun v s3 hl3 hi3 => ?_
      refine .ite (fun _ => .error) fun _ => ?_
      exact .bind (pf_readBits _ s3 hi3) fun body s4 _ hi4 => .pure hi4
  · refine .bind (?_ : CutP x T _ s0.bs.length _ _) fun idx s1 hl1 hi1 => ?_
    · exact .ite (fun _ => pf_decConstrainedInt _ _ s0 hi0) fun _ => .pure hi0
    dsimp only
    rw [decAlt_nth, decAlt_nth]
    cases e : root.nth idx.toNat with
    | none => exact .error
    | some nt => exact .bind (ihr.nth e f f' N hf s1 (by omega) hi1) fun v s _ hi => .pure hi

theorem pt_all (t : Ty) : PT x T t :=
  Ty.induct pt_boolean pt_null pt_integer pt_enumerated pt_octetString pt_bitString
    (fun k c => if hk : k = .utf8 then hk ▸ pt_utf8 c else pt_charString k hk c) pt_sequence pt_sequenceOf pt_choice t

theorem dec_prefix (t : Ty) (f f' pos : Nat) (q x : Bits) (a : Val) (r : St)
    (hal : (pos + q.length) % 8 = 0) (hf : q.length < f')
    (h : dec t f ⟨pos, q ++ x⟩ = .ok (a, r)) :
    (∃ r', dec t f' ⟨pos, q⟩ = .ok (a, ⟨r.pos, r'⟩) ∧ r.bs = r' ++ x ∧ r.pos + r'.length = pos + q.length) ∨
      dec t f' ⟨pos, q⟩ = .error .decodeError := by
  rcases (pt_all (T := some (pos + q.length)) t f f' q.length hf ⟨pos, q⟩ (Nat.le_refl _) ⟨rfl, hal⟩).value h
    with ⟨⟨p', r'⟩, h1, h2, _, h4, _⟩ | ⟨_, h1⟩
  · subst h2
    exact .inl ⟨r', h1, rfl, h4⟩
  · exact .inr h1

theorem dec_cut (t : Ty) (f f' pos : Nat) (q x : Bits) (a : Val) (r : St)
    (hal : (pos + q.length) % 8 = 0) (hf : q.length < f') (h : dec t f ⟨pos, q ++ x⟩ = .ok (a, r))
    (hr : r.bs.length < x.length) : dec t f' ⟨pos, q⟩ = .error .decodeError := by
  rcases dec_prefix t f f' pos q x a r hal hf h with ⟨r', _, h2, _⟩ | h1
  · rw [h2, List.length_append] at hr; omega
  · exact h1

theorem dec_fuel (t : Ty) (f f' : Nat) (s : St) (hf : s.bs.length < f) (hf' : s.bs.length < f') :
    dec t f s = dec t f' s := by
  have := pt_all (x := []) (T := none) t f f' s.bs.length hf' s (Nat.le_refl _) rfl
  simp only [List.append_nil] at this
  exact (CutP.eq_nil this (by simpa using hf)).symm

/-- `8 * bs.length + 2` is the fuel of `Per.decode`: it is never exhausted -/
theorem decode_fuel (t : Ty) (bs : Bytes) (f : Nat) (hf : 8 * bs.length + 2 ≤ f) :
    dec t f ⟨0, bytesToBits bs⟩ = dec t (8 * bs.length + 2) ⟨0, bytesToBits bs⟩ :=
  dec_fuel t _ _ _ (by simp only [bytesToBits_length]; omega) (by simp only [bytesToBits_length]; omega)

end Asn1.Per
