import Asn1Proofs.Lemmas.TyInduct
import Asn1Proofs.Lemmas.OerBits
/-
  C08 — decoders do a bounded amount of work and allocate a bounded amount of memory.
  What the cost lemmas of all codecs share: the size measure on values (`Val.nodes`, `presenceNodes`,
  `sumSize`), monotonicity of the two forms in which the bound is stated, and the UTF-8 decoder, which
  every codec calls on the octets of a UTF8String (`utf8Dec_length`, `utf8Dec_fuel`).
-/
namespace Asn1

mutual
  /-- Size of a decoded value: one unit per constructor, per record field, per octet of an
  OCTET STRING / BIT STRING and per character of a character string. -/
  def Val.nodes : Val → Nat
    | .bool _ => 1
    | .null => 1
    | .int _ => 1
    | .enum _ => 1
    | .bytes bs => 1 + bs.length
    | .bits data _ => 1 + data.length
    | .str cps => 1 + cps.length
    | .record fs => 1 + Val.nodesFields fs
    | .list vs => 1 + Val.nodesList vs
    | .choice _ v => 1 + Val.nodes v
    | .absent => 1
  def Val.nodesFields : List (String × Val) → Nat
    | [] => 0
    | (_, v) :: r => 1 + Val.nodes v + Val.nodesFields r
  def Val.nodesList : List Val → Nat
    | [] => 0
    | v :: r => Val.nodes v + Val.nodesList r
end

namespace Cost

theorem nodes_pos (v : Val) : 1 ≤ v.nodes := by
  cases v <;> simp only [Val.nodes] <;> omega

theorem nodesFields_append (a b : List (String × Val)) :
    Val.nodesFields (a ++ b) = Val.nodesFields a + Val.nodesFields b := by
  induction a with
  | nil => simp [Val.nodesFields]
  | cons x r ih =>
    obtain ⟨n, v⟩ := x
    simp only [List.cons_append, Val.nodesFields, ih]; omega

theorem nodesList_append (a b : List Val) :
    Val.nodesList (a ++ b) = Val.nodesList a + Val.nodesList b := by
  induction a with
  | nil => simp [Val.nodesList]
  | cons x r ih => simp only [List.cons_append, Val.nodesList, ih]; omega

theorem length_le_nodesList (vs : List Val) : vs.length ≤ Val.nodesList vs := by
  induction vs with
  | nil => simp [Val.nodesList]
  | cons x r ih =>
    have := nodes_pos x
    simp only [List.length_cons, Val.nodesList]; omega

theorem nodesList_replicate (n : Nat) (v : Val) :
    Val.nodesList (List.replicate n v) = n * v.nodes := by
  induction n with
  | zero => simp [Val.nodesList]
  | succ n ih => simp only [List.replicate_succ, Val.nodesList, ih, Nat.succ_mul]; omega

/-- size of the DEFAULT value a member may contribute without consuming input -/
def presenceNodes : Presence → Nat
  | .default d => d.nodes
  | _ => 0

/-- total `size` of the items of a list, for the loops, whose items are of any type; on values it is
`Val.nodesList` (`sumSize_nodes`) -/
def sumSize {α : Type} (size : α → Nat) : List α → Nat
  | [] => 0
  | a :: as => size a + sumSize size as

theorem sumSize_append {α : Type} (size : α → Nat) (a b : List α) :
    sumSize size (a ++ b) = sumSize size a + sumSize size b := by
  induction a with
  | nil => simp [sumSize]
  | cons x r ih => simp only [List.cons_append, sumSize, ih]; omega

theorem sumSize_one {α : Type} (xs : List α) : sumSize (fun _ => 1) xs = xs.length := by
  induction xs with
  | nil => rfl
  | cons x r ih => simp only [sumSize, List.length_cons, ih]; omega

theorem sumSize_nodes (vs : List Val) : sumSize Val.nodes vs = Val.nodesList vs := by
  induction vs with
  | nil => rfl
  | cons x r ih => simp only [sumSize, Val.nodesList, ih]

theorem sumSize_flatten (l : List Bytes) : l.flatten.length = sumSize List.length l := by
  induction l with
  | nil => rfl
  | cons x r ih => simp only [List.flatten_cons, List.length_append, sumSize, ih]

theorem sumSize_map {α β : Type} (g : α → β) (size : β → Nat) (l : List α) :
    sumSize size (l.map g) = sumSize (fun a => size (g a)) l := by
  induction l with
  | nil => rfl
  | cons x r ih => simp only [List.map_cons, sumSize, ih]

theorem alts_all_of_forall {P : Ty → Prop} (h : ∀ t, P t) : ∀ as : Alts, as.All P :=
  Alts.All.of_forall h

/-! The statements of C08 have one of two forms: `n ≤ K * (c + 1)` (UPER, PER: a value may cost no input
at all) and `n ≤ K * c` (DER, BER: every value consumes at least one octet).  `bd_mono` ("bound", with the
`+ 1`) and `bm_*` ("bound, multiplicative") are monotonicity of the two. -/

theorem bd_mono {n K c K' c' : Nat} (h : n ≤ K * (c + 1)) (hK : K ≤ K') (hc : c ≤ c') :
    n ≤ K' * (c' + 1) :=
  Nat.le_trans h (Nat.mul_le_mul hK (by omega))

theorem bm_mono {n K c K' c' : Nat} (h : n ≤ K * c) (hK : K ≤ K') (hc : c ≤ c') : n ≤ K' * c' :=
  Nat.le_trans h (Nat.mul_le_mul hK hc)

/-- one more node, paid by a unit of input that the rest did not pay for -/
theorem bm_succ {n K c c' : Nat} (h : n ≤ K * c) (h1 : 1 ≤ c') (hc : c ≤ c') :
    1 + n ≤ (1 + K) * c' := by
  have := Nat.mul_le_mul_left K hc
  rw [Nat.add_mul, Nat.one_mul]
  omega

theorem bm_const {k c : Nat} (hc : 1 ≤ c) : k ≤ k * c := by
  have : k * 1 ≤ k * c := Nat.mul_le_mul_left _ hc
  omega

theorem packBits_length_le (bs : Bits) : (packBits bs).length ≤ bs.length := by
  rw [packBits_length]; omega

/-- a conditional does the same for every fuel `f` when each branch does -/
theorem uniform_ite {c : Prop} [Decidable c] {α β : Type} {t e : Nat → Option α}
    {g : Nat → β → Option α} (ht : c → ∃ o : Option β, ∀ f, t f = o.bind (g f))
    (he : ¬c → ∃ o : Option β, ∀ f, e f = o.bind (g f)) :
    ∃ o : Option β, ∀ f, (if c then t f else e f) = o.bind (g f) := by
  by_cases h : c
  · simpa only [if_pos h] using ht h
  · simpa only [if_neg h] using he h

/-- one iteration of `utf8Dec`: whether the octets at the head of `b :: r` form a code point, which
one, and how many continuation octets it takes does not depend on the fuel.  (Each `rfl` unfolds
`utf8Dec (f + 1) (b :: r)` one level by definitional reduction; `simp only [utf8Dec]` or `split` on
that term is many times slower to check.) -/
theorem utf8Dec_step (b : Nat) (r : Bytes) : ∃ o : Option (Nat × Nat), ∀ f,
    Uper.utf8Dec (f + 1) (b :: r) = o.bind fun x => (Uper.utf8Dec f (r.drop x.2)).map (x.1 :: ·) := by
  refine uniform_ite (fun _ => ⟨some (b, 0), fun _ => rfl⟩) fun _ => ?_
  refine uniform_ite (fun _ => ⟨none, fun _ => rfl⟩) fun _ => ?_
  refine uniform_ite (fun _ => ?_) fun _ => ?_
  · rcases r with _ | ⟨c, r⟩
    · exact ⟨none, fun _ => rfl⟩
    · exact uniform_ite (fun _ => ⟨some (_, 1), fun _ => rfl⟩) fun _ => ⟨none, fun _ => rfl⟩
  refine uniform_ite (fun _ => ?_) fun _ => ?_
  · rcases r with _ | ⟨c, _ | ⟨d, r⟩⟩
    · exact ⟨none, fun _ => rfl⟩
    · exact ⟨none, fun _ => rfl⟩
    · exact uniform_ite (fun _ => ⟨some (_, 2), fun _ => rfl⟩) fun _ => ⟨none, fun _ => rfl⟩
  refine uniform_ite (fun _ => ?_) fun _ => ⟨none, fun _ => rfl⟩
  rcases r with _ | ⟨c, _ | ⟨d, _ | ⟨e, r⟩⟩⟩
  · exact ⟨none, fun _ => rfl⟩
  · exact ⟨none, fun _ => rfl⟩
  · exact ⟨none, fun _ => rfl⟩
  · exact uniform_ite (fun _ => ⟨some (_, 3), fun _ => rfl⟩) fun _ => ⟨none, fun _ => rfl⟩

theorem utf8Dec_length (fuel : Nat) : ∀ (bs : Bytes) (cps : List Nat),
    Uper.utf8Dec fuel bs = some cps → cps.length ≤ bs.length := by
  induction fuel with
  | zero => intro bs cps h; cases h
  | succ fuel ih =>
    intro bs cps h
    cases bs with
    | nil => cases h; exact Nat.le_refl _
    | cons b r =>
      obtain ⟨o, ho⟩ := utf8Dec_step b r
      rw [ho] at h
      obtain ⟨x, _, h⟩ := Option.bind_eq_some_iff.1 h
      obtain ⟨ys, hd, rfl⟩ := Option.map_eq_some_iff.1 h
      have := ih _ _ hd
      simp only [List.length_cons, List.length_drop] at this ⊢
      omega

/-- `utf8Dec` (the model of CPython's UTF-8 decoder, fuel = length + 1): more fuel than octets gives
the same answer, so its out-of-fuel `none` is never the reason for a `UnicodeDecodeError` -/
theorem utf8Dec_fuel (f : Nat) : ∀ (f' : Nat) (bs : Bytes), bs.length < f → bs.length < f' →
    Uper.utf8Dec f bs = Uper.utf8Dec f' bs := by
  induction f with
  | zero => intro f' bs h; omega
  | succ f ih =>
    intro f' bs hf hf'
    obtain ⟨f'', rfl⟩ : ∃ k, f' = k + 1 := ⟨f' - 1, by omega⟩
    cases bs with
    | nil => rfl
    | cons b r =>
      obtain ⟨o, ho⟩ := utf8Dec_step b r
      rw [ho, ho]
      cases o with
      | none => rfl
      | some x =>
        rw [Option.bind_some, Option.bind_some, ih f'' (r.drop x.2)] <;>
          simp only [List.length_cons, List.length_drop] at hf hf' ⊢ <;> omega

end Cost
end Asn1
