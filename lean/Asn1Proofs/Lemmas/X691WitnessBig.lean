import Asn1Proofs.Lemmas.X691PerPrim
/-
  The witness of `aligned-fragment-length-unaligned` needs 16385 components: no closed term of that
  size can be evaluated by the kernel in reasonable time, so the number of components is a variable.
  `FragWitness`: ALIGNED, `SEQUENCE OF CHOICE { a BOOLEAN, b NULL }` with the 16385 components
  `a:TRUE, b, b, ..., b`: the first fragment (16384 components) is 16385 bits long; the code writes
  the next length determinant `00000001` immediately, the standard after seven padding bits.
-/
namespace Asn1.X691

/-- a fragment of 16384 items and fewer than 128 further ones, from an octet boundary: the variants
differ in the padding in front of the second length determinant (the code's loop is the case
`al = false`, `encChunksM_eq`) -/
theorem fragM_two {α : Type} (al : Bool) (f : Nat → α → EncM Bits) (fuel pos : Nat) (l1 l2 : List α)
    (b1 b2 : Bits) (hpos : pos % 8 = 0) (h1 : l1.length = 16384) (h2 : l2.length < 128)
    (e1 : seqM f (pos + 8) l1 = .ok b1)
    (e2 : seqM f (pos + 8 + b1.length + (pad al (pos + 8 + b1.length)).length + 8) l2 = .ok b2) :
    fragM al f (fuel + 2) pos (l1 ++ l2) =
      .ok (natToBits 8 0xc1 ++ b1 ++ pad al (pos + 8 + b1.length) ++ natToBits 8 l2.length ++ b2) := by
  have hl : (l1 ++ l2).length = 16384 + l2.length := by rw [List.length_append, h1]
  rw [fragM]
  simp only [hl, pad_nil al (fun _ => hpos), lengthOctets_eq,
    Uper.lenDet_c1 (16384 + l2.length) (by omega) (by omega), natToBits_length, List.length_nil, Nat.add_zero,
    List.nil_append]
  have ht : List.take 16384 (l1 ++ l2) = l1 := by rw [← h1]; exact List.take_left' rfl
  have hd : List.drop 16384 (l1 ++ l2) = l2 := by rw [← h1]; exact List.drop_left' rfl
  rw [ht, hd, e1]
  simp only [Nat.lt_irrefl, if_false]
  rw [fragM]
  simp only [lengthOctets_eq, Uper.lenDet_short _ h2, natToBits_length, List.take_length, e2]
  rw [if_pos (by omega)]
  simp

namespace FragWitness

/-- `CHOICE { a BOOLEAN, b NULL }`: a component is the index bit, and for `a` the value bit -/
def e : Ty := .choice (.cons "a" .boolean (.cons "b" .null .nil)) false .nil
/-- `SEQUENCE OF` it, without size constraint -/
def t : Ty := .sequenceOf e ⟨0, none, false⟩
/-- `a : TRUE`, two bits -/
def x : Val := .choice "a" (.bool true)
/-- `b : NULL`, one bit -/
def y : Val := .choice "b" .null
/-- `n + 1` components (the first two bits long, the others one bit) and one more -/
def vsN (n : Nat) : List Val := (x :: List.replicate n y) ++ [y]
def bodyN (n : Nat) : Bits := [false, true] ++ List.replicate n true
def vs : List Val := vsN 16383
def body : Bits := bodyN 16383

section
/- any encoder that writes `01` for `x` and `1` for `y`, wherever they stand -/
variable {f : Nat → Val → EncM Bits}

theorem seqM_replicate (hy : ∀ p, f p y = .ok [true]) (n p : Nat) :
    seqM f p (List.replicate n y) = .ok (List.replicate n true) := by
  induction n generalizing p with
  | zero => rfl
  | succ n ih =>
    rw [List.replicate_succ, seqM, hy]
    simp only [ih, List.replicate_succ]
    rfl

theorem bodyN_length (n : Nat) : (bodyN n).length = n + 2 := by
  unfold bodyN
  rw [List.length_append, List.length_replicate]
  simp only [List.length_cons, List.length_nil]
  omega

theorem vsN_length (n : Nat) : (vsN n).length = n + 2 := by
  unfold vsN
  rw [List.length_append, List.length_cons, List.length_replicate]
  rfl

/-- the first fragment is 16385 bits long, so the second length determinant stands at bit 16393 -/
theorem fragN (hx : ∀ p, f p x = .ok [false, true]) (hy : ∀ p, f p y = .ok [true]) (al : Bool) (n : Nat)
    (hn : n + 1 = 16384) :
    fragM al f 3 0 (vsN n) =
      .ok (natToBits 8 0xc1 ++ bodyN n ++ pad al 16393 ++ natToBits 8 1 ++ [true]) := by
  have h := fragM_two al f 1 0 (x :: List.replicate n y) [y] (bodyN n) [true] rfl
    (by rw [List.length_cons, List.length_replicate, hn]) (by decide)
    (by rw [seqM, hx]; simp only [seqM_replicate hy]; rfl) (by rw [seqM, hy]; rfl)
  rw [show 0 + 8 + (bodyN n).length = 16393 by rw [bodyN_length]; omega] at h
  exact h

end

theorem codeN (n : Nat) (hn : n + 1 = 16384) : Per.enc t 0 (.list (vsN n)) =
    .ok (natToBits 8 0xc1 ++ bodyN n ++ natToBits 8 1 ++ [true]) := by
  have hlen : (vsN n).length = 16385 := by rw [vsN_length]; omega
  simp only [Per.enc, t, Uper.sizeBits, hlen]
  have hal : Per.alignBits 0 = [] := rfl
  simp only [hal, List.length_nil, Nat.add_zero, Bool.false_eq_true, if_false, List.append_nil,
    List.nil_append]
  have hf : 16385 / 16384 + 2 = 3 := by decide
  rw [hf, encChunksM_eq, fragN (fun _ => rfl) (fun _ => rfl) false n hn, pad_false, List.append_nil]

theorem specN (n : Nat) (hn : n + 1 = 16384) : enc true t 0 (.list (vsN n)) =
    .ok (natToBits 8 0xc1 ++ bodyN n ++ List.replicate 7 false ++ natToBits 8 1 ++ [true]) := by
  have hlen : (vsN n).length = 16385 := by rw [vsN_length]; omega
  simp only [enc, t, extSizedM, sizedM, genLenM, hlen, Bool.false_eq_true, if_false]
  have hf : 16385 / 16384 + 2 = 3 := by decide
  simp only [Nat.not_lt_zero, if_false, hf]
  rw [fragN (fun _ => rfl) (fun _ => rfl) true n hn]
  rfl

theorem flaggedN (n : Nat) (hn : n + 1 = 16384) :
    "aligned-fragment-length-unaligned" ∈ devs true t (.list (vsN n)) := by
  have hlen : (vsN n).length = 16385 := by rw [vsN_length]; omega
  simp [devs, t, hlen]

theorem code : Per.enc t 0 (.list vs) =
    .ok (natToBits 8 0xc1 ++ body ++ natToBits 8 1 ++ [true]) := codeN 16383 (by decide)

theorem spec : enc true t 0 (.list vs) =
    .ok (natToBits 8 0xc1 ++ body ++ List.replicate 7 false ++ natToBits 8 1 ++ [true]) :=
  specN 16383 (by decide)

theorem flagged : "aligned-fragment-length-unaligned" ∈ devs true t (.list vs) :=
  flaggedN 16383 (by decide)

end FragWitness

end Asn1.X691
