import Asn1Proofs.Lemmas.DerDefs
/-
  `Der.dec` and `BerCodec.dec` are instances of the shared SEQUENCE / CHOICE decoder.

  The models are written with `do`, the shared decoder with `match`: after unfolding both, the two
  sides are the same case tree, and `rfl` sees that once `Except.bind` is unfolded although its
  argument is a variable (`smartUnfolding false`).
-/
namespace Asn1.Der
open Asn1.Uper (Err)

theorem der_decPass_fun (ms : Members) (i fuel : Nat) : decPass ms i fuel = gPass dec ms i fuel := by
  induction ms using Members.ind generalizing i with
  | nil => funext slots st; rw [decPass, gPass]
  | cons n p t rest ih =>
    funext slots st
    rw [decPass, gPass, ih]
    set_option smartUnfolding false in rfl

theorem der_dec_seq (root : Members) (e : Bool) (adds : Members) (tg : Option Nat) (fuel : Nat) (bs : Bytes) :
    dec (.sequence root e adds) tg fuel bs = gSeq dec root adds tg fuel bs := by
  rw [dec, gSeq, der_decPass_fun, der_decPass_fun]
  set_option smartUnfolding false in rfl

/-- `tag_to_member` of der.py: exactly the member's tag -/
def derTest (t : Ty) (i : Nat) (tag : Bytes) : Bool := tag == tagOf t (some i)

theorem der_decAlt_fun (as : Alts) (i : Nat) : decAlt as i = gAlt dec derTest as i := by
  induction as using Alts.ind generalizing i with
  | nil => funext tag fuel bs; rw [decAlt, gAlt]
  | cons n t rest ih =>
    funext tag fuel bs
    rw [decAlt, gAlt, ih]
    set_option smartUnfolding false in rfl

theorem der_dec_choice (root : Alts) (e : Bool) (adds : Alts) (tg : Option Nat) (fuel : Nat) (bs : Bytes) :
    dec (.choice root e adds) tg fuel bs = gChoice dec derTest root e adds tg fuel bs := by
  cases tg with
  | none =>
    rw [dec, der_decAlt_fun, der_decAlt_fun]
    set_option smartUnfolding false in rfl
  | some j =>
    rw [dec, der_decAlt_fun, der_decAlt_fun, gChoice]
    -- the model says `if ← eoc r2`, `gChoice` matches on `.ok true` / `.ok false`: as `cond` the
    -- `if`s on Booleans are that match
    simp only [gBare, ← cond_eq_ite]
    set_option smartUnfolding false in rfl

/-- every decoder starts by comparing its own identifier octets -/
theorem der_mism (t : Ty) (i j u : Nat) (c : Bool) (r : Bytes) (fuel : Nat) (h : i < j) (_ : 0 < fuel) :
    dec t (some i) fuel (mkTag u c (some j) ++ r) = .ok none := by
  cases t <;> rw [dec] <;>
    simp only [bind, Except.bind, tagOf, matchTag_ctx_mismatch r h, readPrim_ctx_mismatch r h]

theorem der_isCodec : IsCodec dec derTest where
  seq := der_dec_seq
  choice := der_dec_choice
  mism := der_mism
  test_self := fun t i => by simp [derTest]
  test_num := fun t i j u c ht => by
    simp only [derTest, beq_iff_eq] at ht
    exact (mkTag_ctx_inj ht).symm

end Asn1.Der

namespace Asn1.BerCodec
open Asn1.Uper (Err)
open Asn1.Der (DecM mkTag tagOf eoc gPass gSeq gAlt gBare gChoice IsCodec matchTag_ctx_mismatch split_ctx_mismatch readPrim_ctx_mismatch mkTag_ctx_inj)

/-- ber.py: the member's tag, and for the string types also its constructed form -/
def berTest (t : Ty) (i : Nat) (tag : Bytes) : Bool :=
  tag == Der.tagOf t (some i) || (BerCodec.isString t && tag == Der.mkTag (Der.univNumber t) true (some i))

theorem ber_decPass_fun (ms : Members) (i fuel : Nat) :
    BerCodec.decPass ms i fuel = Der.gPass BerCodec.dec ms i fuel := by
  induction ms using Members.ind generalizing i with
  | nil => funext slots st; rw [decPass, gPass]
  | cons n p t rest ih =>
    funext slots st
    rw [decPass, gPass, ih]
    set_option smartUnfolding false in rfl

theorem ber_dec_seq (root : Members) (e : Bool) (adds : Members) (tg : Option Nat) (fuel : Nat) (bs : Bytes) :
    BerCodec.dec (.sequence root e adds) tg fuel bs = Der.gSeq BerCodec.dec root adds tg fuel bs := by
  rw [dec, gSeq, ber_decPass_fun, ber_decPass_fun]
  set_option smartUnfolding false in rfl

theorem ber_decAlt_fun (as : Alts) (i : Nat) : BerCodec.decAlt as i = Der.gAlt BerCodec.dec berTest as i := by
  induction as using Alts.ind generalizing i with
  | nil => funext tag fuel bs; rw [decAlt, gAlt]
  | cons n t rest ih =>
    funext tag fuel bs
    rw [decAlt, gAlt, ih]
    set_option smartUnfolding false in rfl

theorem ber_dec_choice (root : Alts) (e : Bool) (adds : Alts) (tg : Option Nat) (fuel : Nat) (bs : Bytes) :
    BerCodec.dec (.choice root e adds) tg fuel bs = Der.gChoice BerCodec.dec berTest root e adds tg fuel bs := by
  cases tg with
  | none =>
    rw [dec, ber_decAlt_fun, ber_decAlt_fun]
    set_option smartUnfolding false in rfl
  | some j =>
    rw [dec, ber_decAlt_fun, ber_decAlt_fun, gChoice]
    simp only [gBare, ← cond_eq_ite]
    set_option smartUnfolding false in rfl

theorem pcDecode_mismatch {α : Type} (prim : Bytes → Bytes → DecM α) (join : List α → α) (segTag segCtag : Bytes)
    (fuel i j u u' : Nat) (c : Bool) (r : Bytes) (h : i < j) (hf : 0 < fuel) :
    pcDecode prim join segTag segCtag fuel (mkTag u' false (some i)) (mkTag u' true (some i))
      (mkTag u c (some j) ++ r) = .ok none := by
  obtain ⟨f, rfl⟩ : ∃ f, fuel = f + 1 := ⟨fuel - 1, by omega⟩
  obtain ⟨t, r', hs, hne⟩ := split_ctx_mismatch (u := u') (u' := u) (c := false) (c' := c) r h
  rw [pcDecode, hs]
  simp only []
  have h1 : (t == mkTag u' false (some i)) = false := by simpa using hne u' false
  have h2 : (t == mkTag u' true (some i)) = false := by simpa using hne u' true
  simp [h1, h2]

theorem ber_mism (t : Ty) (i j u : Nat) (c : Bool) (r : Bytes) (fuel : Nat) (h : i < j) (hf : 0 < fuel) :
    BerCodec.dec t (some i) fuel (Der.mkTag u c (some j) ++ r) = .ok none := by
  cases t <;> rw [dec] <;>
    simp only [bind, Except.bind, decOctets, decBits, matchTag_ctx_mismatch r h, readPrim_ctx_mismatch r h,
      pcDecode_mismatch _ _ _ _ fuel i j u _ c r h hf]

theorem ber_isCodec : Der.IsCodec BerCodec.dec BerCodec.berTest where
  seq := ber_dec_seq
  choice := ber_dec_choice
  mism := ber_mism
  test_self := fun t i => by simp [berTest]
  test_num := fun t i j u c ht => by
    simp only [berTest, Bool.or_eq_true, Bool.and_eq_true, beq_iff_eq] at ht
    rcases ht with ht | ⟨_, ht⟩
    · exact (mkTag_ctx_inj ht).symm
    · exact (mkTag_ctx_inj ht).symm

end Asn1.BerCodec

#print axioms Asn1.Der.der_isCodec
#print axioms Asn1.BerCodec.ber_isCodec
