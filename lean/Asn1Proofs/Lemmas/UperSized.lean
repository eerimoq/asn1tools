import Asn1Proofs.Lemmas.UperLeaf
import Asn1Proofs.Lemmas.UperUtf8
/-
  What the encoders and decoders of all size-constrained types have in common (`encExt`, `encRoot`,
  `decSized`) and its round trip `rt_sized`, as for aligned PER (`PerSized`; here without positions);
  round trip and totality for OCTET STRING, BIT STRING and the character strings.
-/
namespace Asn1.Uper

theorem sizeOk_eq_inSize (c : SizeC) (n : Nat) : sizeOk c n = inSize c n := by
  unfold sizeOk inSize
  cases c.hi <;> simp

theorem sizeBits_some {c : SizeC} {w n : Nat} (hs : sizeBits c = some w) (hin : inSize c n = true) :
    c.lo ≤ n ∧ n - c.lo < 2 ^ w ∧ (some c.lo = c.hi → n = c.lo) := by
  unfold sizeBits at hs
  unfold inSize at hin
  cases hhi : c.hi with
  | none => simp [hhi] at hs
  | some hi =>
    simp only [hhi, Bool.and_eq_true, decide_eq_true_eq] at hs hin
    split at hs
    · cases hs
    · cases hs
      refine ⟨hin.1, lt_two_pow_bitLength_of_le (by omega), ?_⟩
      intro h; cases h; omega

/-- the decoders' first step, on what the encoders write first: the extension bit, clear, if the type
is extensible -/
theorem readExt_pre (e : Bool) (X : Bits) :
    (if e = true then readBit ((if e = true then [false] else []) ++ X)
     else .ok (false, (if e = true then [false] else []) ++ X)) = .ok (false, X) := by
  cases e <;> rfl

theorem ext_hi_of_wf {c : SizeC} (hwf : sizeWf c = true) : ¬ (c.ext = true ∧ c.hi.isNone = true) := by
  unfold sizeWf at hwf
  cases hhi : c.hi with
  | none => simp [hhi] at hwf; simp [hwf]
  | some hi => simp

/-- the encoder of a type with a size constraint: `out` for a size `n` outside an extensible root,
`root` inside.  `MAX` as upper bound of an extensible constraint is a `TypeError` of the code. -/
def encExt (c : SizeC) (n : Nat) (out root : EncM Bits) : EncM Bits :=
  if c.ext ∧ c.hi.isNone then .error .foreign else
  if c.ext ∧ ¬ inSize c n then out else root

/-- the encoder inside the root: the fragmented form of the `items` when the size has no usable upper
bound, else the size field (none for a fixed size) and `body` -/
def encRoot (c : SizeC) (n : Nat) (items : List Bits) (body : Bits) : EncM Bits :=
  let pre : Bits := if c.ext then [false] else []
  match sizeBits c with
  | none => .ok (pre ++ encChunked items)
  | some w =>
    if some c.lo ≠ c.hi then .ok (pre ++ natToBits w (n - c.lo) ++ body)
    else .ok (pre ++ body)

/-- the decoder of a type with a size constraint: the extension bit if there is one, then `dout`
outside the root; inside, `dchunks` or the size field and `dbody`.
The continuations take the pair they are bound to: in this form every such arm of `dec` unifies with
`decSized c _ _ _`; with `dout x.2` the unifier is left with a problem that is no pattern. -/
def decSized (c : SizeC) (dout dchunks : Bool × Bits → DecM (Val × Bits))
    (dbody : Nat × Bits → DecM (Val × Bits)) (bs : Bits) : DecM (Val × Bits) :=
  (if c.ext then readBit bs else .ok (false, bs)) >>= fun x =>
  if x.1 then dout x
  else
    match sizeBits c with
    | none => dchunks x
    | some w =>
      (if some c.lo ≠ c.hi then do let (d, r) ← readNat w x.2; .ok (c.lo + d, r)
        else .ok (c.lo, x.2)) >>= dbody

theorem encExt_inside {c : SizeC} (hwf : sizeWf c = true) {n : Nat} (hin : inSize c n = true)
    (out root : EncM Bits) : encExt c n out root = root := by
  unfold encExt
  rw [if_neg (ext_hi_of_wf hwf), if_neg (by simp [hin])]

/-- round trip of a size-constrained type from the round trips of its three forms.  The bounds on
the lengths are for the callers, whose decoders need fuel. -/
theorem rt_sized {c : SizeC} (hwf : sizeWf c = true) {n : Nat} {items : List Bits} {body : Bits}
    {out : EncM Bits} {dout dchunks : Bool × Bits → DecM (Val × Bits)}
    {dbody : Nat × Bits → DecM (Val × Bits)} {bits rest : Bits} {v : Val}
    (hsz : c.ext = true ∨ inSize c n = true)
    (hout : c.ext = true → inSize c n = false → out = .ok bits → ∃ X, bits = true :: X ∧
      dout (true, X ++ rest) = .ok (v, rest))
    (hchunks : (encChunked items).length ≤ bits.length →
      dchunks (false, encChunked items ++ rest) = .ok (v, rest))
    (hbody : body.length ≤ bits.length → dbody (n, body ++ rest) = .ok (v, rest))
    (he : encExt c n out (encRoot c n items body) = .ok bits) :
    decSized c dout dchunks dbody (bits ++ rest) = .ok (v, rest) := by
  unfold encExt at he
  unfold decSized
  rw [if_neg (ext_hi_of_wf hwf)] at he
  cases hin : inSize c n with
  | false =>
    have hext := hsz.resolve_right (by simp [hin])
    rw [if_pos ⟨hext, by simp [hin]⟩] at he
    obtain ⟨X, rfl, hdec⟩ := hout hext hin he
    simp only [hext, if_true, List.cons_append, readBit_cons, ok_bind]
    exact hdec
  | true =>
    rw [if_neg (by simp [hin])] at he
    unfold encRoot at he
    cases hsb : sizeBits c with
    | none =>
      simp only [hsb] at he ⊢
      cases he
      simp only [List.append_assoc, readExt_pre, ok_bind, Bool.false_eq_true, if_false]
      exact hchunks (by simp only [List.length_append, Nat.le_add_left])
    | some w =>
      obtain ⟨h1, h2, h3⟩ := sizeBits_some hsb hin
      simp only [hsb] at he ⊢
      by_cases hne : some c.lo ≠ c.hi
      · rw [if_pos hne] at he
        cases he
        simp only [if_pos hne, List.append_assoc, readExt_pre, ok_bind, Bool.false_eq_true, if_false,
          readNat_natToBits _ h2, Nat.add_sub_cancel' h1]
        exact hbody (by simp only [List.length_append, Nat.le_add_left])
      · rw [if_neg hne] at he
        cases he
        obtain rfl := h3 (by simpa using hne)
        simp only [if_neg hne, List.append_assoc, readExt_pre, ok_bind, Bool.false_eq_true, if_false]
        exact hbody (by simp only [List.length_append, Nat.le_add_left])

theorem encRoot_total (c : SizeC) (n : Nat) (items : List Bits) (body : Bits) :
    ∃ bits, encRoot c n items body = .ok bits := by
  unfold encRoot
  dsimp only
  split
  · exact ⟨_, rfl⟩
  · split
    · exact ⟨_, rfl⟩
    · exact ⟨_, rfl⟩

theorem encExt_total {c : SizeC} (hwf : sizeWf c = true) {n : Nat} {out root : EncM Bits}
    (hroot : ∃ bits, root = .ok bits) (hout : inSize c n = false → ∃ bits, out = .ok bits) :
    ∃ bits, encExt c n out root = .ok bits := by
  unfold encExt
  rw [if_neg (ext_hi_of_wf hwf)]
  split
  · rename_i h
    exact hout (by simpa using h.2)
  · exact hroot

theorem all2_readNat8 (data : Bytes) (h : ∀ b ∈ data, b < 256) (L : Nat) :
    All2 (ItemRT (fun b => readNat 8 b) L) (data.map (natToBits 8)) data := by
  induction data with
  | nil => exact .nil
  | cons b r ih =>
    refine .cons ?_ (ih (fun x hx => h x (by simp [hx])))
    intro rest _
    exact readNat_natToBits rest (by have := h b (by simp); omega)

theorem all2_readBit (body : Bits) (L : Nat) :
    All2 (ItemRT readBit L) (body.map (fun b => [b])) body := by
  induction body with
  | nil => exact .nil
  | cons b r ih => exact .cons (fun rest _ => rfl) ih

theorem allBytes_iff (bs : Bytes) : allBytes bs = true ↔ ∀ b ∈ bs, b < 256 := by
  simp [allBytes]

theorem rt_octetString (c : SizeC) : RT (.octetString c) := by
  intro v bits rest fuel hwf _ _ ht hf he hfuel
  obtain ⟨data, rfl, hbytes, hsz⟩ := hasType_octetString ht
  rw [canon_octetString]
  rw [Ty.wf] at hwf
  rw [fragFree] at hf
  rw [allBytes_iff] at hbytes
  simp only [Bool.or_eq_true, sizeOk_eq_inSize] at hsz
  have hpack := packBits_bytesToBits data hbytes
  rw [enc] at he
  rw [dec]
  refine rt_sized hwf hsz ?_ ?_ ?_ he
  · intro hext hin hout
    cases hout
    refine ⟨(lenDet data.length).1 ++ bytesToBits data, rfl, ?_⟩
    have hs : data.length < 16384 := by
      simpa [hext, hin, smallLen] using hf
    simp only [ok_bind, List.append_assoc, readLenDet_lenDet, lenDet_snd_of_lt hs,
      readBits_append _ _ (bytesToBits_length data), hpack]
  · intro hl
    simp only [decChunks_encChunked _ fuel _ _ (all2_readNat8 data hbytes _) rest (by omega) fuel
      (by omega), ok_bind]
  · intro _
    simp only [ok_bind, readBits_append _ _ (bytesToBits_length data), hpack]

theorem takeBits_eq {data : Bytes} {n : Nat} (hlen : data.length = (n + 7) / 8) :
    takeBits data n = .ok ((bytesToBits data).take n) := by
  unfold takeBits; rw [if_pos (by omega)]

theorem enc_bitString (c : SizeC) (data : Bytes) (n : Nat) (hlen : data.length = (n + 7) / 8) :
    enc (.bitString c) (.bits data n) = encExt c n (.error .notImplemented)
      (encRoot c n (((bytesToBits data).take n).map fun b => [b]) ((bytesToBits data).take n)) := by
  rw [enc, takeBits_eq hlen]
  rfl

theorem rt_bitString (c : SizeC) : RT (.bitString c) := by
  intro v bits rest fuel hwf _ _ ht hf he hfuel
  obtain ⟨data, n, rfl, hbytes, hlen, hin⟩ := hasType_bitString ht
  rw [canon]
  rw [Ty.wf] at hwf
  rw [allBytes_iff] at hbytes
  rw [sizeOk_eq_inSize] at hin
  have hblen : ((bytesToBits data).take n).length = n := by
    rw [List.length_take, bytesToBits_length]; omega
  rw [enc_bitString c data n hlen] at he
  rw [dec]
  unfold cleanBits
  generalize (bytesToBits data).take n = body at *
  refine rt_sized hwf (.inr hin) (fun _ _ h => by cases h) ?_ ?_ he
  · intro hl
    simp only [decChunks_encChunked _ fuel _ _ (all2_readBit body _) rest (by omega) fuel (by omega),
      ok_bind, hblen]
  · intro _
    simp only [ok_bind, readBits_append _ _ hblen]

theorem rt_utf8 (c : SizeC) : RT (.charString .utf8 c) := by
  intro v bits rest fuel hwf _ _ ht hf he hfuel
  obtain ⟨cps, rfl, h⟩ := hasType_charString ht
  have hvalid := (h.resolve_right fun h => h.1 rfl).2
  rw [canon_charString]
  have hbytes : ∀ b ∈ cps.flatMap utf8Enc, b < 256 := by
    intro b hb
    obtain ⟨cp, hcp, hb'⟩ := List.mem_flatMap.1 hb
    exact utf8Enc_lt_256 cp (hvalid cp hcp).1 b hb'
  rw [enc] at he
  cases he
  rw [dec, decChunks_encChunked _ fuel _ _ (all2_readNat8 _ hbytes _) rest (by omega) fuel
    (by omega), ok_bind]
  simp only [utf8Dec_flatMap_utf8Enc cps hvalid _ (Nat.le_refl _)]

/-- one character of a known-multiplier string -/
def oneChar (k : StrKind) (b : Bits) : DecM (Nat × Bits) := do
  let (v, r) ← readNat (bitsPerChar k) b
  let ch ← charDecode k v
  .ok (ch, r)

theorem dec_charString (k : StrKind) (hk : k ≠ .utf8) (c : SizeC) (fuel : Nat) (bs : Bits) :
    dec (.charString k c) fuel bs =
      decSized c (fun _ => .error .notImplemented)
        (fun x => do
          let (xs, r) ← decChunks (oneChar k) fuel x.2
          .ok (.str xs, r))
        (fun y => do
          let (xs, r') ← decRepeat (oneChar k) y.1 y.2
          .ok (.str xs, r')) bs := by
  cases k <;> first | exact absurd rfl hk | (rw [dec]; rfl; intro h; cases h)

theorem all2_chars (k : StrKind) (hk : k ≠ .utf8) (cps codes : List Nat)
    (h : All2 (fun cp code => charCode k cp = .ok code) cps codes)
    (hall : ∀ cp ∈ cps, (alphabetOf k).contains cp = true) (L : Nat) :
    All2 (ItemRT (oneChar k) L) (codes.map (natToBits (bitsPerChar k))) cps := by
  induction h with
  | nil => exact .nil
  | @cons cp code cps codes hc _ ih =>
    refine .cons ?_ (ih (fun x hx => hall x (by simp [hx])))
    intro rest _
    obtain ⟨code', h1, h2, h3⟩ := char_rt k hk cp (hall cp (by simp))
    rw [hc] at h1; cases h1
    simp only [oneChar, readNat_natToBits rest h2, ok_bind, h3]

theorem codes_ok (k : StrKind) (hk : k ≠ .utf8) (cps : List Nat)
    (hall : ∀ cp ∈ cps, (alphabetOf k).contains cp = true) :
    ∃ codes, cps.mapM (charCode k) = .ok codes :=
  mapM_ok_of_forall (charCode k) cps fun cp hcp => by
    obtain ⟨code, h1, _, _⟩ := char_rt k hk cp (hall cp hcp)
    exact ⟨code, h1⟩

/-- the arm has no case for a size outside the root: the model declines there -/
theorem enc_charString (k : StrKind) (hk : k ≠ .utf8) (c : SizeC) (cps codes : List Nat)
    (hcodes : cps.mapM (charCode k) = .ok codes) (hin : inSize c cps.length = true) :
    enc (.charString k c) (.str cps) =
      encRoot c cps.length (codes.map (natToBits (bitsPerChar k)))
        (codes.map (natToBits (bitsPerChar k))).flatten := by
  cases k <;> first
    | exact absurd rfl hk
    | (rw [enc]
       · simp only [hcodes, hin, not_true_eq_false, if_false]
         rfl
       · intro h; cases h)

theorem rt_knownMultiplier (k : StrKind) (hk : k ≠ .utf8) (c : SizeC) : RT (.charString k c) := by
  intro v bits rest fuel hwf _ _ ht hf he hfuel
  obtain ⟨cps, rfl, ⟨rfl, -⟩ | ⟨-, hall, hin⟩⟩ := hasType_charString ht
  · exact absurd rfl hk
  rw [sizeOk_eq_inSize] at hin
  rw [canon_charString]
  rw [Ty.wf] at hwf
  obtain ⟨codes, hcodes⟩ := codes_ok k hk cps hall
  rw [enc_charString k hk c cps codes hcodes hin] at he
  rw [dec_charString k hk]
  have hall2 := all2_chars k hk cps codes (all2_of_mapM _ _ _ hcodes) hall
  have hlen : (codes.map (natToBits (bitsPerChar k))).length = cps.length := by
    rw [List.length_map]; exact (All2.length_eq (all2_of_mapM _ _ _ hcodes)).symm
  generalize codes.map (natToBits (bitsPerChar k)) = items at *
  refine rt_sized hwf (.inr hin) (fun _ _ h => by cases h) ?_ ?_
    ((encExt_inside hwf hin (.error .notImplemented) _).trans he)
  · intro hl
    simp only [decChunks_encChunked _ fuel _ _ (hall2 _) rest (by omega) fuel (by omega), ok_bind]
  · intro hl
    simp only [← hlen, decRepeat_flatten _ fuel _ _ (hall2 _) rest (by omega), ok_bind]

theorem rt_charString (k : StrKind) (c : SizeC) : RT (.charString k c) := by
  by_cases hk : k = .utf8
  · subst hk; exact rt_utf8 c
  · exact rt_knownMultiplier k hk c

theorem et_octetString (c : SizeC) : ET (.octetString c) := by
  intro v hwf ht
  obtain ⟨data, rfl, -⟩ := hasType_octetString ht
  rw [Ty.wf] at hwf
  rw [enc]
  exact encExt_total hwf (encRoot_total ..) fun _ => ⟨_, rfl⟩

theorem et_bitString (c : SizeC) : ET (.bitString c) := by
  intro v hwf ht
  obtain ⟨data, n, rfl, -, hlen, hin⟩ := hasType_bitString ht
  rw [Ty.wf] at hwf
  rw [sizeOk_eq_inSize] at hin
  rw [enc_bitString c data n hlen]
  exact encExt_total hwf (encRoot_total ..) fun h => by rw [hin] at h; cases h

theorem et_charString (k : StrKind) (c : SizeC) : ET (.charString k c) := by
  intro v hwf ht
  obtain ⟨cps, rfl, ⟨rfl, -⟩ | ⟨hk, hall, hin⟩⟩ := hasType_charString ht
  · exact ⟨_, by rw [enc]⟩
  · rw [sizeOk_eq_inSize] at hin
    obtain ⟨codes, hcodes⟩ := codes_ok k hk cps hall
    rw [enc_charString k hk c cps codes hcodes hin]
    exact encRoot_total ..

end Asn1.Uper
