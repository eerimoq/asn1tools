import Asn1Proofs.Lemmas.PrepExt
/-
  Pass 3 of the dictionary rewrite (`pre_process_tags`): the pass is idempotent (automatic tagging
  is skipped as soon as one member carries a tag, and after the first run every member carries
  one), and it commutes with the EXTENSIBILITY IMPLIED pass.
-/
namespace Asn1.SpecDict

@[simp] theorem numAttrs_none (a : Attrs) : numAttrs none a = a := rfl

theorem numAttrs_eq (k : Option Nat) (a : Attrs) : ∃ t, numAttrs k a = { a with tag := t } := by
  obtain ⟨ty, nm, tg, op, df, vs, nb, ex⟩ := a
  cases k with
  | none => exact ⟨_, rfl⟩
  | some n => cases tg <;> exact ⟨_, rfl⟩

theorem kindAttrs_eq (sk : Skel) (mt mn : String) (a : Attrs) :
    ∃ t, kindAttrs sk mt mn a = { a with tag := t } ∧ t.isSome = a.tag.isSome := by
  obtain ⟨ty, nm, tg, op, df, vs, nb, ex⟩ := a
  cases tg with
  | none => exact ⟨_, rfl, rfl⟩
  | some t => obtain ⟨num, c, k⟩ := t; cases k <;> exact ⟨_, rfl, rfl⟩

@[simp] theorem numAttrs_core (k : Option Nat) (a : Attrs) : (numAttrs k a).core = a.core := by
  obtain ⟨t, h⟩ := numAttrs_eq k a; rw [h]; rfl

@[simp] theorem kindAttrs_core (sk : Skel) (mt mn : String) (a : Attrs) :
    (kindAttrs sk mt mn a).core = a.core := by
  obtain ⟨t, h, _⟩ := kindAttrs_eq sk mt mn a; rw [h]; rfl

@[simp] theorem numAttrs_default (k : Option Nat) (a : Attrs) :
    (numAttrs k a).default = a.default := by
  obtain ⟨t, h⟩ := numAttrs_eq k a; rw [h]

@[simp] theorem kindAttrs_default (sk : Skel) (mt mn : String) (a : Attrs) :
    (kindAttrs sk mt mn a).default = a.default := by
  obtain ⟨t, h, _⟩ := kindAttrs_eq sk mt mn a; rw [h]

@[simp] theorem numAttrs_type (k : Option Nat) (a : Attrs) : (numAttrs k a).type = a.type :=
  congrArg Core.type (numAttrs_core k a)

@[simp] theorem kindAttrs_type (sk : Skel) (mt mn : String) (a : Attrs) :
    (kindAttrs sk mt mn a).type = a.type :=
  congrArg Core.type (kindAttrs_core sk mt mn a)

@[simp] theorem kindAttrs_tag_isSome (sk : Skel) (mt mn : String) (a : Attrs) :
    (kindAttrs sk mt mn a).tag.isSome = a.tag.isSome := by
  obtain ⟨t, h, ht⟩ := kindAttrs_eq sk mt mn a; rw [h]; exact ht

theorem numAttrs_tag_isSome (n : Nat) (a : Attrs) : (numAttrs (some n) a).tag.isSome = true := by
  obtain ⟨ty, nm, tg, op, df, vs, nb, ex⟩ := a
  cases tg <;> rfl

theorem kindAttrs_idem (sk : Skel) (mt mn : String) (a : Attrs) :
    kindAttrs sk mt mn (kindAttrs sk mt mn a) = kindAttrs sk mt mn a := by
  obtain ⟨ty, nm, tg, op, df, vs, nb, ex⟩ := a
  cases tg with
  | none => rfl
  | some t => obtain ⟨num, c, k⟩ := t; cases k <;> rfl

@[simp] theorem bumpBy_none (n : Nat) : bumpBy none n = none := rfl
@[simp] theorem bumpBy_zero (k : Option Nat) : bumpBy k 0 = k := by cases k <;> rfl

section
variable (sk : Skel) (mt mn : String)

@[simp] theorem tagDesc_attrs (k : Option Nat) (d : Desc) :
    (tagDesc sk mt mn k d).attrs = kindAttrs sk mt mn (numAttrs k d.attrs) := by
  cases d; rfl

@[simp] theorem tagDescs_length (k : Option Nat) (g : List Desc) :
    (tagDescs sk mt mn k g).length = g.length := by
  induction g generalizing k with
  | nil => rfl
  | cons d t ih => simp [tagDescs, ih]

theorem anyTaggedDescs_tagDescs_none (g : List Desc) :
    anyTaggedDescs (tagDescs sk mt mn none g) = anyTaggedDescs g := by
  induction g with
  | nil => rfl
  | cons d t ih => simp [tagDescs, anyTaggedDescs, ih]

theorem anyTagged_tagItems_none (l : List Item) :
    anyTagged (tagItems sk mt mn none l) = anyTagged l := by
  induction l with
  | nil => rfl
  | cons i t ih =>
    cases i <;> simp [tagItems, anyTagged, ih, anyTaggedDescs_tagDescs_none]

theorem tagDescs_some_untagged (k : Nat) (g : List Desc)
    (h : anyTaggedDescs (tagDescs sk mt mn (some k) g) = false) : g = [] := by
  cases g with
  | nil => rfl
  | cons d t => simp [tagDescs, anyTaggedDescs, numAttrs_tag_isSome] at h

/-- After automatic tagging every member carries a tag; if none does, there was no member, and
tagging again changes nothing. -/
theorem tagItems_some_fix (j k : Nat) (l : List Item)
    (h : anyTagged (tagItems sk mt mn (some k) l) = false) :
    tagItems sk mt mn (some j) (tagItems sk mt mn (some k) l) = tagItems sk mt mn (some k) l := by
  induction l generalizing j k with
  | nil => rfl
  | cons i t ih =>
    cases i with
    | marker => exact congrArg (Item.marker :: ·) (ih j k h)
    | compOf r => exact congrArg (Item.compOf r :: ·) (ih j k h)
    | group g =>
      simp only [tagItems, anyTagged, Bool.or_eq_false_iff] at h
      obtain rfl := tagDescs_some_untagged sk mt mn k g h.1
      exact congrArg (Item.group [] :: ·) (ih j k h.2)
    | desc d => simp [tagItems, anyTagged, numAttrs_tag_isSome] at h

mutual
  theorem tagDesc_none_tagDesc (k : Option Nat) (d : Desc) :
      tagDesc sk mt mn none (tagDesc sk mt mn k d) = tagDesc sk mt mn k d :=
    match d with
    | .mk a b => by
      simp only [tagDesc, numAttrs_none]
      rw [tagBody_idem b, kindAttrs_idem]
  theorem tagBody_idem (b : Body) :
      tagBody sk mt mn (tagBody sk mt mn b) = tagBody sk mt mn b :=
    match b with
    | .leaf => rfl
    | .element e => congrArg Body.element (tagDesc_none_tagDesc none e)
    | .members ms => by
      simp only [tagBody]
      congr 1
      -- was the list numbered by the first run, and is it numbered again by the second?
      by_cases hc : mt = "AUTOMATIC" ∧ anyTagged ms = false
      · rw [if_pos hc]
        by_cases h2 : anyTagged (tagItems sk mt mn (some 0) ms) = false
        · rw [if_pos ⟨hc.1, h2⟩]
          exact tagItems_some_fix sk mt mn 0 0 ms h2
        · rw [if_neg (fun h => h2 h.2)]
          exact tagItems_none_tagItems (some 0) ms
      · rw [if_neg hc, anyTagged_tagItems_none, if_neg hc]
        exact tagItems_none_tagItems none ms
  theorem tagItems_none_tagItems (k : Option Nat) (l : List Item) :
      tagItems sk mt mn none (tagItems sk mt mn k l) = tagItems sk mt mn k l :=
    match l with
    | [] => rfl
    | .marker :: t => cons_congr rfl (tagItems_none_tagItems k t)
    | .compOf _ :: t => cons_congr rfl (tagItems_none_tagItems k t)
    | .group g :: t =>
      cons_congr (congrArg Item.group (tagDescs_none_tagDescs k g)) (tagItems_none_tagItems _ t)
    | .desc d :: t =>
      cons_congr (congrArg Item.desc (tagDesc_none_tagDesc k d)) (tagItems_none_tagItems _ t)
  theorem tagDescs_none_tagDescs (k : Option Nat) (g : List Desc) :
      tagDescs sk mt mn none (tagDescs sk mt mn k g) = tagDescs sk mt mn k g :=
    match g with
    | [] => rfl
    | d :: t => cons_congr (tagDesc_none_tagDesc k d) (tagDescs_none_tagDescs _ t)
end

theorem tagDesc_idem (d : Desc) :
    tagDesc sk mt mn none (tagDesc sk mt mn none d) = tagDesc sk mt mn none d :=
  tagDesc_none_tagDesc sk mt mn none d

theorem anyTaggedDescs_extDescs (g : List Desc) :
    anyTaggedDescs (extDescs g) = anyTaggedDescs g := by
  induction g with
  | nil => rfl
  | cons d t ih => simp [extDescs, anyTaggedDescs, ih]

theorem anyTagged_extItems (l : List Item) : anyTagged (extItems l) = anyTagged l := by
  induction l with
  | nil => rfl
  | cons i t ih => cases i <;> simp [extItems, extItem, anyTagged, ih, anyTaggedDescs_extDescs]

theorem anyTagged_append_marker (l : List Item) : anyTagged (l ++ [.marker]) = anyTagged l := by
  induction l with
  | nil => rfl
  | cons i t ih => cases i <;> simp [anyTagged, ih]

theorem anyTagged_addMarker (l : List Item) : anyTagged (addMarker l) = anyTagged l :=
  addMarker_rec (C := fun x => anyTagged x = anyTagged l) rfl (anyTagged_append_marker l)

theorem hasMarker_tagItems (k : Option Nat) (l : List Item) :
    hasMarker (tagItems sk mt mn k l) = hasMarker l := by
  induction l generalizing k with
  | nil => rfl
  | cons i t ih => cases i <;> simp [tagItems, hasMarker, ih]

theorem tagItems_append_marker (k : Option Nat) (l : List Item) :
    tagItems sk mt mn k (l ++ [.marker]) = tagItems sk mt mn k l ++ [.marker] := by
  induction l generalizing k with
  | nil => rfl
  | cons i t ih => cases i <;> simp [tagItems, ih]

mutual
  theorem extDesc_tagDesc (k : Option Nat) (d : Desc) :
      extDesc (tagDesc sk mt mn k d) = tagDesc sk mt mn k (extDesc d) :=
    match d with
    | .mk _ b => congrArg (Desc.mk _) (extBody_tagBody b)
  theorem extBody_tagBody (b : Body) :
      extBody (tagBody sk mt mn b) = tagBody sk mt mn (extBody b) :=
    match b with
    | .leaf => rfl
    | .element e => congrArg Body.element (extDesc_tagDesc none e)
    | .members ms => by
      simp only [tagBody, extBody]
      rw [extItems_tagItems _ ms, anyTagged_addMarker, anyTagged_extItems,
        map_addMarker (hasMarker_tagItems sk mt mn _ _) (tagItems_append_marker sk mt mn _ _)]
  theorem extItems_tagItems (k : Option Nat) (l : List Item) :
      extItems (tagItems sk mt mn k l) = tagItems sk mt mn k (extItems l) :=
    match l with
    | [] => rfl
    | .marker :: t => cons_congr rfl (extItems_tagItems k t)
    | .compOf _ :: t => cons_congr rfl (extItems_tagItems k t)
    | .group g :: t => by
      simp only [tagItems, extItems, extItem, extDescs_length]
      rw [extDescs_tagDescs k g, extItems_tagItems _ t]
    | .desc d :: t =>
      cons_congr (congrArg Item.desc (extDesc_tagDesc k d)) (extItems_tagItems _ t)
  theorem extDescs_tagDescs (k : Option Nat) (g : List Desc) :
      extDescs (tagDescs sk mt mn k g) = tagDescs sk mt mn k (extDescs g) :=
    match g with
    | [] => rfl
    | d :: t => cons_congr (extDesc_tagDesc k d) (extDescs_tagDescs _ t)
end

end

end Asn1.SpecDict
