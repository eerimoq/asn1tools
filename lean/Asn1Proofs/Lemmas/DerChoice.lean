import Asn1Proofs.Lemmas.DerSeqOf
/-
  CHOICE of the shared BER / DER decoder (`gChoice`): what the encoder writes for the alternative a value
  selects (`Alts.Sel`, in Typed), the search by tag, totality of the encoder.
-/
namespace Asn1.Der
open Asn1.X690 (canonV canonAltV defaultsOkV altsDefaultsOkV)

theorem canonAltV_find (as : Alts) (name : String) (v : Val) :
    canonAltV as name v = (as.find name).map (fun x => canonV x.2 v) :=
  Alts.search_map name (f := fun as => canonAltV as name v) (fun _ _ _ => rfl) rfl as

theorem _root_.Asn1.Alts.all_defaultsOkV (as : Alts) (h : altsDefaultsOkV as = true) :
    as.All (fun t => defaultsOkV t = true) :=
  Alts.all_of_and (fun _ _ _ => rfl) as h

theorem IsCodec.test_ne {D : Decoder} {test : Ty → Nat → Bytes → Bool} (hD : IsCodec D test)
    (t : Ty) (i j u : Nat) (c : Bool) (h : i ≠ j) : test t i (mkTag u c (some j)) = false := by
  cases hc : test t i (mkTag u c (some j)) with
  | false => rfl
  | true => exact absurd (hD.test_num t i j u c hc) h

theorem gAlt_find {D : Decoder} {test : Ty → Nat → Bytes → Bool} (hD : IsCodec D test)
    (as : Alts) (name : String) (j : Nat) (t : Ty) (h : as.find name = some (j, t))
    (i : Nat) (fuel : Nat) (bs : Bytes) :
    gAlt D test as i (tagOf t (some (i + j))) fuel bs
      = some (match D t (some (i + j)) fuel bs with
        | .error e => .error e
        | .ok none => .error .unmodelled
        | .ok (some (v, k, r)) => .ok (some (.choice name v, k, r))) := by
  induction as using Alts.ind generalizing j i with
  | nil => cases h
  | cons n t' rest ih =>
    rcases Alts.find_cons_some h with ⟨rfl, rfl, rfl⟩ | ⟨j', h1, rfl⟩
    · simp only [gAlt, Nat.add_zero, hD.test_self, if_true]
      rfl
    · have hne : test t' i (tagOf t (some (i + (j' + 1)))) = false :=
        hD.test_ne _ _ _ _ _ (by omega)
      simp only [gAlt, hne, Bool.false_eq_true, if_false]
      have := ih j' h1 (i + 1)
      rw [show i + 1 + j' = i + (j' + 1) by omega] at this
      exact this

theorem gAlt_none {D : Decoder} {test : Ty → Nat → Bytes → Bool} (hD : IsCodec D test)
    (as : Alts) (u : Nat) (c : Bool) (idx i : Nat) (fuel : Nat) (bs : Bytes)
    (h : i + as.length ≤ idx) :
    gAlt D test as i (mkTag u c (some idx)) fuel bs = none := by
  induction as using Alts.ind generalizing i with
  | nil => rfl
  | cons n t rest ih =>
    simp only [Alts.length] at h
    simp only [gAlt, hD.test_ne t i idx u c (by omega), Bool.false_eq_true, if_false]
    exact ih (i + 1) (by omega)

theorem enc_sel {root adds : Alts} {name : String} {idx : Nat} {t : Ty} (h : Alts.Sel root adds name idx t)
    (ext : Bool) (tg : Option Nat) (v : Val) :
    enc (.choice root ext adds) tg (.choice name v) =
      match tg with
      | none => enc t (some idx) v
      | some _ =>
        match enc t (some idx) v with
        | .error e => .error e
        | .ok body => .ok (tlv (mkTag 0 true tg) body) := by
  simp only [Der.enc]
  rw [encAlt_find, encAlt_find]
  rcases h with hf | ⟨hf, j, hfa, rfl⟩
  · simp only [hf, Option.map_some, Nat.zero_add]
    cases tg <;> rfl
  · simp only [hf, hfa, Option.map_some, Option.map_none]
    cases tg <;> rfl

theorem gChoice_of_bare {D : Decoder} {test : Ty → Nat → Bytes → Bool}
    (root : Alts) (ext : Bool) (adds : Alts) (tg : Option Nat) (inner : EncM Bytes)
    (bytes rest : Bytes) (fuel : Nat) (w : Val)
    (he : (match tg with
      | none => inner
      | some _ =>
        match inner with
        | .error e => .error e
        | .ok body => .ok (tlv (mkTag 0 true tg) body)) = .ok bytes)
    (hb : ∀ body, inner = .ok body → body.length ≤ bytes.length → ∀ rest',
      gBare D test root ext adds fuel (body ++ rest') = .ok (some (w, body.length, rest'))) :
    gChoice D test root ext adds tg fuel (bytes ++ rest) = .ok (some (w, bytes.length, rest)) := by
  cases tg with
  | none =>
    rw [gChoice]
    exact hb bytes he (Nat.le_refl _) rest
  | some i =>
    cases hin : inner with
    | error e => rw [hin] at he; cases he
    | ok body =>
      rw [hin] at he
      cases he
      have hlen := tlv_length (mkTag 0 true (some i)) body
      rw [gChoice, tlv_append]
      simp only [matchTag_self, readLen_encLength, hb body hin (by omega) rest, hlen]

theorem skipTLV_tlv (u : Nat) (c : Bool) (j : Nat) (content rest : Bytes) :
    skipTLV (tlv (mkTag u c (some j)) content ++ rest)
      = .ok ((tlv (mkTag u c (some j)) content).length, rest) := by
  rw [tlv_append, skipTLV]
  simp only [bind, Except.bind]
  rw [readTag_mkTag_ctx u c j _ (by simp [encLength_ne_nil])]
  simp only [readLen_encLength, tlv_length, List.drop_left]

/-- `body` need not be an encoding under the decoder's own type `t`, only start with its tag (`hst`) -/
theorem gBare_known {D : Decoder} {test : Ty → Nat → Bytes → Bool} (hD : IsCodec D test)
    (root : Alts) (ext : Bool) (adds : Alts) (name : String) (idx : Nat) (t : Ty)
    (hf : root.find name = some (idx, t) ∨ ∃ j, adds.find name = some (j, t) ∧ idx = root.length + j)
    (w : Val) (body rest : Bytes) (fuel : Nat)
    (hst : ∃ r, body = tagOf t (some idx) ++ r ∧ r ≠ [])
    (hdec : D t (some idx) fuel (body ++ rest) = .ok (some (w, body.length, rest))) :
    gBare D test root ext adds fuel (body ++ rest)
      = .ok (some (.choice name w, body.length, rest)) := by
  obtain ⟨r, hr, hrne⟩ := hst
  have htag : readTag (body ++ rest) = .ok (tagOf t (some idx), r ++ rest) := by
    rw [hr, List.append_assoc]
    exact readTag_mkTag_ctx _ _ _ _ (by simp [hrne])
  rw [gBare, htag]
  simp only []
  rcases hf with hf | ⟨j, hf, rfl⟩
  · have hg := gAlt_find hD root name idx t hf 0 fuel (body ++ rest)
    rw [Nat.zero_add] at hg
    rw [hg, hdec]
  · have hn : gAlt D test root 0 (tagOf t (some (root.length + j))) fuel (body ++ rest) = none :=
      gAlt_none hD root _ _ _ 0 fuel _ (by omega)
    rw [hn]
    simp only []
    rw [gAlt_find hD adds name j t hf root.length fuel (body ++ rest), hdec]

theorem gBare_unknown {D : Decoder} {test : Ty → Nat → Bytes → Bool} (hD : IsCodec D test)
    (root adds : Alts) (u : Nat) (c : Bool) (idx : Nat) (content rest : Bytes) (fuel : Nat)
    (h : root.length + adds.length ≤ idx) :
    gBare D test root true adds fuel (tlv (mkTag u c (some idx)) content ++ rest)
      = .ok (some (.choice "" .absent, (tlv (mkTag u c (some idx)) content).length, rest)) := by
  have htag : readTag (tlv (mkTag u c (some idx)) content ++ rest)
      = .ok (mkTag u c (some idx), Ber.encLength content.length ++ (content ++ rest)) := by
    rw [tlv_append]
    exact readTag_mkTag_ctx _ _ _ _ (by simp [encLength_ne_nil])
  have hn1 : gAlt D test root 0 (mkTag u c (some idx)) fuel (tlv (mkTag u c (some idx)) content ++ rest) = none :=
    gAlt_none hD root _ _ _ 0 fuel _ (by omega)
  have hn2 : gAlt D test adds root.length (mkTag u c (some idx)) fuel
      (tlv (mkTag u c (some idx)) content ++ rest) = none :=
    gAlt_none hD adds _ _ _ root.length fuel _ (by omega)
  rw [gBare, htag]
  simp only []
  rw [hn1]
  simp only []
  rw [hn2]
  simp only [if_true, skipTLV_tlv]

theorem et_choice (root : Alts) (ext : Bool) (adds : Alts)
    (ihr : root.All ET) (iha : adds.All ET) : ET (.choice root ext adds) := by
  intro tg v hwf ht
  obtain ⟨name, v, idx, t, rfl, hwt, hty, hsel⟩ := alt_of_hasType hwf ht
  obtain ⟨body, hb⟩ := hsel.all ihr iha (some idx) v hwt hty
  rw [enc_sel hsel, hb]
  cases tg <;> exact ⟨_, rfl⟩

#print axioms et_choice

end Asn1.Der
