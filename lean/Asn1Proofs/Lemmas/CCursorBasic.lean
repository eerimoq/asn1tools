import Asn1Proofs.Lemmas.CCursorPureDefs
import Asn1Proofs.Lemmas.ExceptLemmas
import Asn1Proofs.Lemmas.OerBits
/-
  C09 groundwork: invariant of the UPER C helper library model (`Asn1Model/CCursor.lean`), the checked
  primitives on inputs where they do not fault, and exact characterisations of `*_init` / `*_abort` /
  `*_get_result`; at the end, for both helper libraries, the big-endian accumulation `acc << 8 | b` of the
  fixed width readers and the octets `value >> 8k` of the fixed width writers.
  Numeric literals: 2^24 = 16777216, 2^31 = 2147483648 (`int` is 32 bit: a bit value below 2^24 can be
  shifted by up to 7 without reaching 2^31), 2^59 = 576460752303423488, 2^62 = 4611686018427387904,
  2^63 = 9223372036854775808, 2^64 = 18446744073709551616.  The UPER cursor counts bits: an object below
  2^59 bytes has at most 2^62 bits, and a request below 2^62 added to a position of at most 2^62 stays below
  2^63, so `encoder_alloc` / `decoder_free` cannot overflow `ssize_t`; the OER cursor counts bytes and takes the
  bound 2^62 on the object itself.  A latched error code is at most 2^62 for the same reason.
  `12` and `500` are `ENOMEM` and `EOUTOFDATA` of the C source (`asn1tools/source/c/__init__.py`; `CCursor.ENOMEM`,
  `CCursor.EOUTOFDATA` in the model), the codes `encoder_alloc` and `decoder_free` latch.
-/
namespace Asn1.CCursor

theorem ssz_ok {x : Int} (h1 : -9223372036854775808 ≤ x) (h2 : x ≤ 9223372036854775807) :
    ssz x = .ok x := by
  simp [ssz, h1, h2]

theorem toSsize_small {n : UInt64} (h : n.toNat < 9223372036854775808) : toSsize n = n.toNat := by
  simp [toSsize, h]

theorem toSize_nonneg {x : Int} (h0 : 0 ≤ x) (h1 : x < 18446744073709551616) :
    (toSize x).toNat = x.toNat := by
  unfold toSize
  rw [UInt64.toNat_ofNat']
  have : (x % 18446744073709551616) = x := Int.emod_eq_of_lt h0 h1
  rw [this]
  omega

theorem bit_index {p : Int} (h0 : 0 ≤ p) :
    0 ≤ p / 8 ∧ (p / 8).toNat = p.toNat / 8 ∧ (7 - p % 8).toNat = 7 - p.toNat % 8
      ∧ (p % 8 = 0 ↔ p.toNat % 8 = 0) := by
  obtain ⟨n, rfl⟩ := Int.eq_ofNat_of_zero_le h0
  omega

theorem shrS32_ok {v s : Nat} (h : s < 32) : shrS32 v s = .ok (v >>> s) := by simp [shrS32, h]
theorem shlS32_ok {v s : Nat} (h : s < 32) (h2 : v <<< s < 2147483648) : shlS32 v s = .ok (v <<< s) := by
  simp [shlS32, h, h2]
theorem shrU32_ok {v : UInt32} {s : Nat} (h : s < 32) : shrU32 v s = .ok (v >>> UInt32.ofNat s) := by simp [shrU32, h]
theorem shlU32_ok {v : UInt32} {s : Nat} (h : s < 32) : shlU32 v s = .ok (v <<< UInt32.ofNat s) := by simp [shlU32, h]
theorem shrU64_ok {v : UInt64} {s : Nat} (h : s < 64) : shrU64 v s = .ok (v >>> UInt64.ofNat s) := by simp [shrU64, h]
theorem shlU64_ok {v : UInt64} {s : Nat} (h : s < 64) : shlU64 v s = .ok (v <<< UInt64.ofNat s) := by simp [shlU64, h]

theorem Mem.load_ok {m : Mem} {i : Nat} (h : i < m.size) : m.load i = .ok m[i]! := by
  simp [Mem.load, h]

theorem Mem.store_ok {m : Mem} {i : Nat} {v : UInt8} (h : i < m.size) : m.store i v = .ok (m.set! i v) := by
  simp [Mem.store, h, Array.set!_eq_setIfInBounds, Array.setIfInBounds]

theorem Mem.loadI_ok {m : Mem} {i : Int} (h0 : 0 ≤ i) (h : i.toNat < m.size) : m.loadI i = .ok m[i.toNat]! := by
  have : ¬ i < 0 := by omega
  simp [Mem.loadI, this, Mem.load_ok h]

theorem Mem.storeI_ok {m : Mem} {i : Int} {v : UInt8} (h0 : 0 ≤ i) (h : i.toNat < m.size) :
    m.storeI i v = .ok (m.set! i.toNat v) := by
  have : ¬ i < 0 := by omega
  simp [Mem.storeI, this, Mem.store_ok h]

theorem Mem.ptr_ok {m : Mem} {i : Nat} (h : i ≤ m.size) : m.ptr i = .ok () := by simp [Mem.ptr, h]

@[simp] theorem Mem.size_set! (m : Mem) (i : Nat) (v : UInt8) : (m.set! i v).size = m.size := by
  simp [Array.set!_eq_setIfInBounds]

/-- Representation invariant of `struct encoder_t`: the memory object is smaller than 2^59 bytes and
either the cursor is live (`0 ≤ pos ≤ size ≤ 8·|object|`) or the error is latched
(`size = pos = -error`). -/
def Enc.Inv (e : Enc) : Prop :=
  e.buf.size < 576460752303423488 ∧
  ((0 ≤ e.pos ∧ e.pos ≤ e.size ∧ e.size ≤ 8 * (e.buf.size : Int)) ∨
   (e.size < 0 ∧ e.pos = e.size ∧ -4611686018427387904 ≤ e.size))

/-- an error code is latched in the encoder (`size` and `pos` hold its negative) -/
def Enc.Latched (e : Enc) : Prop := e.size < 0

/-- Representation invariant of `struct decoder_t`, the same as `Enc.Inv`: nothing is assumed about the
content of the input object. -/
def Dec.Inv (d : Dec) : Prop :=
  d.buf.size < 576460752303423488 ∧
  ((0 ≤ d.pos ∧ d.pos ≤ d.size ∧ d.size ≤ 8 * (d.buf.size : Int)) ∨
   (d.size < 0 ∧ d.pos = d.size ∧ -4611686018427387904 ≤ d.size))

/-- an error code is latched in the decoder -/
def Dec.Latched (d : Dec) : Prop := d.size < 0

/-- the struct after `encoder_abort(err)` / `decoder_abort(err)` on a live cursor: `size = pos = -err` -/
def Enc.latch (e : Enc) (err : Int) : Enc := { e with size := -err, pos := -err }

def Dec.latch (d : Dec) (err : Int) : Dec := { d with size := -err, pos := -err }

theorem Enc.init_ok {buf : Mem} {size : UInt64} (h : size.toNat < 576460752303423488) :
    Enc.init buf size = .ok { buf := buf, size := 8 * (size.toNat : Int), pos := 0 } := by
  unfold Enc.init
  rw [toSsize_small (by omega), ssz_ok (by omega) (by omega)]
  rfl

theorem Dec.init_ok {buf : Mem} {size : UInt64} (h : size.toNat < 576460752303423488) :
    Dec.init buf size = .ok { buf := buf, size := 8 * (size.toNat : Int), pos := 0 } := by
  unfold Dec.init
  rw [toSsize_small (by omega), ssz_ok (by omega) (by omega)]
  rfl

theorem Enc.abort_latched {e : Enc} (h : e.size < 0) (err : Int) : e.abort err = .ok e := by
  have : ¬ e.size ≥ 0 := by omega
  simp [Enc.abort, this]

theorem Enc.abort_live {e : Enc} (h : 0 ≤ e.size) {err : Int}
    (h1 : -9223372036854775807 ≤ err) (h2 : err ≤ 9223372036854775808) :
    e.abort err = .ok (e.latch err) := by
  unfold Enc.abort
  rw [if_pos (by omega), ssz_ok (by omega) (by omega)]
  rfl

theorem Dec.abort_latched {d : Dec} (h : d.size < 0) (err : Int) : d.abort err = .ok d := by
  have : ¬ d.size ≥ 0 := by omega
  simp [Dec.abort, this]

theorem Dec.abort_live {d : Dec} (h : 0 ≤ d.size) {err : Int}
    (h1 : -9223372036854775807 ≤ err) (h2 : err ≤ 9223372036854775808) :
    d.abort err = .ok (d.latch err) := by
  unfold Dec.abort
  rw [if_pos (by omega), ssz_ok (by omega) (by omega)]
  rfl

theorem Enc.latch_inv {e : Enc} (hb : e.buf.size < 576460752303423488) {err : Int}
    (h1 : 0 < err) (h2 : err ≤ 4611686018427387904) : (e.latch err).Inv := by
  refine ⟨hb, Or.inr ⟨?_, rfl, ?_⟩⟩ <;> simp [Enc.latch] <;> omega

theorem Dec.latch_inv {d : Dec} (hb : d.buf.size < 576460752303423488) {err : Int}
    (h1 : 0 < err) (h2 : err ≤ 4611686018427387904) : (d.latch err).Inv := by
  refine ⟨hb, Or.inr ⟨?_, rfl, ?_⟩⟩ <;> simp [Dec.latch] <;> omega

theorem Enc.getResult_live {e : Enc} (hi : e.Inv) (h : 0 ≤ e.size) :
    e.getResult = .ok ((e.pos + 7) / 8) := by
  obtain ⟨hb, hi | hi⟩ := hi
  · unfold Enc.getResult
    rw [if_pos (by omega), ssz_ok (by omega) (by omega), ok_bind, Int.tdiv_eq_ediv_of_nonneg (by omega)]
  · omega

theorem Enc.getResult_latched {e : Enc} (h : e.size < 0) : e.getResult = .ok e.pos := by
  have : ¬ e.size ≥ 0 := by omega
  simp [Enc.getResult, this]

theorem Dec.getResult_live {d : Dec} (hi : d.Inv) (h : 0 ≤ d.size) :
    d.getResult = .ok ((d.pos + 7) / 8) := by
  obtain ⟨hb, hi | hi⟩ := hi
  · unfold Dec.getResult
    rw [if_pos (by omega), ssz_ok (by omega) (by omega), ok_bind, Int.tdiv_eq_ediv_of_nonneg (by omega)]
  · omega

theorem Dec.getResult_latched {d : Dec} (h : d.size < 0) : d.getResult = .ok d.pos := by
  have : ¬ d.size ≥ 0 := by omega
  simp [Dec.getResult, this]

theorem shl_toNat32 (b : UInt8) (s : UInt32) (hs : s.toNat ≤ 24) :
    (b.toUInt32 <<< s).toNat = b.toNat <<< s.toNat := by
  have h1 := Nat.mul_le_mul (Nat.le_of_lt_succ b.toNat_lt) (Nat.pow_le_pow_right (show 0 < 2 by decide) hs)
  rw [UInt32.toNat_shiftLeft, UInt8.toNat_toUInt32, Nat.mod_eq_of_lt (show s.toNat < 32 by omega),
    Nat.mod_eq_of_lt (by rw [Nat.shiftLeft_eq]; omega)]

theorem shl_toNat64 (b : UInt8) (s : UInt64) (hs : s.toNat ≤ 56) :
    (b.toUInt64 <<< s).toNat = b.toNat <<< s.toNat := by
  have h1 := Nat.mul_le_mul (Nat.le_of_lt_succ b.toNat_lt) (Nat.pow_le_pow_right (show 0 < 2 by decide) hs)
  rw [UInt64.toNat_shiftLeft, UInt8.toNat_toUInt64, Nat.mod_eq_of_lt (show s.toNat < 64 by omega),
    Nat.mod_eq_of_lt (by rw [Nat.shiftLeft_eq]; omega)]

/-- big-endian accumulation with the C operators: `acc << 8 | b` -/
theorem bytesToNat_map_toNat (bs : List UInt8) :
    bytesToNat (bs.map UInt8.toNat) = bs.foldl (fun acc b => acc <<< 8 ||| b.toNat) 0 := by
  have : ∀ acc, (bs.map UInt8.toNat).foldl (fun acc b => 256 * acc + b) acc =
      bs.foldl (fun acc b => acc <<< 8 ||| b.toNat) acc := by
    induction bs with
    | nil => intro acc; rfl
    | cons b bs ih =>
      intro acc
      rw [List.map_cons, List.foldl_cons, List.foldl_cons, ih, ← Nat.shiftLeft_add_eq_or_of_lt b.toNat_lt,
        Nat.shiftLeft_eq, Nat.mul_comm]
  exact this 0

theorem natToBytesN_eq_range (k : Nat) : ∀ n : Nat,
    natToBytesN k n = ((List.range k).map fun i => n >>> (8 * i) % 256).reverse := by
  induction k with
  | zero => intro n; rfl
  | succ k ih =>
    intro n
    rw [natToBytesN, ih, List.range_succ_eq_map]
    simp [Function.comp_def, Nat.mul_add, Nat.shiftRight_add, Nat.shiftRight_eq_div_pow n 8, Nat.add_comm]

/- `b0 << 24 | b1 << 16 | …` is the accumulation `((b0 << 8 | b1) << 8 | …)` with the shifts distributed -/

theorem u16_bytes (a b : UInt8) :
    (UInt16.ofNat (a.toNat <<< 8 ||| b.toNat)).toNat = bytesToNat [a.toNat, b.toNat] := by
  have h0 := a.toNat_lt
  have h1 := b.toNat_lt
  simp only [UInt16.toNat_ofNat', bytesToNat, List.foldl_cons, List.foldl_nil]
  rw [← Nat.shiftLeft_add_eq_or_of_lt (by omega : b.toNat < 2 ^ 8), Nat.shiftLeft_eq]
  omega

theorem u32_bytes (a b c e : UInt8) :
    (a.toUInt32 <<< 24 ||| b.toUInt32 <<< 16 ||| c.toUInt32 <<< 8 ||| e.toUInt32).toNat =
      bytesToNat [a.toNat, b.toNat, c.toNat, e.toNat] := by
  change _ = bytesToNat ([a, b, c, e].map UInt8.toNat)
  rw [bytesToNat_map_toNat]
  simp only [UInt32.toNat_or, shl_toNat32, UInt8.toNat_toUInt32, UInt32.reduceToNat, List.foldl_cons, List.foldl_nil,
    Nat.shiftLeft_or_distrib, ← Nat.shiftLeft_add, Nat.zero_shiftLeft, Nat.zero_or, Nat.reduceLeDiff, Nat.reduceAdd]

theorem u64_bytes (a b c e f g i k : UInt8) :
    (a.toUInt64 <<< 56 ||| b.toUInt64 <<< 48 ||| c.toUInt64 <<< 40 ||| e.toUInt64 <<< 32 |||
      f.toUInt64 <<< 24 ||| g.toUInt64 <<< 16 ||| i.toUInt64 <<< 8 ||| k.toUInt64).toNat =
      bytesToNat [a.toNat, b.toNat, c.toNat, e.toNat, f.toNat, g.toNat, i.toNat, k.toNat] := by
  change _ = bytesToNat ([a, b, c, e, f, g, i, k].map UInt8.toNat)
  rw [bytesToNat_map_toNat]
  simp only [UInt64.toNat_or, shl_toNat64, UInt8.toNat_toUInt64, UInt64.reduceToNat, List.foldl_cons, List.foldl_nil,
    Nat.shiftLeft_or_distrib, ← Nat.shiftLeft_add, Nat.zero_shiftLeft, Nat.zero_or, Nat.reduceLeDiff, Nat.reduceAdd]

theorem bytesU16_toNat (v : UInt16) : (bytesU16 v).toList.map UInt8.toNat = natToBytesN 2 v.toNat := by
  simp [bytesU16, natToBytesN_eq_range, List.range_succ]

theorem bytesU32_toNat (v : UInt32) : (bytesU32 v).toList.map UInt8.toNat = natToBytesN 4 v.toNat := by
  simp [bytesU32, natToBytesN_eq_range, List.range_succ]

theorem bytesU64_toNat (v : UInt64) : (bytesU64 v).toList.map UInt8.toNat = natToBytesN 8 v.toNat := by
  simp [bytesU64, natToBytesN_eq_range, List.range_succ]

/-- a slice of a memory object, byte by byte -/
theorem window_eq (m : Mem) (p n : Nat) (h : p + n ≤ m.size) :
    (m.toList.drop p).take n = (List.range n).map fun k => m[p + k]! := by
  apply List.ext_getElem
  · simp; omega
  · intro i h1 h2
    simp at h1 h2
    have : p + i < m.size := by omega
    simp [this]

end Asn1.CCursor
