import Asn1Proofs.Lemmas.OerDefs
/-
  Round trip and totality for the leaf types of the OER model.
-/
namespace Asn1

theorem find?_cons_ite {α : Type} (p : α → Prop) [DecidablePred p] (a : α) (l : List α) :
    (a :: l).find? (fun k => decide (p k)) =
      if p a then some a else l.find? (fun k => decide (p k)) := by
  rw [List.find?_cons]
  by_cases h : p a
  · rw [if_pos h, decide_eq_true h]
  · rw [if_neg h, decide_eq_false h]

theorem find?_least {p : Nat → Bool} : ∀ {l : List Nat} {k : Nat}, l.Pairwise (· ≤ ·) →
    l.find? p = some k → k ∈ l ∧ p k = true ∧ ∀ k' ∈ l, p k' = true → k ≤ k'
  | a :: l, k, hs, h => by
    rw [List.pairwise_cons] at hs
    rw [List.find?_cons] at h
    cases hp : p a with
    | true =>
      rw [hp] at h
      cases h
      refine ⟨List.mem_cons_self, hp, fun k' hk' _ => ?_⟩
      rcases List.mem_cons.1 hk' with rfl | hk'
      · exact Nat.le_refl _
      · exact hs.1 k' hk'
    | false =>
      rw [hp] at h
      obtain ⟨h1, h2, h3⟩ := find?_least hs.2 h
      refine ⟨List.mem_cons_of_mem _ h1, h2, fun k' hk' hpk => ?_⟩
      rcases List.mem_cons.1 hk' with rfl | hk'
      · rw [hp] at hpk; cases hpk
      · exact h3 k' hk' hpk

end Asn1

namespace Asn1.Oer
open Asn1.Uper (Err utf8Enc utf8Dec alphabetOf)

theorem rt_boolean : RT .boolean := by
  intro v bytes rest _ _ _ ht _ _ he
  obtain ⟨b, rfl⟩ := hasType_boolean ht
  cases he
  cases b <;> rfl

theorem et_boolean : ET .boolean := by
  intro v _ ht
  obtain ⟨b, rfl⟩ := hasType_boolean ht
  exact .ok _

theorem rt_null : RT .null := by
  intro v bytes rest _ _ _ ht _ _ he
  cases hasType_null ht
  cases he
  rfl

theorem et_null : ET .null := fun _ _ _ => .ok _

theorem intFixed_some {c ks} (h : intFixed c = some ks) :
    ∃ lo hi, c = ⟨some lo, some hi, false⟩ := by
  obtain ⟨lo, hi, ext⟩ := c
  cases ext with
  | true => cases h
  | false =>
    cases lo with
    | none => cases h
    | some lo =>
      cases hi with
      | none => cases h
      | some hi => exact ⟨lo, hi, rfl⟩

/-- the bounds fit a fixed-size number of `k` octets: unsigned when the lower bound is not negative,
in two's complement otherwise -/
def fitsW (lo hi : Int) (k : Nat) : Prop :=
  if 0 ≤ lo then hi < (256 : Int) ^ k
  else -(2 : Int) ^ (8 * k - 1) ≤ lo ∧ hi < (2 : Int) ^ (8 * k - 1)

instance (lo hi : Int) (k : Nat) : Decidable (fitsW lo hi k) := by unfold fitsW; infer_instance

theorem fitsW_nonneg {lo hi : Int} {k : Nat} (h0 : 0 ≤ lo) : fitsW lo hi k ↔ hi < (256 : Int) ^ k := by
  rw [fitsW, if_pos h0]

theorem fitsW_neg {lo hi : Int} {k : Nat} (h0 : lo < 0) :
    fitsW lo hi k ↔ -(2 : Int) ^ (8 * k - 1) ≤ lo ∧ hi < (2 : Int) ^ (8 * k - 1) := by
  rw [fitsW, if_neg (Int.not_le.2 h0)]

/-- the width table is a search: the first of 1, 2, 4, 8 octets that the bounds fit (the numerals of
`intFixed` are the powers, by evaluation) -/
theorem intFixed_find (lo hi : Int) :
    intFixed ⟨some lo, some hi, false⟩ =
      ([1, 2, 4, 8].find? (fun k => decide (fitsW lo hi k))).map (·, decide (lo < 0)) := by
  unfold intFixed
  rw [if_neg Bool.false_ne_true]
  simp only [find?_cons_ite, List.find?_nil, apply_ite (Option.map _), Option.map_some,
    Option.map_none]
  by_cases h0 : 0 ≤ lo
  · simp only [fitsW, if_pos h0, ge_iff_le, decide_eq_false (Int.not_lt.2 h0)]
    rfl
  · simp only [fitsW, if_neg h0, ge_iff_le, decide_eq_true (Int.not_le.1 h0)]
    rfl

theorem intFixed_least {lo hi k s} (h : intFixed ⟨some lo, some hi, false⟩ = some (k, s)) :
    (s = false → 0 ≤ lo) ∧ (s = true → lo < 0) ∧ k ∈ [1, 2, 4, 8] ∧ fitsW lo hi k ∧
      ∀ k' ∈ [1, 2, 4, 8], fitsW lo hi k' → k ≤ k' := by
  rw [intFixed_find, Option.map_eq_some_iff] at h
  obtain ⟨_, hf, e⟩ := h
  cases e
  obtain ⟨h1, h2, h3⟩ := find?_least (by decide) hf
  exact ⟨fun hs => Int.not_lt.1 (of_decide_eq_false hs), of_decide_eq_true, h1, of_decide_eq_true h2,
    fun k' hk' hp => h3 k' hk' (decide_eq_true hp)⟩

theorem intFixed_of_fits {lo hi : Int} (hfit : fitsW lo hi 8) :
    ∃ ks, intFixed ⟨some lo, some hi, false⟩ = some ks := by
  rw [intFixed_find]
  cases hf : [1, 2, 4, 8].find? (fun k => decide (fitsW lo hi k)) with
  | some k => exact ⟨_, rfl⟩
  | none =>
    exact absurd (decide_eq_true hfit) (by simpa using List.find?_eq_none.1 hf 8 (by decide))

theorem intSigned_false {c : IntC} (h : intSigned c = false) :
    ∃ lo, c.lo = some lo ∧ c.ext = false ∧ 0 ≤ lo := by
  unfold intSigned at h
  split at h
  · rename_i lo hlo
    split at h
    · cases h
    · rename_i hext
      exact ⟨lo, hlo, by simpa using hext, by simpa using h⟩
  · cases h

theorem rt_integer (c : IntC) : RT (.integer c) := by
  intro v bytes rest _ _ _ ht _ _ he
  obtain ⟨i, rfl, hin⟩ := hasType_integer ht
  rw [enc] at he
  rw [dec, canon_integer]
  cases hfx : intFixed c with
  | some ks =>
    obtain ⟨k, s⟩ := ks
    obtain ⟨lo, hi, rfl⟩ := intFixed_some hfx
    obtain ⟨hu, hs, hk, hf, -⟩ := intFixed_least hfx
    have hk1 : 1 ≤ k := by simp only [List.mem_cons, List.mem_nil_iff, or_false] at hk; omega
    rw [hfx] at he
    dsimp only at he ⊢
    split at he
    · rename_i hr
      cases he
      rw [Bool.and_eq_true, decide_eq_true_eq, decide_eq_true_eq] at hr
      rw [readBytes_append _ _ (intToBytesN_length _ _), ok_bind]
      cases s with
      | false =>
        have h0 := hu rfl
        have h1 := (fitsW_nonneg h0).1 hf
        show Except.ok (Val.int (bytesToNat (intToBytesN k i) : Nat), rest) = _
        rw [bytesToNat_intToBytesN k i (by omega) (by rw [Int.natCast_pow]; exact Int.lt_of_le_of_lt hr.2 h1)]
      | true =>
        obtain ⟨h0, h1⟩ := (fitsW_neg (hs rfl)).1 hf
        show Except.ok (Val.int (bytesToInt (intToBytesN k i)), rest) = _
        rw [bytesToInt_intToBytesN k i hk1 (by rw [Int.natCast_pow]; exact Int.le_trans h0 hr.1)
          (by rw [Int.natCast_pow]; exact Int.lt_of_le_of_lt hr.2 h1)]
    · cases he
  | none =>
    rw [hfx] at he
    dsimp only at he ⊢
    cases hsg : intSigned c with
    | true =>
      rw [hsg, if_pos rfl] at he
      rw [if_pos rfl, decSigned_encSigned he, ok_bind]
    | false =>
      obtain ⟨lo, hlo, hext, h0⟩ := intSigned_false hsg
      simp only [hext, Bool.false_or, intInRange, hlo, Bool.and_eq_true, decide_eq_true_eq] at hin
      rw [hsg, if_neg Bool.false_ne_true, if_neg (by omega)] at he
      rw [if_neg Bool.false_ne_true, decUnsigned_encUnsigned he, ok_bind]
      show Except.ok (Val.int (i.toNat : Nat), rest) = _
      rw [Int.toNat_of_nonneg (by omega)]

theorem et_integer (c : IntC) : ET (.integer c) := by
  intro v _ ht
  obtain ⟨i, rfl, hin⟩ := hasType_integer ht
  rw [enc]
  cases hfx : intFixed c with
  | some ks =>
    obtain ⟨lo, hi, rfl⟩ := intFixed_some hfx
    dsimp only
    rw [if_pos (by exact hin)]
    exact .ok _
  | none =>
    dsimp only
    cases hsg : intSigned c with
    | true => rw [if_pos rfl]; exact encSigned_total i
    | false =>
      obtain ⟨lo, hlo, hext, h0⟩ := intSigned_false hsg
      simp only [hext, Bool.false_or, intInRange, hlo, Bool.and_eq_true, decide_eq_true_eq] at hin
      rw [if_neg Bool.false_ne_true, if_neg (by omega)]
      exact encUnsigned_total _

theorem mem_namesOf_append (n : String) (a b : List (String × Int)) :
    n ∈ namesOf (a ++ b) ↔ n ∈ namesOf a ∨ n ∈ namesOf b := by
  simp [namesOf]

/-- the decoder that knows the additions `extD`, on the encoding of `name` under the additions `extE`: it
finds the item by the value `val` that `name` has for the encoder -/
theorem dec_enc_enumerated {root : List (String × Int)} {extE : Option (List (String × Int))}
    (extD : Option (List (String × Int))) {name : String} {bytes : Bytes} (rest : Bytes)
    (hwf2 : oerWf (.enumerated root extE) = true)
    (he : enc (.enumerated root extE) (.enum name) = .ok bytes) :
    ∃ val, enumName val (root ++ extE.getD []) = some name ∧
      dec (.enumerated root extD) (bytes ++ rest) =
        (match enumName val (root ++ extD.getD []) with
         | some n => .ok (.enum n, rest)
         | none => if extD.isSome then .ok (.absent, rest) else .error .decodeError) := by
  have hnd : ((root ++ extE.getD []).map (·.2)).Nodup := of_decide_eq_true hwf2
  rw [enc] at he
  split at he
  · cases he
  · rename_i val hval
    refine ⟨val, enumName_of_enumValue name val _ hnd hval, ?_⟩
    split at he
    · rename_i hsmall
      cases he
      have hlt : ¬ val.toNat ≥ 128 := by omega
      rw [List.cons_append, dec_enumerated_cons, if_neg hlt, ok_bind, Int.toNat_of_nonneg hsmall.1]
      rfl
    · split at he
      · rename_i l r henc
        cases he
        rw [List.cons_append, dec_enumerated_cons, if_pos (by omega), Nat.add_sub_cancel,
          ← List.cons_append, decSigned_encSigned henc, ok_bind]
        rfl
      · cases he
      · cases he

theorem rt_enumerated (root : List (String × Int)) (ext : Option (List (String × Int))) :
    RT (.enumerated root ext) := by
  intro v bytes rest _ hwf2 _ ht _ _ he
  obtain ⟨name, rfl, -⟩ := hasType_enumerated ht
  obtain ⟨val, hname, hdec⟩ := dec_enc_enumerated ext rest hwf2 he
  rw [hdec, hname, canon_enumerated]

theorem et_enumerated (root : List (String × Int)) (ext : Option (List (String × Int))) :
    ET (.enumerated root ext) := by
  intro v _ ht
  obtain ⟨name, rfl, hn⟩ := hasType_enumerated ht
  obtain ⟨val, hval⟩ := enumValue_of_mem name _ (enum_hasType_mem hn)
  rw [enc, hval]
  dsimp only
  split
  · exact .ok _
  · rcases encSigned_total val with ⟨bs, hbs⟩ | hbs
    · cases bs with
      | nil => exact absurd rfl (encSigned_ne_nil hbs)
      | cons l r => rw [hbs]; exact .ok _
    · rw [hbs]; exact Or.inr rfl

theorem fixedSize_spec {c : SizeC} {n : Nat} (h : fixedSize c = some n) :
    c.ext = false ∧ c.hi = some n ∧ c.lo = n := by
  unfold fixedSize at h
  split at h
  · cases h
  · rename_i hext
    split at h
    · rename_i hi hhi
      split at h
      · rename_i hlo
        cases h
        exact ⟨by simpa using hext, hhi, hlo⟩
      · cases h
    · cases h

theorem sizeOk_fixed {c : SizeC} {n m : Nat} (h : fixedSize c = some n) (hs : sizeOk c m = true) :
    m = n := by
  obtain ⟨_, hhi, hlo⟩ := fixedSize_spec h
  simp only [sizeOk, hhi, hlo, Bool.and_eq_true, decide_eq_true_eq] at hs
  omega

theorem enc_octetString (c : SizeC) (data : Bytes) :
    enc (.octetString c) (.bytes data) = sized c data := by
  rw [enc]; rfl

theorem dec_octetString (c : SizeC) (bs : Bytes) : dec (.octetString c) bs =
    readSized c bs >>= fun (body, r) => .ok (.bytes body, r) := by
  rw [dec, readSized]
  cases fixedSize c with
  | some n => rfl
  | none => cases readLenDet bs <;> rfl

theorem rt_octetString (c : SizeC) : RT (.octetString c) := by
  intro v bytes rest _ _ _ ht _ _ he
  obtain ⟨data, rfl, -, hs⟩ := hasType_octetString ht
  rw [enc_octetString] at he
  rw [dec_octetString, canon_octetString, readSized_sized he ?_, ok_bind]
  intro n hn
  rw [Bool.or_eq_true, (fixedSize_spec hn).1] at hs
  exact sizeOk_fixed hn (hs.resolve_left Bool.false_ne_true)

theorem et_octetString (c : SizeC) : ET (.octetString c) := by
  intro v _ ht
  obtain ⟨data, rfl, -⟩ := hasType_octetString ht
  rw [enc_octetString]
  exact sized_total c data

theorem rt_bitString (c : SizeC) : RT (.bitString c) := by
  intro v bytes rest _ _ _ ht _ _ he
  obtain ⟨data, n, rfl, _, hdl, hsz⟩ := hasType_bitString ht
  have hcl := cleanBits_length data n (by omega)
  rw [enc, if_neg (by omega)] at he
  rw [dec]
  show _ = Except.ok (Val.bits (cleanBits data n) n, rest)
  cases hfs : fixedSize c with
  | some m =>
    rw [hfs] at he
    cases he
    cases sizeOk_fixed hfs hsz
    dsimp only
    rw [readBytes_append _ _ hcl, ok_bind]
  | none =>
    rw [hfs] at he
    obtain ⟨l, hl, he⟩ := bind_ok he
    cases he
    dsimp only
    rw [List.append_assoc, List.append_assoc, readLenDet_lenDet hl, ok_bind, List.cons_append,
      readByte_cons, ok_bind]
    show (if _ then _ else _) = _
    rw [Nat.add_sub_cancel, hcl,
      if_neg (not_or.2 ⟨Nat.succ_ne_zero _, Nat.not_lt.2 (unusedBits_le n)⟩), List.nil_append,
      readBytes_append _ _ hcl, ok_bind]
    show Except.ok (Val.bits _ (8 * ((n + 7) / 8) - (8 - n % 8) % 8), rest) = _
    rw [sub_unusedBits]

theorem et_bitString (c : SizeC) : ET (.bitString c) := by
  intro v _ ht
  obtain ⟨data, n, rfl, -, hdl, -⟩ := hasType_bitString ht
  rw [enc, if_neg (by omega)]
  cases fixedSize c with
  | some m => exact .ok _
  | none => exact (lenDet_total _).bind fun _ => .ok _

theorem all_lt_of_alphabet (k : StrKind) (cps : List Nat)
    (h : cps.all (fun cp => (alphabetOf k).contains cp) = true) : cps.all (· < 128) = true := by
  rw [List.all_eq_true] at h ⊢
  intro x hx
  have := h x hx
  simp only [List.contains_eq_mem, decide_eq_true_eq] at this
  simpa using Uper.alphabet_lt k x this

theorem encodeStr_not_utf8 {k : StrKind} (hk : k ≠ .utf8) (cps : List Nat) :
    encodeStr k cps = if cps.all (· < 128) then .ok cps else .error .foreign := by
  cases k <;> first | rfl | exact absurd rfl hk

theorem decodeStr_not_utf8 {k : StrKind} (hk : k ≠ .utf8) (bs : Bytes) :
    decodeStr k bs = if bs.all (· < 128) then .ok bs else .error .foreign := by
  cases k <;> first | rfl | exact absurd rfl hk

theorem str_rt {k : StrKind} {c : SizeC} {cps : List Nat}
    (ht : hasType (.charString k c) (.str cps) = true) :
    ∃ bs, encodeStr k cps = .ok bs ∧ decodeStr k bs = .ok cps ∧
      (∀ n, fixedSize c = some n → utf8Ok (.charString k c) (.str cps) = true → bs.length = n) := by
  obtain ⟨_, e, h⟩ := hasType_charString ht
  cases e
  rcases h with ⟨rfl, h⟩ | ⟨hk, hal, hsz⟩
  · refine ⟨cps.flatMap utf8Enc, rfl, ?_, ?_⟩
    · show (match utf8Dec _ _ with | some cps => Except.ok cps | none => Except.error Err.foreign) = _
      rw [Uper.utf8Dec_flatMap_utf8Enc cps h _ (Nat.le_refl _)]
    · intro n hn hu
      rw [utf8Ok] at hu
      simp only [hn, decide_eq_true_eq] at hu
      exact hu
  · have hall := all_lt_of_alphabet k cps (List.all_eq_true.2 hal)
    refine ⟨cps, ?_, ?_, ?_⟩
    · rw [encodeStr_not_utf8 hk, if_pos hall]
    · rw [decodeStr_not_utf8 hk, if_pos hall]
    · intro n hn _
      exact sizeOk_fixed hn hsz

theorem enc_charString (k : StrKind) (c : SizeC) (cps : List Nat) :
    enc (.charString k c) (.str cps) = encodeStr k cps >>= sized c := by
  rw [enc]
  cases encodeStr k cps <;> rfl

theorem dec_charString (k : StrKind) (c : SizeC) (bs : Bytes) : dec (.charString k c) bs =
    readSized c bs >>= fun (body, r) => decodeStr k body >>= fun cps => .ok (.str cps, r) := by
  rw [dec, readSized]
  cases fixedSize c with
  | some n => rfl
  | none => cases readLenDet bs <;> rfl

theorem rt_charString (k : StrKind) (c : SizeC) : RT (.charString k c) := by
  intro v bytes rest _ _ _ ht hu _ he
  obtain ⟨cps, rfl, -⟩ := hasType_charString ht
  obtain ⟨bs, hbs, hdec, hlen⟩ := str_rt ht
  rw [enc_charString, hbs, ok_bind] at he
  rw [dec_charString, canon_charString, readSized_sized he (fun n hn => hlen n hn hu), ok_bind]
  show (decodeStr k bs >>= _) = _
  rw [hdec, ok_bind]

theorem et_charString (k : StrKind) (c : SizeC) : ET (.charString k c) := by
  intro v _ ht
  obtain ⟨cps, rfl, -⟩ := hasType_charString ht
  obtain ⟨bs, hbs, -⟩ := str_rt ht
  rw [enc_charString, hbs, ok_bind]
  exact sized_total c bs

end Asn1.Oer
