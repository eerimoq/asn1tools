import Asn1Proofs.Lemmas.X691UperLeaf
import Asn1Proofs.Lemmas.UperSeq
/-
  The UNALIGNED specification encoder against the code model `Uper.enc`: SEQUENCE, SEQUENCE OF,
  CHOICE and the induction over all types.
-/
namespace Asn1.X691
open Asn1.Uper (mapM_length)

theorem encPreamble_uper (root : Members) (fs : List (String × Val)) :
    Uper.encPreamble root fs = .ok (preamble root fs) := by
  induction root using Members.ind with
  | nil => unfold Uper.encPreamble preamble; rfl
  | cons name p t rest ih =>
    unfold Uper.encPreamble preamble
    simp only [ih]
    cases p with
    | mandatory => rfl
    | optional => rfl
    | default d =>
      simp only
      cases lookup name fs <;> rfl

theorem ref_sequence (root : Members) (ext : Bool) (adds : Members)
    (hr : root.All REF) (ha : adds.All REF) : REF (.sequence root ext adds) := by
  intro v pos bits hd he
  obtain ⟨fs, rfl⟩ := enc_sequence_ok he
  obtain ⟨body, hdr, hb, hx⟩ := enc_sequence_inv hd he
  have hM := encRoot_ref (code := uperCode) (M := fun ms _ => Uper.encMembers ms fs false)
    (fun _ => rfl)
    (fun name p t rest pos a b (ha : Uper.encHere p t (lookup name fs) false = .ok a) hb => by
      rw [Uper.encMembers_cons, ha, hb])
    root hr _ body hdr hb
  show Uper.enc _ _ = _
  unfold Uper.enc
  simp only [encPreamble_uper, hM]
  cases ext with
  | false => simp only [Bool.false_eq_true, if_false] at hx ⊢; rw [hx]
  | true =>
    simp only [if_true] at hx ⊢
    obtain ⟨bitmap, encs, hda, hadds, hx⟩ := hx
    obtain ⟨present, hp1, hp2, hp3, hp4, hp5⟩ :=
      encAdds_ref (code := uperCode) (A := fun ms => .ok (Uper.encAdditions ms fs)) rfl
        (fun name t rest hl => by rw [Uper.encAdditions_cons, hl]; rfl)
        (fun name p t rest v e bm es hl (hc : Uper.enc t v = .ok e) hr => by
          have hr' : Uper.encAdditions rest fs = (bm, es) := by simpa using hr
          rw [Uper.encAdditions_cons, hl, hr']; simp [Uper.addHere, hc])
        (fun name p t rest bm es hl hp hr => by
          have hr' : Uper.encAdditions rest fs = (bm, es) := by simpa using hr
          rw [Uper.encAdditions_cons, hl, hr']; cases p <;> simp [Uper.addHere] at hp ⊢)
        adds ha bitmap encs hda hadds
    have hp1' : Uper.encAdditions adds fs = (present, encs) := by simpa using hp1
    -- `Uper.enc` matches on `adds` before it looks at the additions
    cases adds with
    | nil =>
      unfold encAdds at hadds
      cases hadds
      rw [hx]; simp
    | cons name p t rest =>
      have hemp : encs.isEmpty = !bitmap.any id := by rw [hp4, Bool.not_not]
      simp only [hp1', hemp]
      cases hany : bitmap.any id with
      | false => rw [hany] at hx; rw [hx]; simp
      | true =>
        rw [hany] at hx
        obtain ⟨h127, _, rfl⟩ := hx
        obtain ⟨nl, hnl1, hnl2⟩ := nsLength_code false
          (pos + 1 + (preamble root fs).length + body.length) bitmap (by rw [hp3]; simp [Members.length])
          (by rw [hp3]; exact h127) nofun
        rw [hp3] at hnl1
        simp only [Bool.not_true, Bool.false_eq_true, if_false, hnl1]
        rw [hnl2, openTypes_pad _ _ _ hp5, ← hp2]
        simp
        rfl

theorem ref_sequenceOf (e : Ty) (c : SizeC) (ih : REF e) : REF (.sequenceOf e c) := by
  intro v pos bits hd he
  obtain ⟨vs, rfl, h⟩ := enc_sequenceOf_ok he
  unfold devs at hd
  simp only [List.append_eq_nil_iff] at hd
  obtain ⟨⟨hds, _⟩, hdv⟩ := hd
  have hfg : ∀ v ∈ vs, ∀ p b, enc false e p v = .ok b → Uper.enc e v = .ok b :=
    fun v hv p b hb => ih v p b (List.flatMap_eq_nil_iff.mp hdv v hv) hb
  obtain ⟨items, hitems, hcase⟩ := extSizedM_false (enc false e) (Uper.enc e) c false false vs hfg pos bits h
  have hlen : items.length = vs.length := mapM_length _ _ _ hitems
  show Uper.enc _ _ = _
  unfold Uper.enc
  simp only [hitems]
  rw [← hlen] at hds hcase ⊢
  exact uper_sized c items _ _ false _ bits rfl rfl hds (fun _ => rfl) hcase

/-- 22.6: the index among the root alternatives -/
theorem choiceIndex_uper (pos idx n : Nat) :
    (if n > 1 then natToBits (bitLength (n - 1)) idx else []) = cwn false pos idx n := by
  rw [cwn_false]
  by_cases hn : n > 1
  · rw [if_pos hn]
  · rw [if_neg hn, show n - 1 = 0 by omega]
    rfl

theorem ref_choice (root : Alts) (ext : Bool) (adds : Alts)
    (hr : root.All REF) (ha : adds.All REF) : REF (.choice root ext adds) := by
  intro v pos bits hd he
  obtain ⟨name, w, rfl⟩ := enc_choice_ok he
  show Uper.enc _ _ = _
  unfold Uper.enc
  simp only [Uper.encAlt_find, Nat.zero_add]
  rcases enc_choice_inv hd he with ⟨idx, t, body, hf, hdt, _, hb, rfl⟩ |
    ⟨j, t, body, hf, rfl, hfa, hdt, hdj, hb, hne, hsm, rfl⟩
  · simp only [hf, Option.map_some, Alts.find_all hf hr w _ body hdt hb]
    rw [← choiceIndex_uper]
  · simp only [hf, hfa, Option.map_none, Option.map_some, if_true,
      Alts.find_all hfa ha w _ body hdt hb]
    rw [nsnnwn_code _ _ _ hdj, openType_pad _ _ _ hne hsm]
    simp
    rfl

theorem ref_all (t : Ty) : REF t :=
  Ty.induct (P := REF)
    ref_boolean ref_null ref_integer ref_enumerated ref_octetString ref_bitString ref_charString
    (fun root ext adds ihr iha => ref_sequence root ext adds ihr iha)
    (fun e c ih => ref_sequenceOf e c ih)
    (fun root ext adds ihr iha => ref_choice root ext adds ihr iha) t

/-- UNALIGNED PER emits the bit string X.691 prescribes, outside the deviation predicates (C05) -/
theorem uper_refines_bits (t : Ty) (v : Val) (pos : Nat) (bits : Bits)
    (hd : devs false t v = []) (h : enc false t pos v = .ok bits) : Uper.enc t v = .ok bits :=
  ref_all t v pos bits hd h

theorem uper_refines_encode (t : Ty) (v : Val) (bytes : Bytes)
    (hd : deviations false t v = []) (h : encode false t v = .ok bytes) :
    Uper.encode t v = .ok bytes := by
  obtain ⟨bits, hd1, he, rfl⟩ := encode_inv hd h
  unfold Uper.encode
  rw [uper_refines_bits t v 0 bits hd1 he]
  rfl

end Asn1.X691

#print axioms Asn1.X691.uper_refines_bits
#print axioms Asn1.X691.uper_refines_encode
