import Asn1Proofs.Lemmas.CostDefs
import Asn1Proofs.Lemmas.PrefixOer
import Asn1Proofs.Lemmas.UperPrim
import Asn1Proofs.Lemmas.OerPrim
/-
  C08 for the OER model: the defect (known finding of C08).  The quantity field of a SEQUENCE OF is a length-prefixed
  unsigned integer that the decoder uses as a loop count *without* comparing it with the data that is
  left; when the element type has an empty encoding (NULL, or a SEQUENCE of OPTIONAL members only ...)
  every iteration succeeds, so `n` elements are built from the `2 + ⌊log₂₅₆ n⌋` octets of the quantity.
-/
namespace Asn1.Cost
open Asn1.Oer

/-- the `for _ in range(number_of_elements)` loop over an element decoder that reads nothing (NULL is
one) never touches the data -/
theorem oer_decRepeat_const {α : Type} (p : Bytes → DecM (α × Bytes)) (a : α)
    (hp : ∀ bs, p bs = .ok (a, bs)) (n : Nat) (bs : Bytes) :
    Oer.decRepeat p n bs = .ok (List.replicate n a, bs) := by
  induction n with
  | zero => rfl
  | succ n ih =>
    simp only [Oer.decRepeat, bind, Except.bind, hp, ih, List.replicate_succ]

theorem oer_decRepeat_null (n : Nat) (bs : Bytes) :
    Oer.decRepeat (Oer.dec .null) n bs = .ok (List.replicate n .null, bs) :=
  oer_decRepeat_const _ _ (fun bs => by rw [Oer.dec]) n bs

theorem oer_seqOfNull_dec (c : SizeC) (bs : Bytes) (n : Nat) (r : Bytes)
    (h : Oer.decUnsigned bs = .ok (n, r)) :
    Oer.dec (.sequenceOf .null c) bs = .ok (.list (List.replicate n .null), r) := by
  rw [Oer.dec]
  simp only [bind, Except.bind, h, oer_decRepeat_null]

theorem nodes_list_replicate_null (n : Nat) :
    (Val.list (List.replicate n Val.null)).nodes = n + 1 := by
  simp only [Val.nodes, nodesList_replicate]; omega

theorem oer_quantity_unbounded (c : SizeC) (n : Nat) (q rest : Bytes)
    (h : Oer.encUnsigned n = .ok q) :
    Oer.dec (.sequenceOf .null c) (q ++ rest) = .ok (.list (List.replicate n .null), rest) :=
  oer_seqOfNull_dec c _ n rest (decUnsigned_encUnsigned h rest)

theorem oer_decode_seqOfNull (c : SizeC) (bs : Bytes) (n : Nat) (hd : Oer.decUnsigned bs = .ok (n, [])) :
    Oer.decode (.sequenceOf .null c) bs = .ok (.list (List.replicate n .null)) := by
  simp only [Oer.decode, oer_seqOfNull_dec c _ _ _ hd, Except.map]

theorem oer_decode_of_enc (c : SizeC) (n : Nat) (q : Bytes) (h : Oer.encUnsigned n = .ok q) :
    Oer.decode (.sequenceOf .null c) q = .ok (.list (List.replicate n .null)) := by
  have := decUnsigned_encUnsigned h []
  rw [List.append_nil] at this
  exact oer_decode_seqOfNull c q n this

theorem oer_encUnsigned_ok (n : Nat) (hn : n < 256 ^ 127) :
    ∃ q, Oer.encUnsigned n = .ok q ∧ q.length = 1 + (max (bitLength n) 1 + 7) / 8 ∧
      ∀ b ∈ q, b < 256 := by
  have hb : bitLength n ≤ 8 * 127 := by
    apply Asn1.bitLength_le_of_lt_pow
    exact Nat.lt_of_lt_of_eq hn (Nat.pow_mul 2 8 127).symm
  have hq : Oer.encUnsigned n = .ok (((max (bitLength n) 1 + 7) / 8) ::
      natToBytesN ((max (bitLength n) 1 + 7) / 8) n) := by
    unfold Oer.encUnsigned
    simp only [bind, Except.bind]
    unfold Oer.lenDet
    rw [if_pos (by omega)]
    rfl
  refine ⟨_, hq, by simp only [List.length_cons, natToBytesN_length]; omega, ?_⟩
  intro b hbm
  simp only [List.mem_cons] at hbm
  rcases hbm with rfl | hbm
  · omega
  · exact natToBytesN_lt _ _ b hbm

theorem oer_quantity_any (c : SizeC) (n : Nat) (hn : n < 256 ^ 127) :
    ∃ bs : Bytes, bs.length = 1 + (max (bitLength n) 1 + 7) / 8 ∧ (∀ b ∈ bs, b < 256) ∧
      Oer.decode (.sequenceOf .null c) bs = .ok (.list (List.replicate n .null)) := by
  obtain ⟨q, hq, hl, hb⟩ := oer_encUnsigned_ok n hn
  exact ⟨q, hl, hb, oer_decode_of_enc c n q hq⟩

theorem oer_quantity_32 (c : SizeC) (n : Nat) (hn : n < 2 ^ 32) :
    ∃ bs : Bytes, bs.length ≤ 5 ∧ (∀ b ∈ bs, b < 256) ∧
      ∃ vs, Oer.decode (.sequenceOf .null c) bs = .ok (.list vs) ∧ vs.length = n := by
  have hn' : n < 256 ^ 127 :=
    Nat.lt_of_lt_of_le hn (by
      rw [show (2 : Nat) ^ 32 = 256 ^ 4 from rfl]
      exact Nat.pow_le_pow_right (by omega) (by omega))
  obtain ⟨bs, hl, hb, hd⟩ := oer_quantity_any c n hn'
  have hbl : bitLength n ≤ 32 := Asn1.bitLength_le_of_lt_pow hn
  exact ⟨bs, by omega, hb, _, hd, List.length_replicate ..⟩

theorem oer_quantity_04ffffffff (c : SizeC) :
    Oer.decode (.sequenceOf .null c) [0x04, 0xff, 0xff, 0xff, 0xff]
      = .ok (.list (List.replicate 4294967295 .null)) :=
  oer_decode_of_enc c 4294967295 _ (by rfl)

theorem bytesToNat_replicate_255 (m : Nat) : bytesToNat (List.replicate m 255) = 256 ^ m - 1 := by
  induction m with
  | zero => rfl
  | succ m ih =>
    rw [List.replicate_succ', bytesToNat_append, ih, bytesToNat_single]
    simp only [List.length_cons, List.length_nil, Nat.pow_succ]
    have := Nat.pow_pos (n := m) (show 0 < 256 by omega)
    rw [Nat.sub_mul]; omega

theorem oer_alloc_exponential (c : SizeC) (m : Nat) (hm : m < 128) :
    Oer.decode (.sequenceOf .null c) (m :: List.replicate m 255)
      = .ok (.list (List.replicate (256 ^ m - 1) .null)) := by
  have hd : Oer.decUnsigned (m :: List.replicate m 255) = .ok (256 ^ m - 1, []) := by
    simp only [Oer.decUnsigned, Oer.readLenDet, Oer.readByte, bind, Except.bind, if_pos hm]
    have := readBytes_append (List.replicate m 255) [] (List.length_replicate ..)
    rw [List.append_nil] at this
    simp only [this, bytesToNat_replicate_255]
  exact oer_decode_seqOfNull c _ _ hd

/-- the witness `[1, 3 * K + 1]` is a byte string of the model (`List Nat`), not one of genuine octets; for
those see `oer_no_alloc_bound_octets` -/
theorem oer_no_alloc_bound :
    ¬ ∃ K : Nat, ∀ (bs : Bytes) (v : Val),
      Oer.decode (.sequenceOf .null ⟨0, none, false⟩) bs = .ok v → v.nodes ≤ K * (bs.length + 1) := by
  rintro ⟨K, hK⟩
  have hd : Oer.decUnsigned [1, 3 * K + 1] = .ok (3 * K + 1, []) := by
    simp [Oer.decUnsigned, Oer.readLenDet, Oer.readByte, bind, Except.bind, Oer.readBytes,
      Oer.splitAux, bytesToNat_single]
  have := hK [1, 3 * K + 1] _ (oer_decode_seqOfNull _ _ _ hd)
  rw [nodes_list_replicate_null] at this
  simp only [List.length_cons, List.length_nil] at this
  omega

theorem oer_no_alloc_bound_octets (K : Nat) (hK : K < 256 ^ 126) :
    ∃ (bs : Bytes) (v : Val), (∀ b ∈ bs, b < 256) ∧ bs.length = 128 ∧
      Oer.decode (.sequenceOf .null ⟨0, none, false⟩) bs = .ok v ∧ K * (bs.length + 1) < v.nodes := by
  refine ⟨127 :: List.replicate 127 255, _, ?_, by simp, oer_alloc_exponential _ 127 (by omega), ?_⟩
  · intro b hb
    simp only [List.mem_cons, List.mem_replicate] at hb
    rcases hb with rfl | ⟨_, rfl⟩ <;> omega
  · rw [nodes_list_replicate_null]
    simp only [List.length_cons, List.length_replicate]
    have h1 : (256 : Nat) ^ 127 = 256 ^ 126 * 256 := Nat.pow_succ ..
    have h2 := Nat.pow_pos (n := 126) (show 0 < 256 by omega)
    omega

/-- fuel = remaining octets + 1 -/
theorem oer_readTagRest_fuel (f f' : Nat) (bs : Bytes) (hf : bs.length < f) (hf' : bs.length < f') :
    Oer.readTagRest f bs = Oer.readTagRest f' bs := by
  have := Oer.pf_readTagRest (x := []) (B := True) f f' bs hf' (by simpa using hf)
  rw [List.append_nil] at this
  exact (CutL.eq_nil this trivial).symm

end Asn1.Cost
