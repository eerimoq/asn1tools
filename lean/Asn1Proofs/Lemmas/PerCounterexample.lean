import Asn1Proofs.Lemmas.PerRoundtrip
/-
  The hypothesis `Per.fragFree` of `Per.roundtrip_partial` is necessary: a machine-checked input on
  which the aligned PER code model (like the real codec) does not round-trip.

  `OCTET STRING (SIZE(0, ...))` with 16385 octets lies outside the extension root, so the code calls
  `append_length_determinant(16385)` directly; that writes the fragment marker `0xc1` ("16384 items
  follow, more fragments after them") and then ALL 16385 octets.  The decoder takes 16384 octets and
  leaves the last one unread.  The witness is handled symbolically (kernel evaluation of 131 000-bit
  lists is too slow).
-/
namespace Asn1.Per
open Asn1.Uper (lenDet_16385)

def cxTy : Ty := .octetString ⟨0, some 0, true⟩
def cxData : Bytes := List.replicate 16385 0
def cxVal : Val := .bytes cxData
def cxBits : Bits := [true] ++ alignBits 1 ++ natToBits 8 0xc1 ++ bytesToBits cxData

theorem cxData_length : cxData.length = 16385 := List.length_replicate ..

theorem cxData_split : bytesToBits cxData = bytesToBits (List.replicate 16384 0) ++ natToBits 8 0 := by
  have : cxData = List.replicate 16384 0 ++ [0] := by
    unfold cxData
    rw [show (16385 : Nat) = 16384 + 1 from rfl, List.replicate_succ']
  rw [this, bytesToBits_append]
  rfl

theorem cx_wf : cxTy.wf = true := by decide
theorem cx_defaultsOk : cxTy.defaultsOk = true := by decide
theorem cx_nsOk : cxTy.nsOk = true := by decide

theorem cx_hasType : hasType cxTy cxVal = true := by
  simp only [cxTy, cxVal, hasType, Bool.true_or, Bool.and_true, Uper.allBytes_iff]
  intro b hb
  rw [List.eq_of_mem_replicate hb]
  omega

theorem cx_not_fragFree : fragFree cxTy cxVal = false := by
  simp only [cxTy, cxVal, fragFree, cxData_length, Uper.inSize, Uper.smallLen]
  decide

theorem cx_enc (pos : Nat) (h : pos % 8 = 0) : enc cxTy pos cxVal = .ok cxBits := by
  have hal : alignBits (pos + 1) = alignBits 1 :=
    congrArg (List.replicate · false) (padLen_congr (by omega))
  rw [cxTy, cxVal, enc_octetString_outside rfl rfl pos cxData (by rw [cxData_length]; rfl),
    cxData_length, lenDet_16385, hal]
  rfl

/-- the decoder takes the fragment marker `0xc1` for a length of 16384 octets (stated for arbitrary
contents so that nothing big is ever evaluated) -/
theorem dec_unfragmented (c : SizeC) (hext : c.ext = true) (D1 D2 rest : Bits)
    (hD : D1.length = 8 * 16384) (fuel : Nat) :
    dec (.octetString c) fuel ⟨0, [true] ++ alignBits 1 ++ natToBits 8 0xc1 ++ (D1 ++ D2) ++ rest⟩ =
      .ok (.bytes (packBits D1), ⟨131088, D2 ++ rest⟩) := by
  unfold dec
  have h1 := readLenDet_lenDet 8 16385 (D1 ++ (D2 ++ rest))
  rw [lenDet_16385] at h1
  simp only [natToBits_length] at h1
  simp only [hext, bind, Except.bind, if_true, List.cons_append, List.nil_append, readBit_cons,
    List.append_assoc]
  rw [align_alignBits 1 (0 + 1) _ rfl, show 0 + 1 + padLen 1 = 8 from rfl, h1]
  simp only
  rw [readBits_append _ _ _ hD]

theorem cx_dec (rest : Bits) (fuel : Nat) :
    dec cxTy fuel ⟨0, cxBits ++ rest⟩ =
      .ok (.bytes (packBits (bytesToBits (List.replicate 16384 0))),
        ⟨131088, natToBits 8 0 ++ rest⟩) := by
  unfold cxTy cxBits
  rw [cxData_split]
  exact dec_unfragmented _ rfl _ _ rest (by rw [bytesToBits_length, List.length_replicate]) fuel

end Asn1.Per

