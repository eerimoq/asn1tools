import Asn1Model.SpecDict
/-
  Value level: the conversion of one DEFAULT (`convDefault`, the body of the member loop of
  `pre_process_default_value`) applied twice.

  * the BIT STRING / OCTET STRING / BOOLEAN clauses are idempotent and do not depend on
    `numeric_enums` (their "already processed" guards);
  * the ENUMERATED clauses: `numeric_enums=False` twice is idempotent; `numeric_enums=True` twice is
    idempotent under `RefStable`; a switch of the flag is absorbed under `GoodEnum` when the default is
    not a Python `bool` (`isinstance(True, int)`).
-/
namespace Asn1.SpecDict

/-- a conversion with an "already processed" guard is idempotent -/
theorem getD_idem {α : Type} {f : α → Option α} (hf : ∀ v w, f v = some w → f w = some w) (v : α) :
    (f ((f v).getD v)).getD ((f v).getD v) = (f v).getD v := by
  cases h : f v with
  | none => simp [h]
  | some w => simp [hf v w h]

theorem bitStringDefault?_some {r : Core} {v w : DefVal} (h : bitStringDefault? r v = some w) :
    ∃ b n, w = .bits b n := by
  unfold bitStringDefault? at h
  split at h
  · exact ⟨_, _, (Option.some.inj h).symm⟩
  · split at h
    · cases h
    · split at h
      · cases h
      · exact ⟨_, _, (Option.some.inj h).symm⟩
  · split at h
    · split at h
      · cases h
      · exact ⟨_, _, (Option.some.inj h).symm⟩
    · split at h
      · cases h
      · exact ⟨_, _, (Option.some.inj h).symm⟩
    · cases h
  · cases h

theorem octetStringDefault?_some {v w : DefVal} (h : octetStringDefault? v = some w) :
    (∃ b, w = .bytes b) ∨ w = v := by
  unfold octetStringDefault? at h
  split at h
  · exact .inl ⟨_, (Option.some.inj h).symm⟩
  · split at h
    · split at h
      · cases h
      · exact .inl ⟨_, (Option.some.inj h).symm⟩
    · split at h
      · cases h
      · exact .inl ⟨_, (Option.some.inj h).symm⟩
    · exact .inr (Option.some.inj h).symm
  · cases h

theorem octetStringDefault?_fix {v w : DefVal} (h : octetStringDefault? v = some w) :
    octetStringDefault? w = some w := by
  rcases octetStringDefault?_some h with ⟨b, rfl⟩ | rfl
  · rfl
  · exact h

/-- a value reference used as enumeration number is not the name of an item with another number -/
def RefStable (vals : List EnumItem) : Prop :=
  ∀ s t, enumValueOf? s vals = some (.ref t) →
    enumValueOf? t vals = none ∨ enumValueOf? t vals = some (.ref t)

/-- names and numbers of the enumeration determine each other, and no number is a value reference -/
structure GoodEnum (vals : List EnumItem) : Prop where
  noRef : ∀ s t, enumValueOf? s vals ≠ some (.ref t)
  nameOfValue : ∀ s i, enumValueOf? s vals = some (.int i) → enumNameOf? i vals = some s
  valueOfName : ∀ i k, enumNameOf? i vals = some k → enumValueOf? k vals = some (.int i)

section
variable {r : Core} {vals : List EnumItem}

theorem enumDefault_no_values (n : Bool) (v : DefVal) (hv : r.values = none) :
    enumDefault n r v = v := by
  simp [enumDefault, hv]

theorem enumDefault_false_name {v : DefVal} {i : Int} {k : String} (hv : r.values = some vals)
    (ha : v.asInt? = some i) (hn : enumNameOf? i vals = some k) :
    enumDefault false r v = .str k := by
  simp [enumDefault, hv, ha, hn]

theorem enumDefault_false_noname {v : DefVal} {i : Int} (hv : r.values = some vals)
    (ha : v.asInt? = some i) (hn : enumNameOf? i vals = none) :
    enumDefault false r v = v := by
  simp [enumDefault, hv, ha, hn]

theorem enumDefault_false_noint {v : DefVal} (hv : r.values = some vals)
    (ha : v.asInt? = none) : enumDefault false r v = v := by
  simp [enumDefault, hv, ha]

theorem enumDefault_true_int {s : String} {i : Int} (hv : r.values = some vals)
    (he : enumValueOf? s vals = some (.int i)) : enumDefault true r (.str s) = .int i := by
  simp [enumDefault, hv, he]

theorem enumDefault_true_ref {s t : String} (hv : r.values = some vals)
    (he : enumValueOf? s vals = some (.ref t)) : enumDefault true r (.str s) = .str t := by
  simp [enumDefault, hv, he]

theorem enumDefault_true_none {s : String} (hv : r.values = some vals)
    (he : enumValueOf? s vals = none) : enumDefault true r (.str s) = .str s := by
  simp [enumDefault, hv, he]

theorem enumDefault_true_nonstr {v : DefVal} (h : ∀ s, v ≠ .str s) :
    enumDefault true r v = v := by
  unfold enumDefault
  cases r.values with
  | none => rfl
  | some vals =>
    cases v with
    | str s => exact absurd rfl (h s)
    | _ => rfl

end

theorem enumDefault_false_idem (r : Core) (v : DefVal) :
    enumDefault false r (enumDefault false r v) = enumDefault false r v := by
  cases hv : r.values with
  | none => simp [enumDefault_no_values _ _ hv]
  | some vals =>
    cases ha : v.asInt? with
    | none => simp [enumDefault_false_noint hv ha]
    | some i =>
      cases hn : enumNameOf? i vals with
      | none => simp [enumDefault_false_noname hv ha hn]
      | some k =>
        rw [enumDefault_false_name hv ha hn]
        exact enumDefault_false_noint hv rfl

theorem enumDefault_true_idem (r : Core) (v : DefVal)
    (h : ∀ vals, r.values = some vals → RefStable vals) :
    enumDefault true r (enumDefault true r v) = enumDefault true r v := by
  cases hv : r.values with
  | none => simp [enumDefault_no_values _ _ hv]
  | some vals =>
    cases v with
    | str s =>
      cases he : enumValueOf? s vals with
      | none => simp [enumDefault_true_none hv he]
      | some ev =>
        cases ev with
        | int i =>
          rw [enumDefault_true_int hv he]
          exact enumDefault_true_nonstr (by simp)
        | ref t =>
          rw [enumDefault_true_ref hv he]
          rcases h vals hv s t he with h1 | h1
          · exact enumDefault_true_none hv h1
          · exact enumDefault_true_ref hv h1
    | _ => simp [enumDefault_true_nonstr]

theorem enumDefault_absorb (m n : Bool) (r : Core) (v : DefVal)
    (hg : ∀ vals, r.values = some vals → GoodEnum vals) (hb : ∀ b, v ≠ .bool b) :
    enumDefault n r (enumDefault m r v) = enumDefault n r v := by
  cases hv : r.values with
  | none => simp [enumDefault_no_values _ _ hv]
  | some vals =>
    have g := hg vals hv
    cases m <;> cases n
    · exact enumDefault_false_idem r v
    · -- first without, then with numeric_enums
      cases ha : v.asInt? with
      | none => rw [enumDefault_false_noint hv ha]
      | some i =>
        cases hn : enumNameOf? i vals with
        | none => rw [enumDefault_false_noname hv ha hn]
        | some k =>
          rw [enumDefault_false_name hv ha hn, enumDefault_true_int hv (g.valueOfName i k hn)]
          cases v with
          | int j =>
            simp only [DefVal.asInt?, Option.some.injEq] at ha
            subst ha
            exact (enumDefault_true_nonstr (by simp)).symm
          | bool b => exact absurd rfl (hb b)
          | _ => simp [DefVal.asInt?] at ha
    · -- first with, then without numeric_enums
      cases v with
      | str s =>
        cases he : enumValueOf? s vals with
        | none => rw [enumDefault_true_none hv he]
        | some ev =>
          cases ev with
          | int i =>
            rw [enumDefault_true_int hv he,
              enumDefault_false_name hv (v := .int i) rfl (g.nameOfValue s i he)]
            exact (enumDefault_false_noint hv rfl).symm
          | ref t => exact absurd he (g.noRef s t)
      | _ => rw [enumDefault_true_nonstr (by simp)]
    · refine enumDefault_true_idem r v ?_
      intro vals' hv' s t hs
      rw [hv] at hv'; cases hv'
      exact absurd hs (g.noRef s t)

theorem enumDefault_not_bool (n : Bool) (r : Core) (v : DefVal) (hb : ∀ b, v ≠ .bool b) :
    ∀ b, enumDefault n r v ≠ .bool b := by
  intro b
  cases hv : r.values with
  | none => rw [enumDefault_no_values _ _ hv]; exact hb b
  | some vals =>
    cases n
    · cases ha : v.asInt? with
      | none => rw [enumDefault_false_noint hv ha]; exact hb b
      | some i =>
        cases hn : enumNameOf? i vals with
        | none => rw [enumDefault_false_noname hv ha hn]; exact hb b
        | some k => rw [enumDefault_false_name hv ha hn]; simp
    · cases v with
      | str s =>
        cases he : enumValueOf? s vals with
        | none => rw [enumDefault_true_none hv he]; simp
        | some ev =>
          cases ev with
          | int i => rw [enumDefault_true_int hv he]; simp
          | ref t => rw [enumDefault_true_ref hv he]; simp
      | bool b' => exact absurd rfl (hb b')
      | _ => rw [enumDefault_true_nonstr (by simp)]; simp

theorem convDefault_flag (m n : Bool) (r : Core) (v : DefVal) (h : r.type ≠ "ENUMERATED") :
    convDefault m r v = convDefault n r v := by
  unfold convDefault
  simp [h]

theorem convDefault_idem_of_ne (n : Bool) (r : Core) (v : DefVal) (h : r.type ≠ "ENUMERATED") :
    convDefault n r (convDefault n r v) = convDefault n r v := by
  unfold convDefault
  by_cases h1 : r.type = "BIT STRING"
  · simp only [h1, if_true]
    refine getD_idem (fun v w h => ?_) v
    obtain ⟨b, n, rfl⟩ := bitStringDefault?_some h
    rfl
  · by_cases h2 : r.type = "OCTET STRING"
    · simp only [h2, if_true]; exact getD_idem (fun _ _ => octetStringDefault?_fix) v
    · by_cases h3 : r.type = "BOOLEAN"
      · simp only [h3, if_true]
        cases v with
        | str s =>
          by_cases h4 : s = "TRUE"
          · simp [h4]
          · by_cases h5 : s = "FALSE"
            · simp [h5]
            · simp [h4, h5]
        | _ => rfl
      · simp [h1, h2, h3, h]

theorem convDefault_enum (n : Bool) (r : Core) (v : DefVal) (h : r.type = "ENUMERATED") :
    convDefault n r v = enumDefault n r v := by
  unfold convDefault
  simp [h]

theorem convDefault_false_idem (r : Core) (v : DefVal) :
    convDefault false r (convDefault false r v) = convDefault false r v := by
  by_cases h : r.type = "ENUMERATED"
  · rw [convDefault_enum _ _ _ h, convDefault_enum _ _ _ h, enumDefault_false_idem]
  · exact convDefault_idem_of_ne false r v h

theorem convDefault_idem (n : Bool) (r : Core) (v : DefVal)
    (hr : ∀ vals, r.values = some vals → RefStable vals) :
    convDefault n r (convDefault n r v) = convDefault n r v := by
  cases n
  · exact convDefault_false_idem r v
  · by_cases h : r.type = "ENUMERATED"
    · rw [convDefault_enum _ _ _ h, convDefault_enum _ _ _ h, enumDefault_true_idem r v hr]
    · exact convDefault_idem_of_ne true r v h

theorem convDefault_absorb (m n : Bool) (r : Core) (v : DefVal)
    (hg : r.type = "ENUMERATED" → ∀ vals, r.values = some vals → GoodEnum vals)
    (hb : r.type = "ENUMERATED" → ∀ b, v ≠ .bool b) :
    convDefault n r (convDefault m r v) = convDefault n r v := by
  by_cases h : r.type = "ENUMERATED"
  · simp only [convDefault_enum _ _ _ h]
    exact enumDefault_absorb m n r v (hg h) (hb h)
  · rw [convDefault_flag m n r v h]
    exact convDefault_idem_of_ne n r v h

theorem convDefault_not_bool (n : Bool) (r : Core) (v : DefVal)
    (hb : r.type = "ENUMERATED" → ∀ b, v ≠ .bool b) :
    r.type = "ENUMERATED" → ∀ b, convDefault n r v ≠ .bool b := by
  intro h
  rw [convDefault_enum _ _ _ h]
  exact enumDefault_not_bool n r v (hb h)

end Asn1.SpecDict
