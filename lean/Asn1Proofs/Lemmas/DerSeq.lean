import Asn1Proofs.Lemmas.DerChoice
import Asn1Proofs.Lemmas.ExtDefs
import Asn1Model.X690
import Asn1Proofs.Lemmas.UperBeq
import Asn1Proofs.Lemmas.Records
/-
  SEQUENCE of the shared BER / DER decoder (`gSeq`), for any decoder `D` that is an `IsCodec`: what
  the encoder writes per member and the slot the decoder's first pass leaves for it; the loop of
  `decode_members`, in either length form, over contents described by `Stream` (one productive pass, at
  most one idle pass) -- ExtDerSeq shows that what an encoder wrote is a stream, X690CompSeq that what
  the reference decoder accepted is one; totality of the encoder.  `X690.atEndB` and `X690.TagGe`, with
  which a stream is stated, are declared here in `namespace Asn1.X690`: the X.690 development
  (X690Frame, X690CompDefs) states its own facts about the reference decoder with the same two.
-/
namespace Asn1.Der
open Asn1.Uper (Err)
open Asn1.X690 (canonV canonMembersV canonAltV defaultsOkV membersDefaultsOkV altsDefaultsOkV)
open Asn1.Oer (oerWf oerWfMembers)
open Asn1.Ext (view)

/-- der.py never omits a NULL member as DEFAULT; otherwise `isDefaultB` is `isDefault` -/
theorem isDefault_of_isDefaultB {t : Ty} {v d : Val} (h : isDefaultB t v d = true) :
    isDefault t v d = true := by
  unfold isDefaultB at h
  split at h
  · cases h
  · exact h

theorem canonV_of_isDefaultB (t : Ty) (v d : Val)
    (hc : (canonV t d == d) = true) (h : isDefaultB t v d = true) : canonV t v = d := by
  have hcd := Val.eq_of_beq _ _ hc
  rcases isDefault_inv (isDefault_of_isDefaultB h) with rfl | ⟨c, a, b, n, rfl, rfl, rfl, hab⟩
  · exact hcd
  · rw [canonV] at hcd ⊢
    rw [hab, (Val.bits.inj hcd).1]

/-- `encode_member` of one member -/
def encHere (name : String) (p : Presence) (t : Ty) (i : Nat) (fs : List (String × Val)) : EncM Bytes :=
  match lookup name fs with
  | some v =>
    match p with
    | .default d => if isDefaultB t v d then .ok [] else enc t (some i) v
    | _ => enc t (some i) v
  | none =>
    match p with
    | .mandatory => .error .encodeError
    | _ => .ok []

theorem encMembers_cons (name : String) (p : Presence) (t : Ty) (rest : Members) (i : Nat)
    (fs : List (String × Val)) :
    encMembers (.cons name p t rest) i fs =
      (match encHere name p t i fs, encMembers rest (i + 1) fs with
       | .ok a, .ok b => .ok (a ++ b)
       | .error e, _ => .error e
       | _, .error e => .error e) := by
  cases p <;> rw [encMembers] <;> first | rfl | (intros; contradiction)

theorem encAdditions_cons (name : String) (p : Presence) (t : Ty) (rest : Members) (i : Nat)
    (fs : List (String × Val)) :
    encAdditions (.cons name p t rest) i fs =
      (match encHere name p t i fs with
       | .error .encodeError => .ok []
       | .error e => .error e
       | .ok a =>
         match encAdditions rest (i + 1) fs with
         | .ok b => .ok (a ++ b)
         | .error e => .error e) := by
  cases p <;> rw [encAdditions] <;> first | rfl | (intros; contradiction)

/-- the slot a first pass leaves for one member both sides know (`X`: with the decoder's type `tD` beside
the encoder's `tE`, as in the cross-version lemmas of ExtDer*) -/
def slotHereX (name : String) (p : Presence) (tD tE : Ty) (fs : List (String × Val)) : Option Val :=
  match lookup name fs with
  | some v =>
    match p with
    | .default d => if isDefaultB tE v d then none else some (view true tD tE v)
    | _ => some (view true tD tE v)
  | none => none

theorem encHere_casesX {name : String} {p : Presence} {tD tE : Ty} {i : Nat} {fs : List (String × Val)}
    (hok : (match lookup name fs with
            | some v => hasType tE v
            | none => match p with | .mandatory => false | _ => true) = true) :
    (encHere name p tE i fs = .ok [] ∧ slotHereX name p tD tE fs = none) ∨
    (∃ v, lookup name fs = some v ∧ hasType tE v = true ∧ encHere name p tE i fs = enc tE (some i) v ∧
      slotHereX name p tD tE fs = some (view true tD tE v)) := by
  unfold encHere slotHereX
  cases hl : lookup name fs with
  | none =>
    simp only [hl] at hok
    cases p <;> simp_all
  | some v =>
    simp only [hl] at hok
    cases p with
    | mandatory => exact Or.inr ⟨v, rfl, hok, rfl, rfl⟩
    | optional => exact Or.inr ⟨v, rfl, hok, rfl, rfl⟩
    | default d =>
      simp only []
      by_cases hd : isDefaultB tE v d = true
      · simp [hd]
      · simp only [hd, if_false, Bool.false_eq_true]
        exact Or.inr ⟨v, rfl, hok, rfl, rfl⟩

theorem membersOk_cons (name : String) (p : Presence) (t : Ty) (rest : Members) (fs : List (String × Val)) :
    membersOk (.cons name p t rest) fs =
      ((match lookup name fs with
        | some v => hasType t v
        | none => match p with | .mandatory => false | _ => true) && membersOk rest fs) :=
  rfl

theorem encMembers_cons_ok {name : String} {p : Presence} {t : Ty} {rest : Members} {i : Nat}
    {fs : List (String × Val)} {body : Bytes} (h : encMembers (.cons name p t rest) i fs = .ok body) :
    ∃ a b, encHere name p t i fs = .ok a ∧ encMembers rest (i + 1) fs = .ok b ∧ body = a ++ b := by
  rw [encMembers_cons] at h
  cases ha : encHere name p t i fs <;> cases hb : encMembers rest (i + 1) fs <;>
    simp only [ha, hb] at h <;> cases h
  exact ⟨_, _, rfl, rfl, rfl⟩

theorem encHere_starts {name : String} {p : Presence} {t : Ty} {i : Nat} {fs : List (String × Val)}
    {a : Bytes} (h : encHere name p t i fs = .ok a) : a = [] ∨ Starts i a := by
  unfold encHere at h
  split at h
  · split at h
    · split at h
      · cases h; exact .inl rfl
      · exact .inr (starts_of_enc h)
    · exact .inr (starts_of_enc h)
  · split at h
    · cases h
    · cases h; exact .inl rfl

theorem encMembers_starts (fs : List (String × Val)) (ms : Members) :
    ∀ (i : Nat) (body : Bytes), encMembers ms i fs = .ok body → body = [] ∨ StartsGe i body := by
  induction ms using Members.ind with
  | nil => intro i body h; rw [encMembers] at h; cases h; exact Or.inl rfl
  | cons name p t rest ih =>
    intro i body h
    obtain ⟨a, b, ha, hb, rfl⟩ := encMembers_cons_ok h
    rcases encHere_starts ha with rfl | hs
    · rcases ih (i + 1) b hb with h0 | h1
      · exact .inl (by simp [h0])
      · exact .inr (by simpa using h1.mono (by omega))
    · exact .inr ⟨i, Nat.le_refl _, hs.append b⟩

/-- well-typed members all encode, so that `encode_additions` has nothing to swallow -/
theorem encMembers_encAdditions (fs : List (String × Val)) (ms : Members) :
    ms.All ET → ms.wf = true → membersOk ms fs = true →
    ∀ (i : Nat), ∃ body, encMembers ms i fs = .ok body ∧ encAdditions ms i fs = .ok body := by
  induction ms using Members.ind with
  | nil => intro _ _ _ i; exact ⟨[], by rw [encMembers], by rw [encAdditions]⟩
  | cons name p t rest ih =>
    intro hall hwf hok i
    rw [Members.wf, Bool.and_eq_true] at hwf
    rw [membersOk_cons, Bool.and_eq_true] at hok
    obtain ⟨b, hb, hb'⟩ := ih hall.2 hwf.2 hok.2 (i + 1)
    rw [encMembers_cons, encAdditions_cons, hb, hb']
    rcases encHere_casesX (tD := t) (i := i) hok.1 with ⟨h1, _⟩ | ⟨v, _, hty, h1, _⟩
    · rw [h1]; exact ⟨_, rfl, rfl⟩
    · obtain ⟨a, ha⟩ := hall.1 (some i) v hwf.1 hty
      rw [h1, ha]; exact ⟨_, rfl, rfl⟩

theorem encMembers_total (fs : List (String × Val)) (ms : Members)
    (hall : ms.All ET) (hwf : ms.wf = true) (hok : membersOk ms fs = true) (i : Nat) :
    ∃ body, encMembers ms i fs = .ok body :=
  (encMembers_encAdditions fs ms hall hwf hok i).imp fun _ h => h.1

theorem encAdditions_eq (fs : List (String × Val)) (ms : Members) :
    ms.All ET → ms.wf = true → membersOk ms fs = true →
    ∀ (i : Nat), encAdditions ms i fs = encMembers ms i fs := by
  intro hall hwf hok i
  obtain ⟨b, h1, h2⟩ := encMembers_encAdditions fs ms hall hwf hok i
  rw [h1, h2]

theorem canonMembersV_cons (name : String) (p : Presence) (t : Ty) (rest : Members) (fs : List (String × Val)) :
    canonMembersV (.cons name p t rest) fs =
      (match lookup name fs with
       | some v => (name, canonV t v) :: canonMembersV rest fs
       | none =>
         match p with
         | .default d => (name, d) :: canonMembersV rest fs
         | _ => canonMembersV rest fs) := by
  cases p <;> rw [canonMembersV] <;> first | rfl | (intros; contradiction)

theorem membersDefaultsOkV_cons (name : String) (p : Presence) (t : Ty) (rest : Members) :
    membersDefaultsOkV (.cons name p t rest) =
      ((match p with
        | .default d => hasType t d && (canonV t d == d)
        | _ => true) && defaultsOkV t && membersDefaultsOkV rest) := by
  cases p <;> rw [membersDefaultsOkV] <;> first | rfl | (intros; contradiction)

theorem replicate_headD (n : Nat) : ((List.replicate (n + 1) (none : Option Val)).headD none) = none := rfl
theorem replicate_tail (n : Nat) : (List.replicate (n + 1) (none : Option Val)).tail = List.replicate n none := rfl

theorem isEnd_some (bs : Bytes) (k r : Nat) : isEnd ⟨bs, k, some r⟩ = .ok (r == 0, ⟨bs, k, some r⟩) := rfl

theorem gPass_cons_none (D : Decoder) (name : String) (p : Presence) (t : Ty) (rest : Members)
    (i fuel : Nat) (slots : List (Option Val)) (st : MSt) (h : slots.headD none = none) :
    gPass D (.cons name p t rest) i fuel slots st =
      if st.ood then
        match gPass D rest (i + 1) fuel slots.tail st with
        | .error e => .error e
        | .ok (r, st') => .ok (none :: r, st')
      else
        match D t (some i) fuel st.cur.bs with
        | .error e => .error e
        | .ok none =>
          match gPass D rest (i + 1) fuel slots.tail st with
          | .error e => .error e
          | .ok (r, st') => .ok (none :: r, st')
        | .ok (some (v, k, r)) =>
          match isEnd (st.cur.advance k r) with
          | .error e => .error e
          | .ok (ood, c) =>
            match gPass D rest (i + 1) fuel slots.tail ⟨c, ood, true⟩ with
            | .error e => .error e
            | .ok (r, st') => .ok (some v :: r, st') := by
  rw [gPass]; simp only [h]; rfl

theorem gPass_cons_some (D : Decoder) (name : String) (p : Presence) (t : Ty) (rest : Members)
    (i fuel : Nat) (slots : List (Option Val)) (st : MSt) (v : Val) (h : slots.headD none = some v) :
    gPass D (.cons name p t rest) i fuel slots st =
      match gPass D rest (i + 1) fuel slots.tail st with
      | .error e => .error e
      | .ok (r, st') => .ok (some v :: r, st') := by
  rw [gPass]; simp only [h]; rfl

end Asn1.Der

namespace Asn1.X690
open Asn1.Der (mkTag)

theorem startsEOC_iff {z : Bytes} : startsEOC z = true ↔ ∃ r, z = 0 :: 0 :: r := by
  constructor
  · intro h
    match z, h with
    | 0 :: 0 :: r, _ => exact ⟨r, rfl⟩
  · rintro ⟨r, rfl⟩; rfl

/-- end of the contents as the reference decoder sees it: nothing left (definite form, contents cut
out) / the end-of-contents octets (indefinite form) -/
def atEndB (indef : Bool) (z : Bytes) : Bool := if indef then startsEOC z else z.isEmpty

/-- `bs` starts with the identifier octets of a context tag `[j]`, `j ≥ lo`.  `Der.StartsGe` asks in
addition that something follows them (`r ≠ []`); `Der.StartsGe.tagGe` forgets that. -/
def TagGe (lo : Nat) (bs : Bytes) : Prop :=
  ∃ (j u : Nat) (c : Bool) (r : Bytes), lo ≤ j ∧ bs = mkTag u c (some j) ++ r

theorem TagGe.mono {i j : Nat} {bs : Bytes} (h : TagGe j bs) (hij : i ≤ j) : TagGe i bs := by
  obtain ⟨k, u, c, r, hk, e⟩ := h
  exact ⟨k, u, c, r, by omega, e⟩

theorem TagGe.append {j : Nat} {bs : Bytes} (h : TagGe j bs) (x : Bytes) : TagGe j (bs ++ x) := by
  obtain ⟨k, u, c, r, hk, e⟩ := h
  exact ⟨k, u, c, r ++ x, hk, by rw [e, List.append_assoc]⟩

end Asn1.X690

namespace Asn1.Der
open Asn1.Uper (Err)
open Asn1.X690 (canonV canonMembersV canonAltV defaultsOkV membersDefaultsOkV altsDefaultsOkV)
open Asn1.Oer (oerWf oerWfMembers)
open Asn1.Ext (view)
open Asn1.X690 (startsEOC startsEOC_iff atEndB TagGe)

theorem StartsGe.tagGe {lo : Nat} {bs : Bytes} (h : StartsGe lo bs) : TagGe lo bs := by
  obtain ⟨j, hj, u, c, r, hbs, _⟩ := h
  exact ⟨j, u, c, r, hj, hbs⟩

/-- the code's cursor where `z` is left of the contents (`indef`: indefinite length form) and `tail`
follows them; `k` octets consumed so far -/
def curAt (indef : Bool) (z tail : Bytes) (k : Nat) : Cur :=
  ⟨z ++ tail, k, if indef then none else some z.length⟩

/-- the cursor after `is_end_of_data` was evaluated there: end-of-contents octets are consumed -/
def endCur (indef : Bool) (z tail : Bytes) (k : Nat) : Cur :=
  if indef && startsEOC z then ⟨z.drop 2 ++ tail, k + 2, none⟩ else curAt indef z tail k

theorem isEnd_curAt (indef : Bool) (z tail : Bytes) (k : Nat) (h2 : indef = true → 2 ≤ z.length) :
    isEnd (curAt indef z tail k) = .ok (atEndB indef z, endCur indef z tail k) := by
  cases indef with
  | false =>
    simp only [curAt, endCur, atEndB, isEnd, Bool.false_and, if_false, Bool.false_eq_true]
    cases z <;> simp
  | true =>
    have hl := h2 rfl
    match z, hl with
    | a :: b :: r, _ =>
      by_cases h : startsEOC (a :: b :: r) = true
      · obtain ⟨r', e⟩ := startsEOC_iff.mp h
        cases e
        simp [curAt, endCur, atEndB, isEnd, startsEOC]
      · have hf : startsEOC (a :: b :: r) = false := by simpa using h
        simp only [curAt, endCur, atEndB, hf, if_true, Bool.and_false, if_false, Bool.false_eq_true,
          List.cons_append]
        unfold isEnd
        simp only []
        match a, b, hf with
        | 0, 0, hf => simp [startsEOC] at hf
        | 0, b + 1, _ => rfl
        | a + 1, b, _ => rfl

theorem endCur_of_not_end {indef : Bool} {z : Bytes} (tail : Bytes) (k : Nat) (h : atEndB indef z = false) :
    endCur indef z tail k = curAt indef z tail k := by
  cases indef with
  | false => simp [endCur]
  | true =>
    simp only [atEndB, if_true] at h
    simp [endCur, h]

theorem curAt_advance (indef : Bool) (x x' tail : Bytes) (k0 k : Nat) (h : x.length = k + x'.length) :
    (curAt indef x tail k0).advance k (x' ++ tail) = curAt indef x' tail (k0 + k) := by
  cases indef with
  | false =>
    simp only [curAt, Cur.advance, if_false, Bool.false_eq_true, Option.map_some]
    congr 2; omega
  | true => simp [curAt, Cur.advance]

theorem gPass_idle {D : Decoder} {test : Ty → Nat → Bytes → Bool} (hD : IsCodec D test) (ms : Members) :
    ∀ (i fuel : Nat) (slots : List (Option Val)) (st : MSt),
      slots.length = ms.length → st.ood = false → 0 < fuel → TagGe (i + ms.length) st.cur.bs →
      gPass D ms i fuel slots st = .ok (slots, st) := by
  induction ms using Members.ind with
  | nil =>
    intro i fuel slots st hl _ _ _
    simp only [Members.length, List.length_eq_zero_iff] at hl
    subst hl
    rw [gPass]
  | cons name p t rest ih =>
    intro i fuel slots st hl hood hf hst
    cases slots with
    | nil => simp [Members.length] at hl
    | cons s ss =>
      simp only [Members.length, List.length_cons, Nat.add_right_cancel_iff] at hl
      simp only [Members.length] at hst
      have hrec := ih (i + 1) fuel ss st hl hood hf
        (by rwa [show i + (rest.length + 1) = i + 1 + rest.length by omega] at hst)
      cases s with
      | some v =>
        rw [gPass_cons_some _ _ _ _ _ _ _ _ _ v rfl]
        simp only [List.tail_cons, hrec]
      | none =>
        rw [gPass_cons_none _ _ _ _ _ _ _ _ _ rfl]
        obtain ⟨j, u, c, r, hj, hbs⟩ := hst
        have hmis := hD.mism t i j u c r fuel (by omega) hf
        simp only [hood, if_false, Bool.false_eq_true, List.tail_cons, hbs, hmis]
        simp only [hrec]

/-- What the member loop of `decode_members` can meet in the contents of a SEQUENCE: `x` holds, up to
`y`, encodings of some of the members `ms` (tagged from `[i]`) in the order of the type, each decoded
by `D` (the code's input goes on with `tail`); `slots` has the values, `none` for a member without
encoding -- the contents are at their end there, or go on with a later tag.  `fuelC` is the fuel the
code's decoder `D` runs with (in `X690.COMP` beside `fuel`, the reference decoder's).  The lemmas
about a stream assume `indef = true → 2 ≤ y.length`: in the indefinite form the end-of-contents
octets are still to come at `y`, so `is_end_of_data` never runs out of data before it. -/
inductive Stream (D : Decoder) (fuelC : Nat) (tail : Bytes) (indef : Bool) :
    Members → Nat → Bytes → List (Option Val) → Bytes → Prop
  | nil {i : Nat} {x : Bytes} : Stream D fuelC tail indef .nil i x [] x
  | present {name : String} {p : Presence} {t : Ty} {rest : Members} {i k : Nat} {x x' y : Bytes} {v : Val}
      {slots : List (Option Val)} :
      atEndB indef x = false → D t (some i) fuelC (x ++ tail) = .ok (some (v, k, x' ++ tail)) →
      x.length = k + x'.length → Stream D fuelC tail indef rest (i + 1) x' slots y →
      Stream D fuelC tail indef (.cons name p t rest) i x (some v :: slots) y
  | absent {name : String} {p : Presence} {t : Ty} {rest : Members} {i : Nat} {x y : Bytes}
      {slots : List (Option Val)} :
      (atEndB indef x = true ∨ TagGe (i + 1) x) → Stream D fuelC tail indef rest (i + 1) x slots y →
      Stream D fuelC tail indef (.cons name p t rest) i x (none :: slots) y

section stream
variable {D : Decoder} {test : Ty → Nat → Bytes → Bool}

theorem stream_atEnd (D : Decoder) (fuel : Nat) (tail : Bytes) (ms : Members) (i : Nat) :
    Stream D fuel tail false ms i [] (List.replicate ms.length none) [] := by
  induction ms using Members.ind generalizing i with
  | nil => exact .nil
  | cons n p t rest ih => exact .absent (.inl rfl) (ih (i + 1))

/-- one pass of `decode_members` over a stream, from the state `is_end_of_data` leaves at `x`.  The pass
reports `decode_success` as `succ'`; the last conjunct says that a pass which newly reports it ran over
at least one member -- `retry_of_stream` needs that to know that the loop, which has fuel for one pass
per member and one more, can still make the idle pass that ends it. -/
theorem pass_of_stream (hD : IsCodec D test) {fuelC : Nat} {tail : Bytes} {indef : Bool} (hfC : 0 < fuelC)
    {ms : Members} {i : Nat} {x y : Bytes} {slots : List (Option Val)}
    (h : Stream D fuelC tail indef ms i x slots y) (h2 : indef = true → 2 ≤ y.length) :
    ∀ (k0 : Nat) (succ : Bool), y.length ≤ x.length ∧ slots.length = ms.length ∧ ∃ succ',
      gPass D ms i fuelC (List.replicate ms.length none) ⟨endCur indef x tail k0, atEndB indef x, succ⟩
        = .ok (slots, ⟨endCur indef y tail (k0 + (x.length - y.length)), atEndB indef y, succ'⟩) ∧
      (succ' = true → succ = true ∨ ms ≠ .nil) := by
  induction h with
  | nil => intro k0 succ; exact ⟨Nat.le_refl _, rfl, succ, by rw [gPass]; simp, fun h => .inl h⟩
  | @present name p t rest i k x x' y v slots hx hd hlen _ ih =>
    intro k0 succ
    obtain ⟨hle, hsl, succ', hg, _⟩ := ih h2 (k0 + k) true
    refine ⟨by omega, by simp [hsl, Members.length], succ', ?_, fun _ => .inr (by simp)⟩
    simp only [Members.length]
    rw [hx, endCur_of_not_end tail _ hx,
      gPass_cons_none _ _ _ _ _ _ _ _ _ (replicate_headD _), replicate_tail]
    simp only [Bool.false_eq_true, if_false]
    rw [show (curAt indef x tail k0).bs = x ++ tail from rfl, hd]
    simp only []
    rw [curAt_advance indef x x' tail k0 k hlen,
      isEnd_curAt indef x' tail (k0 + k) (fun hi => by have := h2 hi; omega)]
    simp only []
    rw [hg, show k0 + k + (x'.length - y.length) = k0 + (x.length - y.length) by omega]
  | @absent name p t rest i x y slots hx _ ih =>
    intro k0 succ
    obtain ⟨hle, hsl, succ', hg, hs⟩ := ih h2 k0 succ
    refine ⟨hle, by simp [hsl, Members.length], succ', ?_, fun h => (hs h).elim .inl (fun _ => .inr (by simp))⟩
    simp only [Members.length]
    rw [gPass_cons_none _ _ _ _ _ _ _ _ _ (replicate_headD _), replicate_tail]
    cases hxe : atEndB indef x with
    | true => rw [hxe] at hg; simp only [if_true, hg]
    | false =>
      rw [hxe] at hg
      rcases hx with hx | ⟨j, u, c, r, hj, hxe'⟩
      · rw [hx] at hxe; cases hxe
      · rw [endCur_of_not_end tail _ hxe] at hg ⊢
        simp only [Bool.false_eq_true, if_false]
        rw [show (curAt indef x tail k0).bs = mkTag u c (some j) ++ (r ++ tail) by
            rw [hxe']; exact List.append_assoc _ _ _,
          hD.mism t i j u c (r ++ tail) fuelC (by omega) hfC]
        simp only [hg]

/-- the `while True` loop of `decode_members` over a stream: one productive pass, at most one idle pass -/
theorem retry_of_stream (hD : IsCodec D test) {fuelC : Nat} {tail : Bytes} {indef : Bool} (hfC : 0 < fuelC)
    {ms : Members} {i : Nat} {x y : Bytes} {slots : List (Option Val)}
    (h : Stream D fuelC tail indef ms i x slots y) (h2 : indef = true → 2 ≤ y.length)
    (hy : atEndB indef y = true ∨ TagGe (i + ms.length) y) (k0 : Nat) :
    y.length ≤ x.length ∧
    retry (gPass D ms i fuelC) (ms.length + 1) (List.replicate ms.length none) (curAt indef x tail k0)
      = .ok (slots, endCur indef y tail (k0 + (x.length - y.length)), atEndB indef y) := by
  obtain ⟨hle, hsl, succ', hg, hs⟩ := pass_of_stream hD hfC h h2 k0 false
  refine ⟨hle, ?_⟩
  rw [retry, isEnd_curAt indef x tail k0 (fun hi => by have := h2 hi; omega)]
  simp only []
  rw [hg]
  simp only []
  by_cases hexit : (atEndB indef y || !succ') = true
  · simp [hexit]
  · simp only [Bool.or_eq_true, Bool.not_eq_true', not_or, Bool.not_eq_true, Bool.not_eq_false] at hexit
    obtain ⟨hyf, hsu⟩ := hexit
    simp only [hyf, hsu, Bool.not_true, Bool.or_false, Bool.false_eq_true, if_false]
    -- a member was decoded, so there is one, and the loop has fuel for one more (idle) pass
    cases ms with
    | nil => exact absurd rfl ((hs hsu).resolve_left (by simp))
    | cons name p t rest =>
      simp only [Members.length]
      rw [retry]
      have hcur := endCur_of_not_end (indef := indef) (z := y) tail (k0 + (x.length - y.length)) hyf
      rw [hcur, isEnd_curAt indef y tail _ h2]
      simp only [hyf, hcur]
      have htag : TagGe (i + (Members.cons name p t rest).length) (y ++ tail) :=
        (hy.resolve_left (by simp [hyf])).append tail
      rw [gPass_idle hD (.cons name p t rest) i fuelC slots
        ⟨curAt indef y tail (k0 + (x.length - y.length)), false, false⟩ hsl rfl hfC htag]
      simp

end stream

theorem gPass_ood (D : Decoder) (ms : Members) :
    ∀ (i fuel : Nat) (st : MSt), st.ood = true →
      gPass D ms i fuel (List.replicate ms.length none) st = .ok (List.replicate ms.length none, st) := by
  induction ms using Members.ind with
  | nil => intro i fuel st _; rw [gPass]; rfl
  | cons name p t rest ih =>
    intro i fuel st h
    simp only [Members.length]
    rw [gPass_cons_none _ _ _ _ _ _ _ _ _ (replicate_headD _), replicate_tail]
    simp only [h, if_true, ih (i + 1) fuel st h, List.replicate_succ]

/-- definite form: the additions loop is skipped when the root loop reached the end of the contents
(`while not out_of_data:`, /repo commit 300e5ac); running it there decodes nothing either -/
theorem skip_or_retry (D : Decoder) (ms : Members) (i fuel : Nat) (bs : Bytes) (k n : Nat) :
    (if (n == 0) = true then
        (.ok (List.replicate ms.length none, (⟨bs, k, some n⟩ : Cur), true) : DecM (List (Option Val) × Cur × Bool))
      else retry (gPass D ms i fuel) (ms.length + 1) (List.replicate ms.length none) ⟨bs, k, some n⟩)
      = retry (gPass D ms i fuel) (ms.length + 1) (List.replicate ms.length none) ⟨bs, k, some n⟩ := by
  by_cases h : (n == 0) = true
  · rw [if_pos h]
    have : n = 0 := by simpa using h
    subst this
    rw [retry]
    simp only [isEnd_some]
    rw [gPass_ood D ms i fuel _ rfl]
    simp
  · rw [if_neg h]

/-- the normal exit of `decode_members`: what is left of the contents is skipped -/
theorem finishMembers_rest (fs : List (String × Val)) (c2 rest : Bytes) (k : Nat) :
    finishMembers fs ⟨c2 ++ rest, k, some c2.length⟩ (c2.length == 0)
      = .ok (some (.record fs, k + c2.length, rest)) := by
  cases c2 with
  | nil => rfl
  | cons x xs =>
    rw [finishMembers, if_neg (by simp)]
    simp only [List.drop_left]

theorem et_sequence (root : Members) (ext : Bool) (adds : Members)
    (etr : root.All ET) (eta : adds.All ET) : ET (.sequence root ext adds) := by
  intro tg v hwf ht
  obtain ⟨fs, rfl, hwr, hwa, hokr, hoka⟩ := record_of_hasType hwf ht
  rw [enc, encAdditions_eq fs adds eta hwa hoka]
  obtain ⟨br, hbr⟩ := encMembers_total fs root etr hwr hokr 0
  obtain ⟨ba, hba⟩ := encMembers_total fs adds eta hwa hoka root.length
  rw [hbr, hba]
  exact ⟨_, rfl⟩

theorem et_all (t : Ty) : ET t :=
  Ty.induct (P := ET)
    et_boolean et_null et_integer et_enumerated et_octetString et_bitString et_charString
    (fun root ext adds ihr iha => et_sequence root ext adds ihr iha)
    (fun e c ih => et_sequenceOf e c ih)
    (fun root ext adds ihr iha => et_choice root ext adds ihr iha) t

theorem enc_total (t : Ty) (tg : Option Nat) (v : Val) (hwf : t.wf = true) (ht : hasType t v = true) :
    ∃ bytes, enc t tg v = .ok bytes :=
  et_all t tg v hwf ht

/-- the SEQUENCE encoder on a record whose additions are well typed: root members and additions
encode to `br` and `ba`, wrapped in one TLV; `ba` is empty or starts with a tag numbered after the root -/
theorem enc_sequence_ok {root adds : Members} {x : Bool} {tg : Option Nat} {fs : List (String × Val)}
    {bytes : Bytes} (hwa : adds.wf = true) (hoka : membersOk adds fs = true)
    (he : enc (.sequence root x adds) tg (.record fs) = .ok bytes) :
    ∃ br ba, encMembers root 0 fs = .ok br ∧ encMembers adds root.length fs = .ok ba ∧
      bytes = tlv (mkTag 16 true tg) (br ++ ba) ∧ (ba = [] ∨ StartsGe root.length ba) := by
  rw [enc, encAdditions_eq fs adds (Members.All.of_forall et_all adds) hwa hoka] at he
  cases hbr : encMembers root 0 fs with
  | error e => simp [hbr] at he
  | ok br =>
    cases hba : encMembers adds root.length fs with
    | error e => simp [hbr, hba] at he
    | ok ba =>
      simp only [hbr, hba] at he
      cases he
      exact ⟨br, ba, rfl, rfl, rfl, encMembers_starts fs adds root.length ba hba⟩

theorem enc_of_encode {t : Ty} {v : Val} {bytes : Bytes} (he : encode t v = .ok bytes) :
    enc t none v = .ok bytes := by
  unfold encode at he
  split at he
  · exact he
  · cases he

end Asn1.Der
