import Asn1Model.Xml
import Asn1Proofs.Lemmas.JsonLex
/-
  The XML reader reads back what the writer writes: `parse (renderDoc ind x) = .ok x` for every
  plain tree (`XmlT.plain`: ASCII names, character data XML can carry, text or children) and every
  indentation.
-/
namespace Asn1.Xml

/-- the XML writer's digits are those of the JSON writer, built from the other end -/
theorem natToDecAux_append (fuel n : Nat) (acc : List Nat) :
    natToDecAux fuel n ++ acc = Json.natDigitsAux fuel n acc := by
  induction fuel generalizing n acc with
  | zero => rfl
  | succ fuel ih =>
    unfold natToDecAux Json.natDigitsAux
    split
    · rfl
    · rw [List.append_assoc, ih]
      rfl

theorem natToDec_eq (n : Nat) : natToDec n = Json.natDigits n := by
  rw [natToDec, Json.natDigits, ← natToDecAux_append, List.append_nil]

theorem decToNat_natToDec (n : Nat) : decToNat (natToDec n) = n :=
  natToDec_eq n ▸ (Json.natDigits_spec n).2.2.1

theorem natToDec_digits (n : Nat) : (natToDec n).all isDigit = true :=
  natToDec_eq n ▸ List.all_eq_true.2 (Json.natDigits_spec n).1

theorem natToDec_ne_nil (n : Nat) : natToDec n ≠ [] :=
  natToDec_eq n ▸ (Json.natDigits_spec n).2.1

theorem natToDecAux_length_gt (k : Nat) : ∀ (fuel n : Nat), n < fuel → 10 ^ k ≤ n →
    k < (natToDecAux fuel n).length := by
  induction k with
  | zero =>
    intro fuel n h _
    match fuel, h with
    | fuel + 1, _ =>
      unfold natToDecAux
      split <;> simp
  | succ k ih =>
    intro fuel n h hk
    have hpos : 0 < 10 ^ k := Nat.pow_pos (by decide)
    have hk' : 10 ^ k * 10 ≤ n := by rw [← Nat.pow_succ]; exact hk
    match fuel, h with
    | fuel + 1, h =>
      unfold natToDecAux
      rw [if_neg (by omega)]
      have := ih fuel (n / 10) (by omega) ((Nat.le_div_iff_mul_le (by decide)).2 hk')
      simp only [List.length_append, List.length_cons, List.length_nil]
      omega

theorem natToDec_length_gt (n k : Nat) (h : 10 ^ k ≤ n) : k < (natToDec n).length :=
  natToDecAux_length_gt k (n + 1) n (by omega) h

theorem ofCps_toCps (s : String) : ofCps (toCps s) = s := by
  unfold ofCps toCps
  rw [List.map_map]
  have : (Char.ofNat ∘ Char.toNat) = id := by
    funext c; simp [Char.ofNat_toNat]
  rw [this, List.map_id, String.ofList_toList]

theorem isChar_of_ascii {c : Nat} (h1 : 32 ≤ c) (h2 : c < 128) : isChar c = true := by
  have h3 : c ≤ 0xD7FF := by omega
  simp [isChar, h1, h3]

/-- `isNameStart` opens with the three ASCII ranges -/
theorem isNameStart_of_ascii {c : Nat} (h : isAsciiNameStart c = true) : isNameStart c = true := by
  unfold isAsciiNameStart at h
  unfold isNameStart
  rw [h]
  rfl

theorem isAsciiNameChar_of_start {c : Nat} (h : isAsciiNameStart c = true) : isAsciiNameChar c = true := by
  unfold isAsciiNameChar
  rw [h]
  rfl

theorem isAsciiNameChar_of_digit {c : Nat} (h : isDigit c = true) : isAsciiNameChar c = true := by
  unfold isDigit at h
  unfold isAsciiNameChar
  rw [h, Bool.or_true]

/-- `isNameChar` opens like `isAsciiNameChar`, with `isNameStart` in the place of `isAsciiNameStart` -/
theorem isNameChar_of_ascii {c : Nat} (h : isAsciiNameChar c = true) : isNameChar c = true := by
  unfold isAsciiNameChar at h
  unfold isNameChar
  cases hs : isAsciiNameStart c with
  | true => rw [isNameStart_of_ascii hs]; rfl
  | false =>
    rw [hs] at h
    cases isNameStart c with
    | true => rfl
    | false => rw [h]; rfl

/-- what `step` tests of a character inside a name, and that it is ASCII and not CR (for `outOk`) -/
theorem asciiNameChar_facts (c : Nat) (h : isAsciiNameChar c = true) :
    isChar c = true ∧ isNameChar c = true ∧ c ≠ 13 ∧ c < 128 := by
  have hr : 45 ≤ c ∧ c ≤ 122 := by
    simp only [isAsciiNameChar, isAsciiNameStart, Bool.or_eq_true, Bool.and_eq_true, decide_eq_true_eq,
      beq_iff_eq] at h
    omega
  exact ⟨isChar_of_ascii (by omega) (by omega), isNameChar_of_ascii h, by omega, by omega⟩

/-- the tests of `step` after `<` and `</` that the first character of a name passes -/
theorem asciiNameStart_facts (c : Nat) (h : isAsciiNameStart c = true) :
    isChar c = true ∧ isNameStart c = true ∧ isNameChar c = true ∧ c ≠ 47 ∧ c ≠ 33 ∧ c ≠ 63 ∧
      c ≠ 58 ∧ c ≠ 13 := by
  obtain ⟨h1, h2, _, _⟩ := asciiNameChar_facts c (isAsciiNameChar_of_start h)
  have hs := isNameStart_of_ascii h
  simp only [isAsciiNameStart, Bool.or_eq_true, Bool.and_eq_true, decide_eq_true_eq, beq_iff_eq] at h
  exact ⟨h1, hs, h2, by omega, by omega, by omega, by omega, by omega⟩

/-- the tests of `step` inside a character reference `&#…;` that a decimal digit passes -/
theorem digit_facts (c : Nat) (h : isDigit c = true) :
    isChar c = true ∧ isNameChar c = true ∧ c ≠ 59 ∧ c ≠ 13 ∧ c ≠ 120 := by
  obtain ⟨h1, h2, _, _⟩ := asciiNameChar_facts c (isAsciiNameChar_of_digit h)
  simp only [isDigit, Bool.and_eq_true, decide_eq_true_eq] at h
  exact ⟨h1, h2, by omega, by omega, by omega⟩

theorem run_nil (s : St) : run s [] = .ok s := rfl

theorem run_cons (s : St) (c : Nat) (cs : List Nat) :
    run s (c :: cs) = (match step s c with | .ok s' => run s' cs | .error e => .error e) := by
  unfold run
  rw [List.foldlM_cons]
  cases step s c <;> rfl

theorem run_cons_ok {s s' : St} {c : Nat} (h : step s c = .ok s') (cs : List Nat) :
    run s (c :: cs) = run s' cs := by
  rw [run_cons, h]

theorem run_append (s : St) (a b : List Nat) :
    run s (a ++ b) = (match run s a with | .ok s' => run s' b | .error e => .error e) := by
  induction a generalizing s with
  | nil => rfl
  | cons c r ih =>
    rw [List.cons_append, run_cons, run_cons]
    cases step s c with
    | error e => rfl
    | ok s' => exact ih s'

theorem run_append_ok {s s' : St} {a : List Nat} (h : run s a = .ok s') (b : List Nat) :
    run s (a ++ b) = run s' b := by
  rw [run_append, h]

/-- character data reaches the frame only while it has no child element yet (text after a child is dropped, as by
`ElementTree`'s `.text`); the text is kept reversed -/
def Frame.addText (f : Frame) (t : List Nat) : Frame :=
  if f.kids.isEmpty then { f with text := t.reverse ++ f.text } else f

theorem addChar_cons (c : Nat) (f : Frame) (st : List Frame) :
    addChar c (f :: st) = f.addText [c] :: st := by
  simp only [addChar, Frame.addText, List.reverse_cons, List.reverse_nil, List.nil_append,
    List.singleton_append]

theorem addText_addText (f : Frame) (a b : List Nat) :
    (f.addText a).addText b = f.addText (a ++ b) := by
  unfold Frame.addText
  by_cases h : f.kids.isEmpty = true
  · simp [h]
  · simp [h]

theorem addText_nil (f : Frame) : f.addText [] = f := by
  unfold Frame.addText
  split <;> simp

@[simp] theorem addText_kids (f : Frame) (t : List Nat) : (f.addText t).kids = f.kids := by
  unfold Frame.addText; split <;> rfl

@[simp] theorem addText_name (f : Frame) (t : List Nat) : (f.addText t).name = f.name := by
  unfold Frame.addText; split <;> rfl

theorem run_openName (st : List Frame) (root : Option XmlT) (cs acc : List Nat)
    (h : cs.all isAsciiNameChar = true) :
    run ⟨st, .openName acc, root⟩ cs = .ok ⟨st, .openName (cs.reverse ++ acc), root⟩ := by
  induction cs generalizing acc with
  | nil => rfl
  | cons c r ih =>
    simp only [List.all_cons, Bool.and_eq_true] at h
    obtain ⟨h1, h2, _⟩ := asciiNameChar_facts c h.1
    have : step ⟨st, .openName acc, root⟩ c = .ok ⟨st, .openName (c :: acc), root⟩ := by
      simp [step, h1, h2]
    rw [run_cons_ok this, ih (c :: acc) h.2, List.reverse_cons, List.append_assoc]
    rfl

theorem run_closeName (st : List Frame) (root : Option XmlT) (cs acc : List Nat)
    (h : cs.all isAsciiNameChar = true) (hacc : acc ≠ []) :
    run ⟨st, .closeName acc, root⟩ cs = .ok ⟨st, .closeName (cs.reverse ++ acc), root⟩ := by
  induction cs generalizing acc with
  | nil => rfl
  | cons c r ih =>
    simp only [List.all_cons, Bool.and_eq_true] at h
    obtain ⟨h1, h2, _⟩ := asciiNameChar_facts c h.1
    have hne : acc.isEmpty = false := by cases acc <;> simp_all
    have : step ⟨st, .closeName acc, root⟩ c = .ok ⟨st, .closeName (c :: acc), root⟩ := by
      simp [step, h1, h2, hne]
    rw [run_cons_ok this, ih (c :: acc) h.2 (List.cons_ne_nil _ _), List.reverse_cons, List.append_assoc]
    rfl

/-- `<name` -/
theorem run_tagStart (st : List Frame) (root : Option XmlT) (k : Nat) (nm : List Nat)
    (hn : isAsciiName nm = true) (hroot : (st.isEmpty && root.isSome) = false) :
    run ⟨st, .content k, root⟩ (60 :: nm) = .ok ⟨st, .openName nm.reverse, root⟩ := by
  cases nm with
  | nil => simp [isAsciiName] at hn
  | cons c r =>
    simp only [isAsciiName, Bool.and_eq_true] at hn
    obtain ⟨h1, h2, _, h4, h5, h6, h7, _⟩ := asciiNameStart_facts c hn.1
    have s1 : step ⟨st, .content k, root⟩ 60 = .ok ⟨st, .lt, root⟩ := by
      simp [step, isChar, hroot]
    have s2 : step ⟨st, .lt, root⟩ c = .ok ⟨st, .openName [c], root⟩ := by
      simp [step, h1, h2, h4, h5, h6, h7]
    rw [run_cons_ok s1, run_cons_ok s2, run_openName st root r [c] hn.2, List.reverse_cons]

/-- `<name>` -/
theorem run_openTag (st : List Frame) (root : Option XmlT) (k : Nat) (nm : List Nat)
    (hn : isAsciiName nm = true) (hroot : (st.isEmpty && root.isSome) = false) :
    run ⟨st, .content k, root⟩ (60 :: nm ++ [62]) = .ok ⟨⟨nm, [], []⟩ :: st, .content 0, root⟩ := by
  rw [run_append_ok (run_tagStart st root k nm hn hroot),
    run_cons_ok (s' := ⟨⟨nm.reverse.reverse, [], []⟩ :: st, .content 0, root⟩) rfl, List.reverse_reverse]
  rfl

/-- outcome of handing a finished element to the machine -/
def pushed (x : XmlT) (st : List Frame) (root : Option XmlT) : Except PErr St :=
  match addKid x st root with
  | .ok (st', r) => .ok ⟨st', .content 0, r⟩
  | .error e => .error e

/-- `<name />` -/
theorem run_emptyTag (st : List Frame) (root : Option XmlT) (k : Nat) (nm : List Nat)
    (hn : isAsciiName nm = true) (hroot : (st.isEmpty && root.isSome) = false) :
    run ⟨st, .content k, root⟩ (60 :: nm ++ [32, 47, 62]) = pushed (.elem (ofCps nm) [] []) st root := by
  rw [run_append_ok (run_tagStart st root k nm hn hroot),
    run_cons_ok (s' := ⟨st, .openWs nm.reverse, root⟩) rfl,
    run_cons_ok (s' := ⟨st, .emptyClose nm.reverse, root⟩) rfl, run_cons]
  have s3 : step ⟨st, .emptyClose nm.reverse, root⟩ 62 = emptyTag ⟨st, .emptyClose nm.reverse, root⟩ nm.reverse := rfl
  rw [s3]
  simp only [emptyTag, List.reverse_reverse, pushed]
  cases addKid (.elem (ofCps nm) [] []) st root with
  | error e => rfl
  | ok p => rfl

/-- `</name>` -/
theorem run_closeTag (f : Frame) (st : List Frame) (root : Option XmlT) (k : Nat)
    (hn : isAsciiName f.name = true) :
    run ⟨f :: st, .content k, root⟩ (60 :: 47 :: f.name ++ [62]) = pushed (closeFrame f) st root := by
  cases hnm : f.name with
  | nil => rw [hnm] at hn; simp [isAsciiName] at hn
  | cons c r =>
    rw [hnm] at hn
    simp only [isAsciiName, Bool.and_eq_true] at hn
    obtain ⟨h1, h2, h3, _⟩ := asciiNameStart_facts c hn.1
    have s3 : step ⟨f :: st, .closeName [], root⟩ c = .ok ⟨f :: st, .closeName [c], root⟩ := by
      simp [step, h1, h2]
    rw [List.cons_append, List.cons_append, List.cons_append,
      run_cons_ok (s' := ⟨f :: st, .lt, root⟩) rfl, run_cons_ok (s' := ⟨f :: st, .closeName [], root⟩) rfl,
      run_cons_ok s3, run_append_ok (run_closeName (f :: st) root r [c] hn.2 (List.cons_ne_nil _ _)), run_cons]
    have s4 : step ⟨f :: st, .closeName (r.reverse ++ [c]), root⟩ 62 =
        closeTag ⟨f :: st, .closeName (r.reverse ++ [c]), root⟩ (r.reverse ++ [c]) := by
      simp [step, isChar, isNameChar, isNameStart, isWs]
    rw [s4]
    simp only [closeTag, List.reverse_append, List.reverse_reverse, List.reverse_cons, List.reverse_nil,
      List.nil_append, List.singleton_append, hnm, if_true, pushed]
    cases addKid (closeFrame f) st root with
    | error e => rfl
    | ok p => rfl

theorem run_refDigits (st : List Frame) (root : Option XmlT) (ds acc : List Nat)
    (h : ds.all isDigit = true) :
    run ⟨st, .ref acc, root⟩ ds = .ok ⟨st, .ref (ds.reverse ++ acc), root⟩ := by
  induction ds generalizing acc with
  | nil => rfl
  | cons c r ih =>
    simp only [List.all_cons, Bool.and_eq_true] at h
    obtain ⟨h1, h2, h3, _⟩ := digit_facts c h.1
    have : step ⟨st, .ref acc, root⟩ c = .ok ⟨st, .ref (c :: acc), root⟩ := by
      simp [step, h1, h2, h3]
    rw [run_cons_ok this, ih (c :: acc) h.2, List.reverse_cons, List.append_assoc]
    rfl

theorem decodeRef_dec (ds : List Nat) (hne : ds ≠ []) (hd : ds.all isDigit = true)
    (hc : isChar (decToNat ds) = true) : decodeRef (35 :: ds) = some (decToNat ds) := by
  cases ds with
  | nil => exact absurd rfl hne
  | cons d r =>
    have hd' := hd
    simp only [List.all_cons, Bool.and_eq_true] at hd'
    obtain ⟨_, _, _, _, h120⟩ := digit_facts d hd'.1
    unfold decodeRef
    simp [h120, hd, hc]

theorem textChar_isChar (c : Nat) (h : isTextChar c = true) : isChar c = true ∧ c ≠ 13 := by
  simp only [isTextChar, Bool.and_eq_true, bne_iff_ne] at h
  exact h

theorem run_escChar (f : Frame) (st : List Frame) (root : Option XmlT) (k c : Nat)
    (hc : isTextChar c = true) :
    ∃ k', run ⟨f :: st, .content k, root⟩ (escChar c) = .ok ⟨f.addText [c] :: st, .content k', root⟩ := by
  obtain ⟨hch, _⟩ := textChar_isChar c hc
  unfold escChar
  by_cases h38 : c = 38
  · subst h38; exact ⟨0, rfl⟩
  rw [if_neg h38]
  by_cases h60 : c = 60
  · subst h60; exact ⟨0, rfl⟩
  rw [if_neg h60]
  by_cases h62 : c = 62
  · subst h62; exact ⟨0, rfl⟩
  rw [if_neg h62]
  by_cases h128 : c < 128
  · rw [if_pos h128]
    have : step ⟨f :: st, .content k, root⟩ c =
        .ok ⟨f.addText [c] :: st, .content (if c = 93 then k + 1 else 0), root⟩ := by
      simp [step, hch, h38, h60, h62, addChar_cons]
    exact ⟨_, by rw [run_cons_ok this]; rfl⟩
  · rw [if_neg h128]
    have hds := natToDec_digits c
    have hne := natToDec_ne_nil c
    have hval := decToNat_natToDec c
    generalize natToDec c = ds at *
    have s3 : step ⟨f :: st, .ref (ds.reverse ++ [35]), root⟩ 59 =
        .ok ⟨f.addText [c] :: st, .content 0, root⟩ := by
      have hr : (ds.reverse ++ [35]).reverse = 35 :: ds := by simp
      simp only [step, hr, decodeRef_dec ds hne hds (by rw [hval]; exact hch), hval, addChar_cons]
      simp [isChar]
    refine ⟨0, ?_⟩
    rw [List.append_assoc, List.cons_append, List.cons_append, List.nil_append,
      run_cons_ok (s' := ⟨f :: st, .ref [], root⟩) rfl, run_cons_ok (s' := ⟨f :: st, .ref [35], root⟩) rfl,
      run_append_ok (run_refDigits (f :: st) root ds [35] hds), run_cons_ok s3]
    rfl

theorem run_escText (f : Frame) (st : List Frame) (root : Option XmlT) (k : Nat) (t : List Nat)
    (ht : t.all isTextChar = true) :
    ∃ k', run ⟨f :: st, .content k, root⟩ (escText t) = .ok ⟨f.addText t :: st, .content k', root⟩ := by
  induction t generalizing f k with
  | nil => exact ⟨k, by simp [escText, run_nil, addText_nil]⟩
  | cons c r ih =>
    simp only [List.all_cons, Bool.and_eq_true] at ht
    obtain ⟨k1, h1⟩ := run_escChar f st root k c ht.1
    obtain ⟨k2, h2⟩ := ih (f.addText [c]) k1 ht.2
    refine ⟨k2, ?_⟩
    have : escText (c :: r) = escChar c ++ escText r := by simp [escText]
    rw [this, run_append_ok h1, h2, addText_addText]
    rfl

theorem indentStr_ws (ind : Option Nat) (level : Nat) :
    (indentStr ind level).all isWs = true ∧ (indentStr ind level).all isTextChar = true ∧
      escText (indentStr ind level) = indentStr ind level := by
  cases ind with
  | none => exact ⟨rfl, rfl, rfl⟩
  | some n =>
    simp only [indentStr]
    generalize level * n = m
    refine ⟨?_, ?_, ?_⟩
    · simp [isWs]
    · simp [isTextChar, isChar]
    · induction m with
      | zero => rfl
      | succ m ih =>
        simp only [escText, List.flatMap_cons, List.replicate_succ] at ih ⊢
        have e10 : escChar 10 = [10] := rfl
        have e32 : escChar 32 = [32] := rfl
        rw [e10] at ih ⊢
        rw [e32]
        simp only [List.cons_append, List.nil_append, List.cons.injEq, true_and] at ih ⊢
        exact ih

theorem run_indent (f : Frame) (st : List Frame) (root : Option XmlT) (k : Nat)
    (ind : Option Nat) (level : Nat) :
    ∃ k', run ⟨f :: st, .content k, root⟩ (indentStr ind level) =
      .ok ⟨f.addText (indentStr ind level) :: st, .content k', root⟩ := by
  obtain ⟨_, h2, h3⟩ := indentStr_ws ind level
  have := run_escText f st root k (indentStr ind level) h2
  rw [h3] at this
  exact this

theorem plain_elem (name : String) (text : List Nat) (kids : List XmlT)
    (h : (XmlT.elem name text kids).plain = true) :
    isAsciiName (toCps name) = true ∧ text.all isTextChar = true ∧
      (text = [] ∨ kids = []) ∧ plainList kids = true := by
  simp only [XmlT.plain, Bool.and_eq_true, Bool.or_eq_true, List.isEmpty_iff] at h
  exact ⟨h.1.1.1, h.1.1.2, h.1.2, h.2⟩

/- From any state in character data the machine reads a rendered element and hands it, as a tree, to the
enclosing frame (or makes it the root): `pushed`.  The counter `k` of `.content k` is the
model's count of `]` just seen (for `]]>`); it plays no part in the tree, hence the `∃ k'` from `run_escChar` on.
Children: the indentation the writer puts before each child and before the end tag is character data of
the PARENT; `addChar` keeps it only while the frame has no child (`Frame.addText`; the `w` of
`run_renderKids` is what was kept), and `closeFrame` drops the all-white-space text of a frame that has
children (`hw'`), so the tree comes back without it. -/
mutual
  theorem run_render (ind : Option Nat) : ∀ (x : XmlT) (level : Nat) (st : List Frame)
      (root : Option XmlT) (k : Nat), x.plain = true → (st.isEmpty && root.isSome) = false →
      run ⟨st, .content k, root⟩ (render ind level x) = pushed x st root
    | .elem name text kids, level, st, root, k, hp, hroot => by
      obtain ⟨hn, ht, hor, hk⟩ := plain_elem name text kids hp
      cases kids with
      | nil =>
        by_cases hte : text = []
        · subst hte
          have : render ind level (.elem name [] []) = 60 :: toCps name ++ [32, 47, 62] := by
            simp [render]
          rw [this, run_emptyTag st root k (toCps name) hn hroot, ofCps_toCps]
        · have hie : text.isEmpty = false := by cases text <;> simp_all
          have : render ind level (.elem name text []) =
              (60 :: toCps name ++ [62]) ++ (escText text ++ (60 :: 47 :: toCps name ++ [62])) := by
            simp [render, hie]
          rw [this, run_append_ok (run_openTag st root k (toCps name) hn hroot)]
          obtain ⟨k1, h1⟩ := run_escText ⟨toCps name, [], []⟩ st root 0 text ht
          rw [run_append_ok h1]
          have hf : (Frame.addText ⟨toCps name, [], []⟩ text) = ⟨toCps name, text.reverse, []⟩ := by
            simp [Frame.addText]
          rw [hf]
          have := run_closeTag ⟨toCps name, text.reverse, []⟩ st root k1 hn
          simp only [] at this
          rw [this]
          simp only [closeFrame, List.isEmpty_nil, Bool.not_true, Bool.false_and, Bool.false_eq_true,
            if_false, List.reverse_reverse, List.reverse_nil, ofCps_toCps]
      | cons k0 ks =>
        have hte : text = [] := by
          rcases hor with h | h
          · exact h
          · cases h
        subst hte
        have : render ind level (.elem name [] (k0 :: ks)) =
            (60 :: toCps name ++ [62]) ++ (renderKids ind (level + 1) (k0 :: ks) ++
              (indentStr ind level ++ (60 :: 47 :: toCps name ++ [62]))) := by
          simp [render, escText]
        rw [this, run_append_ok (run_openTag st root k (toCps name) hn hroot)]
        obtain ⟨k1, w, hw, h1⟩ := run_renderKids ind (k0 :: ks) (level + 1) ⟨toCps name, [], []⟩ st root 0 hk
        rw [run_append_ok h1]
        simp only [List.append_nil]
        obtain ⟨k2, h2⟩ := run_indent ⟨toCps name, w, (k0 :: ks).reverse⟩ st root k1 ind level
        rw [run_append_ok h2]
        have hf : Frame.addText ⟨toCps name, w, (k0 :: ks).reverse⟩ (indentStr ind level) =
            ⟨toCps name, w, (k0 :: ks).reverse⟩ := by
          simp [Frame.addText]
        rw [hf]
        have := run_closeTag ⟨toCps name, w, (k0 :: ks).reverse⟩ st root k2 hn
        simp only [] at this
        rw [this]
        have hw' : w.reverse.all isWs = true := by rw [List.all_reverse]; exact hw
        simp only [closeFrame, hw', List.reverse_reverse, ofCps_toCps]
        simp [pushed]
  theorem run_renderKids (ind : Option Nat) : ∀ (ks : List XmlT) (level : Nat) (g : Frame)
      (st : List Frame) (root : Option XmlT) (k : Nat), plainList ks = true →
      ∃ k' w, w.all isWs = true ∧
        run ⟨g :: st, .content k, root⟩ (renderKids ind level ks) =
          .ok ⟨⟨g.name, w ++ g.text, ks.reverse ++ g.kids⟩ :: st, .content k', root⟩
    | [], level, g, st, root, k, _ => ⟨k, [], rfl, by simp [renderKids, run_nil]⟩
    | k0 :: ks, level, g, st, root, k, hp => by
      simp only [plainList, Bool.and_eq_true] at hp
      obtain ⟨k1, h1⟩ := run_indent g st root k ind level
      have h2 := run_render ind k0 level (g.addText (indentStr ind level) :: st) root k1 hp.1 (by simp)
      obtain ⟨k3, w, hw, h3⟩ := run_renderKids ind ks level
        ⟨g.name, (g.addText (indentStr ind level)).text, k0 :: g.kids⟩ st root 0 hp.2
      have hws := (indentStr_ws ind level).1
      have htext : ∃ w1, w1.all isWs = true ∧ (g.addText (indentStr ind level)).text = w1 ++ g.text := by
        unfold Frame.addText
        split
        · exact ⟨(indentStr ind level).reverse, by rw [List.all_reverse]; exact hws, rfl⟩
        · exact ⟨[], rfl, rfl⟩
      obtain ⟨w1, hw1, ht1⟩ := htext
      refine ⟨k3, w ++ w1, by simp [List.all_append, hw, hw1], ?_⟩
      have : renderKids ind level (k0 :: ks) =
          indentStr ind level ++ (render ind level k0 ++ renderKids ind level ks) := by
        simp [renderKids]
      rw [this, run_append_ok h1, run_append, h2]
      simp only [pushed, addKid, addText_kids, addText_name]
      rw [h3, ht1]
      simp
end

/-- not CR, so `normEol` leaves the text alone; ASCII, so it is its own UTF-8 form -/
def outOk (l : List Nat) : Prop := ∀ c ∈ l, c ≠ 13 ∧ c < 128

theorem outOk_append_iff (a b : List Nat) : outOk (a ++ b) ↔ outOk a ∧ outOk b := List.forall_mem_append

theorem outOk_cons_iff (c : Nat) (l : List Nat) : outOk (c :: l) ↔ (c ≠ 13 ∧ c < 128) ∧ outOk l :=
  List.forall_mem_cons

theorem outOk_nil : outOk [] := fun _ h => nomatch h

theorem outOk_name (nm : List Nat) (h : isAsciiName nm = true) : outOk nm := by
  cases nm with
  | nil => exact outOk_nil
  | cons c r =>
    simp only [isAsciiName, Bool.and_eq_true, List.all_eq_true] at h
    exact (outOk_cons_iff c r).2 ⟨(asciiNameChar_facts c (isAsciiNameChar_of_start h.1)).2.2,
      fun d hd => (asciiNameChar_facts d (h.2 d hd)).2.2⟩

theorem outOk_digits (ds : List Nat) (h : ds.all isDigit = true) : outOk ds := by
  intro d hd
  simp only [List.all_eq_true] at h
  have := h d hd
  simp only [isDigit, Bool.and_eq_true, decide_eq_true_eq] at this
  omega

theorem outOk_escChar (c : Nat) (h : isTextChar c = true) : outOk (escChar c) := by
  obtain ⟨_, h13⟩ := textChar_isChar c h
  unfold escChar
  split
  · unfold outOk; decide
  split
  · unfold outOk; decide
  split
  · unfold outOk; decide
  split
  · exact (outOk_cons_iff c []).2 ⟨⟨h13, by assumption⟩, outOk_nil⟩
  · simp [outOk_append_iff, outOk_cons_iff, outOk_nil, outOk_digits _ (natToDec_digits c)]

theorem outOk_escText (t : List Nat) (h : t.all isTextChar = true) : outOk (escText t) := by
  intro d hd
  obtain ⟨c, hc, hdc⟩ := List.mem_flatMap.1 hd
  exact outOk_escChar c (List.all_eq_true.1 h c hc) d hdc

theorem outOk_indent (ind : Option Nat) (level : Nat) : outOk (indentStr ind level) := by
  cases ind with
  | none => exact outOk_nil
  | some n =>
    intro c hc
    simp only [indentStr, List.mem_cons, List.mem_replicate] at hc
    omega

mutual
  theorem outOk_render (ind : Option Nat) : ∀ (x : XmlT) (level : Nat), x.plain = true →
      outOk (render ind level x)
    | .elem name text kids, level, hp => by
      obtain ⟨hn, ht, _, hk⟩ := plain_elem name text kids hp
      have hnm := outOk_name _ hn
      have htx := outOk_escText text ht
      cases kids with
      | nil =>
        rw [render]
        split <;> simp [outOk_append_iff, outOk_cons_iff, hnm, htx, outOk_nil]
      | cons k0 ks =>
        simp [render, outOk_append_iff, outOk_cons_iff, hnm, htx, outOk_nil, outOk_indent ind level,
          outOk_renderKids ind (k0 :: ks) (level + 1) hk]
  theorem outOk_renderKids (ind : Option Nat) : ∀ (ks : List XmlT) (level : Nat),
      plainList ks = true → outOk (renderKids ind level ks)
    | [], _, _ => by rw [renderKids]; exact outOk_nil
    | k0 :: ks, level, hp => by
      rw [plainList, Bool.and_eq_true] at hp
      simp [renderKids, outOk_append_iff, outOk_indent ind level, outOk_render ind k0 level hp.1,
        outOk_renderKids ind ks level hp.2]
end

theorem outOk_renderDoc (ind : Option Nat) (x : XmlT) (hp : x.plain = true) :
    outOk (renderDoc ind x) := by
  unfold renderDoc
  rw [outOk_append_iff]
  refine ⟨outOk_render ind x 0 hp, ?_⟩
  split
  · unfold outOk; decide
  · exact outOk_nil

theorem normEolAux_of_outOk (l : List Nat) (h : outOk l) : normEolAux false l = l := by
  induction l with
  | nil => rfl
  | cons c r ih =>
    have hc := (h c (List.mem_cons_self ..)).1
    unfold normEolAux
    rw [if_neg hc, if_neg (by simp), ih (fun d hd => h d (List.mem_cons_of_mem _ hd))]

theorem render_head (ind : Option Nat) (level : Nat) (x : XmlT) :
    ∃ r, render ind level x = 60 :: r := by
  cases x with
  | elem name text kids =>
    cases kids with
    | nil =>
      simp only [render]
      split <;> exact ⟨_, rfl⟩
    | cons k ks => exact ⟨_, by simp only [render]; rfl⟩

theorem parse_renderDoc (ind : Option Nat) (x : XmlT) (hp : x.plain = true) :
    parse (renderDoc ind x) = .ok x := by
  unfold parse renderDoc
  obtain ⟨r, hr⟩ := render_head ind 0 x
  have hbom : dropBom (render ind 0 x ++ (if (ind.isSome && !x.kids.isEmpty) = true then [10] else [])) =
      render ind 0 x ++ (if (ind.isSome && !x.kids.isEmpty) = true then [10] else []) := by
    rw [hr]; rfl
  rw [hbom]
  have hcr := outOk_renderDoc ind x hp
  unfold renderDoc at hcr
  rw [normEol, normEolAux_of_outOk _ hcr]
  have h1 := run_render ind x 0 [] none 0 hp rfl
  have h1' : run ⟨[], .content 0, none⟩ (render ind 0 x) = .ok ⟨[], .content 0, some x⟩ := by
    rw [h1]; rfl
  rw [initSt, run_append_ok h1']
  by_cases hb : (ind.isSome && !x.kids.isEmpty) = true
  · rw [if_pos hb]
    simp [run_cons, run_nil, step, isChar, isWs, finish]
  · rw [if_neg hb]
    simp [run_nil, finish]

end Asn1.Xml
