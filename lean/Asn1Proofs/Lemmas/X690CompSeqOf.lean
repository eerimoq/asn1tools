import Asn1Proofs.Lemmas.X690CompDefs
/-
  C04 completeness (`COMP`, X690CompDefs.lean) for SEQUENCE OF: what the reference `elements`
  parses is a `Run` of elements, which the code's loop `BerCodec.items` follows (`items_of_run`).
-/
namespace Asn1.X690
open Asn1.Der (mkTag)

theorem comp_sequenceOf (e : Ty) (c : SizeC) (ih : COMP e) : COMP (.sequenceOf e c) := by
  intro tg fuel fuelC bs rest extra v h hlen
  rw [decVS_sequenceOf, header_eq_mkTag] at h
  simp only [Der.univNumber] at h
  split at h
  · cases h
  · rename_i r hs
    obtain rfl := stripPrefix_some hs
    split at h
    · rename_i vs r' hc
      cases h
      rw [constructedContents_eq] at hc
      obtain ⟨indef, z, y, tail, hdr, hel, hy, hrest, hrl, hl, hd0⟩ := framing hc extra
      simp only [List.length_append] at hlen hl
      obtain ⟨k, hit, hk, _⟩ := items_of_run (BerCodec.dec e none fuelC) _ id indef tail fuelC
        (fun x a x' h hN => ih none fuel fuelC x x' tail a h hN) (run_of_elements hel) hy fuelC
        (by omega) (by simp only [List.length_append]; omega)
      have htag := tagLen_le 16 true tg
      have := congrArg List.length hrest
      simp only [List.length_append] at this ⊢
      refine ⟨(mkTag 16 true tg).length + hdr + k, ?_, by omega, by omega⟩
      rw [BerCodec.dec_sequenceOf, List.append_assoc, Der.matchTag_self]
      simp only [bind, Except.bind, hrl, hit, hrest, List.map_id]
    · cases h

end Asn1.X690

#print axioms Asn1.X690.comp_sequenceOf
