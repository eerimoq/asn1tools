import Asn1Proofs.Lemmas.JerLeaf
import Asn1Proofs.Lemmas.TyInduct
import Asn1Proofs.Lemmas.UperMisc
import Asn1Proofs.Lemmas.Records
/-
  Tree-level round trip of the JER model (`RT`, by induction on the type): every well-typed value is encoded,
  the JSON tree is well formed (`Json.wfV`: the hypothesis of `Json.value_render`) and decodes to `canonJ t v`.
-/
namespace Asn1.Jer
open Asn1.Json (isScalar wfV wfList wfMembers wfMembers_append)
open Asn1.Uper (mapM_nil' mapM_cons')
open Asn1.Uper (alphabet_lt)

def RT (t : Ty) : Prop :=
  ∀ v : Val, t.wf = true → hasType t v = true →
    ∃ j, toJson t v = .ok j ∧ ofJson t j = .ok (canonJ t v) ∧ wfV j = true

theorem rt_boolean : RT .boolean := by
  intro v _ ht
  obtain ⟨b, rfl⟩ := hasType_boolean ht
  exact ⟨_, rfl, rfl, rfl⟩

theorem rt_null : RT .null := by
  intro v _ ht
  rw [hasType_null ht]
  exact ⟨_, rfl, rfl, rfl⟩

theorem rt_integer (c : IntC) : RT (.integer c) := by
  intro v _ ht
  obtain ⟨i, rfl, -⟩ := hasType_integer ht
  exact ⟨_, rfl, rfl, rfl⟩

theorem rt_enumerated (root : List (String × Int)) (ext : Option (List (String × Int))) :
    RT (.enumerated root ext) := by
  intro v _ ht
  obtain ⟨n, rfl, -⟩ := hasType_enumerated ht
  have hm : n ∈ enumNames root ext := mem_enumNames_of_hasType ht
  exact ⟨_, toJson_enumerated hm, ofJson_enumerated hm, strCps_scalar n⟩

theorem rt_octetString (c : SizeC) : RT (.octetString c) := by
  intro v _ ht
  obtain ⟨bs, rfl, hb, -⟩ := hasType_octetString ht
  exact ⟨_, rfl, ofJson_octetString c hb, hexUpper_scalar _⟩

theorem rt_bitString (c : SizeC) : RT (.bitString c) := by
  intro v _ ht
  obtain ⟨data, n, rfl, hb, -, hs⟩ := hasType_bitString ht
  cases hfix : fixedSize c with
  | true =>
    refine ⟨.str (hexUpper data), by rw [toJson, if_pos hfix], ?_, hexUpper_scalar _⟩
    have hn : c.lo = n := by
      simp only [fixedSize, beq_iff_eq] at hfix
      simp only [sizeOk, hfix, Bool.and_eq_true, decide_eq_true_eq] at hs
      omega
    rw [ofJson, if_pos hfix, unhex_hexUpper data hb, hn]
    rfl
  | false =>
    refine ⟨.obj [(kValue, .str (hexUpper data)), (kLength, .num n)], by rw [toJson, hfix]; rfl, ?_, ?_⟩
    · have h1 : dictGet kValue [(kValue, JsonV.str (hexUpper data)), (kLength, JsonV.num ↑n)]
          = some (JsonV.str (hexUpper data)) := rfl
      have h2 : dictGet kLength [(kValue, JsonV.str (hexUpper data)), (kLength, JsonV.num ↑n)]
          = some (JsonV.num ↑n) := rfl
      rw [ofJson, hfix]
      simp [h1, h2, unhex_hexUpper data hb, canonJ]
    · simp [wfV, wfMembers, hexUpper_scalar, show kValue.all isScalar = true by decide,
        show kLength.all isScalar = true by decide]

theorem rt_charString (k : StrKind) (c : SizeC) : RT (.charString k c) := by
  intro v _ ht
  obtain ⟨cps, rfl, h⟩ := hasType_charString ht
  refine ⟨_, rfl, rfl, ?_⟩
  simp only [wfV, List.all_eq_true]
  intro cp hcp
  simp only [isScalar, Bool.and_eq_true, decide_eq_true_eq, Bool.not_eq_true', Bool.and_eq_false_iff,
    decide_eq_false_iff_not]
  rcases h with ⟨-, h⟩ | ⟨-, hal, -⟩
  · have := h cp hcp
    omega
  · have := alphabet_lt _ cp (List.contains_iff_mem.1 (hal cp hcp))
    omega

theorem seqOf_items (e : Ty) (ih : RT e) (hwf : e.wf = true) (vs : List Val) (hall : ∀ v ∈ vs, hasType e v = true) :
    ∃ js, vs.mapM (toJson e) = .ok js ∧ js.mapM (ofJson e) = .ok (vs.map (canonJ e)) ∧ wfList js = true := by
  induction vs with
  | nil => exact ⟨[], mapM_nil' _, mapM_nil' _, rfl⟩
  | cons v vs ihl =>
    obtain ⟨j, h1, h2, h3⟩ := ih v hwf (hall v (List.mem_cons_self ..))
    obtain ⟨js, h4, h5, h6⟩ := ihl (fun x hx => hall x (List.mem_cons_of_mem _ hx))
    exact ⟨j :: js, by rw [mapM_cons', h1, h4], by rw [mapM_cons', h2, h5]; rfl, by rw [wfList, h3, h6]; rfl⟩

theorem rt_sequenceOf (e : Ty) (c : SizeC) (ih : RT e) : RT (.sequenceOf e c) := by
  intro v hwf ht
  obtain ⟨vs, rfl, hvs, -⟩ := hasType_sequenceOf ht
  obtain ⟨js, h1, h2, h3⟩ := seqOf_items e ih (wf_sequenceOf hwf) vs hvs
  exact ⟨.arr js, by simp only [toJson, h1], by simp only [ofJson, iterItems, h2, canonJ], by rw [wfV, h3]⟩

theorem membersOfJson_congr (ms : Members) {O O' : List (List Nat × JsonV)}
    (h : ∀ n ∈ ms.names, dictGet (strCps n) O = dictGet (strCps n) O') :
    membersOfJson ms (.obj O) = membersOfJson ms (.obj O') := by
  induction ms using Members.ind with
  | nil => rfl
  | cons name p t rest ih =>
    simp only [membersOfJson, memberIn, memberGet, h name (List.mem_cons_self ..),
      ih fun n hn => h n (List.mem_cons_of_mem _ hn)]

theorem membersToJson_spec (fs : List (String × Val)) :
    ∀ ms : Members, Members.All RT ms → ms.wf = true → ms.names.Nodup → membersOk ms fs = true →
      ∃ a, membersToJson ms fs = .ok a ∧ wfMembers a = true ∧ (∀ kv ∈ a, ∃ n ∈ ms.names, kv.1 = strCps n) ∧
        membersOfJson ms (.obj a) = .ok (canonJMembers ms fs) := by
  intro ms
  induction ms using Members.ind with
  | nil => intro _ _ _ _; exact ⟨[], rfl, rfl, nofun, rfl⟩
  | cons name p t rest ih =>
    intro hall hwf hnd hok
    simp only [Members.wf, Bool.and_eq_true] at hwf
    simp only [membersOk, Bool.and_eq_true] at hok
    simp only [Members.names, List.nodup_cons] at hnd
    obtain ⟨a, ha, hwa, hka, hda⟩ := ih hall.2 hwf.2 hnd.2 hok.2
    have hnone : dictGet (strCps name) a = none := dictGet_none _ a fun kv hkv e => by
      obtain ⟨n, hn, e'⟩ := hka kv hkv
      exact hnd.1 (strCps_inj (e'.symm.trans e) ▸ hn)
    cases hl : lookup name fs with
    | some v =>
      simp only [hl] at hok
      obtain ⟨j, hj, hdec, hwj⟩ := hall.1 v hwf.1 hok.1
      have hrest : membersOfJson rest (.obj ((strCps name, j) :: a)) = membersOfJson rest (.obj a) :=
        membersOfJson_congr rest fun n hn => by
          have : (strCps name == strCps n) = false :=
            beq_eq_false_iff_ne.mpr fun e => hnd.1 (strCps_inj e ▸ hn)
          rw [dictGet_cons]
          cases dictGet (strCps n) a <;> simp [this]
      refine ⟨(strCps name, j) :: a, by simp only [membersToJson, hl, hj, ha],
        by simp [wfMembers, strCps_scalar, hwj, hwa], ?_, ?_⟩
      · intro kv hkv
        rcases List.mem_cons.1 hkv with rfl | hkv
        · exact ⟨name, List.mem_cons_self .., rfl⟩
        · obtain ⟨n, hn, e⟩ := hka kv hkv
          exact ⟨n, List.mem_cons_of_mem _ hn, e⟩
      · have hget : dictGet (strCps name) ((strCps name, j) :: a) = some j := by
          rw [dictGet_cons, hnone]; simp
        simp only [membersOfJson, memberIn, memberGet, canonJMembers, hl, hget, Option.isSome_some, hdec, hrest,
          hda]
    | none =>
      simp only [hl] at hok
      cases p with
      | mandatory => simp at hok
      | _ =>
        exact ⟨a, by simp only [membersToJson, hl, ha], hwa,
          fun kv hkv => (hka kv hkv).imp fun n h => ⟨List.mem_cons_of_mem _ h.1, h.2⟩,
          by simp only [membersOfJson, memberIn, canonJMembers, hl, hnone, Option.isSome_none, hda]⟩

theorem rt_sequence (root : Members) (ext : Bool) (adds : Members)
    (ihr : Members.All RT root) (iha : Members.All RT adds) : RT (.sequence root ext adds) := by
  intro v hwf ht
  obtain ⟨fs, rfl, -⟩ := hasType_sequence ht
  obtain ⟨hwr, hwa, hnd, _⟩ := wf_sequence hwf
  obtain ⟨hok1, hok2⟩ := membersOk_of_hasType root adds ext fs hnd ht
  obtain ⟨nd1, nd2, disj⟩ := List.nodup_append.mp hnd
  obtain ⟨a, h1, w1, k1, d1⟩ := membersToJson_spec fs root ihr hwr nd1 hok1
  obtain ⟨b, h2, w2, k2, d2⟩ := membersToJson_spec fs adds iha hwa nd2 hok2
  have f1 : membersOfJson root (.obj (a ++ b)) = membersOfJson root (.obj a) :=
    membersOfJson_congr root fun n hn => by
      rw [dictGet_append, dictGet_none _ b fun kv hkv e => by
        obtain ⟨m, hm, e'⟩ := k2 kv hkv
        exact disj n hn m hm (strCps_inj (e'.symm.trans e)).symm]
  have f2 : membersOfJson adds (.obj (a ++ b)) = membersOfJson adds (.obj b) :=
    membersOfJson_congr adds fun n hn => by
      rw [dictGet_append, dictGet_none _ a fun kv hkv e => by
        obtain ⟨m, hm, e'⟩ := k1 kv hkv
        exact disj m hm n hn (strCps_inj (e'.symm.trans e))]
      cases dictGet (strCps n) b <;> rfl
  exact ⟨.obj (a ++ b), by simp only [toJson, h1, h2], by simp only [ofJson, canonJ, f1, f2, d1, d2],
    wfMembers_append a b w1 w2⟩

theorem rt_choice (root : Alts) (ext : Bool) (adds : Alts)
    (ihr : Alts.All RT root) (iha : Alts.All RT adds) : RT (.choice root ext adds) := by
  intro v hwf ht
  obtain ⟨n, v, rfl, hor⟩ := hasType_choice ht
  obtain ⟨_, t, sel, hwt, htv⟩ := Alts.sel_of_hasType hwf hor
  have ih := sel.all ihr iha
  obtain ⟨j, hj, hdec, hwj⟩ := ih v hwt htv
  have single : dictGet (strCps n) [(strCps n, j)] = some j := by simp [dictGet]
  have e1 := Alts.search_eq n (f := fun as => altToJson as n v) fun _ _ _ => rfl
  have e2 := Alts.search_eq n (f := fun as => altOfJson as (strCps n) j) fun m _ _ => by rw [altOfJson, strCps_beq]
  have e3 := Alts.search_eq n (f := fun as => canonJAlt as n v) fun _ _ _ => rfl
  refine ⟨.obj [(strCps n, j)], ?_, ?_, by simp [wfV, wfMembers, strCps_scalar, hwj]⟩
  -- in both goals the three searches are opened at the selected alternative, found in the root or in the additions
  all_goals
    rcases sel.finds with h | h <;>
      simp only [toJson, ofJson, single, canonJ, e1 root, e1 adds, e2 root, e2 adds, e3 root, e3 adds, h,
        altToJson, altOfJson, canonJAlt, hj, hdec]

theorem rt_all (t : Ty) : RT t :=
  Ty.induct (P := RT)
    rt_boolean rt_null rt_integer rt_enumerated rt_octetString rt_bitString rt_charString
    rt_sequence rt_sequenceOf rt_choice t

#print axioms Asn1.Jer.rt_choice

end Asn1.Jer
