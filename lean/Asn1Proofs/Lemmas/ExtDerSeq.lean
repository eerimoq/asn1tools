import Asn1Proofs.Lemmas.ExtDerBase
/-
  C07, BER and DER: SEQUENCE.  The SEQUENCE decoders of ber.py and der.py are the same code
  (`Der.gSeq`, `Der.IsCodec.seq`), so this is proved for every instance `D` of it: the decoder walks
  its own member list `msD` over the encoding of the encoder's member list `msE`, which is a
  `Der.Stream` for it (`stream_of_encMembersX`; the loop over a stream: `DerSeq.lean`).
-/
namespace Asn1.Ext.DerX
open Asn1 Asn1.Der Asn1.Ext
open Asn1.X690 (defaultsOkV membersDefaultsOkV TagGe atEndB)
open Asn1.Oer (oerWfMembers)

/-- the slots the first pass leaves for the decoder's members: `slotHereX` for a member both sides know,
`none` for one only the decoder knows -/
def slotsX : Members → Members → List (String × Val) → List (Option Val)
  | .nil, _, _ => []
  | .cons name p tD mD, .cons _ _ tE mE, fs => slotHereX name p tD tE fs :: slotsX mD mE fs
  | .cons _ _ _ mD, .nil, fs => none :: slotsX mD .nil fs

theorem slotsX_nilE (ms : Members) (fs : List (String × Val)) :
    slotsX ms .nil fs = List.replicate ms.length none := by
  induction ms using Members.ind with
  | nil => rfl
  | cons n p t rest ih => simp only [slotsX, Members.length, List.replicate_succ, ih]

theorem fill_slotsX {D : Decoder} (fs : List (String × Val)) (ign : Bool) (msD : Members) : ∀ (msE : Members),
    PairM (XCg D) msD msE → dOkMembers true msD msE → membersOk msE fs = true →
    fill msD (slotsX msD msE fs) ign = .ok (viewMembers true msD msE fs true) := by
  induction msD using Members.ind with
  | nil => intro msE _ _ _; rw [viewMembers]; rfl
  | cons name p tD mD ih =>
    intro msE hp hd hok
    cases msE with
    | nil =>
      obtain ⟨ho, hp'⟩ := hp
      have ih' := ih .nil hp' (dOkMembers_nilE true mD) (by rfl)
      simp only [viewMembers_cons_nil, ↓reduceIte]
      simp only [slotsX, fill, List.headD_cons, List.tail_cons]
      cases p with
      | mandatory => simp [omissible] at ho
      | _ => simp only [ih']
    | cons name' p' tE mE =>
      obtain ⟨hn, hpp, ⟨hx, hc⟩, hp'⟩ := hp
      subst hn
      subst hpp
      rw [dOkMembers_cons_cons] at hd
      rw [membersOk_cons, Bool.and_eq_true] at hok
      have ih' := ih mE hp' hd.2.2 hok.2
      simp only [viewMembers_cons_cons, ↓reduceIte]
      simp only [slotsX, fill, List.headD_cons, List.tail_cons]
      unfold slotHereX
      cases hl : lookup name' fs with
      | none =>
        simp only [hl] at hok
        cases p' with
        | mandatory => simp at hok
        | _ => simp only [ih']
      | some v =>
        cases p' with
        | default d =>
          simp only []
          by_cases hdv : isDefaultB tE v d = true
          · simp only [hdv, if_true, ih', view_of_isDefaultB hc v d hd.1 hdv]
          · simp only [hdv, if_false, Bool.false_eq_true, ih']
        | _ => simp only [ih']

/-- `c2`: what is left of the contents after `body`; `b1`: the common members that were encoded; `b2`: what the
members unknown to the decoder encode to.  What follows `body` is nothing or starts with a tag numbered after
`msE` (so no member of `msD` that `msE` also has takes it for its own); if the decoder has members beyond
`msE`, nothing follows (they find the data ended).  The same is concluded of `b2 ++ c2` against `msD`, which is
what makes the next pass idle. -/
theorem stream_of_encMembersX {D : Decoder} (fs : List (String × Val)) (msD : Members) : ∀ (msE : Members),
    PairM (XCg D) msD msE → msE.wf = true → oerWfMembers msE = true → membersDefaultsOkV msE = true →
    dOkMembers true msD msE → membersOk msE fs = true →
    ∀ (i fuel : Nat) (body c2 tail : Bytes),
      encMembers msE i fs = .ok body → body.length < fuel →
      (c2 = [] ∨ TagGe (i + msE.length) c2) → (msE.length < msD.length → c2 = []) →
      ∃ b1 b2 : Bytes, body = b1 ++ b2 ∧ (b2 ++ c2 = [] ∨ TagGe (i + msD.length) (b2 ++ c2)) ∧
        (msE.length ≤ msD.length → b2 = []) ∧
        Stream D fuel tail false msD i (body ++ c2) (slotsX msD msE fs) (b2 ++ c2) := by
  induction msD using Members.ind with
  | nil =>
    intro msE _ _ _ _ _ hok i fuel body c2 tail he hf ht hm0
    refine ⟨[], body, rfl, ?_, ?_, .nil⟩
    · rcases encMembers_starts fs msE i body he with rfl | h0
      · exact ht.imp id (·.mono (by simp [Members.length]))
      · exact .inr ((h0.tagGe.append c2).mono (by simp [Members.length]))
    · intro hle
      simp only [Members.length, Nat.le_zero] at hle
      cases Members.eq_nil_of_length hle
      rw [encMembers] at he; cases he; rfl
  | cons name p tD mD ih =>
    intro msE hp hwf hwf2 hd hdk hok i fuel body c2 tail he hf ht hm0
    cases msE with
    | nil =>
      rw [encMembers] at he; cases he
      obtain rfl := hm0 (by simp [Members.length])
      refine ⟨[], [], rfl, .inl rfl, fun _ => rfl, ?_⟩
      rw [slotsX_nilE]
      exact stream_atEnd D fuel tail _ i
    | cons name' p' tE mE =>
      obtain ⟨hn, hpp, ⟨hx, hc⟩, hp'⟩ := hp
      subst hn
      subst hpp
      rw [Members.wf, Bool.and_eq_true] at hwf
      rw [oerWfMembers, Bool.and_eq_true] at hwf2
      rw [membersDefaultsOkV_cons, Bool.and_eq_true, Bool.and_eq_true] at hd
      rw [dOkMembers_cons_cons] at hdk
      rw [membersOk_cons, Bool.and_eq_true] at hok
      obtain ⟨a, b, ha, hb, rfl⟩ := encMembers_cons_ok he
      simp only [Members.length, Nat.add_lt_add_iff_right, Nat.add_le_add_iff_right] at ht hm0 ⊢
      rw [show i + (mE.length + 1) = i + 1 + mE.length by omega] at ht
      rw [show i + (mD.length + 1) = i + 1 + mD.length by omega, slotsX]
      rw [List.length_append] at hf
      obtain ⟨b1, b2, hb12, hst2, hb2, hrec⟩ :=
        ih mE hp' hwf.2 hwf2.2 hd.2 hdk.2.2 hok.2 (i + 1) fuel b c2 tail hb (by omega) ht hm0
      rcases encHere_casesX (tD := tD) (i := i) hok.1 with ⟨h1, h2⟩ | ⟨v, _, hty, h1, h2⟩
      · rw [h1] at ha
        cases ha
        refine ⟨b1, b2, hb12, hst2, hb2, ?_⟩
        rw [h2]
        refine .absent ?_ hrec
        rcases encMembers_starts fs mE (i + 1) b hb with rfl | h0
        · exact ht.imp (by rintro rfl; rfl) (·.mono (by omega))
        · exact .inr (h0.tagGe.append c2)
      · rw [h1] at ha
        have halen : 0 < a.length := List.length_pos_iff.mpr (starts_of_enc ha).ne_nil
        refine ⟨a ++ b1, b2, by rw [hb12, List.append_assoc], hst2, hb2, ?_⟩
        rw [h2]
        refine .present (k := a.length) (x' := b ++ c2) ?_ ?_ (by simp only [List.length_append]; omega) hrec
        · cases a with
          | nil => cases halen
          | cons _ _ => rfl
        · have := hx (some i) v a (b ++ c2 ++ tail) fuel hwf.1 hwf2.1 hd.1.2 hdk.2.1 hty ha (by omega)
          simpa only [List.append_assoc] using this


/-- the `while True` loop of `decode_members` over that encoding -/
theorem retry_firstX {D : Decoder} {test : Ty → Nat → Bytes → Bool} (hD : IsCodec D test)
    (fs : List (String × Val)) (msD msE : Members)
    (hp : PairM (XCg D) msD msE) (hwf : msE.wf = true) (hwf2 : oerWfMembers msE = true)
    (hd : membersDefaultsOkV msE = true) (hdk : dOkMembers true msD msE) (hok : membersOk msE fs = true)
    (i fuel : Nat) (body c2 tail : Bytes) (k0 : Nat)
    (he : encMembers msE i fs = .ok body) (hf : body.length < fuel)
    (ht : c2 = [] ∨ TagGe (i + msE.length) c2) (hm0 : msE.length < msD.length → c2 = []) :
    ∃ b1 b2 : Bytes, body = b1 ++ b2 ∧ (msE.length ≤ msD.length → b2 = []) ∧
      retry (gPass D msD i fuel) (msD.length + 1) (List.replicate msD.length none)
          ⟨body ++ (c2 ++ tail), k0, some (body.length + c2.length)⟩
        = .ok (slotsX msD msE fs, ⟨b2 ++ (c2 ++ tail), k0 + b1.length, some (b2.length + c2.length)⟩,
            (b2.length + c2.length == 0)) := by
  obtain ⟨b1, b2, rfl, hy, hb2, hs⟩ :=
    stream_of_encMembersX fs msD msE hp hwf hwf2 hd hdk hok i fuel body c2 tail he hf ht hm0
  refine ⟨b1, b2, rfl, hb2, ?_⟩
  obtain ⟨_, hr⟩ := retry_of_stream hD (by omega) hs (by simp)
    (hy.imp_left (fun h => by rw [h]; rfl)) k0
  simp only [curAt, endCur, atEndB, Bool.false_and, if_false, Bool.false_eq_true, List.append_assoc,
    List.length_append] at hr
  have e : (b2 ++ c2).isEmpty = (b2.length + c2.length == 0) := by cases b2 <;> cases c2 <;> simp
  rw [show b1.length + (b2.length + c2.length) - (b2.length + c2.length) = b1.length by omega, e] at hr
  simp only [List.append_assoc, List.length_append, Nat.add_assoc]
  exact hr

theorem xt_sequence {D : Decoder} {test : Ty → Nat → Bytes → Bool} (hD : IsCodec D test)
    {rD rE aD aE : Members} (x : Bool)
    (hr : PairM (XCg D) rD rE) (hrl : rD.length = rE.length) (ha : PairM (XCg D) aD aE) :
    XTg D (.sequence rD x aD) (.sequence rE x aE) := by
  -- contents = `br ++ ba` (root members, additions).  The root loop decodes all of `br` (both sides
  -- have the same root members, `hrl`, so nothing of it is unknown: `b2 = []`) and stops in front of
  -- `ba`, whose tags are numbered after the root; the additions loop runs on `ba` with nothing behind
  -- it (`c2 = []`), so whatever the decoder does not know is left and `finishMembers` skips it.
  intro tg v bytes rest fuel hwf hwf2 hd hdk ht he hf
  obtain ⟨fs, rfl, hwr, hwa, hokr, hoka⟩ := record_of_hasType hwf ht
  obtain ⟨br, ba, hbr, hba, rfl, hta⟩ := enc_sequence_ok hwa hoka he
  rw [Oer.oerWf, Bool.and_eq_true] at hwf2
  rw [defaultsOkV, Bool.and_eq_true] at hd
  rw [dOk] at hdk
  rw [hD.seq, gSeq, tlv_append, matchTag_self]
  simp only [readLen_encLength]
  have hlen : (tlv (mkTag 16 true tg) (br ++ ba)).length
      = (mkTag 16 true tg).length + (Ber.encLength (br ++ ba).length).length + (br.length + ba.length) := by
    rw [tlv_length, List.length_append]
  rw [hlen] at hf
  have hta : ba = [] ∨ TagGe (0 + rE.length) ba := hta.imp id (fun h0 => by simpa using h0.tagGe)
  obtain ⟨b1, b2, hb, hb2, h1⟩ := retry_firstX hD fs rD rE hr hwr hwf2.1 hd.1 hdk.1 hokr 0 fuel br ba rest
    ((mkTag 16 true tg).length + (Ber.encLength (br ++ ba).length).length) hbr (by omega) hta
    (fun hl => by omega)
  have hb2' := hb2 (by omega)
  subst hb2'
  rw [List.append_nil] at hb
  subst hb
  simp only [List.length_append, List.append_assoc, List.nil_append, List.length_nil, Nat.zero_add]
    at h1 hlen hf ⊢
  rw [h1]
  simp only [fill_slotsX fs false rD rE hr hdk.1 hokr]
  rw [view]
  by_cases hal : aD.length = 0
  · have := Members.eq_nil_of_length hal
    subst this
    simp only [Members.length, if_true]
    rw [viewMembers, List.append_nil, finishMembers_rest]
    simp [tlv_length, Nat.add_assoc]
  · simp only [hal, if_false]
    -- `gSeq` skips the additions loop when the root loop ended the data; running it decodes nothing
    rw [skip_or_retry]
    obtain ⟨c1, c2, hc, _, h2⟩ := retry_firstX hD fs aD aE ha hwa hwf2.2 hd.2 hdk.2 hoka rD.length fuel ba [] rest
      ((mkTag 16 true tg).length + (Ber.encLength (br.length + ba.length)).length + br.length)
      (by rw [hrl]; exact hba) (by omega) (.inl rfl) (fun _ => rfl)
    simp only [Nat.add_zero, List.nil_append, List.length_nil] at h2
    rw [h2]
    simp only [fill_slotsX fs true aD aE ha hdk.2 hoka]
    subst hc
    rw [finishMembers_rest]
    simp [tlv_length, Nat.add_assoc]

end Asn1.Ext.DerX
