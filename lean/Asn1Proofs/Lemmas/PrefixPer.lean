import Asn1Proofs.Lemmas.PerRead
import Asn1Proofs.Lemmas.PrefixCore
import Asn1Proofs.Lemmas.CostReader
/-
  The readers `Per.dec` (ALIGNED PER) is made of, on a cut input: lemma for lemma as in
  `PrefixUper.lean`, whose notes apply, over the state `St = ⟨pos, bs⟩` and provided the cut is an octet
  boundary of the message.  The boundary is what makes `Decoder.align_always` harmless: `align` drops
  `padLen pos` of the REMAINING bits, and only at an octet boundary are that many always left (without it
  the statement is false, see `PrefixPerTop.lean`).  With nothing cut off no boundary is needed.
-/
namespace Asn1.Per
open Asn1.Uper (DecM)

/-- what every state of the run on the cut input satisfies.  `some T`: position + remaining bits is the
length `T` of the message the prefix ends, a whole number of octets.  `none`: no boundary is assumed,
and then nothing is cut off. -/
def Inv (x : Bits) (T : Option Nat) (s : St) : Prop :=
  match T with
  | some T => s.pos + s.bs.length = T ∧ T % 8 = 0
  | none => x = []

/-- `Cut` for a state `s` that stands for `⟨s.pos, s.bs ++ x⟩` -/
abbrev CutP {β : Type} (x : Bits) (T : Option Nat) (B : Prop) (n : Nat) (m m' : DecM (β × St)) : Prop :=
  Cut (fun s : St => ⟨s.pos, s.bs ++ x⟩) (fun s => s.bs.length) (Inv x T) (x ≠ []) B n m m'

/-- `CutU` over the same states -/
abbrev CutPU (x : Bits) (T : Option Nat) (B : Prop) (n : Nat) (m m' : DecM St) : Prop :=
  CutU (fun s : St => ⟨s.pos, s.bs ++ x⟩) (fun s => s.bs.length) (Inv x T) (x ≠ []) B n m m'

/-- `Asn1.Mono` over the states that satisfy `Inv` -/
def Mono {β : Type} (x : Bits) (T : Option Nat) (B : Prop) (p : St → DecM (β × St)) : Prop :=
  ∀ s, Inv x T s → CutP x T B s.bs.length (p ⟨s.pos, s.bs ++ x⟩) (p s)

/-- `Uper.PF` over the states that satisfy `Inv` -/
def PF {β : Type} (x : Bits) (T : Option Nat) (B : Prop) (N : Nat) (p p' : St → DecM (β × St)) : Prop :=
  ∀ s, s.bs.length ≤ N → Inv x T s → CutP x T B s.bs.length (p ⟨s.pos, s.bs ++ x⟩) (p' s)

variable {x : Bits} {T : Option Nat} {B : Prop}

theorem Inv.drop {s : St} (hi : Inv x T s) {n : Nat} (hn : n ≤ s.bs.length) :
    Inv x T ⟨s.pos + n, s.bs.drop n⟩ := by
  cases T with
  | none => exact hi
  | some T => exact ⟨by simp only [List.length_drop]; have := hi.1; omega, hi.2⟩

/-- at an octet boundary of the message -- or with nothing cut off -- `align` finds all the bits it
drops.  (Declared in `Cut`'s namespace so that `.align` can be written among the other closure steps.) -/
theorem _root_.Asn1.Cut.align {β : Type} {p p' : St → DecM (β × St)} {s : St} (hi : Inv x T s)
    (hp : (align s).bs.length ≤ s.bs.length → Inv x T (align s) →
      CutP x T B (align s).bs.length (p ⟨(align s).pos, (align s).bs ++ x⟩) (p' (align s))) :
    CutP x T B s.bs.length (p (align ⟨s.pos, s.bs ++ x⟩)) (p' (align s)) := by
  have hl : (Per.align s).bs.length ≤ s.bs.length := by
    unfold Per.align; dsimp only; rw [List.length_drop]; omega
  have key : Per.align ⟨s.pos, s.bs ++ x⟩ = ⟨(Per.align s).pos, (Per.align s).bs ++ x⟩ ∧
      Inv x T (Per.align s) := by
    cases T with
    | none => cases (hi : x = []); exact ⟨by simp only [List.append_nil], rfl⟩
    | some T =>
      have hle : padLen s.pos ≤ s.bs.length := by have := hi.1; have := hi.2; unfold padLen; omega
      exact ⟨by unfold Per.align; dsimp only; rw [List.drop_append_of_le_length hle], hi.drop hle⟩
  rw [key.1]
  exact (hp hl key.2).mono hl

theorem cut_take {β : Type} (f : Bits → β) (n : Nat) {s : St} (hi : Inv x T s) :
    CutP x T B (s.bs.length - n)
      (if n ≤ (s.bs ++ x).length then .ok (f ((s.bs ++ x).take n), ⟨s.pos + n, (s.bs ++ x).drop n⟩)
        else .error .decodeError)
      (if n ≤ s.bs.length then .ok (f (s.bs.take n), ⟨s.pos + n, s.bs.drop n⟩)
        else .error .decodeError) := by
  by_cases hn : n ≤ s.bs.length
  · rw [if_pos (by simp only [List.length_append]; omega), List.take_append_of_le_length hn,
      List.drop_append_of_le_length hn, if_pos hn]
    exact (Cut.pure (s := (⟨s.pos + n, s.bs.drop n⟩ : St)) (hi.drop hn)).mono
      (Nat.le_of_eq List.length_drop)
  · rw [if_neg hn]
    exact .fail (lost_or fun hx => by rw [hx, List.append_nil, if_neg hn])

theorem CutP.eq_nil {β : Type} {n : Nat} {m m' : DecM (β × St)} (h : CutP [] T B n m m') (hB : B) : m' = m :=
  h.eq (fun h => h rfl) hB fun s => by simp only [List.append_nil]

theorem Mono.ni {β : Type} {p : St → DecM (β × St)} (h : Mono [] none True p) {s : St} {b : β} {r : St}
    (e : p s = .ok (b, r)) : r.bs.length ≤ s.bs.length := by
  have := h s rfl
  simp only [List.append_nil] at this
  exact this.len_le (fun h => h rfl) (fun s => by simp only [List.append_nil]) e

theorem pure_align {β : Type} {b : β} {s : St} (hi : Inv x T s) :
    CutP x T B s.bs.length (.ok (b, align ⟨s.pos, s.bs ++ x⟩)) (.ok (b, align s)) :=
  .align (p := fun s => .ok (b, s)) (p' := fun s => .ok (b, s)) hi fun _ hi' => .pure hi'

theorem pf_readBits (n : Nat) : Mono x T B (readBits n) := by
  intro s hi
  rw [readBits_eq, readBits_eq]
  exact (cut_take (fun l => l) n hi).mono (Nat.sub_le _ _)

theorem readNat_cut (n : Nat) {s : St} (hi : Inv x T s) :
    CutP x T B (s.bs.length - n) (readNat n ⟨s.pos, s.bs ++ x⟩) (readNat n s) := by
  rw [readNat_eq, readNat_eq]
  exact cut_take bitsToNat n hi

theorem pf_readNat (n : Nat) : Mono x T B (readNat n) :=
  fun _ hi => (readNat_cut n hi).mono (Nat.sub_le _ _)

theorem pf_readBit : Mono x T B readBit := by
  intro s hi
  obtain ⟨pos, bs⟩ := s
  cases bs with
  | nil => exact .fail (lost_or fun hx => by rw [hx]; rfl)
  | cons b t =>
    exact (Cut.pure (s := (⟨pos + 1, t⟩ : St)) (hi.drop (n := 1) (Nat.le_add_left _ _))).mono (Nat.le_succ _)

theorem pf_optBit (c : Bool) : Mono x T B (fun s => if c = true then readBit s else .ok (false, s)) :=
  fun s hi => .ite (fun _ => pf_readBit s hi) fun _ => .pure hi

theorem readLenDet_cut {s : St} (hi : Inv x T s) :
    CutP x T B (s.bs.length - 8) (readLenDet ⟨s.pos, s.bs ++ x⟩) (readLenDet s) := by
  refine .bind (readNat_cut 8 hi) fun v s1 _ hi1 => ?_
  refine .ite (fun _ => .pure hi1) fun _ => ?_
  refine .ite (fun _ => .bind (pf_readNat 8 s1 hi1) fun w s2 _ hi2 => .pure hi2) fun _ => ?_
  refine .ite (fun _ => .pure hi1) fun _ => ?_
  refine .ite (fun _ => .pure hi1) fun _ => ?_
  refine .ite (fun _ => .pure hi1) fun _ => ?_
  exact .ite (fun _ => .pure hi1) fun _ => .error

theorem pf_readLenDet : Mono x T B readLenDet :=
  fun _ hi => (readLenDet_cut hi).mono (Nat.sub_le _ _)

theorem pf_decUnconstrained : Mono x T B decUnconstrained := by
  intro s hi
  refine .bind (pf_readLenDet s hi) fun len s1 _ hi1 => ?_
  refine .bind (pf_readBits _ s1 hi1) fun body s2 _ hi2 => ?_
  refine .ite (fun _ => .error) fun _ => ?_
  exact .ite (fun _ => .pure hi2) fun _ => .pure hi2

theorem pf_decNsnnwn : Mono x T B decNsnnwn := by
  intro s hi
  refine .bind (pf_readBit s hi) fun b s1 _ hi1 => ?_
  refine .ite (fun _ => pf_readNat 6 s1 hi1) fun _ => ?_
  exact .bind (pf_readLenDet s1 hi1) fun len s2 _ hi2 => pf_readNat _ s2 hi2

theorem pf_decNsLength : Mono x T B decNsLength := by
  intro s hi
  refine .bind (pf_readBit s hi) fun b s1 _ hi1 => ?_
  refine .ite (fun _ => .bind (pf_readNat 6 s1 hi1) fun v s2 _ hi2 => .pure hi2) fun _ => ?_
  refine .bind (pf_readBit s1 hi1) fun b2 s2 _ hi2 => ?_
  exact .ite (fun _ => pf_readNat 7 s2 hi2) fun _ => .error

theorem pf_decCwn (range nbits : Nat) : Mono x T B (decCwn range nbits) := by
  intro s hi
  refine .ite (fun _ => pf_readNat _ s hi) fun _ => ?_
  refine .ite (fun _ => .align hi fun _ hi' => pf_readNat 8 _ hi') fun _ => ?_
  exact .ite (fun _ => .align hi fun _ hi' => pf_readNat 16 _ hi')
    fun _ => .align hi fun _ hi' => pf_readNat _ _ hi'

theorem pf_decConstrainedInt (lo hi : Int) : Mono x T B (decConstrainedInt lo hi) := by
  intro s hs
  refine .ite (fun _ => .bind (pf_decCwn _ _ s hs) fun v s1 _ hi1 => .pure hi1) fun _ => ?_
  refine .bind (pf_decCwn _ _ s hs) fun k s1 _ hi1 => ?_
  exact .bind (.align hi1 fun _ hi' => pf_decCwn _ _ _ hi') fun v s2 _ hi2 => .pure hi2

theorem pf_readSize (c : SizeC) (w : Nat) (av : Nat → Bool) (af : Bool) :
    Mono x T B (readSize c w av af) := by
  intro s hi
  refine .ite (fun _ => ?_) fun _ => ?_
  · refine .bind (pf_decCwn _ _ s hi) fun d s1 _ hi1 => ?_
    dsimp only
    cases av (c.lo + d)
    · exact .pure hi1
    · exact pure_align hi1
  · cases af
    · exact .pure hi
    · exact pure_align hi

theorem pf_decRepeat {α : Type} {N : Nat} {p p' : St → DecM (α × St)} (hp : PF x T B N p p') (n : Nat) :
    PF x T B N (decRepeat p n) (decRepeat p' n) := by
  induction n with
  | zero => exact fun s _ hi => .pure hi
  | succ n ih =>
    intro s hN hi
    refine .bind (hp s hN hi) fun a1 s1 hl hi1 => ?_
    exact .bind (ih s1 (by omega) hi1) fun as s2 _ hi2 => .pure hi2

theorem pf_decChunks {α : Type} {p p' : St → DecM (α × St)} (f : Nat) :
    ∀ (f' N : Nat), PF x T B N p p' → N < f' → (B → N + x.length < f) →
      PF x T B N (decChunks p f) (decChunks p' f') := by
  induction f with
  | zero => intro f' N hp hf hB s hN hi; exact ⟨fun _ h => (nomatch h), fun b => by have := hB b; omega⟩
  | succ f ih =>
    intro f' N hp hf hB s hN hi
    obtain ⟨f'', rfl⟩ : ∃ k, f' = k + 1 := ⟨f' - 1, by omega⟩
    obtain ⟨pos, bs⟩ := s
    cases bs with
    | nil => exact .fail (lost_or fun hx => by rw [hx]; rfl)
    | cons b t =>
      refine (Cut.bind (readLenDet_cut hi) fun len s1 hl hi1 => ?_).mono (Nat.sub_le _ _)
      simp only [List.length_cons] at hN hl
      refine .bind (pf_decRepeat hp len s1 (by omega) hi1) fun xs s2 hl2 hi2 => ?_
      refine .ite (fun _ => .pure hi2) fun _ => ?_
      exact .bind (ih f'' s2.bs.length (fun s hs => hp s (by omega)) (by omega)
        (fun b => by have := hB b; omega) s2 (Nat.le_refl _) hi2) fun ys s3 _ hi3 => .pure hi3

theorem pf_decChunksBits (unit f : Nat) :
    ∀ (f' N : Nat), N < f' → (B → N + x.length < f) →
      PF x T B N (decChunksBits unit f) (decChunksBits unit f') := by
  induction f with
  | zero => intro f' N hf hB s hN hi; exact ⟨fun _ h => (nomatch h), fun b => by have := hB b; omega⟩
  | succ f ih =>
    intro f' N hf hB s hN hi
    obtain ⟨f'', rfl⟩ : ∃ k, f' = k + 1 := ⟨f' - 1, by omega⟩
    obtain ⟨pos, bs⟩ := s
    cases bs with
    | nil => exact .fail (lost_or fun hx => by rw [hx]; rfl)
    | cons b t =>
      refine (Cut.bind (readLenDet_cut hi) fun len s1 hl hi1 => ?_).mono (Nat.sub_le _ _)
      simp only [List.length_cons] at hN hl
      refine .bind (pf_readBits _ s1 hi1) fun xs s2 hl2 hi2 => ?_
      refine .ite (fun _ => .pure hi2) fun _ => ?_
      exact .bind (ih f'' s2.bs.length (by omega) (fun b => by have := hB b; omega) s2 (Nat.le_refl _) hi2)
        fun ys s3 _ hi3 => .pure hi3

theorem PF.of_ni {α : Type} {p : St → DecM (α × St)} {N : Nat}
    (hp : Cost.NI (·.bs.length) p) : PF [] none B N p p := fun s _ _ => by
  simp only [List.append_nil]
  exact .self (fun s => by simp only [List.append_nil]) fun b r e => ⟨hp s b r e, rfl⟩

theorem decChunks_fuel {α : Type} {p : St → DecM (α × St)}
    (hp : Cost.NI (·.bs.length) p) (f f' : Nat) (s : St)
    (hf : s.bs.length < f) (hf' : s.bs.length < f') : decChunks p f s = decChunks p f' s := by
  have := pf_decChunks (x := []) (T := none) (B := True) f f' s.bs.length (.of_ni hp) hf' (fun _ => hf) s
    (Nat.le_refl _) rfl
  simp only [List.append_nil] at this
  exact (CutP.eq_nil this trivial).symm

theorem decChunksBits_fuel (u f f' : Nat) (s : St) (hf : s.bs.length < f) (hf' : s.bs.length < f') :
    decChunksBits u f s = decChunksBits u f' s := by
  have := pf_decChunksBits (x := []) (T := none) (B := True) u f f' s.bs.length hf' (fun _ => hf) s
    (Nat.le_refl _) rfl
  simp only [List.append_nil] at this
  exact (CutP.eq_nil this trivial).symm

theorem pf_skipUnknown (bitmap : Bits) : ∀ s : St, Inv x T s →
    CutPU x T B s.bs.length (skipUnknown bitmap ⟨s.pos, s.bs ++ x⟩) (skipUnknown bitmap s) := by
  induction bitmap with
  | nil => exact fun s hi => .pure hi
  | cons present bitmap ih =>
    intro s hi
    simp only [skipUnknown]
    split
    · exact .bind_stateLast (pf_readLenDet s hi) fun len s1 _ hi1 =>
        .bind_stateLast (pf_readBits _ s1 hi1) fun _ s2 _ hi2 => ih s2 hi2
    · exact ih s hi

end Asn1.Per
