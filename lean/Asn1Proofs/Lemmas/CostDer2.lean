import Asn1Proofs.Lemmas.CostDer1
/-
  C08 for the DER / BER models: fuel.  The global fuel (threaded to the SEQUENCE OF loops)
  is irrelevant as soon as it exceeds the length of the input, and the fuel of the `while True` loop
  of `decode_members` (`retry`) is irrelevant as soon as it exceeds the number of members still
  undecoded.  Everything is generic in the decoder plugged into the shared SEQUENCE / CHOICE part.
-/
namespace Asn1.Cost
open Asn1.Der

/-- "fuel independence" -/
def FI (D : Decoder) (t : Ty) : Prop :=
  ∀ (tg : Option Nat) (f f' : Nat) (bs : Bytes), bs.length < f → bs.length < f' →
    D t tg f bs = D t tg f' bs

/-- `hp`: every item consumes at least one octet, so a fuel above the length of the input is never used up -/
theorem items_congr {α : Type} {p p' : Bytes → DecM (Option (α × Nat × Bytes))}
    (hp : ∀ bs a k r, p bs = .ok (some (a, k, r)) → r.length < bs.length) :
    ∀ (f f' : Nat) (toEnd : Option Nat) (bs : Bytes), (∀ b : Bytes, b.length ≤ bs.length → p b = p' b) →
      bs.length < f → bs.length < f' → BerCodec.items p f toEnd bs = BerCodec.items p' f' toEnd bs := by
  intro f
  induction f with
  | zero => intro f' toEnd bs _ h; omega
  | succ f ih =>
    intro f' toEnd bs hag h1 h2
    cases f' with
    | zero => omega
    | succ f' =>
      have step : ∀ te, itemStep p f te bs = itemStep p' f' te bs := by
        intro te
        unfold itemStep
        rw [← hag bs (Nat.le_refl _)]
        cases hpb : p bs with
        | error e => rfl
        | ok o =>
          cases o with
          | none => rfl
          | some x =>
            obtain ⟨a, k, r⟩ := x
            dsimp only
            have a1 := hp _ _ _ _ hpb
            rw [ih f' (te.map (· - k)) r (fun b hb => hag b (by omega)) (by omega) (by omega)]
      rw [items_succ, items_succ, step]

theorem gPass_fuel (D : Decoder) (ms : Members) (hc : Members.All (CT D) ms)
    (hf : Members.All (FI D) ms) (f f' : Nat) :
    ∀ (i : Nat) (slots : List (Option Val)) (st : MSt), st.cur.bs.length < f → st.cur.bs.length < f' →
      gPass D ms i f slots st = gPass D ms i f' slots st := by
  induction ms using Members.ind with
  | nil => intro i slots st _ _; rw [gPass, gPass]
  | cons name p t rest ih =>
    intro i slots st h1 h2
    obtain ⟨hct, hcr⟩ := hc
    obtain ⟨hft, hfr⟩ := hf
    have ih := ih hcr hfr
    simp only [gPass]
    rw [ih (i + 1) slots.tail st h1 h2, hft (some i) f f' st.cur.bs h1 h2]
    cases slots.headD none with
    | some v => rfl
    | none =>
      dsimp only
      split
      · rfl
      · cases hd : D t (some i) f' st.cur.bs with
        | error e => rfl
        | ok o =>
          cases o with
          | none => rfl
          | some x =>
            obtain ⟨v, k, r⟩ := x
            dsimp only
            obtain ⟨d1, _, _⟩ := hct (some i) f' _ _ _ _ hd
            cases he : isEnd (st.cur.advance k r) with
            | error e => rfl
            | ok y =>
              obtain ⟨ood, c⟩ := y
              dsimp only
              obtain ⟨e1, _⟩ := isEnd_spec he
              simp only [Cur.advance] at e1
              rw [ih (i + 1) slots.tail ⟨c, ood, true⟩ (by dsimp only; omega) (by dsimp only; omega)]

theorem retry_congr {K : Nat} {pass pass' : List (Option Val) → MSt → DecM (List (Option Val) × MSt)}
    (hp : PassOK K pass) (n : Nat)
    (hag : ∀ slots (st : MSt), st.cur.bs.length ≤ n → pass slots st = pass' slots st) :
    ∀ (fuel : Nat) (slots : List (Option Val)) (c : Cur), c.bs.length ≤ n →
      retry pass fuel slots c = retry pass' fuel slots c := by
  intro fuel
  induction fuel with
  | zero => intro slots c _; rfl
  | succ fuel ih =>
    intro slots c hc
    simp only [retry]
    cases he : isEnd c with
    | error e => rfl
    | ok y =>
      obtain ⟨ood, c'⟩ := y
      dsimp only
      obtain ⟨e1, _⟩ := isEnd_spec he
      rw [← hag slots ⟨c', ood, false⟩ (by dsimp only; omega)]
      cases hpass : pass slots ⟨c', ood, false⟩ with
      | error e => rfl
      | ok z =>
        obtain ⟨slots', st⟩ := z
        dsimp only
        obtain ⟨p1, _, _⟩ := hp _ _ _ _ hpass
        dsimp only at p1
        rw [ih slots' st.cur (by omega)]

theorem gSeq_fuel (D : Decoder) (root adds : Members)
    (hcr : Members.All (CT D) root) (hca : Members.All (CT D) adds)
    (hfr : Members.All (FI D) root) (hfa : Members.All (FI D) adds)
    (tg : Option Nat) (f f' : Nat) (bs : Bytes) (h1 : bs.length < f) (h2 : bs.length < f') :
    gSeq D root adds tg f bs = gSeq D root adds tg f' bs := by
  unfold gSeq
  cases hm : matchTag (mkTag 16 true tg) bs with
  | error e => rfl
  | ok o =>
    cases o with
    | none => rfl
    | some r0 =>
      dsimp only
      have m1 := matchTag_len hm
      cases hl : readLen false r0 with
      | error e => rfl
      | ok x =>
        obtain ⟨len, h, r1⟩ := x
        dsimp only
        obtain ⟨_, l2, _, _⟩ := readLen_spec hl
        rw [retry_congr (gPass_cost D root hcr 0 f) r1.length
          (fun slots st hst => gPass_fuel D root hcr hfr f f' 0 slots st (by omega) (by omega))
          _ _ _ (Nat.le_refl _)]
        cases hret : retry (gPass D root 0 f') (root.length + 1) (List.replicate root.length none)
            ⟨r1, (mkTag 16 true tg).length + h, len⟩ with
        | error e => rfl
        | ok y =>
          obtain ⟨slots, c1, ood1⟩ := y
          dsimp only
          obtain ⟨q1, _, _⟩ := retry_cost (gPass_cost D root hcr 0 f') _ _ _ _ _ _ hret
          dsimp only at q1
          cases fill root slots false with
          | error e => rfl
          | ok fs =>
            dsimp only
            split
            · rfl
            · rw [retry_congr (gPass_cost D adds hca root.length f) c1.bs.length
                (fun slots st hst => gPass_fuel D adds hca hfa f f' root.length slots st (by omega) (by omega))
                _ _ _ (Nat.le_refl _)]

theorem gAlt_fuel (D : Decoder) (test : Ty → Nat → Bytes → Bool) (as : Alts) (hf : Alts.All (FI D) as)
    (f f' : Nat) (bs : Bytes) (h1 : bs.length < f) (h2 : bs.length < f') :
    ∀ (i : Nat) (tag : Bytes), gAlt D test as i tag f bs = gAlt D test as i tag f' bs := by
  induction as using Alts.ind with
  | nil => intro i tag; rw [gAlt, gAlt]
  | cons n t rest ih =>
    intro i tag
    obtain ⟨hft, hfr⟩ := hf
    simp only [gAlt]
    rw [ih hfr (i + 1) tag, hft (some i) f f' bs h1 h2]

theorem gBare_fuel (D : Decoder) (test : Ty → Nat → Bytes → Bool) (root : Alts) (e : Bool) (adds : Alts)
    (hr : Alts.All (FI D) root) (ha : Alts.All (FI D) adds)
    (f f' : Nat) (bs : Bytes) (h1 : bs.length < f) (h2 : bs.length < f') :
    gBare D test root e adds f bs = gBare D test root e adds f' bs := by
  unfold gBare
  simp only [gAlt_fuel D test root hr f f' bs h1 h2, gAlt_fuel D test adds ha f f' bs h1 h2]

theorem gChoice_fuel (D : Decoder) (test : Ty → Nat → Bytes → Bool) (root : Alts) (e : Bool) (adds : Alts)
    (hr : Alts.All (FI D) root) (ha : Alts.All (FI D) adds) (tg : Option Nat)
    (f f' : Nat) (bs : Bytes) (h1 : bs.length < f) (h2 : bs.length < f') :
    gChoice D test root e adds tg f bs = gChoice D test root e adds tg f' bs := by
  unfold gChoice
  cases tg with
  | none => exact gBare_fuel D test root e adds hr ha f f' bs h1 h2
  | some j =>
    dsimp only
    cases hm : matchTag (mkTag 0 true (some j)) bs with
    | error e => rfl
    | ok o =>
      cases o with
      | none => rfl
      | some r0 =>
        dsimp only
        have m1 := matchTag_len hm
        cases hl : readLen false r0 with
        | error e => rfl
        | ok x =>
          obtain ⟨len, h, r1⟩ := x
          dsimp only
          obtain ⟨_, l2, _, _⟩ := readLen_spec hl
          rw [gBare_fuel D test root e adds hr ha f f' r1 (by omega) (by omega)]

/-- members still undecoded -/
def pending : List (Option Val) → Nat
  | [] => 0
  | none :: r => 1 + pending r
  | some _ :: r => pending r

theorem pending_replicate (n : Nat) : pending (List.replicate n none) = n := by
  induction n with
  | zero => rfl
  | succ n ih => simp only [List.replicate_succ, pending, ih]; omega

/-- a pass keeps the slots parallel to the members, and a pass that decodes something (sets
`decode_success`) leaves strictly fewer members undecoded -/
def PassPend (n : Nat) (pass : List (Option Val) → MSt → DecM (List (Option Val) × MSt)) : Prop :=
  ∀ slots st slots' st', slots.length = n → pass slots st = .ok (slots', st') →
    slots'.length = n ∧ pending slots' ≤ pending slots ∧
      (st.succ = false → st'.succ = true → pending slots' < pending slots)

theorem gPass_pending (D : Decoder) (ms : Members) :
    ∀ (i f : Nat), PassPend ms.length (gPass D ms i f) := by
  induction ms using Members.ind with
  | nil =>
    intro i f slots st slots' st' hl h
    rw [gPass] at h
    cases h
    cases slots with
    | nil => exact ⟨rfl, Nat.le_refl _, fun a b => by rw [a] at b; cases b⟩
    | cons _ _ => simp [Members.length] at hl
  | cons name p t rest ih =>
    intro i f slots st slots' st' hl h
    obtain ⟨o, r, st2, hstep, hrec, rfl⟩ := gPass_ok_cons h
    cases slots with
    | nil => simp [Members.length] at hl
    | cons x xs =>
      obtain ⟨a1, a2, a3⟩ := ih (i + 1) f _ _ _ _
        (by simp only [List.length_cons, Members.length] at hl; simp only [List.tail_cons]; omega) hrec
      simp only [List.tail_cons] at a2 a3
      simp only [List.length_cons, Members.length]
      cases hstep with
      | filled hv =>
        cases hv
        simp only [pending]
        exact ⟨by omega, a2, a3⟩
      | skipped hn =>
        cases hn
        simp only [pending]
        exact ⟨by omega, by omega, fun x y => by have := a3 x y; omega⟩
      | decoded hn _ _ =>
        cases hn
        simp only [pending]
        exact ⟨by omega, by omega, fun _ _ => by omega⟩

theorem retry_fuel {n : Nat} {pass : List (Option Val) → MSt → DecM (List (Option Val) × MSt)}
    (hp : PassPend n pass) :
    ∀ (fuel fuel' : Nat) (slots : List (Option Val)) (c : Cur), slots.length = n →
      pending slots < fuel → pending slots < fuel' →
      retry pass fuel slots c = retry pass fuel' slots c := by
  intro fuel
  induction fuel with
  | zero => intro fuel' slots c _ h; omega
  | succ fuel ih =>
    intro fuel' slots c hl h1 h2
    cases fuel' with
    | zero => omega
    | succ fuel' =>
      simp only [retry]
      cases he : isEnd c with
      | error e => rfl
      | ok y =>
        obtain ⟨ood, c'⟩ := y
        dsimp only
        cases hpass : pass slots ⟨c', ood, false⟩ with
        | error e => rfl
        | ok z =>
          obtain ⟨slots', st⟩ := z
          dsimp only
          obtain ⟨p1, p2, p3⟩ := hp _ _ _ _ hl hpass
          by_cases hc : (st.ood || !st.succ) = true
          · rw [if_pos hc, if_pos hc]
          · rw [if_neg hc, if_neg hc]
            have hs : st.succ = true := by
              cases hsu : st.succ with
              | true => rfl
              | false => rw [hsu] at hc; simp at hc
            have := p3 rfl hs
            exact ih fuel' slots' st.cur p1 (by omega) (by omega)

theorem gPass_retry_fuel (D : Decoder) (ms : Members) (i f extra : Nat) (c : Cur) :
    retry (gPass D ms i f) (ms.length + 1 + extra) (List.replicate ms.length none) c
      = retry (gPass D ms i f) (ms.length + 1) (List.replicate ms.length none) c := by
  apply retry_fuel (gPass_pending D ms i f)
  · simp
  · rw [pending_replicate]; omega
  · rw [pending_replicate]; omega

theorem gSeqOf_fuel {D : Decoder} {e : Ty} {c : SizeC} {d : Bool} {te : Option Nat → Option Nat}
    (heq : ∀ tg f bs, D (.sequenceOf e c) tg f bs =
      matchTag (mkTag 16 true tg) bs >>= fun o => match o with
        | none => .ok none
        | some r0 => readLen d r0 >>= fun x =>
            BerCodec.items (D e none f) f (te x.1) x.2.2 >>= fun y =>
              .ok (some (.list y.1, (mkTag 16 true tg).length + x.2.1 + y.2.1, y.2.2)))
    (hc : CT D e) (ih : FI D e) : FI D (.sequenceOf e c) := by
  intro tg f f' bs h1 h2
  rw [heq, heq]
  cases hm : matchTag (mkTag 16 true tg) bs with
  | error err => rfl
  | ok o =>
    cases o with
    | none => rfl
    | some r0 =>
      have m1 := matchTag_len hm
      rw [ok_bind, ok_bind]
      dsimp only
      cases hl : readLen d r0 with
      | error err => rfl
      | ok x =>
        obtain ⟨len, h, r1⟩ := x
        obtain ⟨_, l2, _, _⟩ := readLen_spec hl
        rw [ok_bind, ok_bind]
        dsimp only
        rw [items_congr (p' := D e none f') (fun b a k r hb => (hc none f b a k r hb).1) f f' _ r1
          (fun b hb => ih none f f' b (by omega) (by omega)) (by omega) (by omega)]

end Asn1.Cost
