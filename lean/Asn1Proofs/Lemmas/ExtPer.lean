import Asn1Proofs.Lemmas.ExtLemmas
import Asn1Proofs.Lemmas.ExtPerSeq
/-
  C07, ALIGNED PER: the induction on `Compat` (`xt_all`) and the forward / backward statements at the level of
  `Per.enc` / `Per.dec` (those for `Per.encode` / `Per.decode` are C07p's `forward_per_top`, `backward_per_top`).
  In the backward direction the side condition `Per.skipFree` always holds: the newer decoder knows every
  addition of the older encoder.
-/
namespace Asn1.Ext.PerX
open Asn1 Asn1.Per Asn1.Ext

theorem xt_all {tD tE : Ty} (h : Compat tD tE) : XT tD tE :=
  Compat.induct (P := XT) (Q := XT) (PM := XTM) (PAd := XTA) (alt := fun _ h => h)
    (boolean := xt_same rt_boolean) (null := xt_same rt_null)
    (integer := fun c => xt_same (rt_integer c)) (octetString := fun c => xt_same (rt_octetString c))
    (bitString := fun c => xt_same (rt_bitString c)) (charString := fun k c => xt_same (rt_charString k c))
    (enumerated := fun root => xt_same (rt_enumerated root))
    (enumeratedD := xt_enumeratedD) (enumeratedE := xt_enumeratedE)
    (sequence := fun x _ _ hm ha => xt_sequence x hm ha)
    (sequenceOf := fun c _ ih => xt_sequenceOf c ih)
    (choice := fun x hcr _ ihr iha => xt_choice x ihr (compatAlts_length hcr) iha)
    (membersNil := xtm_nil) (membersCons := fun name p hc _ hx ih => xtm_cons name p hc hx ih)
    (addsNilD := xta_nilD) (addsNilE := fun ms _ => xta_nilE ms)
    (addsCons := fun name p _ _ hx ih => xta_cons name p hx ih) h

theorem skipFree_backward_all :
    (∀ {t1 t2}, Extends t1 t2 → ∀ v, skipFree t2 t1 v = true) ∧
    (∀ {x m1 m2}, ExtendsAdds x m1 m2 →
      ∀ fs, skipFreeAdds m2 m1 fs = true ∧ skipFreeMembers m2 m1 fs = true) ∧
    (∀ {x a1 a2}, ExtendsAltAdds x a1 a2 → ∀ n v, skipFreeAlt a2 a1 n v = true) := by
  apply Extends.induct
  case boolean | null | integer | octetString | bitString | charString | enumerated | enumeratedExt =>
    intros; rename_i v; cases v <;> rfl
  case sequence =>
    intro r1 r2 a1 a2 x _ _ ihr iha v
    cases v <;> try rfl
    simp only [skipFree, (ihr _).2, (iha _).1, Bool.and_self]
  case sequenceOf =>
    intro e1 e2 c _ ih v
    cases v <;> try rfl
    simp only [skipFree, List.all_eq_true]
    exact fun w _ => ih w
  case choice =>
    intro r1 r2 a1 a2 x _ _ ihr iha v
    cases v <;> try rfl
    simp only [skipFree, ihr, iha, Bool.and_self]
  case addsNew => intro x ms _ _ fs; cases ms <;> exact ⟨rfl, rfl⟩
  case addsCons =>
    intro x t1 t2 m1 m2 name p _ _ iht ihm fs
    simp only [skipFreeAdds, skipFreeMembers, (ihm fs).1, (ihm fs).2, Bool.and_true]
    cases lookup name fs <;> simp only [iht, and_self]
  case altNew => intro x as _ n v; cases as <;> rfl
  case altCons =>
    intro x t1 t2 m1 m2 name _ _ iht ihm n v
    simp only [skipFreeAlt, iht, ihm, ite_self]

theorem skipFree_backward {t1 t2 : Ty} (h : Extends t1 t2) : ∀ v, skipFree t2 t1 v = true :=
  skipFree_backward_all.1 h

theorem forward_mod8 (t1 t2 : Ty) (v : Val) (pos pos' : Nat) (bits rest : Bits) (fuel : Nat)
    (hx : Extends t1 t2)
    (hwf : t2.wf = true) (hd1 : t1.defaultsOk = true) (hd2 : t2.defaultsOk = true)
    (hns : t2.nsOk = true) (ht : hasType t2 v = true) (hf : fragFree t2 v = true)
    (hs : skipFree t1 t2 v = true) (hp : pos' % 8 = pos % 8)
    (he : enc t2 pos v = .ok bits) (hfuel : bits.length + rest.length + 2 ≤ fuel) :
    dec t1 fuel ⟨pos', bits ++ rest⟩ =
      .ok (canon t1 (project t1 t2 v), ⟨pos' + bits.length, rest⟩) := by
  obtain ⟨hc, hk, hv⟩ := hx.forward false hwf ((defaultsOkG_false t1).trans hd1)
  rw [← canonG_false, ← hv]
  exact xt_all hc v pos pos' bits rest fuel hwf hd2 hns hk ht hf hs hp he hfuel

theorem backward_mod8 (t1 t2 : Ty) (v : Val) (pos pos' : Nat) (bits rest : Bits) (fuel : Nat)
    (hx : Extends t1 t2)
    (hwf : t2.wf = true) (hd1 : t1.defaultsOk = true) (hd2 : t2.defaultsOk = true)
    (hns : t2.nsOk = true) (ht : hasType t1 v = true) (hf : fragFree t1 v = true)
    (hp : pos' % 8 = pos % 8)
    (he : enc t1 pos v = .ok bits) (hfuel : bits.length + rest.length + 2 ≤ fuel) :
    dec t2 fuel ⟨pos', bits ++ rest⟩ = .ok (canon t2 v, ⟨pos' + bits.length, rest⟩) := by
  obtain ⟨hc, hw1, hk, hv⟩ := hx.backward false hwf ((defaultsOkG_false t1).trans hd1)
    ((defaultsOkG_false t2).trans hd2)
  rw [← canonG_false, ← hv v ht]
  exact xt_all hc v pos pos' bits rest fuel hw1 hd1 (nsOk_all.1 hx hns) hk ht hf (skipFree_backward hx v) hp he hfuel

end Asn1.Ext.PerX

#print axioms Asn1.Ext.PerX.xt_all
#print axioms Asn1.Ext.PerX.forward_mod8
#print axioms Asn1.Ext.PerX.backward_mod8
