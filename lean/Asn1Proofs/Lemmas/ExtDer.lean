import Asn1Proofs.Lemmas.ExtDerSeq
import Asn1Proofs.Lemmas.ExtDerChoice
import Asn1Proofs.Lemmas.ExtDerStable
/-
  C07, DER: the decoder for `tD` on an encoding under `tE` (`Compat tD tE`) returns `view true tD tE v`
  (the BER / DER decoders fill in the DEFAULT of absent extension additions too), the exact length of
  the encoding, and leaves exactly the octets that follow it.  The induction on `Compat` is done once
  for BER and DER (`xtg_all`).
-/
namespace Asn1.Ext.DerX
open Asn1 Asn1.Der Asn1.Ext

/-- `D` shares the SEQUENCE and CHOICE code (`hD`), round-trips on every leaf type (`hbool` … `hstr`), reads
ENUMERATED as der.py does (`henum`) and runs the der.py loop on a definite-length SEQUENCE OF (`hsof`) -/
theorem xtg_all {D : Decoder} {test : Ty → Nat → Bytes → Bool} (hD : IsCodec D test)
    (hbool : RT D .boolean) (hnull : RT D .null) (hint : ∀ c, RT D (.integer c))
    (hoct : ∀ c, RT D (.octetString c))
    (hbit : ∀ c, RT D (.bitString c)) (hstr : ∀ k c, RT D (.charString k c))
    (henum : ∀ root ext tg fuel bs, D (.enumerated root ext) tg fuel bs = dec (.enumerated root ext) tg fuel bs)
    (hsof : ∀ (e : Ty) (c : SizeC) (tg : Option Nat) (fuel : Nat) (content rest : Bytes),
      D (.sequenceOf e c) tg fuel (tlv (mkTag 16 true tg) content ++ rest) =
        match derElems (D e none fuel) fuel content.length (content ++ rest) with
        | .error err => .error err
        | .ok (vs, k, r) => .ok (some (.list vs,
            (mkTag 16 true tg).length + (Ber.encLength content.length).length + k, r)))
    {tD tE : Ty} (h : Compat tD tE) : XTg D tD tE :=
  Compat.induct (P := XTg D) (Q := XCg D) (PM := PairM (XCg D)) (PAd := PairM (XCg D))
    (alt := fun hc h => ⟨h, hc⟩)
    (boolean := xt_same hbool) (null := xt_same hnull) (integer := fun c => xt_same (hint c))
    (octetString := fun c => xt_same (hoct c)) (bitString := fun c => xt_same (hbit c))
    (charString := fun k c => xt_same (hstr k c)) (enumerated := fun root => xt_same ((rt_enumerated_der root none).congr (henum root none)))
    (enumeratedD := fun root adds new => xt_enumeratedD root adds new (henum _ _))
    (enumeratedE := fun root adds new => xt_enumeratedE root adds new (henum _ _))
    (sequence := fun x hcr _ ihr iha => xt_sequence hD x ihr (compatMembers_length hcr) iha)
    (sequenceOf := fun c _ ih => xt_sequenceOf c ih (hsof _ c))
    (choice := fun x hcr _ ihr iha => xt_choice hD x ihr (compatAlts_length hcr) iha)
    (membersNil := trivial) (membersCons := fun _ _ hc _ iht ihr => ⟨rfl, rfl, ⟨iht, hc⟩, ihr⟩)
    (addsNilD := fun _ => trivial) (addsNilE := fun ms ho => pairM_nilE _ ms ho)
    (addsCons := fun _ _ hc _ iht ihr => ⟨rfl, rfl, ⟨iht, hc⟩, ihr⟩) h

def XT (tD tE : Ty) : Prop := XTg dec tD tE

theorem xt_all {tD tE : Ty} (h : Compat tD tE) : XT tD tE :=
  xtg_all der_isCodec rt_boolean_der rt_null_der rt_integer_der
    rt_octetString_der rt_bitString_der rt_charString_der (fun _ _ _ _ _ => rfl)
    (fun e c tg fuel content rest => by
      rw [dec, tlv_append]
      simp only [bind, Except.bind, matchTag_self, readLen_encLength, Option.getD_some]
      set_option smartUnfolding false in rfl) h

theorem enc_stable {t1 t2 : Ty} (h : Extends t1 t2) (hwf : t2.wf = true) (tg : Option Nat) (v : Val)
    (ht : hasType t1 v = true) : enc t2 tg v = enc t1 tg v :=
  st_all h hwf tg v ht

end Asn1.Ext.DerX

#print axioms Asn1.Ext.DerX.xt_all
#print axioms Asn1.Ext.DerX.enc_stable
