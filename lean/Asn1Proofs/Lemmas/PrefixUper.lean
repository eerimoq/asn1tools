import Asn1Proofs.Lemmas.PrefixCore
import Asn1Proofs.Lemmas.CostReader
/-
  The readers `Uper.dec` is made of, on a cut input (`Mono`; `PF` for the loops, whose run on the prefix
  may have other fuel).
-/
namespace Asn1.Uper
variable {x : Bits} {B : Prop}

theorem pf_readBits (n : Nat) : Mono x B (readBits n) := by
  intro q
  rw [readBits_eq, readBits_eq]
  exact (CutL.take (fun l => l) n q x).mono (Nat.sub_le _ _)

theorem readNat_cut (n : Nat) (q : Bits) :
    CutL x B (q.length - n) (readNat n (q ++ x)) (readNat n q) := by
  rw [readNat_eq, readNat_eq]
  exact .take bitsToNat n q x

theorem pf_readNat (n : Nat) : Mono x B (readNat n) :=
  fun q => (readNat_cut n q).mono (Nat.sub_le _ _)

theorem pf_readBit : Mono x B readBit := by
  intro q
  cases q with
  | nil => exact .fail (lost_or fun hx => by rw [hx]; rfl)
  | cons b t => exact (Cut.pure trivial).mono (Nat.le_succ _)

theorem pf_optBit (c : Bool) : Mono x B (fun bs => if c = true then readBit bs else .ok (false, bs)) :=
  fun q => .ite (fun _ => pf_readBit q) fun _ => .pure trivial

/-- the length field of `w` bits of a bounded SIZE, as `dec` reads it at every sized type.  The UPER model
has no function for it -- this is the body `dec` unfolds to; aligned PER has `Per.readSize`. -/
def readSize (c : SizeC) (w : Nat) (bs : Bits) : DecM (Nat × Bits) :=
  if some c.lo ≠ c.hi then do let (d, r) ← readNat w bs; .ok (c.lo + d, r) else .ok (c.lo, bs)

theorem pf_readSize (c : SizeC) (w : Nat) : Mono x B (readSize c w) :=
  fun q => .ite (fun _ => .bind (pf_readNat w q) fun _ _ _ _ => .pure trivial) fun _ => .pure trivial

/-- the sharp bound `q.length - 8`: the chunk loop needs that a length determinant costs 8 bits, so that
the fuel lasts -/
theorem readLenDet_cut (q : Bits) :
    CutL x B (q.length - 8) (readLenDet (q ++ x)) (readLenDet q) := by
  refine .bind (readNat_cut 8 q) fun v r1 _ _ => ?_
  refine .ite (fun _ => .pure trivial) fun _ => ?_
  refine .ite (fun _ => .bind (pf_readNat 8 r1) fun w r2 _ _ => .pure trivial) fun _ => ?_
  refine .ite (fun _ => .pure trivial) fun _ => ?_
  refine .ite (fun _ => .pure trivial) fun _ => ?_
  refine .ite (fun _ => .pure trivial) fun _ => ?_
  exact .ite (fun _ => .pure trivial) fun _ => .error

theorem pf_readLenDet : Mono x B readLenDet :=
  fun q => (readLenDet_cut q).mono (Nat.sub_le _ _)

theorem pf_decUnconstrained : Mono x B decUnconstrained := by
  intro q
  refine .bind (pf_readLenDet q) fun len r1 _ _ => ?_
  refine .bind (pf_readBits _ r1) fun body r2 _ _ => ?_
  refine .ite (fun _ => .error) fun _ => ?_
  exact .ite (fun _ => .pure trivial) fun _ => .pure trivial

theorem pf_decNsnnwn : Mono x B decNsnnwn := by
  intro q
  refine .bind (pf_readBit q) fun b r1 _ _ => ?_
  refine .ite (fun _ => pf_readNat 6 r1) fun _ => ?_
  exact .bind (pf_readLenDet r1) fun len r2 _ _ => pf_readNat _ r2

theorem pf_decNsLength : Mono x B decNsLength := by
  intro q
  refine .bind (pf_readBit q) fun b r1 _ _ => ?_
  refine .ite (fun _ => .bind (pf_readNat 6 r1) fun v r2 _ _ => .pure trivial) fun _ => ?_
  refine .bind (pf_readBit r1) fun b2 r2 _ _ => ?_
  exact .ite (fun _ => pf_readNat 7 r2) fun _ => .error

/-- `Cut` for a pair of readers `p`, `p'` -- the same reader with two amounts of fuel; `p'` runs on the
prefix --, for prefixes of length at most `N` -/
def PF {α : Type} (x : Bits) (B : Prop) (N : Nat) (p p' : Bits → DecM (α × Bits)) : Prop :=
  ∀ q, q.length ≤ N → CutL x B q.length (p (q ++ x)) (p' q)

theorem PF.of_ni {α : Type} {p : Bits → DecM (α × Bits)} {N : Nat}
    (hp : Cost.NI List.length p) : PF [] B N p p := fun q _ => by
  rw [List.append_nil]
  exact .self List.append_nil fun b s e => ⟨hp q b s e, trivial⟩

theorem pf_decRepeat {α : Type} {N : Nat} {p p' : Bits → DecM (α × Bits)} (hp : PF x B N p p') (n : Nat) :
    PF x B N (decRepeat p n) (decRepeat p' n) := by
  induction n with
  | zero => exact fun q _ => .pure trivial
  | succ n ih =>
    intro q hN
    refine .bind (hp q hN) fun a1 r1 hl _ => ?_
    exact .bind (ih r1 (by omega)) fun as r2 _ _ => .pure trivial

/-- Last premise: under the guard the fuel `f` of the run on the whole input exceeds that input.  So at
`f = 0`, where that run is out of fuel (`.unmodelled`), the guard is false and no error is claimed. -/
theorem pf_decChunks {α : Type} {p p' : Bits → DecM (α × Bits)} (f : Nat) :
    ∀ (f' N : Nat), PF x B N p p' → N < f' → (B → N + x.length < f) →
      PF x B N (decChunks p f) (decChunks p' f') := by
  induction f with
  | zero => intro f' N hp hf hB q hN; exact ⟨fun _ h => (nomatch h), fun b => by have := hB b; omega⟩
  | succ f ih =>
    intro f' N hp hf hB q hN
    obtain ⟨f'', rfl⟩ : ∃ k, f' = k + 1 := ⟨f' - 1, by omega⟩
    -- the length determinant fails on empty input and takes an octet of any other: the fuel suffices
    cases q with
    | nil => exact .fail (lost_or fun hx => by rw [hx]; rfl)
    | cons b t =>
      refine (Cut.bind (readLenDet_cut (b :: t)) fun len r1 hl _ => ?_).mono (Nat.sub_le _ _)
      rw [List.length_cons] at hN hl
      refine .bind (pf_decRepeat hp len r1 (by omega)) fun xs r2 hl2 _ => ?_
      refine .ite (fun _ => .pure trivial) fun _ => ?_
      exact .bind (ih f'' r2.length (fun q hq => hp q (by omega)) (by omega)
        (fun b => by have := hB b; omega) r2 (Nat.le_refl _)) fun ys r3 _ _ => .pure trivial

theorem decChunks_fuel {α : Type} {p : Bits → DecM (α × Bits)}
    (hp : Cost.NI List.length p) (f f' : Nat) (bs : Bits)
    (hf : bs.length < f) (hf' : bs.length < f') : decChunks p f bs = decChunks p f' bs := by
  have := pf_decChunks (x := []) (B := True) f f' bs.length (.of_ni hp) hf' (fun _ => hf) bs (Nat.le_refl _)
  rw [List.append_nil] at this
  exact (CutL.eq_nil this trivial).symm

/-- the padding behind an open type is counted from the start `r` of its contents -/
theorem pf_skipPad (r q : Bits) :
    CutLU x B q.length (skipPad (r ++ x).length (q ++ x)) (skipPad r.length q) := by
  unfold skipPad
  simp only [List.length_append, Nat.add_sub_add_right]
  generalize (8 - (r.length - q.length) % 8) % 8 = pad
  by_cases hp : pad ≤ q.length
  · rw [if_pos (by omega), List.drop_append_of_le_length hp, if_pos hp]
    exact (CutU.pure trivial).mono (by simp only [List.length_drop]; omega)
  · rw [if_neg hp]
    exact .fail (lost_or fun hx => by rw [hx, if_neg (by simpa using hp)])

theorem pf_skipUnknown (bitmap : Bits) : ∀ q : Bits,
    CutLU x B q.length (skipUnknown bitmap (q ++ x)) (skipUnknown bitmap q) := by
  induction bitmap with
  | nil => exact fun q => .pure trivial
  | cons present bitmap ih =>
    intro q
    simp only [skipUnknown]
    split
    · exact .bind_stateLast (pf_readLenDet q) fun len r1 _ _ => .bind_stateLast (pf_readBits _ r1) fun _ r2 _ _ => ih r2
    · exact ih q

end Asn1.Uper
