import Asn1Proofs.Lemmas.DerCodecInst
import Asn1Proofs.Lemmas.UperBeq
/-
  The inputs showing that the hypotheses `Oer.oerWf` and `X690.defaultsOkV` of `C01b.der_roundtrip` are
  necessary (`C01b.enum_distinct_necessary`, `C01b.defaultsOkV_necessary`; the BER decoder returns the
  same on them, `cex_enum_dec_ber`, `cex_def_dec_ber`): what encoder and decoders do, by evaluation.

  1. `Oer.oerWf` (enumeration values pairwise distinct over root AND additions):
       E ::= ENUMERATED { a(0), ..., b(0) },  value b  |->  0a 01 00  |->  a
  2. `X690.defaultsOkV` instead of `Ty.defaultsOk` (the DEFAULT value itself must spell out the
     DEFAULT-valued extension additions of its own type, because the decoders return the DEFAULT
     as written but fill in such additions when they decode an encoding):
       S ::= SEQUENCE { x SEQUENCE { a BOOLEAN, ..., b INTEGER DEFAULT 5 } DEFAULT { a TRUE } }
       value { x { a TRUE } }  |->  30 00  |->  { x { a TRUE } },  canonical value { x { a TRUE, b 5 } }
     (The PER / OER normal form `Typing.canon` does not serve as canonical value either:
      `cex_canon_not_enough`.)
-/
namespace Asn1.Der
open Asn1.X690 (defaultsOkV)

theorem ne_of_beq_false {a b : Val} (h : (a == b) = false) : a ≠ b := by
  intro e; subst e; rw [Val.beq_self] at h; cases h

def cexEnumTy : Ty := .enumerated [("a", 0)] (some [("b", 0)])

theorem cex_enum_hyps : cexEnumTy.wf = true ∧ cexEnumTy.defaultsOk = true ∧ defaultsOkV cexEnumTy = true ∧
    hasType cexEnumTy (.enum "b") = true ∧ Oer.oerWf cexEnumTy = false := by
  refine ⟨by decide, by decide, by decide, by decide, by decide⟩

theorem cex_enum_enc : encode cexEnumTy (.enum "b") = .ok [0x0a, 1, 0] := by rfl
theorem cex_enum_dec : decodeWithLength cexEnumTy [0x0a, 1, 0] = .ok (.enum "a", 3) := by rfl
theorem cex_enum_dec_ber : BerCodec.decodeWithLength cexEnumTy [0x0a, 1, 0] = .ok (.enum "a", 3) := by rfl

def cexInner : Ty := .sequence (.cons "a" .mandatory .boolean .nil) true
  (.cons "b" (.default (.int 5)) (.integer ⟨none, none, false⟩) .nil)
def cexDefTy : Ty := .sequence (.cons "x" (.default (.record [("a", .bool true)])) cexInner .nil) false .nil
def cexDefVal : Val := .record [("x", .record [("a", .bool true)])]

theorem cex_def_hyps : cexDefTy.wf = true ∧ Oer.oerWf cexDefTy = true ∧ cexDefTy.defaultsOk = true ∧
    hasType cexDefTy cexDefVal = true ∧ defaultsOkV cexDefTy = false := by
  refine ⟨by decide, by decide, by decide, by decide, by decide⟩

theorem cex_def_enc : encode cexDefTy cexDefVal = .ok [0x30, 0] := by rfl
theorem cex_def_dec : decodeWithLength cexDefTy [0x30, 0] = .ok (cexDefVal, 2) := by rfl
theorem cex_def_dec_ber : BerCodec.decodeWithLength cexDefTy [0x30, 0] = .ok (cexDefVal, 2) := by rfl
theorem cex_def_canon : canon' cexDefTy cexDefVal
    = .record [("x", .record [("a", .bool true), ("b", .int 5)])] := by rfl

/-- `Typing.canon` is not the canonical value of the BER / DER decoders: an absent
DEFAULT extension addition comes back filled in -/
theorem cex_canon_not_enough :
    encode cexInner (.record [("a", .bool true)]) = .ok [0x30, 3, 0x80, 1, 0xff] ∧
    decodeWithLength cexInner [0x30, 3, 0x80, 1, 0xff]
      = .ok (.record [("a", .bool true), ("b", .int 5)], 5) ∧
    canon cexInner (.record [("a", .bool true)]) = .record [("a", .bool true)] := by
  refine ⟨by rfl, by rfl, by rfl⟩

end Asn1.Der

