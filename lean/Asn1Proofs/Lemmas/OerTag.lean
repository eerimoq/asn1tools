import Asn1Proofs.Lemmas.OerPrim
import Asn1Proofs.Lemmas.BerFramingLemmas
/-
  CHOICE tags of the OER model: `readTag (encTag n 0x80 ++ rest)` and injectivity of `encTag · 0x80`.
-/
namespace Asn1.Oer

/-- the number whose base-128 digits, most significant first, are `ds` -/
def b128val (ds : Bytes) : Nat := ds.foldl (fun acc d => acc * 128 + d) 0

theorem b128val_concat (a : Bytes) (d : Nat) : b128val (a ++ [d]) = b128val a * 128 + d := by
  simp [b128val, List.foldl_append]

theorem base128_lt (f n : Nat) : ∀ d ∈ base128 f n, d < 128 :=
  Ber.base128_eq_oer f n ▸ Ber.base128_lt f n

theorem base128_val (f n : Nat) (h : n < 128 ^ f) : b128val (base128 f n) = n := by
  induction f generalizing n with
  | zero => simp at h; subst h; rfl
  | succ f ih =>
    unfold base128
    split
    · simp [b128val]
    · rw [b128val_concat, ih (n / 128) (by rw [Nat.pow_succ] at h; omega)]
      omega

theorem base128_digits (n : Nat) : ∃ xs y, base128 (bitLength n + 1) n = xs ++ [y] ∧
    (∀ x ∈ xs, x < 128) ∧ y < 128 ∧ b128val xs * 128 + y = n := by
  unfold base128
  split
  · exact ⟨[], n, rfl, by simp, ‹_›, by simp [b128val]⟩
  · refine ⟨_, _, rfl, base128_lt _ _, by omega, ?_⟩
    rw [base128_val _ _ (by have := lt_pow128 n; rw [Nat.pow_succ] at this; omega)]
    omega

theorem encTag_cases (n flags : Nat) :
    (n < 63 ∧ encTag n flags = [flags + n]) ∨
    ∃ xs y, (∀ x ∈ xs, x < 128) ∧ y < 128 ∧ b128val xs * 128 + y = n ∧
      encTag n flags = (flags + 0x3f) :: (xs.map (· + 0x80) ++ [y]) := by
  unfold encTag
  by_cases h : n < 63
  · exact .inl ⟨h, if_pos h⟩
  · obtain ⟨xs, y, hxy, hxs, hy, hval⟩ := base128_digits n
    refine .inr ⟨xs, y, hxs, hy, hval, ?_⟩
    rw [if_neg h]
    simp only [hxy, List.dropLast_concat, List.getLast?_concat, Option.getD_some]

/-- left inverse of `encTag · 0x80` (on `[]`, which is no tag, any value would do) -/
def tagNum : Bytes → Nat
  | [] => 0
  | [b] => b - 128
  | _ :: rest => rest.foldl (fun acc d => acc * 128 + d % 128) 0

theorem foldl_map_add128 (xs : Bytes) (a : Nat) (h : ∀ x ∈ xs, x < 128) :
    (xs.map (· + 0x80)).foldl (fun acc d => acc * 128 + d % 128) a
      = xs.foldl (fun acc d => acc * 128 + d) a := by
  induction xs generalizing a with
  | nil => rfl
  | cons x r ih =>
    have hx := h x (by simp)
    simp only [List.map_cons, List.foldl_cons]
    have : (x + 0x80) % 128 = x := by omega
    rw [this, ih _ (fun y hy => h y (by simp [hy]))]

theorem tagNum_cons (b : Nat) (r : Bytes) (h : r ≠ []) :
    tagNum (b :: r) = r.foldl (fun acc d => acc * 128 + d % 128) 0 := by
  cases r with
  | nil => exact absurd rfl h
  | cons a r => rfl

theorem tagNum_encTag (n : Nat) : tagNum (encTag n 0x80) = n := by
  rcases encTag_cases n 0x80 with ⟨_, he⟩ | ⟨xs, y, hxs, hy, hval, he⟩
  · rw [he]
    exact Nat.add_sub_cancel_left ..
  · rw [he, tagNum_cons _ _ (by simp), List.foldl_append, foldl_map_add128 _ _ hxs]
    simp only [List.foldl_cons, List.foldl_nil]
    rw [Nat.mod_eq_of_lt hy]
    exact hval

theorem encTag_inj {i j : Nat} (h : encTag i 0x80 = encTag j 0x80) : i = j := by
  have := congrArg tagNum h
  rwa [tagNum_encTag, tagNum_encTag] at this

theorem readTagRest_body (xs : Bytes) (y : Nat) (rest : Bytes) (fuel : Nat)
    (hy : y < 128) (hf : xs.length + 1 ≤ fuel) :
    readTagRest fuel (xs.map (· + 0x80) ++ [y] ++ rest) = .ok (xs.map (· + 0x80) ++ [y], rest) := by
  induction xs generalizing fuel with
  | nil =>
    cases fuel with
    | zero => simp at hf
    | succ fuel =>
      simp only [List.map_nil, List.nil_append, List.cons_append, readTagRest, bind, Except.bind,
        readByte_cons, hy, if_true]
  | cons x r ih =>
    cases fuel with
    | zero => simp at hf
    | succ fuel =>
      simp only [List.map_cons, List.cons_append, readTagRest, bind, Except.bind, readByte_cons]
      rw [if_neg (by omega)]
      rw [ih fuel (by simp only [List.length_cons] at hf; omega)]

theorem readTag_encTag (n : Nat) (rest : Bytes) :
    readTag (encTag n 0x80 ++ rest) = .ok (encTag n 0x80, rest) := by
  rcases encTag_cases n 0x80 with ⟨h, he⟩ | ⟨xs, y, _, hy, _, he⟩
  · rw [he]
    simp only [readTag, bind, Except.bind, List.cons_append, List.nil_append, readByte_cons]
    rw [if_neg (by omega)]
  · rw [he]
    simp only [readTag, bind, Except.bind, List.cons_append, readByte_cons]
    rw [if_pos (by decide), readTagRest_body xs y rest _ hy (by simp)]

end Asn1.Oer
