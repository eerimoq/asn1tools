import Asn1Proofs.Lemmas.PerCounterexample
/-
  The hypothesis `Per.fragFree` of `Per.truncated` is necessary: a strict byte prefix of a valid aligned
  PER encoding that the decoder ACCEPTS (like the real codec).  It is the input of
  `PerCounterexample.lean`: `OCTET STRING (SIZE(0, ...))` with 16385 zero octets is encoded as `80 c1`
  followed by all 16385 octets (`append_length_determinant(16385)` called without fragmentation writes
  the fragment marker `c1` as if it were a length).  Cut off the last octet: the decoder reads `c1` as
  "16384 octets", finds exactly that many, and returns them.  The witness is handled symbolically.
-/
namespace Asn1.Per

def cxBytes : Bytes := [128, 0xc1] ++ cxData

theorem cxBits_eq : cxBits = bytesToBits cxBytes := by
  unfold cxBits cxBytes
  rw [bytesToBits_append]
  rfl

theorem cxBytes_lt : ∀ b ∈ cxBytes, b < 256 := by
  intro b hb
  simp only [cxBytes, cxData, List.mem_append, List.mem_cons, List.not_mem_nil, or_false] at hb
  rcases hb with (rfl | rfl) | hb
  · omega
  · omega
  · rw [List.eq_of_mem_replicate hb]; omega

theorem cx_encode : encode cxTy cxVal = .ok cxBytes := by
  unfold encode
  rw [show typeCheck cxTy cxVal = true from rfl, if_pos rfl, cx_enc 0 rfl, cxBits_eq]
  show Except.ok (packBits (bytesToBits cxBytes)) = _
  rw [packBits_bytesToBits _ cxBytes_lt]

theorem cxBytes_length : cxBytes.length = 16387 := by
  rw [cxBytes, List.length_append, cxData_length]
  rfl

theorem cxBytes_take : cxBytes.take 16386 = [128, 0xc1] ++ List.replicate 16384 0 := by
  show List.take (16384 + 1 + 1) (128 :: 0xc1 :: List.replicate 16385 0) = _
  rw [List.take_succ_cons, List.take_succ_cons, List.take_replicate]
  rfl

theorem cx_decode_truncated :
    decode cxTy (cxBytes.take 16386) = .ok (.bytes (List.replicate 16384 0)) := by
  rw [cxBytes_take]
  unfold decode cxTy
  rw [bytesToBits_append]
  have h := dec_unfragmented ⟨0, some 0, true⟩ rfl (bytesToBits (List.replicate 16384 0)) [] []
    (by rw [bytesToBits_length, List.length_replicate])
    (8 * ([128, 0xc1] ++ List.replicate 16384 0).length + 2)
  rw [List.append_nil, List.append_nil] at h
  rw [show bytesToBits [128, 0xc1] = [true] ++ alignBits 1 ++ natToBits 8 0xc1 from rfl, h]
  show Except.ok (Val.bytes (packBits (bytesToBits (List.replicate 16384 0)))) = _
  rw [packBits_bytesToBits _ (by intro b hb; rw [List.eq_of_mem_replicate hb]; omega)]

theorem truncated_fails_without_fragFree :
    cxTy.wf = true ∧ cxTy.defaultsOk = true ∧ hasType cxTy cxVal = true ∧ cxTy.nsOk = true ∧
    fragFree cxTy cxVal = false ∧ encode cxTy cxVal = .ok cxBytes ∧ 16386 < cxBytes.length ∧
    decode cxTy (cxBytes.take 16386) = .ok (.bytes (List.replicate 16384 0)) :=
  ⟨cx_wf, cx_defaultsOk, cx_hasType, cx_nsOk, cx_not_fragFree, cx_encode,
    by rw [cxBytes_length]; omega, cx_decode_truncated⟩

end Asn1.Per

#print axioms Asn1.Per.truncated_fails_without_fragFree
