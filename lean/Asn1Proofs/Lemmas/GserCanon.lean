import Asn1Model.X690Value
import Asn1Proofs.Lemmas.GserTree
/-
  `Gser.canonG` (what a reader of the notation obtains) is `X690.canonV`, the abstract value of X.690 that
  the BER, DER and XER decoders return (`canonG_eq_canonV`; the model defines the function twice).  Versus
  `canon` (what the PER and OER decoders return) it differs only in that `canon` leaves an absent DEFAULT
  *extension addition* absent (`ce_all`; `Ext.canonG` is the two in one definition).
-/
namespace Asn1.Gser
open Asn1.X690 (canonV canonMembersV canonAltV)

mutual
theorem canonG_eq_canonV : ∀ (t : Ty) (v : Val), canonG t v = canonV t v
  | .sequence r x a, v => by
    cases v <;> simp only [canonG, canonV]
    rw [canonGMembers_eq r, canonGMembers_eq a]
  | .sequenceOf e c, v => by
    cases v <;> simp only [canonG, canonV]
    rw [show canonG e = canonV e from funext (canonG_eq_canonV e)]
  | .choice r x a, v => by
    cases v <;> simp only [canonG, canonV]
    rw [canonGAlt_eq r, canonGAlt_eq a]
    rename_i n v
    cases canonAltV r n v <;> cases canonAltV a n v <;> rfl
  | .boolean, v | .null, v | .integer _, v | .enumerated _ _, v | .octetString _, v
  | .charString _ _, v => by simp only [canonG, canonV]
  | .bitString _, v => by cases v <;> simp only [canonG, canonV]
theorem canonGMembers_eq : ∀ (ms : Members) (fs : List (String × Val)), canonGMembers ms fs = canonMembersV ms fs
  | .nil, fs => by simp only [canonGMembers, canonMembersV]
  | .cons n p t rest, fs => by
    simp only [canonGMembers, canonMembersV, canonG_eq_canonV t, canonGMembers_eq rest]
    cases lookup n fs <;> cases p <;> rfl
theorem canonGAlt_eq : ∀ (as : Alts) (n : String) (v : Val), canonGAlt as n v = canonAltV as n v
  | .nil, n, v => by simp only [canonGAlt, canonAltV]
  | .cons m t rest, n, v => by
    simp only [canonGAlt, canonAltV, canonG_eq_canonV t, canonGAlt_eq rest]
end

def membersNoDefault : Members → Bool
  | .nil => true
  | .cons _ p _ rest => (match p with | .default _ => false | _ => true) && membersNoDefault rest

mutual
  /-- no extension addition of a SEQUENCE is declared DEFAULT, at any depth -/
  def addsPlain : Ty → Bool
    | .sequence root _ adds => membersPlain root && membersPlain adds && membersNoDefault adds
    | .sequenceOf e _ => addsPlain e
    | .choice root _ adds => altsPlain root && altsPlain adds
    | _ => true
  def membersPlain : Members → Bool
    | .nil => true
    | .cons _ _ t rest => addsPlain t && membersPlain rest
  def altsPlain : Alts → Bool
    | .nil => true
    | .cons _ t rest => addsPlain t && altsPlain rest
end

/-- where no extension addition is DEFAULT, the X.690 abstract value `canonV` (= `canonG`) is the `canon` of
PER and OER; what `ce_all` proves by induction on the type -/
def CE (t : Ty) : Prop := addsPlain t = true → ∀ v : Val, canonV t v = canon t v

theorem members_eq (fs : List (String × Val)) (fill : Bool) :
    ∀ ms : Members, Members.All CE ms → membersPlain ms = true → (fill = true ∨ membersNoDefault ms = true) →
      canonMembersV ms fs = canonMembers ms fs fill := by
  intro ms
  induction ms using Members.ind with
  | nil => intro _ _ _; rfl
  | cons name p t rest ih =>
    intro hall hp hf
    obtain ⟨hce, hall'⟩ := hall
    simp only [membersPlain, Bool.and_eq_true] at hp
    have hf' : fill = true ∨ membersNoDefault rest = true := by
      rcases hf with hf | hf
      · exact Or.inl hf
      · simp only [membersNoDefault, Bool.and_eq_true] at hf; exact Or.inr hf.2
    have ihr := ih hall' hp.2 hf'
    simp only [canonMembersV, canonMembers]
    cases hl : lookup name fs with
    | some v => simp only [hce hp.1 v, ihr]
    | none =>
      cases p with
      | mandatory => exact ihr
      | optional => exact ihr
      | default d =>
        rcases hf with hf | hf
        · subst hf; simp only [ihr, if_true]
        · simp [membersNoDefault] at hf

theorem alts_eq (n : String) (v : Val) : ∀ as : Alts, Alts.All CE as → altsPlain as = true →
    canonAltV as n v = canonAlt as n v := by
  intro as
  induction as using Alts.ind with
  | nil => intro _ _; rfl
  | cons m t rest ih =>
    intro hall hp
    obtain ⟨hce, hall'⟩ := hall
    simp only [altsPlain, Bool.and_eq_true] at hp
    simp only [canonAltV, canonAlt, hce hp.1 v, ih hall' hp.2]

theorem ce_all (t : Ty) : CE t :=
  Ty.induct (P := CE)
    (by intro _ v; cases v <;> rfl)
    (by intro _ v; cases v <;> rfl)
    (by intro c _ v; cases v <;> rfl)
    (by intro r e _ v; cases v <;> rfl)
    (by intro c _ v; cases v <;> rfl)
    (by intro c _ v; cases v <;> rfl)
    (by intro k c _ v; cases v <;> rfl)
    (by
      intro root ext adds ihr iha hp v
      simp only [addsPlain, Bool.and_eq_true] at hp
      cases v <;> try rfl
      rename_i fs
      simp only [canonV, canon, members_eq fs true root ihr hp.1.1 (Or.inl rfl),
        members_eq fs false adds iha hp.1.2 (Or.inr hp.2)])
    (by
      intro e c ih hp v
      simp only [addsPlain] at hp
      cases v <;> try rfl
      rename_i vs
      simp only [canonV, canon]
      congr 1
      exact List.map_congr_left (fun x _ => ih hp x))
    (by
      intro root ext adds ihr iha hp v
      simp only [addsPlain, Bool.and_eq_true] at hp
      cases v <;> try rfl
      rename_i n x
      simp only [canonV, canon, alts_eq n x root ihr hp.1, alts_eq n x adds iha hp.2]
      cases canonAlt root n x with
      | some w => rfl
      | none => cases canonAlt adds n x <;> rfl) t

end Asn1.Gser
