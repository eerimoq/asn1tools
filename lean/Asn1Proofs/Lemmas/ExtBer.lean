import Asn1Model.BerCodec
import Asn1Proofs.Lemmas.ExtDer
import Asn1Proofs.Lemmas.ExtLemmas
/-
  C07, BER (C07b restates the theorems under the same names).  `BerCodec.enc` is `Der.enc` by definition;
  `BerCodec.dec` is a different function from `Der.dec` (indefinite lengths, constructed strings), but an
  instance of the same SEQUENCE / CHOICE code (`BerCodec.ber_isCodec`), so `DerX.xtg_all` applies: what is
  particular to BER is the round trip of the leaf types (`Der.rt_boolean_ber` …); its SEQUENCE OF loop is the
  der.py loop on definite lengths (`Der.items_some`).
-/
namespace Asn1.Ext.BerX
open Asn1 Asn1.Der Asn1.Ext Asn1.Ext.DerX

theorem xtb_all {tD tE : Ty} (h : Compat tD tE) : XTg BerCodec.dec tD tE :=
  xtg_all BerCodec.ber_isCodec rt_boolean_ber rt_null_ber rt_integer_ber
    rt_octetString_ber rt_bitString_ber rt_charString_ber ber_dec_enumerated
    (fun e c tg fuel content rest => by
      rw [BerCodec.dec, tlv_append]
      simp only [bind, Except.bind, matchTag_self, readLen_encLength, items_some]
      set_option smartUnfolding false in rfl) h

theorem enc_of_encode_ber {t : Ty} {v : Val} {bytes : Bytes} (he : BerCodec.encode t v = .ok bytes) :
    enc t none v = .ok bytes :=
  enc_of_encode (show Der.encode t v = .ok bytes from he)

theorem forward_ber_dec (t1 t2 : Ty) (tg : Option Nat) (v : Val) (bytes rest : Bytes) (fuel : Nat)
    (hx : Extends t1 t2)
    (hwf : t2.wf = true) (henum : Oer.oerWf t2 = true) (hd1 : X690.defaultsOkV t1 = true)
    (hd2 : X690.defaultsOkV t2 = true) (ht : hasType t2 v = true)
    (he : BerCodec.enc t2 tg v = .ok bytes) (hf : bytes.length < fuel) :
    BerCodec.dec t1 tg fuel (bytes ++ rest) =
      .ok (some (X690.canonV t1 (project t1 t2 v), bytes.length, rest)) := by
  obtain ⟨hc, hk, hv⟩ := hx.forward true hwf ((defaultsOkG_true t1).trans hd1)
  rw [← canonG_true, ← hv]
  exact xtb_all hc tg v bytes rest fuel hwf henum hd2 hk ht he hf

theorem backward_ber_dec (t1 t2 : Ty) (tg : Option Nat) (v : Val) (bytes rest : Bytes) (fuel : Nat)
    (hx : Extends t1 t2)
    (hwf : t2.wf = true) (henum : Oer.oerWf t2 = true) (hd1 : X690.defaultsOkV t1 = true)
    (hd2 : X690.defaultsOkV t2 = true) (ht : hasType t1 v = true)
    (he : BerCodec.enc t1 tg v = .ok bytes) (hf : bytes.length < fuel) :
    BerCodec.dec t2 tg fuel (bytes ++ rest) = .ok (some (X690.canonV t2 v, bytes.length, rest)) := by
  obtain ⟨hc, hw1, hk, hv⟩ := hx.backward true hwf ((defaultsOkG_true t1).trans hd1)
    ((defaultsOkG_true t2).trans hd2)
  rw [← canonG_true, ← hv v ht]
  exact xtb_all hc tg v bytes rest fuel hw1 (oerWf_of_extends hx henum) hd1 hk ht he hf

theorem forward_ber (t1 t2 : Ty) (v : Val) (bytes rest : Bytes)
    (hx : Extends t1 t2)
    (hwf : t2.wf = true) (henum : Oer.oerWf t2 = true) (hd1 : X690.defaultsOkV t1 = true)
    (hd2 : X690.defaultsOkV t2 = true) (ht : hasType t2 v = true)
    (he : BerCodec.encode t2 v = .ok bytes) :
    BerCodec.decodeWithLength t1 (bytes ++ rest) =
      .ok (X690.canonV t1 (project t1 t2 v), bytes.length) := by
  unfold BerCodec.decodeWithLength
  rw [forward_ber_dec t1 t2 none v bytes rest _ hx hwf henum hd1 hd2 ht (enc_of_encode_ber he)
    (by simp; omega)]

theorem backward_ber (t1 t2 : Ty) (v : Val) (bytes rest : Bytes)
    (hx : Extends t1 t2)
    (hwf : t2.wf = true) (henum : Oer.oerWf t2 = true) (hd1 : X690.defaultsOkV t1 = true)
    (hd2 : X690.defaultsOkV t2 = true) (ht : hasType t1 v = true)
    (he : BerCodec.encode t1 v = .ok bytes) :
    BerCodec.decodeWithLength t2 (bytes ++ rest) = .ok (X690.canonV t2 v, bytes.length) := by
  unfold BerCodec.decodeWithLength
  rw [backward_ber_dec t1 t2 none v bytes rest _ hx hwf henum hd1 hd2 ht (enc_of_encode_ber he)
    (by simp; omega)]

theorem enc_eq_der : BerCodec.enc = Der.enc := rfl

theorem ber_enc_stable {t1 t2 : Ty} (h : Extends t1 t2) (hwf : t2.wf = true) (tg : Option Nat) (v : Val)
    (ht : hasType t1 v = true) : BerCodec.enc t2 tg v = BerCodec.enc t1 tg v :=
  DerX.enc_stable h hwf tg v ht

end Asn1.Ext.BerX

#print axioms Asn1.Ext.BerX.xtb_all
#print axioms Asn1.Ext.BerX.forward_ber
#print axioms Asn1.Ext.BerX.backward_ber
#print axioms Asn1.Ext.BerX.ber_enc_stable
