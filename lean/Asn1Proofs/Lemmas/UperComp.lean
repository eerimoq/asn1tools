import Asn1Proofs.Lemmas.UperSized
import Asn1Proofs.Lemmas.Typed
/-
  SEQUENCE OF and CHOICE: totality of the encoder, and encoder and decoder at a named alternative
  as a lookup (`Alts.find`, `Alts.nth`).  The round trip of the composite types is the `tD = tE` case
  of the two-type one (ExtUper).
-/
namespace Asn1

namespace Uper

theorem et_sequenceOf (e : Ty) (c : SizeC) (ih : ET e) : ET (.sequenceOf e c) := by
  intro v hwf ht
  obtain ⟨vs, rfl, hty, -⟩ := hasType_sequenceOf ht
  rw [Ty.wf] at hwf
  simp only [Bool.and_eq_true] at hwf
  obtain ⟨items, hitems⟩ := mapM_ok_of_forall (enc e) vs (fun v hv => ih v hwf.1 (hty v hv))
  rw [enc]
  simp only [hitems]
  exact encExt_total hwf.2 (encRoot_total ..) fun _ => ⟨_, rfl⟩

theorem encAlt_find (as : Alts) (name : String) (v : Val) (i : Nat) :
    encAlt as name v i = (as.find name).map (fun x => (i + x.1, enc x.2 v)) :=
  Alts.search_idx_map name (f := fun i as => encAlt as name v i) (fun _ _ _ _ => rfl) (fun _ => rfl) i as

theorem fragFreeAlt_find (as : Alts) (name : String) (v : Val) (o : Bool) :
    fragFreeAlt as name v o = (match as.find name with
      | some x => fragFree x.2 v &&
          (!o || (match enc x.2 v with | .ok e => smallLen ((e.length + 7) / 8) | .error _ => true))
      | none => true) :=
  Alts.search_eq name (f := fun as => fragFreeAlt as name v o) (fun _ _ _ => rfl) as

theorem decAlt_nth (as : Alts) (fuel i : Nat) (bs : Bits) : decAlt as fuel i bs =
    match as.nth i with
    | some nt => some (do let (v, r) ← dec nt.2 fuel bs; .ok (.choice nt.1 v, r))
    | none => none :=
  Alts.lookup_eq (f := fun as i => decAlt as fuel i bs) (fun _ => rfl) (fun _ _ _ i => by cases i <;> rfl) as i

theorem decAlt_find (as : Alts) (name : String) (j : Nat) (t : Ty) (h : as.find name = some (j, t))
    (fuel : Nat) (bs : Bits) :
    decAlt as fuel j bs = some (do let (v, r) ← dec t fuel bs; .ok (.choice name v, r)) := by
  rw [decAlt_nth, Alts.nth_of_find h]

theorem decAlt_none (aD : Alts) (j : Nat) (hj : aD.length ≤ j) (fuel : Nat) (bs : Bits) :
    decAlt aD fuel j bs = none := by
  rw [decAlt_nth, Alts.nth_none hj]

theorem et_choice (root : Alts) (ext : Bool) (adds : Alts)
    (ihr : root.All ET) (iha : adds.All ET) : ET (.choice root ext adds) := by
  intro v hwf ht
  obtain ⟨name, w, _, t, rfl, hwt, hty, sel⟩ := alt_of_hasType hwf ht
  obtain ⟨_, _, _, _, hext⟩ := wf_choice hwf
  obtain ⟨body, hbody⟩ := sel.all ihr iha w hwt hty
  rw [enc, encAlt_find, encAlt_find]
  rcases sel with hf | ⟨hf, j, hfa, _⟩
  · simp only [hf, Option.map_some, hbody]
    exact ⟨_, rfl⟩
  · have hj := Alts.find_lt hfa
    simp only [hf, hfa, Option.map_none, hext.resolve_right (by omega), if_true, Option.map_some, hbody]
    exact ⟨_, rfl⟩

end Uper
end Asn1
