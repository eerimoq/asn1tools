import Asn1Proofs.Lemmas.CostUper
import Asn1Proofs.Lemmas.UperComp
/-
  C08 for the UPER model: the allocation bound of `Uper.dec` for every type of the universe, as a
  potential (`Pot`, `Alloc` of `CostReader.lean`); `szu_c` is the case of the type constructor `c`, a
  term that follows the decoder's definition.
-/
namespace Asn1.Cost
open Asn1.Uper

/-- "size, UPER" -/
def SzU : Ty → Prop := Alloc List.length dec KU

theorem szu_boolean : SzU .boolean :=
  fun _ _ _ bs => .bind0 (ni_readBit bs) fun _ _ => .pure (Nat.le_refl 1)

theorem szu_null : SzU .null := fun _ _ _ _ => .pure (Nat.le_refl 1)

theorem szu_integer (c : IntC) : SzU (.integer c) := by
  intro K _ f bs
  have un : ∀ bs : Bits, Pot List.length Val.nodes K 1 bs.length
      (do let (i, r) ← decUnconstrained bs; .ok (.int i, r)) := fun bs =>
    .bind0 (ni_decUnconstrained bs) fun i _ => .pure (Nat.le_refl 1)
  -- with the bounds as constructors `dec (.integer c) f` unfolds to the branch taken
  obtain ⟨_ | lo, hi, e⟩ := c
  · exact .ite (fun _ => .bind0 (ni_readBit bs) fun _ r => un r) fun _ => un bs
  · cases hi with
    | none => exact .ite (fun _ => .bind0 (ni_readBit bs) fun _ r => un r) fun _ => un bs
    | some hi =>
      exact .ite (fun _ => .bind0 (ni_readBit bs) fun b r => .ite (fun _ => un r) fun _ =>
          .bind0 (ni_readNat _ r) fun i _ => .pure (Nat.le_refl 1))
        fun _ => .bind0 (ni_readNat _ bs) fun i _ => .pure (Nat.le_refl 1)

theorem szu_enumerated (root : List (String × Int)) (ext : Option (List (String × Int))) :
    SzU (.enumerated root ext) := by
  intro K _ f bs
  have hroot : ∀ bs : Bits, Pot List.length Val.nodes K 1 bs.length (do
        let (i, r) ← readNat (bitLength ((sortByVal root).length - 1)) bs
        match (sortByVal root)[i]? with
        | some (n, _) => .ok (.enum n, r)
        | none => .error .decodeError : DecM (Val × Bits)) := fun bs =>
    .bind0 (ni_readNat _ bs) fun i r => by
      dsimp only
      split
      · exact .pure (Nat.le_refl 1)
      · exact .error
  cases ext with
  | none => exact hroot bs
  | some adds =>
    refine .bind0 (ni_readBit bs) fun b r => .ite (fun _ => hroot r) fun _ => ?_
    refine .bind0 (fun _ _ => pf_decNsnnwn.ni) fun i r1 => ?_
    dsimp only
    split <;> exact .pure (Nat.le_refl 1)

theorem szu_octetString (c : SizeC) : SzU (.octetString c) := by
  intro K hK f bs
  have hK : 1 ≤ K := hK  -- `KU` of a leaf type unfolds to 1
  refine .bind0 (fun _ _ h => optBit_ok h) fun ext r0 => .ite (fun _ => ?_) fun _ => ?_
  · refine .bind0 (fun _ _ h => lenDet_readLenDet.ni _ _ _ h) fun len r1 => ?_
    exact .map (g := fun b => Val.bytes (packBits b)) 1 (pot_readBits _ hK r1) fun _ => Nat.le_refl _
  · dsimp only
    split
    · exact .map (g := Val.bytes) 1
        (pot_decChunks (fun _ _ _ h => by have := (readNat_ok h).1; omega) hK f r0) fun _ => Nat.le_refl _
    · refine .bind0 (fun _ _ h => (readSize_ok h).1) fun len r1 => ?_
      exact .map (g := fun b => Val.bytes (packBits b)) 1 (pot_readBits _ hK r1) fun _ => Nat.le_refl _

theorem szu_bitString (c : SizeC) : SzU (.bitString c) := by
  intro K hK f bs
  have hK : 1 ≤ K := hK
  refine .bind0 (fun _ _ h => optBit_ok h) fun ext r0 => .ite (fun _ => .error) fun _ => ?_
  dsimp only
  split
  · exact .map (g := fun xs => Val.bits (packBits xs) xs.length) 1
      (pot_decChunks (fun _ _ _ h => by have := readBit_ok h; omega) hK f r0)
      fun xs => Nat.add_le_add_left (packBits_length_le xs) 1
  · refine .bind0 (fun _ _ h => (readSize_ok h).1) fun len r1 => ?_
    exact .map (g := fun b => Val.bits (packBits b) len) 1 (pot_readBits _ hK r1) fun _ => Nat.le_refl _

theorem szu_utf8 (c : SizeC) : SzU (.charString .utf8 c) := by
  intro K hK f bs
  have hK : 1 ≤ K := hK
  refine (Pot.bind (c2 := 1) (pot_decChunks (fun _ _ _ h => by have := (readNat_ok h).1; omega) hK f bs)
    fun xs r1 => ?_).mono (fun _ => Nat.le_refl _) (Nat.le_refl _)
  dsimp only
  split
  · rename_i cps hu
    have := utf8Dec_length _ _ _ hu
    exact .pure (by show 1 + cps.length - xs.length ≤ 1; omega)
  · exact .error

theorem oneChar_lt (k : StrKind) (hk : k ≠ .utf8) (bs : Bits) (a : Nat) (r : Bits)
    (h : oneChar k bs = .ok (a, r)) : r.length < bs.length := by
  obtain ⟨⟨v, r1⟩, h1, h⟩ := bind_ok h
  dsimp only at h
  have := (readNat_ok h1).1
  have := bitsPerChar_pos k hk
  obtain ⟨ch, h2, h⟩ := bind_ok h
  cases h; omega

theorem szu_charString (k : StrKind) (hk : k ≠ .utf8) (c : SizeC) : SzU (.charString k c) := by
  intro K hK f bs
  have hK : 1 ≤ K := hK
  -- `rw [dec]` takes the equation of the catch-all `charString` case; its side goals are `k ≠ .utf8`
  rw [dec]
  · refine .bind0 (fun _ _ h => optBit_ok h) fun ext r0 => .ite (fun _ => .error) fun _ => ?_
    dsimp only
    split
    · exact .map (g := Val.str) 1 (pot_decChunks (oneChar_lt k hk) hK f r0) fun _ => Nat.le_refl _
    · refine .bind0 (fun _ _ h => (readSize_ok h).1) fun len r1 => ?_
      exact .map (g := Val.str) 1 ((pot_decRepeat (oneChar_lt k hk) hK len r1).mono
        (fun xs => Nat.le_of_eq (sumSize_one xs).symm) (Nat.le_of_eq (Nat.mul_zero len))) fun _ => Nat.le_refl _
  all_goals (first | exact hk | (intro c' heq; cases heq; exact hk rfl))

theorem szu_sequenceOf (e : Ty) (c : SizeC) (ih : SzU e) : SzU (.sequenceOf e c) := by
  intro K hK f bs
  have hK : 1 + KU e * (1 + seqOfMax c) ≤ K := hK
  have hKe : KU e ≤ K := by
    have := Nat.mul_le_mul_left (KU e) (Nat.le_add_right 1 (seqOfMax c)); omega
  have hrep := repeat_pot (rep := decRepeat (dec e f)) (fun _ => rfl) (fun _ _ => rfl) (ih K hKe f)
  exact seqOf_pot readers (S := dec (.sequenceOf e c) f) (chunks := decChunks (dec e f) f) (fun _ => rfl) hK hrep
    (fun hK8 => chunks_pot (chunks := decChunks (dec e f)) (fun _ => rfl) (fun _ _ => rfl) lenDet_readLenDet hK8 hrep f)
    bs

theorem szu_sequence (root : Members) (ext : Bool) (adds : Members)
    (ihr : root.All SzU) (iha : adds.All SzU) : SzU (.sequence root ext adds) := by
  intro K hK f bs
  have hK : 1 + KUm root + KUm adds ≤ K := hK
  refine .bind0 (fun _ _ h => optBit_ok h) fun e r0 => ?_
  refine .bind0 (fun _ _ => (pf_readBits _).ni) fun flags r1 => ?_
  refine (Pot.bind (c2 := 1 + KUm adds) (members_pot (mem := decMembers) (Km := KUm) (fun _ _ _ => rfl)
      (fun _ p _ _ _ _ _ => by cases p <;> rfl) (fun _ _ _ _ => rfl) root ihr K (by omega) f flags r1)
    fun fields r2 => .ite (fun _ => ?_) fun _ => .pure ?_).mono (fun _ => Nat.le_refl _)
      (by show KUm root + (1 + KUm adds) ≤ 1 + KUm root + KUm adds; omega)
  · refine .bind0 (fun _ _ => pf_decNsLength.ni) fun n r3 => ?_
    refine .bind0 (fun _ _ => (pf_readBits _).ni) fun bitmap r4 => ?_
    refine .map (g := fun more => Val.record (fields ++ more)) 1
      (adds_pot (A := decAdditions) (Km := KUm) (pad := fun r1 r2 => skipPad r1.length r2) (fun _ _ _ => rfl)
        (fun _ _ _ _ _ bitmap _ => by cases bitmap <;> rfl) (fun _ _ _ _ => rfl) lenDet_readLenDet.ni
        (fun _ _ _ h => skipPad_ok h) (fun bm _ _ h => skipUnknown_ok bm h) adds iha K (by omega) f bitmap r4)
      fun more => ?_
    show 1 + Val.nodesFields (fields ++ more) - _ ≤ _
    rw [nodesFields_append]; omega
  · show 1 + Val.nodesFields fields - _ ≤ _; omega

theorem szu_choice (root : Alts) (ext : Bool) (adds : Alts)
    (ihr : root.All SzU) (iha : adds.All SzU) : SzU (.choice root ext adds) := by
  intro K hK f bs
  have hK : 2 + KUa root + KUa adds ≤ K := hK
  have hb : ∀ n, n ≤ 1 + KUa root ∨ n ≤ 1 + KUa adds → n ≤ KU (.choice root ext adds) := fun n h => by
    show n ≤ 2 + KUa root + KUa adds; omega
  refine .bind0 (fun _ _ h => optBit_ok h) fun e r0 => .ite (fun _ => ?_) fun _ => ?_
  · refine .bind0 (fun _ _ => pf_decNsnnwn.ni) fun idx r1 => ?_
    refine .bind0 (fun _ _ h => lenDet_readLenDet.ni _ _ _ h) fun len r2 => ?_
    dsimp only
    rw [decAlt_nth]
    cases e : adds.nth idx with
    | none =>
      exact .bind0 (fun _ _ => (pf_readBits _).ni) fun _ _ =>
        .pure (show 2 ≤ 2 + KUa root + KUa adds by omega)
    | some nt =>
      refine (Pot.bind (c2 := 0) (alt_pot (Ka := KUa) (fun _ _ _ => rfl) iha e K (by omega) f r2) fun v r3 => ?_).mono
        (fun _ => Nat.le_refl _) (hb _ (.inr (Nat.le_refl _)))
      -- an alternative that read beyond its open type is a `DecodeError`: no bit pays for a value twice
      refine .ite (fun _ => .error) fun _ => ?_
      exact .bind0 (fun _ _ => (pf_readBits _).ni) fun _ _ =>
        .pure (Nat.le_of_eq (Nat.sub_self _))
  · refine .bind0 (m := if root.length > 1 then readNat (bitLength (root.length - 1)) r0 else .ok (0, r0))
      (fun a r h => by
        rcases ite_cases h with ⟨_, h⟩ | ⟨_, h⟩
        · exact ni_readNat _ _ _ _ h
        · cases h; exact Nat.le_refl _) fun idx r1 => ?_
    dsimp only
    rw [decAlt_nth]
    cases e : root.nth idx with
    | none => exact .error
    | some nt =>
      exact (alt_pot (Ka := KUa) (fun _ _ _ => rfl) ihr e K (by omega) f r1).mono (fun _ => Nat.le_refl _)
        (hb _ (.inl (Nat.le_refl _)))

theorem szu_all (t : Ty) : SzU t :=
  Ty.induct
    szu_boolean szu_null szu_integer szu_enumerated szu_octetString szu_bitString
    (fun k c => by
      by_cases hk : k = .utf8
      · subst hk; exact szu_utf8 c
      · exact szu_charString k hk c)
    szu_sequence szu_sequenceOf szu_choice t

theorem szu_bound (t : Ty) (f : Nat) (bs : Bits) (v : Val) (r : Bits) (h : dec t f bs = .ok (v, r)) :
    r.length ≤ bs.length ∧ v.nodes ≤ KU t * (bs.length - r.length + 1) :=
  (szu_all t (KU t) (Nat.le_refl _) f bs).bound h

theorem uper_decode_alloc (t : Ty) (bs : Bytes) (v : Val) (h : Uper.decode t bs = .ok v) :
    v.nodes ≤ KU t * (8 * bs.length + 1) := by
  unfold Uper.decode at h
  cases hd : dec t (8 * bs.length + 2) (bytesToBits bs) with
  | error e => rw [hd] at h; cases h
  | ok vr =>
    obtain ⟨w, r⟩ := vr
    rw [hd] at h
    cases h
    obtain ⟨hl, hs⟩ := szu_bound t _ _ _ _ hd
    rw [bytesToBits_length] at hs hl
    exact bd_mono hs (Nat.le_refl _) (by omega)

theorem uper_decode_alloc_octets (t : Ty) (bs : Bytes) (v : Val) (h : Uper.decode t bs = .ok v) :
    v.nodes ≤ 8 * KU t * (bs.length + 1) := by
  have := uper_decode_alloc t bs v h
  refine Nat.le_trans this ?_
  rw [Nat.mul_comm 8 (KU t), Nat.mul_assoc]
  exact Nat.mul_le_mul_left _ (by omega)

end Asn1.Cost
