import Asn1Model.Typing

/-! The strict UTF-8 decoder inverts the encoder, one code point at a time.  `utf8Enc` / `utf8Dec`
are the model's for UTF8String in all codecs. -/

namespace Asn1.Uper

theorem utf8Enc_lt_256 (cp : Nat) (h : cp < 0x110000) : ∀ b ∈ utf8Enc cp, b < 256 := by
  unfold utf8Enc
  split
  · simp only [List.forall_mem_cons, List.not_mem_nil, false_imp_iff, implies_true, and_true]
    omega
  split
  · simp only [List.forall_mem_cons, List.not_mem_nil, false_imp_iff, implies_true, and_true]
    omega
  split
  · simp only [List.forall_mem_cons, List.not_mem_nil, false_imp_iff, implies_true, and_true]
    omega
  · simp only [List.forall_mem_cons, List.not_mem_nil, false_imp_iff, implies_true, and_true]
    omega

theorem utf8Enc_ne_nil (cp : Nat) : utf8Enc cp ≠ [] := by
  unfold utf8Enc
  split
  · exact List.cons_ne_nil _ _
  split
  · exact List.cons_ne_nil _ _
  split <;> exact List.cons_ne_nil _ _

/-- In each case the lead octet selects the branch of `utf8Dec`, and the value it reassembles is `cp`
written in base 64 (`e`). -/
theorem utf8Dec_utf8Enc_append (fuel cp : Nat) (r : Bytes)
    (h : cp < 0x110000 ∧ ¬ (0xd800 ≤ cp ∧ cp < 0xe000)) :
    utf8Dec (fuel + 1) (utf8Enc cp ++ r) = (utf8Dec fuel r).map (cp :: ·) := by
  unfold utf8Enc
  split
  · rename_i c1
    rw [List.cons_append, List.nil_append]
    conv => lhs; unfold utf8Dec
    rw [if_pos c1]
  split
  · have e : cp / 64 * 64 + cp % 64 = cp := Nat.div_add_mod' cp 64
    simp only [List.cons_append, List.nil_append]
    conv => lhs; unfold utf8Dec
    rw [if_neg (by omega), if_neg (by omega), if_pos (by omega)]
    simp only [Nat.add_sub_cancel_left, e]
    rw [if_pos (by omega)]
  split
  · have e : cp / 4096 * 4096 + cp / 64 % 64 * 64 + cp % 64 = cp := by omega
    simp only [List.cons_append, List.nil_append]
    conv => lhs; unfold utf8Dec
    rw [if_neg (by omega), if_neg (by omega), if_neg (by omega), if_pos (by omega)]
    simp only [Nat.add_sub_cancel_left, e]
    rw [if_pos (by omega)]
  · have e : cp / 262144 * 262144 + cp / 4096 % 64 * 4096 + cp / 64 % 64 * 64 + cp % 64 = cp := by
      omega
    simp only [List.cons_append, List.nil_append]
    conv => lhs; unfold utf8Dec
    rw [if_neg (by omega), if_neg (by omega), if_neg (by omega), if_neg (by omega),
      if_pos (by omega)]
    simp only [Nat.add_sub_cancel_left, e]
    rw [if_pos (by omega)]

theorem utf8Dec_flatMap_utf8Enc (cps : List Nat)
    (h : ∀ cp ∈ cps, cp < 0x110000 ∧ ¬ (0xd800 ≤ cp ∧ cp < 0xe000))
    (fuel : Nat) (hf : (cps.flatMap utf8Enc).length + 1 ≤ fuel) :
    utf8Dec fuel (cps.flatMap utf8Enc) = some cps := by
  obtain ⟨fuel, rfl⟩ : ∃ f, fuel = f + 1 := ⟨fuel - 1, by omega⟩
  induction cps generalizing fuel with
  | nil => rfl
  | cons cp rest ih =>
    have hpos := List.length_pos_iff.2 (utf8Enc_ne_nil cp)
    rw [List.flatMap_cons, List.length_append] at hf
    obtain ⟨fuel, rfl⟩ : ∃ f, fuel = f + 1 := ⟨fuel - 1, by omega⟩
    rw [List.flatMap_cons, utf8Dec_utf8Enc_append _ _ _ (h cp (List.mem_cons_self ..)),
      ih (fun x hx => h x (List.mem_cons_of_mem _ hx)) fuel (by omega)]
    rfl

end Asn1.Uper
