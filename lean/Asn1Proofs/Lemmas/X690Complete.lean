import Asn1Proofs.Lemmas.X690Int
import Asn1Proofs.Lemmas.X690Frame
import Asn1Proofs.Lemmas.DerPrim
/-
  C04, the length forms and the primitive leaves: every length form the reference decoder reads
  (8.1.3: short, long with leading zero octets, indefinite) the code's `decode_length`
  (`Der.readLen`) reads with the same meaning; BOOLEAN, NULL, INTEGER, ENUMERATED (`complete_leaf`).
  `complete_*_primitive` and `decV_*_primitive` are about the primitive form of the string types
  alone, for any positive fuel; both forms together are in X690CompStr.lean.  At the end a closed
  regression theorem for the indefinite-length extensible SEQUENCE and the closed witness of the
  deviation `dirtyUnusedBits`.
-/
namespace Asn1.X690
open Asn1.Der (readLen readPrim matchTag mkTag)

theorem hasN_of_takeN {n : Nat} {r c rest : Bytes} (hc : takeN n r [] = some (c, rest)) :
    Der.hasN n r = true := by
  obtain ⟨rfl, rfl⟩ := takeN_some hc
  exact Der.hasN_append c rest

/-- short form, long form with up to 126 subsequent octets, leading zero octets allowed; `hc`: the
code's `decode_length` also checks that the announced contents are there -/
theorem readLen_of_readLength {d : Bool} {bs r c rest : Bytes} {n : Nat}
    (h : readLength bs = some (.definite n, r)) (hc : takeN n r [] = some (c, rest)) :
    ∃ hdr, readLen d bs = .ok (some n, hdr, r) ∧ bs.length = hdr + r.length ∧ 0 < hdr := by
  have hn := hasN_of_takeN hc
  obtain ⟨b, t, rfl, ⟨h1, hl, rfl⟩ | ⟨_, hl, _⟩ | ⟨h1, h2, ds, hds, hl⟩⟩ := readLength_some h
  · cases hl
    exact ⟨1, by simp only [readLen, if_pos h1, hn, if_true], by simp [Nat.add_comm], by omega⟩
  · cases hl
  · cases hl
    obtain ⟨rfl, e⟩ := takeN_some hds
    have e1 : ¬ b < 128 := by omega
    have e2 : ¬ b = 128 := by omega
    rw [takeN_eq_splitAux] at hds
    exact ⟨b - 128 + 1, by simp only [readLen, if_neg e1, if_neg e2, hds, hn, if_true],
      by simp only [List.length_cons, List.length_append, e]; omega, by omega⟩

/-- The contents of a constructed encoding, for the code's decoder that has `extra` after them: with
a definite length the reference decoder has cut the contents `c` out and parsed them to the end, the
code gets their length and goes on in `c ++ rest ++ extra`; with the indefinite form both go on after
the length octet and the reference decoder has stopped in front of the end-of-contents octets. -/
theorem readLen_of_constructedContentsI {α : Type} {p : Bool → Bytes → Option (α × Bytes)} {r rest : Bytes}
    {a : α} (h : constructedContentsI p r = some (a, rest)) (extra : Bytes) :
    (∃ hdr c, p false c = some (a, []) ∧
        readLen false (r ++ extra) = .ok (some c.length, hdr, c ++ (rest ++ extra)) ∧
        r.length = hdr + (c.length + rest.length) ∧ 0 < hdr) ∨
    (∃ z, p true z = some (a, 0 :: 0 :: rest) ∧
        readLen false (r ++ extra) = .ok (none, 1, z ++ extra) ∧ r.length = 1 + z.length) := by
  unfold constructedContentsI at h
  split at h
  · rename_i n r1 hr
    split at h
    · rename_i c rest' hc
      split at h
      · rename_i a' hp
        cases h
        obtain ⟨hdr, hlen, hb, hd0⟩ := readLen_of_readLength (d := false) (readLength_append_right extra hr)
          (takeN_append_right extra hc)
        obtain ⟨rfl, rfl⟩ := takeN_some hc
        simp only [List.length_append] at hb
        exact .inl ⟨hdr, c, hp, by rw [hlen, List.append_assoc], by omega, hd0⟩
      · cases h
    · cases h
  · rename_i r1 hr
    split at h
    · rename_i a' rest' hp
      cases h
      obtain rfl := readLength_indefinite hr
      exact .inr ⟨r1, hp, rfl, by simp [Nat.add_comm]⟩
    · cases h
  · cases h

theorem readBytes_of_takeN {n : Nat} {r c rest : Bytes} (hc : takeN n r [] = some (c, rest)) :
    Oer.readBytes n r = .ok (c, rest) := by
  rw [takeN_eq_splitAux] at hc
  simp [Oer.readBytes, hc]

/-- `PrimitiveOrConstructedType.decode` on a primitive encoding the reference decoder accepts -/
theorem pcDecode_of_primitiveContents {α : Type} (prim : Bytes → Bytes → Der.DecM α)
    (join : List α → α) (segTag segCtag : Bytes) (fuel : Nat) (tag ctag r content rest : Bytes) (a : α)
    (hp : primitiveContents r = some (content, rest)) (ha : prim content rest = .ok a) :
    ∃ k, BerCodec.pcDecode prim join segTag segCtag (fuel + 1) tag ctag (tag ++ r)
        = .ok (some (a, k, rest)) ∧ (tag ++ r).length = k + rest.length ∧ tag.length < k := by
  obtain ⟨n, r1, hr, hc⟩ := primitiveContents_some hp
  obtain ⟨hdr, hlen, hbs, hd0⟩ := readLen_of_readLength (d := false) hr hc
  obtain ⟨e1, e2⟩ := takeN_some hc
  refine ⟨tag.length + hdr + n, ?_, ?_, by omega⟩
  · simp only [BerCodec.pcDecode, Oer.splitAux_append, List.reverse_nil, List.nil_append,
      beq_self_eq_true, if_true, hlen, readBytes_of_takeN hc, ha]
  · rw [List.length_append, hbs, e1, List.length_append, e2]; omega

theorem _root_.Asn1.BerCodec.dec_boolean (tg : Option Nat) (fuel : Nat) (bs : Bytes) :
    BerCodec.dec .boolean tg fuel bs =
      (readPrim (mkTag 1 false tg) bs >>= fun
        | none => .ok none
        | some (content, k, r) =>
          match content with
          | [b] => .ok (some (.bool (b != 0), k, r))
          | _ => .error .decodeError) := rfl

theorem _root_.Asn1.BerCodec.dec_null (tg : Option Nat) (fuel : Nat) (bs : Bytes) :
    BerCodec.dec .null tg fuel bs =
      (matchTag (mkTag 5 false tg) bs >>= fun
        | none => .ok none
        | some r0 => readLen true r0 >>= fun (_, h, r1) =>
          .ok (some (.null, (mkTag 5 false tg).length + h, r1))) := rfl

theorem _root_.Asn1.BerCodec.dec_integer (c : IntC) (tg : Option Nat) (fuel : Nat) (bs : Bytes) :
    BerCodec.dec (.integer c) tg fuel bs =
      (readPrim (mkTag 2 false tg) bs >>= fun
        | none => .ok none
        | some (content, k, r) => .ok (some (.int (bytesToInt content), k, r))) := rfl

theorem _root_.Asn1.BerCodec.dec_enumerated (root : List (String × Int)) (ext : Option (List (String × Int))) (tg : Option Nat)
    (fuel : Nat) (bs : Bytes) :
    BerCodec.dec (.enumerated root ext) tg fuel bs =
      (readPrim (mkTag 10 false tg) bs >>= fun
        | none => .ok none
        | some (content, k, r) => Der.enumOfContent root ext content >>= fun v => .ok (some (v, k, r))) := rfl

theorem _root_.Asn1.BerCodec.dec_octetString (c : SizeC) (tg : Option Nat) (fuel : Nat) (bs : Bytes) :
    BerCodec.dec (.octetString c) tg fuel bs =
      (BerCodec.decOctets fuel (mkTag 4 false tg) (mkTag 4 true tg) bs >>= fun
        | none => .ok none
        | some (content, k, r) => .ok (some (.bytes content, k, r))) := rfl

theorem _root_.Asn1.BerCodec.dec_bitString (c : SizeC) (tg : Option Nat) (fuel : Nat) (bs : Bytes) :
    BerCodec.dec (.bitString c) tg fuel bs =
      (BerCodec.decBits fuel (mkTag 3 false tg) (mkTag 3 true tg) bs >>= fun
        | none => .ok none
        | some ((body, n), k, r) => .ok (some (.bits body n, k, r))) := rfl

theorem _root_.Asn1.BerCodec.dec_charString (kind : StrKind) (c : SizeC) (tg : Option Nat) (fuel : Nat) (bs : Bytes) :
    BerCodec.dec (.charString kind c) tg fuel bs =
      (BerCodec.decOctets fuel (mkTag (Der.univNumber (.charString kind c)) false tg)
          (mkTag (Der.univNumber (.charString kind c)) true tg) bs >>= fun
        | none => .ok none
        | some (content, k, r) => Oer.decodeStr kind content >>= fun cps => .ok (some (.str cps, k, r))) := rfl

theorem _root_.Asn1.BerCodec.dec_sequenceOf (e : Ty) (c : SizeC) (tg : Option Nat) (fuel : Nat) (bs : Bytes) :
    BerCodec.dec (.sequenceOf e c) tg fuel bs =
      (matchTag (mkTag 16 true tg) bs >>= fun
        | none => .ok none
        | some r0 => readLen false r0 >>= fun (len, h, r1) =>
          BerCodec.items (BerCodec.dec e none fuel) fuel len r1 >>= fun (vs, k, r2) =>
            .ok (some (.list vs, (mkTag 16 true tg).length + h + k, r2))) := rfl

/-- C04 for BOOLEAN, NULL, INTEGER, ENUMERATED in any tagging context and with ANY valid length form -/
theorem complete_leaf (t : Ty) (tg : Option Nat) (fuel : Nat) (bs rest : Bytes) (v : Val)
    (hl : isPrimLeaf t = true) (h : decV t tg fuel bs = some (v, rest)) :
    ∃ k, BerCodec.dec t tg fuel bs = .ok (some (v, k, rest)) ∧ bs.length = k + rest.length ∧
      (mkTag (Der.univNumber t) false tg).length < k := by
  obtain ⟨r, ct, hs, hp, hv⟩ := decV_leaf_some hl h
  have hbs := stripPrefix_some hs
  rw [header_eq_mkTag] at hbs
  obtain ⟨n, r1, hr, hc⟩ := primitiveContents_some hp
  obtain ⟨hdr, hlen, hb, hd0⟩ := readLen_of_readLength (d := true) hr hc
  obtain ⟨e1, e2⟩ := takeN_some hc
  have hk : readPrim (mkTag (Der.univNumber t) false tg) bs
      = .ok (some (ct, (mkTag (Der.univNumber t) false tg).length + hdr + n, rest)) := by
    rw [hbs]
    simp only [readPrim, bind, Except.bind, Der.matchTag_self, hlen, readBytes_of_takeN hc]
  have hl' : bs.length = (mkTag (Der.univNumber t) false tg).length + hdr + n + rest.length := by
    rw [hbs, List.length_append, hb, e1, List.length_append, e2]; omega
  refine ⟨_, ?_, hl', by omega⟩
  cases t <;> first | (simp [isPrimLeaf] at hl; done) | simp only [Der.univNumber] at hk hbs ⊢
  · rcases ct with _ | ⟨b, _ | ⟨b', ct⟩⟩ <;> cases hv
    rw [BerCodec.dec_boolean, hk]; rfl
  · cases ct <;> cases hv
    cases e2
    rw [BerCodec.dec_null, hbs, Der.matchTag_self]
    simp only [bind, Except.bind, hlen, e1, List.nil_append, List.length_nil, Nat.add_zero]
  · simp only [leafValue] at hv
    split at hv <;> cases hv
    rw [BerCodec.dec_integer, hk]; rfl
  · simp only [leafValue] at hv
    split at hv
    · rename_i root ext _
      cases hn : enumNameOf (bytesToInt ct) (root ++ ext.getD []) with
      | none => simp [hn] at hv
      | some name =>
        simp only [hn, Option.map_some, Option.some.injEq] at hv
        subst hv
        rw [enumNameOf_eq_enumName] at hn
        rw [BerCodec.dec_enumerated, hk]
        simp only [bind, Except.bind, Der.enumOfContent, hn]
    · cases hv

theorem complete_octets_primitive (c : SizeC) (tg : Option Nat) (fuel : Nat) (bs r rest : Bytes) (content : Bytes)
    (hf : 0 < fuel) (hs : stripPrefix (header (.octetString c) tg false) bs = some r)
    (hp : primitiveContents r = some (content, rest)) :
    ∃ k, BerCodec.dec (.octetString c) tg fuel bs = .ok (some (.bytes content, k, rest)) ∧ bs.length = k + rest.length := by
  obtain ⟨f, rfl⟩ : ∃ f, fuel = f + 1 := ⟨fuel - 1, by omega⟩
  have hbs := stripPrefix_some hs
  rw [header_eq_mkTag, Der.univNumber] at hbs
  obtain ⟨k, hk, hlen, _⟩ := pcDecode_of_primitiveContents (fun content _ => .ok content) List.flatten
    [4] [0x24] f (mkTag 4 false tg) (mkTag 4 true tg) r content rest content hp rfl
  refine ⟨k, ?_, by rw [hbs]; exact hlen⟩
  rw [BerCodec.dec_octetString, hbs, BerCodec.decOctets, hk]; rfl

/-- what the reference decoder accepts as characters, the code's `decode('ascii')` / `decode('utf-8')` accepts -/
theorem decodeStr_of_charsOf {kind : StrKind} {content : Bytes} {cps : List Nat}
    (h : charsOf kind content = some cps) : Oer.decodeStr kind content = .ok cps := by
  have key : ∀ k : StrKind, (if content.all (fun b => (Uper.alphabetOf k).contains b) then some content else none) = some cps →
      (if content.all (· < 128) then (.ok content : Der.DecM (List Nat)) else .error .foreign) = .ok cps := by
    intro k hk
    split at hk
    · rename_i hall
      cases hk
      have : content.all (· < 128) = true := by
        rw [List.all_eq_true] at hall ⊢
        intro x hx
        have := hall x hx
        simp only [List.contains_iff_mem] at this
        simpa using Uper.alphabet_lt k x this
      rw [if_pos this]
    · cases hk
  cases kind with
  | utf8 =>
    simp only [charsOf] at h
    simp only [Oer.decodeStr, h]
  | ia5 => exact key .ia5 h
  | visible => exact key .visible h
  | numeric => exact key .numeric h
  | printable => exact key .printable h

theorem complete_chars_primitive (kind : StrKind) (c : SizeC) (tg : Option Nat) (fuel : Nat) (bs r rest : Bytes)
    (content : Bytes) (cps : List Nat)
    (hf : 0 < fuel) (hs : stripPrefix (header (.charString kind c) tg false) bs = some r)
    (hp : primitiveContents r = some (content, rest)) (hc : charsOf kind content = some cps) :
    ∃ k, BerCodec.dec (.charString kind c) tg fuel bs = .ok (some (.str cps, k, rest)) ∧ bs.length = k + rest.length := by
  obtain ⟨f, rfl⟩ : ∃ f, fuel = f + 1 := ⟨fuel - 1, by omega⟩
  have hbs := stripPrefix_some hs
  rw [header_eq_mkTag] at hbs
  obtain ⟨k, hk, hlen, _⟩ := pcDecode_of_primitiveContents (fun content _ => .ok content) List.flatten
    [4] [0x24] f (mkTag (Der.univNumber (.charString kind c)) false tg)
    (mkTag (Der.univNumber (.charString kind c)) true tg) r content rest content hp rfl
  refine ⟨k, ?_, by rw [hbs]; exact hlen⟩
  rw [BerCodec.dec_charString, hbs, BerCodec.decOctets, hk]
  simp only [bind, Except.bind, decodeStr_of_charsOf hc]

/-- a number of unused bits the reference decoder accepts fits the data octets -/
theorem unusedBits_le {u : Nat} {body : Bytes} (hu : u ≤ 7 ∧ (body.isEmpty → u = 0)) : u ≤ 8 * body.length := by
  cases body with
  | nil => have := hu.2 rfl; omega
  | cons x xs => simp only [List.length_cons]; omega

/-- C04 for BIT STRING in primitive form: the code returns the unused bits as they are (deviation
`dirtyUnusedBits`): equal values only when they are zero -/
theorem complete_bits_primitive (c : SizeC) (tg : Option Nat) (fuel : Nat) (bs r rest : Bytes) (u : Nat) (body : Bytes)
    (hf : 0 < fuel) (hs : stripPrefix (header (.bitString c) tg false) bs = some r)
    (hp : primitiveContents r = some (u :: body, rest)) (hu : u ≤ 7 ∧ (body.isEmpty → u = 0))
    (hclean : cleanBits body (8 * body.length - u) = body) :
    ∃ k, BerCodec.dec (.bitString c) tg fuel bs
      = .ok (some (.bits (cleanBits body (8 * body.length - u)) (8 * body.length - u), k, rest)) ∧ bs.length = k + rest.length := by
  obtain ⟨f, rfl⟩ : ∃ f, fuel = f + 1 := ⟨fuel - 1, by omega⟩
  have hbs := stripPrefix_some hs
  rw [header_eq_mkTag, Der.univNumber] at hbs
  have hb : Der.bitsOfContent (u :: body) rest = .ok (body, 8 * body.length - u) := by
    simp only [Der.bitsOfContent, if_neg (Nat.not_lt.mpr (unusedBits_le hu))]
  obtain ⟨k, hk, hlen, _⟩ := pcDecode_of_primitiveContents Der.bitsOfContent
    (fun segs => ((segs.map (·.1)).flatten, (segs.map (·.2)).sum))
    [3] [0x23] f (mkTag 3 false tg) (mkTag 3 true tg) r (u :: body) rest _ hp hb
  refine ⟨k, ?_, by rw [hbs]; exact hlen⟩
  rw [BerCodec.dec_bitString, hbs, hclean, BerCodec.decBits, hk]; rfl

theorem stringChunks_primitive {u fuel : Nat} {prim cons bs r content rest : Bytes}
    (hs : stripPrefix prim bs = some r) (hp : primitiveContents r = some (content, rest)) :
    stringChunks u fuel prim cons bs = some ([content], rest) := by
  simp only [stringChunks, hs, hp]

theorem decV_octets_primitive (c : SizeC) (tg : Option Nat) (fuel : Nat) (bs r rest content : Bytes)
    (hs : stripPrefix (header (.octetString c) tg false) bs = some r)
    (hp : primitiveContents r = some (content, rest)) :
    decV (.octetString c) tg fuel bs = some (.bytes content, rest) := by
  rw [decV_octetString, stringChunks_primitive hs hp]; simp

theorem decV_chars_primitive (kind : StrKind) (c : SizeC) (tg : Option Nat) (fuel : Nat) (bs r rest content : Bytes)
    (cps : List Nat) (hs : stripPrefix (header (.charString kind c) tg false) bs = some r)
    (hp : primitiveContents r = some (content, rest)) (hc : charsOf kind content = some cps) :
    decV (.charString kind c) tg fuel bs = some (.str cps, rest) := by
  rw [decV_charString, stringChunks_primitive hs hp]
  simp only [List.flatten_cons, List.flatten_nil, List.append_nil, hc]

theorem decV_bits_primitive (c : SizeC) (tg : Option Nat) (fuel : Nat) (bs r rest : Bytes) (u : Nat) (body : Bytes)
    (hs : stripPrefix (header (.bitString c) tg false) bs = some r)
    (hp : primitiveContents r = some (u :: body, rest)) (hu : u ≤ 7 ∧ (body.isEmpty → u = 0)) :
    decV (.bitString c) tg fuel bs
      = some (.bits (cleanBits body (8 * body.length - u)) (8 * body.length - u), rest) := by
  rw [decV_bitString, stringChunks_primitive hs hp]
  simp only [bitsOfChunks, if_pos hu]

/-- The behaviour of ber.py since /repo commit 300e5ac on an indefinite-length SEQUENCE whose
type has extension additions, none of them present (`30 80 80 01 ff 00 00`): after the root loop has
consumed the end-of-contents octets the additions loop is skipped (`while not out_of_data:`),
OPTIONAL additions stay absent, DEFAULT ones are filled in; also nested inside a definite- or
indefinite-length SEQUENCE, and for the DER model (der.py reuses ber.py's SEQUENCE) -/
theorem fixed_indefinite_extensible_accepted :
    let t : Ty := .sequence (.cons "a" .mandatory .boolean .nil) true (.cons "b" .optional (.integer ⟨none, none, false⟩) .nil)
    let d : Ty := .sequence (.cons "a" .mandatory .boolean .nil) true (.cons "b" (.default (.int 7)) (.integer ⟨none, none, false⟩) .nil)
    let o : Ty := .sequence (.cons "x" .mandatory t (.cons "y" .mandatory .boolean .nil)) false .nil
    berDecodeRef t [0x30, 0x80, 0x80, 0x01, 0xff, 0x00, 0x00] = some (.record [("a", .bool true)]) ∧
    BerCodec.decodeWithLength t [0x30, 0x80, 0x80, 0x01, 0xff, 0x00, 0x00] = .ok (.record [("a", .bool true)], 7) ∧
    BerCodec.decodeWithLength d [0x30, 0x80, 0x80, 0x01, 0xff, 0x00, 0x00] = .ok (.record [("a", .bool true), ("b", .int 7)], 7) ∧
    -- nested, outer indefinite / outer definite
    BerCodec.decodeWithLength o [0x30, 0x80, 0xa0, 0x80, 0x80, 0x01, 0xff, 0x00, 0x00, 0x81, 0x01, 0x00, 0x00, 0x00]
      = .ok (.record [("x", .record [("a", .bool true)]), ("y", .bool false)], 14) ∧
    BerCodec.decodeWithLength o [0x30, 0x0a, 0xa0, 0x80, 0x80, 0x01, 0xff, 0x00, 0x00, 0x81, 0x01, 0x00]
      = .ok (.record [("x", .record [("a", .bool true)]), ("y", .bool false)], 12) ∧
    berDecodeRef o [0x30, 0x80, 0xa0, 0x80, 0x80, 0x01, 0xff, 0x00, 0x00, 0x81, 0x01, 0x00, 0x00, 0x00]
      = some (.record [("x", .record [("a", .bool true)]), ("y", .bool false)]) ∧
    -- definite length; indefinite length with the addition present
    BerCodec.decode t [0x30, 0x03, 0x80, 0x01, 0xff] = .ok (.record [("a", .bool true)]) ∧
    BerCodec.decode t [0x30, 0x80, 0x80, 0x01, 0xff, 0x81, 0x01, 0x05, 0x00, 0x00] = .ok (.record [("a", .bool true), ("b", .int 5)]) ∧
    -- DER model
    Der.decodeWithLength t [0x30, 0x80, 0x80, 0x01, 0xff, 0x00, 0x00] = .ok (.record [("a", .bool true)], 7) ∧
    Der.decodeWithLength o [0x30, 0x0a, 0xa0, 0x80, 0x80, 0x01, 0xff, 0x00, 0x00, 0x81, 0x01, 0x00]
      = .ok (.record [("x", .record [("a", .bool true)]), ("y", .bool false)], 12) := by
  refine ⟨?_, ?_, ?_, ?_, ?_, ?_, ?_, ?_, ?_, ?_⟩ <;> rfl

/-- deviation `dirtyUnusedBits`: BER lets the sender put anything in the unused bits (8.6.2.4); the
code returns them as part of the value -/
theorem witness_dirty_unused_bits :
    berDecodeRef (.bitString ⟨0, none, false⟩) [0x03, 0x02, 0x05, 0xff] = some (.bits [0xe0] 3) ∧
    BerCodec.decode (.bitString ⟨0, none, false⟩) [0x03, 0x02, 0x05, 0xff] = .ok (.bits [0xff] 3) := by
  refine ⟨?_, ?_⟩ <;> rfl

end Asn1.X690

#print axioms Asn1.X690.complete_leaf
#print axioms Asn1.X690.readLen_of_readLength
#print axioms Asn1.X690.complete_octets_primitive
#print axioms Asn1.X690.complete_chars_primitive
#print axioms Asn1.X690.complete_bits_primitive
#print axioms Asn1.X690.fixed_indefinite_extensible_accepted
#print axioms Asn1.X690.witness_dirty_unused_bits
