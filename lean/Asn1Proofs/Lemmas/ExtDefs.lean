import Asn1Model.Extension
/-
  C07: codec-independent definitions for the cross-version theorems.

  The forward direction (V1 decodes V2 bytes) and the backward direction (V2 decodes V1 bytes)
  are both instances of ONE statement about a decoder type `tD` and an encoder type `tE` that
  agree up to the tails of their extension additions:

      Compat tD tE → … → enc tE v = .ok bits → dec tD (bits ++ rest) = .ok (view fa tD tE v, rest)

  with `Compat`, `view`, `canonG`, `dOk` as defined below (`compat_all`: `Extends t1 t2 → Compat t1 t2 ∧ Compat t2 t1`).
-/
namespace Asn1.Ext
open Asn1

mutual
  /-- `Asn1.canon` (Asn1Model/Typing.lean; `fa = false`) and `X690.canonV` (`fa = true`) in one definition: `fa` says whether
  the DEFAULTs of absent extension additions are filled in (BER / DER do, PER / OER do not) -/
  def canonG (fa : Bool) : Ty → Val → Val
    | .bitString _, .bits data n => .bits (cleanBits data n) n
    | .sequence root _ adds, .record fs =>
      .record (canonMembersG fa root fs true ++ canonMembersG fa adds fs fa)
    | .sequenceOf e _, .list vs => .list (vs.map (canonG fa e))
    | .choice root _ adds, .choice n v =>
      match canonAltG fa root n v with
      | some w => .choice n w
      | none => match canonAltG fa adds n v with
        | some w => .choice n w
        | none => .choice n v
    | _, v => v
  def canonMembersG (fa : Bool) : Members → List (String × Val) → Bool → List (String × Val)
    | .nil, _, _ => []
    | .cons name p t rest, fs, fill =>
      match lookup name fs with
      | some v => (name, canonG fa t v) :: canonMembersG fa rest fs fill
      | none =>
        match p with
        | .default d => if fill then (name, d) :: canonMembersG fa rest fs fill
                        else canonMembersG fa rest fs fill
        | _ => canonMembersG fa rest fs fill
  def canonAltG (fa : Bool) : Alts → String → Val → Option Val
    | .nil, _, _ => none
    | .cons n t rest, name, v => if n == name then some (canonG fa t v) else canonAltG fa rest name v
end

mutual
  /-- `Ty.defaultsOk` (`fa = false`) and `X690.defaultsOkV` (`fa = true`) in one definition -/
  def defaultsOkG (fa : Bool) : Ty → Bool
    | .sequence root _ adds => membersDefaultsOkG fa root && membersDefaultsOkG fa adds
    | .sequenceOf e _ => defaultsOkG fa e
    | .choice root _ adds => altsDefaultsOkG fa root && altsDefaultsOkG fa adds
    | _ => true
  def membersDefaultsOkG (fa : Bool) : Members → Bool
    | .nil => true
    | .cons _ p t rest =>
      (match p with
       | .default d => hasType t d && (canonG fa t d == d)
       | _ => true) && defaultsOkG fa t && membersDefaultsOkG fa rest
  def altsDefaultsOkG (fa : Bool) : Alts → Bool
    | .nil => true
    | .cons _ t rest => defaultsOkG fa t && altsDefaultsOkG fa rest
end

mutual
  /-- same skeleton; the additions of a SEQUENCE / CHOICE / ENUMERATED of either side (decoder `tD`,
  encoder `tE`) may go on after the other side's end -/
  inductive Compat : Ty → Ty → Prop
    | boolean : Compat .boolean .boolean
    | null : Compat .null .null
    | integer (c : IntC) : Compat (.integer c) (.integer c)
    | octetString (c : SizeC) : Compat (.octetString c) (.octetString c)
    | bitString (c : SizeC) : Compat (.bitString c) (.bitString c)
    | charString (k : StrKind) (c : SizeC) : Compat (.charString k c) (.charString k c)
    | enumerated (root : List (String × Int)) : Compat (.enumerated root none) (.enumerated root none)
    /-- the encoder knows the items `new` the decoder does not know -/
    | enumeratedD (root adds new : List (String × Int)) :
        Compat (.enumerated root (some adds)) (.enumerated root (some (adds ++ new)))
    /-- the decoder knows the items `new` the encoder does not know -/
    | enumeratedE (root adds new : List (String × Int)) :
        Compat (.enumerated root (some (adds ++ new))) (.enumerated root (some adds))
    | sequence {rD rE aD aE : Members} (x : Bool) :
        CompatMembers rD rE → CompatAdds aD aE → Compat (.sequence rD x aD) (.sequence rE x aE)
    | sequenceOf {eD eE : Ty} (c : SizeC) : Compat eD eE → Compat (.sequenceOf eD c) (.sequenceOf eE c)
    | choice {rD rE aD aE : Alts} (x : Bool) :
        CompatAlts rD rE → CompatAltAdds aD aE → Compat (.choice rD x aD) (.choice rE x aE)
  inductive CompatMembers : Members → Members → Prop
    | nil : CompatMembers .nil .nil
    | cons {tD tE : Ty} {mD mE : Members} (name : String) (p : Presence) :
        Compat tD tE → CompatMembers mD mE → CompatMembers (.cons name p tD mD) (.cons name p tE mE)
  inductive CompatAdds : Members → Members → Prop
    /-- the decoder knows no further additions -/
    | nilD (ms : Members) : CompatAdds .nil ms
    /-- the encoder knows no further additions; those only the decoder knows are omissible
    (`Ext.allOmissible`, Asn1Model/Extension.lean: OPTIONAL or DEFAULT) -/
    | nilE (ms : Members) : allOmissible ms = true → CompatAdds ms .nil
    | cons {tD tE : Ty} {mD mE : Members} (name : String) (p : Presence) :
        Compat tD tE → CompatAdds mD mE → CompatAdds (.cons name p tD mD) (.cons name p tE mE)
  inductive CompatAlts : Alts → Alts → Prop
    | nil : CompatAlts .nil .nil
    | cons {tD tE : Ty} {mD mE : Alts} (name : String) :
        Compat tD tE → CompatAlts mD mE → CompatAlts (.cons name tD mD) (.cons name tE mE)
  inductive CompatAltAdds : Alts → Alts → Prop
    | nilD (as : Alts) : CompatAltAdds .nil as
    | nilE (as : Alts) : CompatAltAdds as .nil
    | cons {tD tE : Ty} {mD mE : Alts} (name : String) :
        Compat tD tE → CompatAltAdds mD mE → CompatAltAdds (.cons name tD mD) (.cons name tE mE)
end

mutual
  /-- what the decoder for `tD` returns for an encoding of `v` under `tE` (`fa` as in `canonG`).  As in
  `Ext.project` (Asn1Model/Extension.lean) an ENUMERATED item the decoder does not know is seen as `.absent`
  (Python `None`) and a CHOICE alternative it does not know as `.choice "" .absent` (Python `(None, None)`) -/
  def view (fa : Bool) : Ty → Ty → Val → Val
    | .bitString _, _, .bits data n => .bits (cleanBits data n) n
    | .enumerated root ext, _, .enum n =>
      if (namesOf root).contains n || (match ext with | some a => (namesOf a).contains n | none => false)
      then .enum n else .absent
    | .sequence rD _ aD, .sequence rE _ aE, .record fs =>
      .record (viewMembers fa rD rE fs true ++ viewMembers fa aD aE fs fa)
    | .sequenceOf eD _, .sequenceOf eE _, .list vs => .list (vs.map (view fa eD eE))
    | .choice rD _ aD, .choice rE _ aE, .choice n v =>
      match viewAlt fa rD rE n v with
      | some w => .choice n w
      | none =>
        match viewAlt fa aD aE n v with
        | some w => .choice n w
        | none => .choice "" .absent
    | _, _, v => v
  /-- `fill`: absent DEFAULT members get their default -/
  def viewMembers (fa : Bool) : Members → Members → List (String × Val) → Bool → List (String × Val)
    | .nil, _, _, _ => []
    | .cons n p tD mD, .cons _ _ tE mE, fs, fill =>
      match lookup n fs with
      | some v => (n, view fa tD tE v) :: viewMembers fa mD mE fs fill
      | none =>
        match p with
        | .default d => if fill then (n, d) :: viewMembers fa mD mE fs fill
                        else viewMembers fa mD mE fs fill
        | _ => viewMembers fa mD mE fs fill
    -- members only the decoder knows: never present in a value of the encoder's type
    | .cons n p _ mD, .nil, fs, fill =>
      match p with
      | .default d => if fill then (n, d) :: viewMembers fa mD .nil fs fill
                      else viewMembers fa mD .nil fs fill
      | _ => viewMembers fa mD .nil fs fill
  def viewAlt (fa : Bool) : Alts → Alts → String → Val → Option Val
    | .cons n tD mD, .cons _ tE mE, name, v =>
      if n == name then some (view fa tD tE v) else viewAlt fa mD mE name v
    | _, _, _, _ => none
end

mutual
  /-- every DEFAULT value of a member known to both sides is seen as itself -/
  def dOk (fa : Bool) : Ty → Ty → Prop
    | .sequence rD _ aD, .sequence rE _ aE => dOkMembers fa rD rE ∧ dOkMembers fa aD aE
    | .sequenceOf eD _, .sequenceOf eE _ => dOk fa eD eE
    | .choice rD _ aD, .choice rE _ aE => dOkAlts fa rD rE ∧ dOkAlts fa aD aE
    | _, _ => True
  def dOkMembers (fa : Bool) : Members → Members → Prop
    | .cons _ p tD mD, .cons _ _ tE mE =>
      (match p with
       | .default d => view fa tD tE d = d
       | _ => True) ∧ dOk fa tD tE ∧ dOkMembers fa mD mE
    | _, _ => True
  def dOkAlts (fa : Bool) : Alts → Alts → Prop
    | .cons _ tD mD, .cons _ tE mE => dOk fa tD tE ∧ dOkAlts fa mD mE
    | _, _ => True
end

end Asn1.Ext
