import Asn1Proofs.Lemmas.DerLeaf
/-
  SEQUENCE OF of the DER / BER models: the der.py element loop on the concatenated element encodings
  (`derElems_mapM`, for any element encoder, decoder and value map), totality of the encoder.
-/
namespace Asn1.Der
open Asn1.Uper (mapM_nil' mapM_cons')

theorem derElems_mapM {α : Type} (f : α → EncM Bytes) (g : α → Val) (p : Bytes → DecM (Option Res)) (N : Nat)
    (vs : List α) (items : List Bytes) (rest : Bytes)
    (hne : ∀ v ∈ vs, ∀ b, f v = .ok b → b ≠ [])
    (hp : ∀ v ∈ vs, ∀ b r, f v = .ok b → b.length ≤ N → p (b ++ r) = .ok (some (g v, b.length, r)))
    (h : vs.mapM f = .ok items) (hN : items.flatten.length ≤ N)
    (lf : Nat) (hlf : items.flatten.length < lf) :
    derElems p lf items.flatten.length (items.flatten ++ rest)
      = .ok (vs.map g, items.flatten.length, rest) := by
  induction vs generalizing items lf with
  | nil =>
    rw [mapM_nil'] at h; cases h
    cases lf with
    | zero => simp at hlf
    | succ lf => simp [derElems]
  | cons v vs ih =>
    rw [mapM_cons'] at h
    split at h
    · cases h
    · rename_i b hb
      split at h
      · cases h
      · rename_i bs hbs
        cases h
        have hbne := hne v (by simp) b hb
        have hbl : 0 < b.length := List.length_pos_iff.mpr hbne
        simp only [List.flatten_cons, List.length_append] at hN hlf ⊢
        cases lf with
        | zero => omega
        | succ lf =>
          rw [derElems, if_neg (by omega), List.append_assoc, hp v (by simp) b _ hb (by omega)]
          simp only [Nat.add_sub_cancel_left]
          rw [ih bs (fun x hx => hne x (by simp [hx])) (fun x hx => hp x (by simp [hx])) hbs
            (by omega) lf (by omega)]
          simp only [List.map_cons]

/-- with a definite length the ber.py loop is the der.py loop -/
theorem items_some (p : Bytes → DecM (Option Res)) (fuel n : Nat) (bs : Bytes) :
    BerCodec.items p fuel (some n) bs = derElems p fuel n bs := by
  induction fuel generalizing n bs with
  | zero => rfl
  | succ f ih =>
    rw [BerCodec.items, derElems]
    by_cases h : n = 0
    · simp [h]
    · have hb : (n == 0) = false := by simpa using h
      simp only [hb, h, if_false, Option.map_some, ih]
      set_option smartUnfolding false in rfl

theorem et_sequenceOf (e : Ty) (c : SizeC) (ih : ET e) : ET (.sequenceOf e c) := by
  intro tg v hwf ht
  obtain ⟨vs, rfl, hvs, -⟩ := hasType_sequenceOf ht
  rw [enc]
  obtain ⟨items, hi⟩ := Uper.mapM_ok_of_forall (enc e none) vs (fun x hx => ih none x (wf_sequenceOf hwf) (hvs x hx))
  rw [hi]
  exact ⟨_, rfl⟩

end Asn1.Der

#print axioms Asn1.Der.et_sequenceOf
