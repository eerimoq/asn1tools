import Asn1Proofs.Lemmas.PrepCompOf
import Asn1Proofs.Lemmas.PrepDefault
/-
  Reference resolution only ever returns the descriptor it started from or a type assignment of the
  dictionary: a predicate on `Core` that holds of every descriptor of the dictionary holds of what
  `resolve` returns (`resolve_all`).
-/
namespace Asn1.SpecDict

section
variable {Pc : Core → Prop} {s : Spec}

theorem lookupCore_all (h : SpecAll (fun a => Pc a.core) s) {f : Nat} {name mod : String} {c : Core}
    {mod' : String} (hl : lookupCore (skel s) f name mod = some (c, mod')) : Pc c := by
  rw [lookupCore_skel] at hl
  obtain ⟨p, hp, he⟩ := Option.map_eq_some_iff.1 hl
  cases he
  exact (lookupType_all h (td := p.1) (mod' := p.2) hp).head

theorem resolveCore_all (h : SpecAll (fun a => Pc a.core) s) (lf f : Nat) (c : Core) (mod : String)
    (hc : Pc c) : Pc (resolveCore (skel s) lf f c mod) := by
  induction f generalizing c mod with
  | zero => exact hc
  | succ f ih =>
    simp only [resolveCore]
    split
    · exact hc
    · split
      · exact hc
      · rename_i c' mod' heq
        exact ih c' mod' (lookupCore_all h heq)

theorem resolve_all (h : SpecAll (fun a => Pc a.core) s) (c : Core) (mod : String) (hc : Pc c) :
    Pc (resolve (skel s) c mod) :=
  resolveCore_all h _ _ c mod hc

end

end Asn1.SpecDict
