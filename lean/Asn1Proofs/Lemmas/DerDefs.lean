import Asn1Proofs.Lemmas.Typed
import Asn1Proofs.Lemmas.DerPrim
/-
  Statement shapes for the BER / DER round-trip induction, and the form of an encoding (`enc_form`).

  The SEQUENCE and CHOICE parts of the BER decoder (ber.py) and of the DER decoder (der.py imports
  them from ber.py) are the same code; the two models differ in the leaf decoders they call.
  `gPass` / `gSeq` / `gAlt` / `gBare` / `gChoice` are that common part with the recursive call as a
  parameter, so that the SEQUENCE / CHOICE round trip is proved once.
-/
namespace Asn1.Der
open Asn1.X690 (canonV defaultsOkV)

/-- the value the BER and DER decoders return for an encoding of `v`: `X690.canonV`
(Asn1Model/X690Value.lean), which is `Typing.canon` except that an absent DEFAULT component is
replaced by its default value in the extension additions as well (`Typing.canon` does so in the root
only, as the PER / OER decoders do).  The property statements say `Der.canon'`, beside `Oer.canon`
and `Uper.canon`; the lemma modules say `X690.canonV`, the name the X.690 development shares. -/
abbrev canon' : Ty → Val → Val := X690.canonV

/-- type of `Der.dec` / `BerCodec.dec` -/
abbrev Decoder := Ty → Option Nat → Nat → Bytes → DecM (Option Res)

/-- one `for member in remaining_members` pass of `decode_members` (ber.py), the recursive call being
`D`: `i` is the tag number of the first member of the list; `slots` runs parallel to the members,
`some v` = decoded in an earlier pass (left alone), `none` = still to do.  A member is tried on the
data unless the data has ended (`MSt.ood`, `out_of_data`); a tag mismatch (`.ok none`) leaves its slot
`none`, a success fills it, moves the cursor, sets `MSt.succ` (`decode_success`) and tests for the end. -/
def gPass (D : Decoder) : Members → Nat → (fuel : Nat) → List (Option Val) → MSt → DecM (List (Option Val) × MSt)
  | .nil, _, _, _, st => .ok ([], st)
  | .cons _ _ t rest, i, fuel, slots, st =>
    match slots.headD none with
    | some v =>
      match gPass D rest (i + 1) fuel slots.tail st with
      | .error e => .error e
      | .ok (r, st') => .ok (some v :: r, st')
    | none =>
      if st.ood then
        match gPass D rest (i + 1) fuel slots.tail st with
        | .error e => .error e
        | .ok (r, st') => .ok (none :: r, st')
      else
        match D t (some i) fuel st.cur.bs with
        | .error e => .error e
        | .ok none =>
          match gPass D rest (i + 1) fuel slots.tail st with
          | .error e => .error e
          | .ok (r, st') => .ok (none :: r, st')
        | .ok (some (v, k, r)) =>
          match isEnd (st.cur.advance k r) with
          | .error e => .error e
          | .ok (ood, c) =>
            match gPass D rest (i + 1) fuel slots.tail ⟨c, ood, true⟩ with
            | .error e => .error e
            | .ok (r, st') => .ok (some v :: r, st')

/-- `Sequence.decode` of ber.py: identifier and length, the passes over the root members (`retry`: at
most one pass per member and one more), `fill` for what stayed undecoded (DEFAULT, OPTIONAL, or an
error), then the same for the additions -- numbered after the root, missing ones ignored -- unless the
data has ended; `finishMembers` checks that nothing is left (or eats the end-of-contents octets). -/
def gSeq (D : Decoder) (root adds : Members) (tg : Option Nat) (fuel : Nat) (bs : Bytes) : DecM (Option Res) :=
  match matchTag (mkTag 16 true tg) bs with
  | .error e => .error e
  | .ok none => .ok none
  | .ok (some r0) =>
    match readLen false r0 with
    | .error e => .error e
    | .ok (len, h, r1) =>
      match retry (gPass D root 0 fuel) (root.length + 1) (List.replicate root.length none)
              ⟨r1, (mkTag 16 true tg).length + h, len⟩ with
      | .error e => .error e
      | .ok (slots, c1, ood1) =>
        match fill root slots false with
        | .error e => .error e
        | .ok fs =>
          if adds.length = 0 then finishMembers fs c1 ood1
          else
            match (if ood1 then .ok (List.replicate adds.length none, c1, true)
                   else retry (gPass D adds root.length fuel) (adds.length + 1)
                     (List.replicate adds.length none) c1) with
            | .error e => .error e
            | .ok (slots2, c2, ood2) =>
              match fill adds slots2 true with
              | .error e => .error e
              | .ok fs2 => finishMembers (fs ++ fs2) c2 ood2

/-- `test t i tag`: is `tag` a key of `tag_to_member` leading to alternative `i` of type `t` -/
def gAlt (D : Decoder) (test : Ty → Nat → Bytes → Bool) :
    Alts → Nat → Bytes → (fuel : Nat) → Bytes → Option (DecM (Option Res))
  | .nil, _, _, _, _ => none
  | .cons n t rest, i, tag, fuel, bs =>
    if test t i tag then
      some (match D t (some i) fuel bs with
        | .error e => .error e
        | .ok none => .error .unmodelled
        | .ok (some (v, k, r)) => .ok (some (.choice n v, k, r)))
    else gAlt D test rest (i + 1) tag fuel bs

/-- `Choice.decode` without an EXPLICIT wrapper: the identifier octets select the alternative, root
first, additions next (numbered after the root); an identifier that selects none is skipped as a whole
TLV and reported as `.choice "" .absent` if the CHOICE is extensible, and is a tag mismatch otherwise -/
def gBare (D : Decoder) (test : Ty → Nat → Bytes → Bool) (root : Alts) (extensible : Bool) (adds : Alts)
    (fuel : Nat) (b : Bytes) : DecM (Option Res) :=
  match readTag b with
  | .error e => .error e
  | .ok (tag, _) =>
    match gAlt D test root 0 tag fuel b with
    | some res => res
    | none =>
      match gAlt D test adds root.length tag fuel b with
      | some res => res
      | none =>
        if extensible then
          match skipTLV b with
          | .error e => .error e
          | .ok (k, r) => .ok (some (.choice "" .absent, k, r))
        else .ok none

/-- `Choice.decode`: bare in a context without tag; under a tag `[i]` (member or alternative number) the
CHOICE sits in an EXPLICIT constructed wrapper, of definite or indefinite length -/
def gChoice (D : Decoder) (test : Ty → Nat → Bytes → Bool) (root : Alts) (extensible : Bool) (adds : Alts)
    (tg : Option Nat) (fuel : Nat) (bs : Bytes) : DecM (Option Res) :=
  match tg with
  | none => gBare D test root extensible adds fuel bs
  | some _ =>
    match matchTag (mkTag 0 true tg) bs with
    | .error e => .error e
    | .ok none => .ok none
    | .ok (some r0) =>
      match readLen false r0 with
      | .error e => .error e
      | .ok (len, h, r1) =>
        match gBare D test root extensible adds fuel r1 with
        | .error e => .error e
        | .ok none => .error .decodeError
        | .ok (some (v, k, r2)) =>
          match len with
          | some _ => .ok (some (v, (mkTag 0 true tg).length + h + k, r2))
          | none =>
            match eoc r2 with
            | .error e => .error e
            | .ok true => .ok (some (v, (mkTag 0 true tg).length + h + k + 2, r2.drop 2))
            | .ok false => .error .decodeError

/-- what a decoder has to satisfy to be plugged into the shared part -/
structure IsCodec (D : Decoder) (test : Ty → Nat → Bytes → Bool) : Prop where
  seq : ∀ root e adds tg fuel bs, D (.sequence root e adds) tg fuel bs = gSeq D root adds tg fuel bs
  choice : ∀ root e adds tg fuel bs,
    D (.choice root e adds) tg fuel bs = gChoice D test root e adds tg fuel bs
  /-- facing the identifier octets of a later member: `TAG_MISMATCH`, no error -/
  mism : ∀ (t : Ty) (i j u : Nat) (c : Bool) (r : Bytes) (fuel : Nat), i < j → 0 < fuel →
    D t (some i) fuel (mkTag u c (some j) ++ r) = .ok none
  /-- `test` accepts the identifier octets the encoder writes, and only tags with that number -/
  test_self : ∀ (t : Ty) (i : Nat), test t i (tagOf t (some i)) = true
  test_num : ∀ (t : Ty) (i j u : Nat) (c : Bool), test t i (mkTag u c (some j)) = true → i = j

/-- round trip of type `t` in any tagging context, for decoder `D`.  The side condition `Oer.oerWf`
(Asn1Model/OerTyping: enumeration values distinct over root AND additions) is named after OER but is
what every decoder needs that finds an ENUMERATED item by its value; `Ty.wf` asks it of the root only. -/
def RT (D : Decoder) (t : Ty) : Prop :=
  ∀ (tg : Option Nat) (v : Val) (bytes rest : Bytes) (fuel : Nat),
    t.wf = true → Oer.oerWf t = true → defaultsOkV t = true → hasType t v = true →
    enc t tg v = .ok bytes → bytes.length < fuel →
    D t tg fuel (bytes ++ rest) = .ok (some (canonV t v, bytes.length, rest))

theorem RT.congr {D D' : Decoder} {t : Ty} (h : RT D t)
    (e : ∀ tg fuel bs, D' t tg fuel bs = D t tg fuel bs) : RT D' t := by
  intro tg v bytes rest fuel hwf hwf2 hd ht he hf
  rw [e]
  exact h tg v bytes rest fuel hwf hwf2 hd ht he hf

/-- the encoder is total on `t`: every well-typed value of a well-formed type has an encoding, in any
tagging context -/
def ET (t : Ty) : Prop :=
  ∀ (tg : Option Nat) (v : Val), t.wf = true → hasType t v = true → ∃ bytes, enc t tg v = .ok bytes

/-- `bs` starts with the identifier octets of a context tag `[j]` and goes on after them -/
def Starts (j : Nat) (bs : Bytes) : Prop :=
  ∃ (u : Nat) (c : Bool) (r : Bytes), bs = mkTag u c (some j) ++ r ∧ r ≠ []

/-- `bs` starts with a context tag of number at least `lo` (and goes on after it): none of the members
numbered below `lo` matches it -- what makes a pass over them idle.  `X690.TagGe` (DerSeq.lean) is
the same without "goes on after it". -/
def StartsGe (lo : Nat) (bs : Bytes) : Prop := ∃ j, lo ≤ j ∧ Starts j bs

theorem Starts.append {j : Nat} {bs : Bytes} (h : Starts j bs) (x : Bytes) : Starts j (bs ++ x) := by
  obtain ⟨u, c, r, rfl, hr⟩ := h
  exact ⟨u, c, r ++ x, by simp, by simp [hr]⟩

theorem StartsGe.append {j : Nat} {bs : Bytes} (h : StartsGe j bs) (x : Bytes) : StartsGe j (bs ++ x) := by
  obtain ⟨k, hk, hs⟩ := h
  exact ⟨k, hk, hs.append x⟩

theorem StartsGe.mono {i j : Nat} {bs : Bytes} (h : StartsGe j bs) (hij : i ≤ j) : StartsGe i bs := by
  obtain ⟨k, hk, hs⟩ := h
  exact ⟨k, by omega, hs⟩

theorem Starts.ne_nil {j : Nat} {bs : Bytes} (h : Starts j bs) : bs ≠ [] := by
  obtain ⟨u, c, r, rfl, hr⟩ := h
  simp [hr]

theorem tlv_starts (tag content : Bytes) : ∃ r, tlv tag content = tag ++ r ∧ r ≠ [] :=
  ⟨Ber.encLength content.length ++ content, by simp [tlv], by simp [encLength_ne_nil]⟩

theorem encAlt_find (as : Alts) (i : Nat) (name : String) (v : Val) :
    encAlt as i name v = (as.find name).map (fun x => enc x.2 (some (i + x.1)) v) :=
  Alts.search_idx_map name (f := fun i as => encAlt as i name v) (fun _ _ _ _ => rfl) (fun _ => rfl) i as

theorem encAlt_some {as : Alts} {i : Nat} {name : String} {v : Val} {r : EncM Bytes}
    (h : encAlt as i name v = some r) : ∃ t j, r = enc t (some j) v := by
  rw [encAlt_find, Option.map_eq_some_iff] at h
  obtain ⟨x, _, rfl⟩ := h
  exact ⟨_, _, rfl⟩

/-- every encoding is a TLV carrying the tag of its type (a UNIVERSAL tag when there is no context);
except that a bare CHOICE is encoded as its alternative, a type in a context `[j]` -/
theorem enc_form {t : Ty} {tg : Option Nat} {v : Val} {b : Bytes} (h : enc t tg v = .ok b) :
    ((∃ content, b = tlv (tagOf t tg) content) ∧ (tg = none → univNumber t ≠ 0)) ∨
    (tg = none ∧ (∃ r e a, t = .choice r e a) ∧ ∃ t' j v', enc t' (some j) v' = .ok b) := by
  unfold enc at h
  -- cases in the order of `Der.enc`'s match; the last is its catch-all
  split at h
  · cases h; exact .inl ⟨⟨_, rfl⟩, fun _ => Nat.succ_ne_zero _⟩  -- boolean
  · cases h; exact .inl ⟨⟨[], by simp [tlv, tagOf, univNumber, isConstructed, Ber.encLength]⟩, fun _ => Nat.succ_ne_zero _⟩
  · cases h; exact .inl ⟨⟨_, rfl⟩, fun _ => Nat.succ_ne_zero _⟩  -- integer
  · split at h  -- enumerated
    · cases h
    · cases h; exact .inl ⟨⟨_, rfl⟩, fun _ => Nat.succ_ne_zero _⟩
  · cases h; exact .inl ⟨⟨_, rfl⟩, fun _ => Nat.succ_ne_zero _⟩  -- octetString
  · cases h; exact .inl ⟨⟨_, rfl⟩, fun _ => Nat.succ_ne_zero _⟩  -- bitString
  · split at h
    · cases h
    · cases h; exact .inl ⟨⟨_, rfl⟩, fun _ => by cases ‹StrKind› <;> exact Nat.succ_ne_zero _⟩
  · split at h  -- sequence
    · cases h
    · split at h
      · cases h
      · cases h; exact .inl ⟨⟨_, rfl⟩, fun _ => Nat.succ_ne_zero _⟩
  · split at h  -- sequenceOf
    · cases h
    · cases h; exact .inl ⟨⟨_, rfl⟩, fun _ => Nat.succ_ne_zero _⟩
  · cases tg with  -- choice
    | some i =>
      simp only [] at h
      split at h
      · cases h
      · cases h; exact .inl ⟨⟨_, rfl⟩, fun e => nomatch e⟩
    | none =>
      refine .inr ⟨rfl, ⟨_, _, _, rfl⟩, ?_⟩
      simp only [] at h
      split at h
      · rename_i r hr
        obtain ⟨t', j, rfl⟩ := encAlt_some hr
        exact ⟨t', j, _, h⟩
      · split at h
        · rename_i r hr
          obtain ⟨t', j, rfl⟩ := encAlt_some hr
          exact ⟨t', j, _, h⟩
        · cases h
  · cases h

theorem RT.congr_tlv {D D' : Decoder} {t : Ty} (h : RT D t) (hu : univNumber t ≠ 0)
    (e : ∀ tg fuel content rest, 0 < fuel →
      D' t tg fuel (tlv (tagOf t tg) content ++ rest) = D t tg fuel (tlv (tagOf t tg) content ++ rest)) :
    RT D' t := by
  intro tg v bytes rest fuel hwf hwf2 hd ht he hf
  rcases enc_form he with ⟨⟨content, rfl⟩, _⟩ | ⟨_, ⟨_, _, _, rfl⟩, _⟩
  · rw [e tg fuel content rest (by omega)]
    exact h tg v _ rest fuel hwf hwf2 hd ht he hf
  · exact absurd rfl hu

/-- in a context `[j]` the encoding begins with the identifier octets `tagOf t (some j)` (`starts_of_enc`:
with SOME identifier octets `[j]`, which is what the member loop needs) -/
theorem enc_tagOf {t : Ty} {j : Nat} {v : Val} {b : Bytes} (h : enc t (some j) v = .ok b) :
    ∃ r, b = tagOf t (some j) ++ r ∧ r ≠ [] := by
  rcases enc_form h with ⟨⟨content, rfl⟩, _⟩ | ⟨e, _⟩
  · exact tlv_starts _ _
  · cases e

theorem enc_ne_nil {t : Ty} {tg : Option Nat} {v : Val} {b : Bytes} (h : enc t tg v = .ok b) : b ≠ [] := by
  rcases enc_form h with ⟨⟨content, rfl⟩, _⟩ | ⟨_, _, t', j, v', h'⟩
  · simp [tlv, encLength_ne_nil]
  · obtain ⟨r, rfl, hr⟩ := enc_tagOf h'
    simp [hr]

theorem starts_of_enc {t : Ty} {j : Nat} {v : Val} {b : Bytes} (h : enc t (some j) v = .ok b) : Starts j b := by
  obtain ⟨r, e, hr⟩ := enc_tagOf h
  exact ⟨_, _, r, e, hr⟩

end Asn1.Der

#print axioms Asn1.Der.enc_ne_nil
