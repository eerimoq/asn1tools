import Asn1Proofs.Lemmas.Typed
import Asn1Proofs.Lemmas.OerTag
/-
  The statements proved by induction over `Ty` (`RT`, `ET`), the side condition `noSwallow`, and what the
  OER functions that search the alternatives do at a named one.
-/
namespace Asn1.Oer

mutual
  /-- Finding predicate (negated): no `EncodeError` raised while encoding a present SEQUENCE
  extension addition is swallowed by `encode_additions` (`except EncodeError: pass`).  For
  well-typed values the only such error is a length determinant that needs more than 127 length
  octets (a length `≥ 2^1016`). -/
  def noSwallow : Ty → Val → Bool
    | .sequence root _ adds, .record fs =>
      noSwallowMembers root fs false && noSwallowMembers adds fs true
    | .sequenceOf e _, .list vs => vs.all (noSwallow e)
    | .choice root _ adds, .choice n v => noSwallowAlt root n v && noSwallowAlt adds n v
    | _, _ => true
  def noSwallowMembers : Members → List (String × Val) → Bool → Bool
    | .nil, _, _ => true
    | .cons name _ t rest, fs, isAddition =>
      (match lookup name fs with
       | some v => noSwallow t v &&
         (!isAddition || (match enc t v with | .ok _ => true | .error _ => false))
       | none => true) && noSwallowMembers rest fs isAddition
  def noSwallowAlt : Alts → String → Val → Bool
    | .nil, _, _ => true
    | .cons n t rest, name, v => if n == name then noSwallow t v else noSwallowAlt rest name v
end

/-- round trip at type `t`: the decoder, given an encoding of a well-typed `v` followed by anything,
returns the canonical form of `v` and exactly what followed -/
def RT (t : Ty) : Prop :=
  ∀ (v : Val) (bytes rest : Bytes),
    t.wf = true → oerWf t = true → t.defaultsOk = true → hasType t v = true →
    utf8Ok t v = true → noSwallow t v = true → enc t v = .ok bytes →
    dec t (bytes ++ rest) = .ok (canon t v, rest)

/-- at type `t` the encoder answers every well-typed value with octets or with `EncodeError` -/
def ET (t : Ty) : Prop := ∀ (v : Val), t.wf = true → hasType t v = true → Total (enc t v)

theorem utf8OkAlt_find (as : Alts) (name : String) (v : Val) :
    utf8OkAlt as name v = (match as.find name with | some x => utf8Ok x.2 v | none => true) :=
  Alts.search_eq name (f := fun as => utf8OkAlt as name v) (fun _ _ _ => rfl) as

theorem noSwallowAlt_find (as : Alts) (name : String) (v : Val) :
    noSwallowAlt as name v = (match as.find name with | some x => noSwallow x.2 v | none => true) :=
  Alts.search_eq name (f := fun as => noSwallowAlt as name v) (fun _ _ _ => rfl) as

theorem _root_.Asn1.Alts.all_oerWf (as : Alts) (h : oerWfAlts as = true) : as.All (fun t => oerWf t = true) :=
  Alts.all_of_and (fun _ _ _ => rfl) as h

theorem encAlt_find (as : Alts) (name : String) (v : Val) (i : Nat) :
    encAlt as name v i = (as.find name).map (fun x => (i + x.1, enc x.2 v)) :=
  Alts.search_idx_map name (f := fun i as => encAlt as name v i) (fun _ _ _ _ => rfl) (fun _ => rfl) i as

end Asn1.Oer
