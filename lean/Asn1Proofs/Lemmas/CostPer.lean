import Asn1Proofs.Lemmas.PerRead
import Asn1Proofs.Lemmas.CostReader
import Asn1Proofs.Lemmas.PrefixPer
/-
  C08 for the ALIGNED PER model (`Asn1Model/Per.lean`): the constants of the allocation bound and what a
  success of each position tracking reader means for the measure, the number of REMAINING bits
  `St.bs.length`.  It never grows: every reader only moves forward ("every read advances the offset or
  raises"), `align_always` only drops bits, and an extension addition of a CHOICE that reads past the end
  of its open type is a `DecodeError` (/repo commit ace6523).
-/
namespace Asn1.CostP
open Asn1.Per
open Asn1.Uper (DecM sizeBits)
open Asn1.Cost (sumSize presenceNodes NI LenDet Pot)

/-- the measure.  The step lemmas below are stated in `s.bs.length`; `omega` does not unfold `left`, so
where they meet a goal about `left` (`NI left …`, `Pot left …`) a `show` restates it in `s.bs.length`. -/
abbrev left (s : St) : Nat := s.bs.length

/-- as `Cost.seqOfMax`; `+ 65536`: the aligned variant reads a length field of a range of 256 .. 65536
values as one or two whole octets, whatever the range: up to `lo + 65535` -/
def seqOfMaxP (c : SizeC) : Nat :=
  match sizeBits c with
  | none => 8192
  | some w => max 8192 (c.lo + 2 ^ w + 65536)

mutual
  /-- as `Cost.KU`, with `seqOfMaxP` -/
  def KP : Ty → Nat
    | .sequence root _ adds => 1 + KPm root + KPm adds
    | .sequenceOf e c => 1 + KP e * (1 + seqOfMaxP c)
    | .choice root _ adds => 2 + KPa root + KPa adds
    | _ => 1
  def KPm : Members → Nat
    | .nil => 0
    | .cons _ p t rest => 1 + presenceNodes p + KP t + KPm rest
  def KPa : Alts → Nat
    | .nil => 0
    | .cons _ t rest => KP t + KPa rest
end

theorem readBit_ok {s r : St} {b : Bool} (h : readBit s = .ok (b, r)) :
    s.bs.length = r.bs.length + 1 := by
  obtain ⟨pos, bs⟩ := s
  cases bs with
  | nil => cases h
  | cons x t => simp only [readBit] at h; cases h; simp

theorem readBits_ok {n : Nat} {s r : St} {a : Bits} (h : readBits n s = .ok (a, r)) :
    s.bs.length = r.bs.length + n ∧ a.length = n := by
  rw [readBits_eq] at h
  split at h
  · cases h; simp only [List.length_drop, List.length_take]; omega
  · cases h

theorem readNat_ok {n : Nat} {s r : St} {a : Nat} (h : readNat n s = .ok (a, r)) :
    s.bs.length = r.bs.length + n ∧ a < 2 ^ n := by
  rw [readNat_eq] at h
  split at h
  · cases h
    refine ⟨by simp only [List.length_drop]; omega, ?_⟩
    have := bitsToNat_lt (s.bs.take n)
    rwa [List.length_take, Nat.min_eq_left (by assumption)] at this
  · cases h

theorem align_le (s : St) : (align s).bs.length ≤ s.bs.length := by
  unfold align; simp only [List.length_drop]; omega

theorem readLenDet_ok {s r : St} {n : Nat} (h : readLenDet s = .ok (n, r)) :
    r.bs.length + 8 ≤ s.bs.length ∧ n ≤ 8192 * (s.bs.length - r.bs.length) := by
  obtain ⟨⟨v, r1⟩, h1, h⟩ := bind_ok h
  obtain ⟨hl1, hv⟩ := readNat_ok h1
  rcases ite_cases h with ⟨_, h⟩ | ⟨_, h⟩
  · cases h; omega
  rcases ite_cases h with ⟨_, h⟩ | ⟨_, h⟩
  · obtain ⟨⟨w, r2⟩, h2, h⟩ := bind_ok h
    obtain ⟨hl2, hw⟩ := readNat_ok h2
    cases h; omega
  rcases ite_cases h with ⟨_, h⟩ | ⟨_, h⟩
  · cases h; omega
  rcases ite_cases h with ⟨_, h⟩ | ⟨_, h⟩
  · cases h; omega
  rcases ite_cases h with ⟨_, h⟩ | ⟨_, h⟩
  · cases h; omega
  rcases ite_cases h with ⟨_, h⟩ | ⟨_, h⟩
  · cases h; omega
  · cases h

/-- `read_constrained_whole_number`; `+ 65536`: the number read has `nbits` bits, or is one or two whole octets -/
theorem decCwn_ok {range nbits : Nat} {s r : St} {v : Nat} (h : decCwn range nbits s = .ok (v, r)) :
    r.bs.length ≤ s.bs.length ∧ v < 2 ^ nbits + 65536 := by
  have hp := Nat.two_pow_pos nbits
  have ha := align_le s
  unfold decCwn at h
  split at h
  · obtain ⟨h1, h2⟩ := readNat_ok h; omega
  split at h
  · obtain ⟨h1, h2⟩ := readNat_ok h; omega
  split at h
  · obtain ⟨h1, h2⟩ := readNat_ok h; omega
  · obtain ⟨h1, h2⟩ := readNat_ok h; omega

theorem readSize_ok {c : SizeC} {w : Nat} {av : Nat → Bool} {af : Bool} {s r : St} {n : Nat}
    (h : readSize c w av af s = .ok (n, r)) :
    r.bs.length ≤ s.bs.length ∧ n < c.lo + 2 ^ w + 65536 := by
  unfold readSize at h
  split at h
  · obtain ⟨⟨d, r1⟩, h1, h⟩ := bind_ok h
    dsimp only at h
    obtain ⟨hl, hd⟩ := decCwn_ok h1
    have := align_le r1
    cases h
    refine ⟨?_, by omega⟩
    split <;> omega
  · cases h
    have := align_le s
    have := Nat.two_pow_pos w
    refine ⟨?_, by omega⟩
    split <;> omega

theorem skipUnknown_ok (bitmap : Bits) {s r : St} (h : skipUnknown bitmap s = .ok r) :
    r.bs.length ≤ s.bs.length := by
  have := pf_skipUnknown (x := []) (T := none) (B := True) bitmap s rfl
  simp only [List.append_nil] at this
  exact this.len_le (fun h => h rfl) (fun s => by simp only [List.append_nil]) h

theorem optBit_ok {c : Bool} {s r : St} {b : Bool}
    (h : (if c = true then readBit s else .ok (false, s)) = .ok (b, r)) : r.bs.length ≤ s.bs.length :=
  (pf_optBit c).ni h

theorem lenDet_readLenDet : LenDet left readLenDet := fun _ _ _ => readLenDet_ok

theorem ni_readNat (n : Nat) : NI left (readNat n) := fun s _ r h => by
  have := (readNat_ok h).1; show r.bs.length ≤ s.bs.length; omega
theorem ni_readBit : NI left readBit := fun s _ r h => by
  have := readBit_ok h; show r.bs.length ≤ s.bs.length; omega
theorem ni_decUnconstrained : NI left (fun s => decUnconstrained (align s)) := fun s _ r h => by
  have := pf_decUnconstrained.ni h; have := align_le s; show r.bs.length ≤ s.bs.length; omega

theorem ni_alignedLenDet (s : St) (len : Nat) (r : St) (h : readLenDet (align s) = .ok (len, r)) :
    left r ≤ left s := by
  have := (readLenDet_ok h).1; have := align_le s
  show r.bs.length ≤ s.bs.length; omega

theorem seqOfMaxP_ge (c : SizeC) : 8192 ≤ seqOfMaxP c := by
  unfold seqOfMaxP; split
  · exact Nat.le_refl _
  · exact Nat.le_max_left _ _

theorem seqOfMaxP_sized {c : SizeC} {w : Nat} (h : sizeBits c = some w) :
    c.lo + 2 ^ w + 65536 ≤ seqOfMaxP c := by
  unfold seqOfMaxP; rw [h]; exact Nat.le_max_right _ _

theorem pot_readBits (n : Nat) {K : Nat} (hK : 1 ≤ K) (s : St) :
    Pot left (fun b : Bits => (packBits b).length) K 0 (left s) (readBits n s) :=
  .consumed hK fun a r h => by
    obtain ⟨h1, h2⟩ := readBits_ok h
    have := Cost.packBits_length_le a
    show r.bs.length ≤ s.bs.length ∧ (packBits a).length + r.bs.length ≤ s.bs.length + 0
    omega

theorem pot_decChunksBits (u : Nat) {K : Nat} (hK : 1 ≤ K) (f : Nat) (s : St) :
    Pot left (fun b : Bits => b.length) K 0 (left s) (decChunksBits u f (align s)) :=
  ((Cost.chunks_pot (rep := fun n => readBits (u * n)) (chunks := decChunksBits u) (fun _ => rfl) (fun _ _ => rfl)
    lenDet_readLenDet (Nat.zero_le K)
    (fun n s => .consumed hK fun a r h => by
      obtain ⟨h1, h2⟩ := readBits_ok h
      rw [Cost.sumSize_one]
      show r.bs.length ≤ s.bs.length ∧ a.length + r.bs.length ≤ s.bs.length + n * 0
      omega) f (align s)).mono (fun xs => Nat.le_of_eq (Cost.sumSize_one xs).symm) (Nat.le_refl _)).start_le (align_le s)

/-- `n * 0`: as in `Cost.pot_decRepeat` -/
theorem pot_decRepeat {α : Type} {p : St → DecM (α × St)}
    (hp : ∀ s a r, p s = .ok (a, r) → r.bs.length < s.bs.length) {K : Nat} (hK : 1 ≤ K) (n : Nat) (s : St) :
    Pot left (sumSize fun _ : α => 1) K (n * 0) (left s) (decRepeat p n s) :=
  Cost.repeat_pot (rep := decRepeat p) (fun _ => rfl) (fun _ _ => rfl)
    (fun s => .consumed hK fun a r h => by
      have := hp s a r h
      show r.bs.length ≤ s.bs.length ∧ 1 + r.bs.length ≤ s.bs.length + 0
      omega) n s

theorem pot_decChunks {α : Type} {p : St → DecM (α × St)}
    (hp : ∀ s a r, p s = .ok (a, r) → r.bs.length < s.bs.length) {K : Nat} (hK : 1 ≤ K) (f : Nat) (s : St) :
    Pot left (List.length : List α → Nat) K 0 (left s) (decChunks p f s) :=
  (Cost.chunks_pot (chunks := decChunks p) (fun _ => rfl) (fun _ _ => rfl) lenDet_readLenDet (Nat.zero_le K)
    (pot_decRepeat hp hK) f s).mono (fun xs => Nat.le_of_eq (Cost.sumSize_one xs).symm) (Nat.le_refl _)

theorem readers (av : Nat → Bool) (af : Bool) :
    Cost.Readers left readBit align readLenDet (fun c w => readSize c w av af) seqOfMaxP where
  bit_ni := ni_readBit
  al_le := align_le
  ld_ok := lenDet_readLenDet
  readSize_ok := fun c w s n r hsb h => by
    have := readSize_ok h
    have := seqOfMaxP_sized hsb
    show r.bs.length ≤ s.bs.length ∧ n ≤ seqOfMaxP c
    omega
  M_ge := seqOfMaxP_ge

end Asn1.CostP
