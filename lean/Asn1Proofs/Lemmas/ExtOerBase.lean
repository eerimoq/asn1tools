import Asn1Proofs.Lemmas.ExtView
import Asn1Proofs.Lemmas.ExtLemmas
import Asn1Proofs.Lemmas.OerSequence
/-
  C07, OER: the statement `XT tD tE` (decoder type against encoder type), a leaf type against itself
  (`xt_same`, from the round trip), and ENUMERATED with more additions on either side.
-/
namespace Asn1.Ext.OerX
open Asn1 Asn1.Oer Asn1.Ext

/-- C07, OER: cross-version round trip of the pair decoder type `tD` / encoder type `tE` -/
def XT (tD tE : Ty) : Prop :=
  ∀ (v : Val) (bytes rest : Bytes),
    tE.wf = true → oerWf tE = true → tE.defaultsOk = true → dOk false tD tE →
    hasType tE v = true → utf8Ok tE v = true → noSwallow tE v = true →
    enc tE v = .ok bytes →
    dec tD (bytes ++ rest) = .ok (view false tD tE v, rest)

theorem xt_same {t : Ty} (hrt : RT t) : XT t t := by
  intro v bytes rest hwf hwf2 hd hdk ht hu hns he
  rw [view_self false hwf ht, canonG_false]
  exact hrt v bytes rest hwf hwf2 hd ht hu hns he

theorem xt_enumeratedD (root adds new : List (String × Int)) :
    XT (.enumerated root (some adds)) (.enumerated root (some (adds ++ new))) := by
  intro v bytes rest hwf hwf2 hd hdk ht hu hns he
  obtain ⟨name, rfl, ht⟩ := hasType_enumerated ht
  obtain ⟨val, hname, hdec⟩ := dec_enc_enumerated (some adds) rest hwf2 he
  simp only [Option.getD_some, Option.isSome_some, if_true] at hname hdec
  simp only [Ty.wf, Bool.and_eq_true, decide_eq_true_eq] at hwf
  rw [hdec, view_enumD false _ hwf.1.2 hname]
  cases enumName val (root ++ adds) <;> rfl

theorem xt_enumeratedE (root adds new : List (String × Int)) :
    XT (.enumerated root (some (adds ++ new))) (.enumerated root (some adds)) := by
  intro v bytes rest hwf hwf2 hd hdk ht hu hns he
  obtain ⟨name, rfl, ht⟩ := hasType_enumerated ht
  obtain ⟨val, hname, hdec⟩ := dec_enc_enumerated (some (adds ++ new)) rest hwf2 he
  simp only [Option.getD_some] at hname hdec
  rw [hdec, enumName_more new hname, view_enum_known false _ (hasType_enum_more new ht)]

end Asn1.Ext.OerX
