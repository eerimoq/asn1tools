import Asn1Proofs.Lemmas.ExtUper
import Asn1Proofs.Lemmas.ExtLemmas
/-
  Round trip (`roundtrip_partial`) and totality of the encoder (`enc_total`) for the UPER model
  (C01, C16).  The round trip of a type is its cross-version round trip with itself
  (`Ext.UperX.xt_all` at `Compat.refl t`; `view t t` is `canon t`, `view_self`).

  The round trip has the hypothesis `t.nsOk = true` (UperDefs) beside those of the property: every
  ENUMERATED / CHOICE in `t` has at most `2^131064` additions.  Without it the statement is false
  (`roundtrip_original_false` in UperCounterexample): `Ty.wf` does not bound the number of additions,
  and `encNsnnwn` writes the octet count of an index without fragmentation.
-/
namespace Asn1.Uper

theorem rt_all (t : Ty) : RT t := by
  intro v bits rest fuel hwf hd hns ht hf he hfuel
  rw [← Ext.canonG_false, ← Ext.view_self false hwf ht]
  exact Ext.UperX.xt_all (.refl t) v bits rest fuel hwf hd hns
    (Ext.dOk_self false hwf (Ext.defaultsOkG_false t ▸ hd)) ht hf he hfuel

set_option linter.unusedVariables false in
theorem enc_total (t : Ty) (v : Val)
    (hwf : t.wf = true) (hd : t.defaultsOk = true) (ht : hasType t v = true) :
    ∃ bits, enc t v = .ok bits :=
  et_all t v hwf ht

theorem roundtrip_partial (t : Ty) (v : Val) (bits rest : Bits) (fuel : Nat)
    (hwf : t.wf = true) (hd : t.defaultsOk = true) (hns : t.nsOk = true) (ht : hasType t v = true)
    (hf : fragFree t v = true) (he : enc t v = .ok bits)
    (hfuel : bits.length + rest.length + 2 ≤ fuel) :
    dec t fuel (bits ++ rest) = .ok (canon t v, rest) :=
  rt_all t v bits rest fuel hwf hd hns ht hf he hfuel

end Asn1.Uper

#print axioms Asn1.Uper.enc_total
#print axioms Asn1.Uper.roundtrip_partial
