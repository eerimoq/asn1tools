import Asn1Proofs.Lemmas.X691UperPrim
import Asn1Proofs.Lemmas.X691Clauses
import Asn1Proofs.Lemmas.X691Pad
/-
  The UNALIGNED specification encoder against the code model `Uper.enc`: the types without
  components.
-/
namespace Asn1.X691
open Asn1.Uper (lenDet encChunked mapM_ok_id mapM_length)

/-- `Uper.enc` as a code model: it does not look at the position -/
abbrev uperCode : Ty → Nat → Val → EncM Bits := fun t _ v => Uper.enc t v

/-- C05 at `t` for the UNALIGNED variant and its code model `Uper.enc` (`PREF` is the aligned sibling) -/
def REF (t : Ty) : Prop := Ref false uperCode t

theorem ref_boolean : REF .boolean := by
  intro v pos bits _ he
  obtain ⟨b, rfl, rfl⟩ := enc_boolean_ok he
  rfl

theorem ref_null : REF .null := by
  intro v pos bits _ he
  obtain ⟨rfl, rfl⟩ := enc_null_ok he
  rfl

theorem ref_integer (c : IntC) : REF (.integer c) := by
  intro v pos bits hd he
  obtain ⟨i, rfl, h⟩ := enc_integer_ok he
  replace hd : devsInteger false c i = [] := hd
  show Uper.enc _ _ = _
  unfold Uper.enc
  obtain ⟨lo, hi, ext⟩ := c
  have hopen : lo = none ∨ hi = none →
      (if ext = true then (.error .foreign : EncM Bits) else .ok (Uper.encUnconstrained i)) = .ok bits := by
    intro hb
    obtain ⟨hx, hk, rfl⟩ := encInteger_open hb hd h
    cases hx
    rw [unconstrained_pad _ _ _ hk]
    rfl
  cases lo with
  | none => exact hopen (.inl rfl)
  | some lb =>
    cases hi with
    | none => exact hopen (.inr rfl)
    | some ub =>
      have hc := encInteger_closed hd h
      simp only
      by_cases hin : lb ≤ i ∧ i ≤ ub
      · rw [if_pos hin] at hc
        rw [hc.1, cwn_false, Nat.add_sub_cancel]
        cases ext <;> simp [hin]
      · rw [if_neg hin] at hc
        obtain ⟨rfl, hk, rfl⟩ := hc
        rw [unconstrained_pad _ _ _ hk]
        simp [hin]

theorem ref_enumerated (root : List (String × Int)) (ext : Option (List (String × Int))) :
    REF (.enumerated root ext) :=
  enumerated_ref false uperCode root ext (fun _ _ => rfl)

theorem extSized_leaf (c : SizeC) (af av : Bool) (items : List Bits) (pos : Nat) (bits : Bits)
    (h : extSizedM false leaf c af av pos items = .ok bits) :
    (c.ext = true ∧ Uper.inSize c items.length = false ∧ bits = true :: encChunked items) ∨
    (Uper.inSize c items.length = true ∧ bits = (if c.ext then [false] else []) ++ mSized c items) := by
  obtain ⟨items', h1, h2⟩ := extSizedM_false leaf (fun b => (Except.ok b : EncM Bits)) c af av items
    (fun _ _ _ _ hb => hb) pos bits h
  rw [mapM_ok_id] at h1
  cases h1
  exact h2

/-- the root arm of `Uper.enc` for a sized type (the `match Uper.sizeBits c` of its body) writes `mSized` -/
theorem mShape (c : SizeC) (items : List Bits) (n : Nat) (body pre : Bits)
    (hn : items.length = n) (hb : items.flatten = body) :
    (match Uper.sizeBits c with
      | none => (Except.ok (pre ++ encChunked items) : EncM Bits)
      | some w =>
        if some c.lo ≠ c.hi then .ok (pre ++ natToBits w (n - c.lo) ++ body)
        else .ok (pre ++ body)) = .ok (pre ++ mSized c items) := by
  unfold mSized
  subst hn hb
  cases Uper.sizeBits c with
  | none => rfl
  | some w =>
    simp only
    split <;> simp

/-- The left side is the body of `Uper.enc` at OCTET STRING, BIT STRING and SEQUENCE OF after
`unfold`, for `n` items with bits `body`; `out` is the code's answer to a size outside an
extensible root.  `h` is what `extSizedM_false` says (SEQUENCE OF comes with encoded components, so
the raw `extSizedM` is not the common form).  The known-multiplier strings have no such arm in the
code and use `mShape` alone. -/
theorem uper_sized (c : SizeC) (items : List Bits) (n : Nat) (body : Bits) (unimpl : Bool)
    (out : EncM Bits) (bits : Bits) (hn : items.length = n) (hb : items.flatten = body)
    (hd : devsSize c n unimpl = [])
    (hout : unimpl = false → out = .ok ([true] ++ (lenDet n).1 ++ body))
    (h : (c.ext = true ∧ Uper.inSize c n = false ∧ bits = true :: encChunked items) ∨
      (Uper.inSize c n = true ∧ bits = (if c.ext then [false] else []) ++ mSized c items)) :
    (if c.ext ∧ c.hi.isNone then (.error .foreign : EncM Bits) else
      if c.ext ∧ ¬ Uper.inSize c n then out else
        match Uper.sizeBits c with
        | none => .ok ((if c.ext then [false] else []) ++ encChunked items)
        | some w =>
          if some c.lo ≠ c.hi then
            .ok ((if c.ext then [false] else []) ++ natToBits w (n - c.lo) ++ body)
          else .ok ((if c.ext then [false] else []) ++ body)) = .ok bits := by
  have hdv := devsSize_nil _ _ _ hd
  have hfor : ¬ (c.ext = true ∧ c.hi.isNone = true) := fun hh => by
    rw [(hdv hh.1).1] at hh; cases hh.2
  rw [if_neg hfor]
  rcases h with ⟨hext, hin, rfl⟩ | ⟨hin, rfl⟩
  · obtain ⟨hun, hlt⟩ := (hdv hext).2 hin
    rw [if_pos ⟨hext, by simp [hin]⟩, hout hun, encChunked_small _ (by omega), hn, hb]
    simp
  · rw [if_neg (by simp [hin])]
    exact mShape c items n body _ hn hb

theorem ref_octetString (c : SizeC) : REF (.octetString c) := by
  intro v pos bits hd he
  obtain ⟨data, rfl, h⟩ := enc_octetString_ok he
  replace hd : devsSize c data.length false = [] := hd
  unfold encOctetString at h
  split at h
  case isFalse => cases h
  have hitems := extSized_leaf _ _ _ _ _ _ h
  rw [List.length_map] at hitems
  show Uper.enc _ _ = _
  unfold Uper.enc
  exact uper_sized c _ _ _ false _ bits (List.length_map _) (flatten_map_natToBits8 data) hd
    (fun _ => rfl) hitems

theorem ref_bitString (c : SizeC) : REF (.bitString c) := by
  intro v pos bits hd he
  obtain ⟨data, n, rfl, h⟩ := enc_bitString_ok he
  replace hd : devsSize c n true = [] := hd
  unfold encBitString at h
  split at h
  case isFalse => cases h
  rename_i hn
  have hlen := length_map_take_bytesToBits hn
  have hitems := extSized_leaf _ _ _ _ _ _ h
  rw [hlen] at hitems
  show Uper.enc _ _ = _
  unfold Uper.enc
  simp only [Uper.takeBits, if_pos hn]
  exact uper_sized c _ n _ true _ bits hlen (flatten_map_singleton _) hd (fun hf => nomatch hf) hitems

theorem ref_utf8 (c : SizeC) : REF (.charString .utf8 c) := by
  intro v pos bits _ he
  obtain ⟨cps, rfl, h⟩ := enc_charString_ok he
  rw [if_pos rfl] at h
  unfold encUtf8 at h
  split at h
  case isFalse => cases h
  cases h
  show Uper.enc _ _ = _
  unfold Uper.enc
  unfold lenOctets
  rw [genLen_false]

theorem charBits_false (k : StrKind) : charBits false k = Uper.bitsPerChar k := by
  cases k <;> decide +kernel

theorem ref_knownMultiplier (k : StrKind) (hk : k ≠ .utf8) (c : SizeC) : REF (.charString k c) := by
  intro v pos bits hd he
  obtain ⟨cps, rfl, h⟩ := enc_charString_ok he
  rw [if_neg hk] at h
  replace hd : devsKnownMultiplier false k c cps.length = [] := by cases k <;> first | exact hd | exact absurd rfl hk
  unfold devsKnownMultiplier at hd
  have hd1 := (List.append_eq_nil_iff.mp hd).1
  unfold encKnownMultiplier at h
  rw [funext (charValue_eq false k), charBits_false k] at h
  cases hm : cps.mapM (Uper.charCode k) with
  | error e => rw [hm] at h; cases h
  | ok codes =>
    rw [hm] at h
    simp only at h
    have hlen : (codes.map (natToBits (Uper.bitsPerChar k))).length = cps.length := by
      rw [List.length_map]; exact mapM_length _ _ _ hm
    have hitems := extSized_leaf _ _ _ _ _ _ h
    rw [hlen] at hitems
    have hdv := devsSize_nil _ _ _ hd1
    cases k with
    | utf8 => exact absurd rfl hk
    | _ =>
      show Uper.enc _ _ = _
      unfold Uper.enc
      rw [hm]
      rcases hitems with ⟨hext, hin, _⟩ | ⟨hin, rfl⟩
      · exact nomatch ((hdv hext).2 hin).1
      · simp only [hin, not_true_eq_false, if_false]
        exact mShape c _ cps.length _ _ hlen rfl

theorem ref_charString (k : StrKind) (c : SizeC) : REF (.charString k c) := by
  by_cases hk : k = .utf8
  · subst hk; exact ref_utf8 c
  · exact ref_knownMultiplier k hk c

end Asn1.X691
