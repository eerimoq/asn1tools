import Asn1Model.CCursorOer
import Asn1Proofs.Lemmas.CCursorBasic
/-
  C10, base layer: pure specifications of the memory effects of the OER C helper library model
  (`Asn1Model/CCursorOer.lean`), the cursor invariants and the characterisation of
  `memcpy`/`memset`/`encoder_append_bytes`/`decoder_read_bytes`.

  The `CCursorOer*` modules are in the namespace `Asn1.C10` of the property, whose statements mention most of
  their definitions (`EInv`, `DInv`, `write`, `chunks`, `need`, `encBytes`, …); what extends a struct of the
  model is declared in the model's namespace (`OEnc.put`, `ODec.adv`, …).  A decoder lemma whose name would be
  that of its encoder twin carries the prefix `d` (`run_eq` / `drun_eq`).
  The cursor lemmas (`latch`, `fits`, `put`/`adv` with `_inv`, `_latched`, `_fits`, `alloc_eq`/`free_eq`) repeat
  those of the bit cursor (`CCursorRefine`, `CCursorRefineDec`) on the byte cursor's two structs: the model has one
  Lean structure per C `struct`.
-/
namespace Asn1.C10
open Asn1.CCursor Asn1.CCursorOer

/-- `m` with the bytes `bs` written at offset `off`: what `memcpy` and `memset` do to the destination, on
lists (`memcpy_eq`, `memset_eq`).  The UPER half has the same `memcpy` index by index (`CCursor.pureMemcpy`),
the form its bit lemmas consume. -/
def write (m : Mem) (off : Nat) : List UInt8 → Mem
  | [] => m
  | b :: bs => write (m.setIfInBounds off b) (off + 1) bs

@[simp] theorem write_nil (m : Mem) (off : Nat) : write m off [] = m := rfl

@[simp] theorem write_cons (m : Mem) (off : Nat) (b : UInt8) (bs : List UInt8) :
    write m off (b :: bs) = write (m.setIfInBounds off b) (off + 1) bs := rfl

@[simp] theorem size_write (m : Mem) (off : Nat) (bs : List UInt8) : (write m off bs).size = m.size := by
  induction bs generalizing m off with
  | nil => rfl
  | cons b bs ih => simp [ih]

theorem write_append (m : Mem) (off : Nat) (a b : List UInt8) :
    write m off (a ++ b) = write (write m off a) (off + a.length) b := by
  induction a generalizing m off with
  | nil => simp
  | cons x a ih => simp [ih, Nat.add_assoc, Nat.add_comm 1]

private theorem take_succ_set {α} (l : List α) (off : Nat) (b : α) (h : off < l.length) :
    (l.set off b).take (off + 1) = l.take off ++ [b] := by
  rw [List.take_add_one]
  simp [h, List.take_set_of_le]

theorem toList_write (m : Mem) (off : Nat) (bs : List UInt8) (h : off + bs.length ≤ m.size) :
    (write m off bs).toList = m.toList.take off ++ (bs ++ m.toList.drop (off + bs.length)) := by
  induction bs generalizing m off with
  | nil => simp
  | cons b bs ih =>
    have hlt : off < m.toList.length := by simp at h ⊢; omega
    rw [write_cons, ih _ _ (by simp at h ⊢; omega), Array.toList_setIfInBounds,
      List.drop_set_of_lt (by omega), take_succ_set _ _ _ hlt]
    simp [Nat.add_assoc, Nat.add_comm 1]

theorem take_write (m : Mem) (off : Nat) (bs : List UInt8) (h : off + bs.length ≤ m.size) :
    (write m off bs).toList.take off = m.toList.take off := by
  have hl : min off m.size = off := Nat.min_eq_left (by omega)
  rw [toList_write m off bs h, List.take_append]
  simp [hl, List.take_take]

theorem region_write (m : Mem) (off : Nat) (bs : List UInt8) (h : off + bs.length ≤ m.size) :
    ((write m off bs).toList.drop off).take bs.length = bs := by
  have hl : min off m.size = off := Nat.min_eq_left (by omega)
  rw [toList_write m off bs h, List.drop_append]
  simp [hl]

theorem drop_write (m : Mem) (off : Nat) (bs : List UInt8) (h : off + bs.length ≤ m.size) :
    (write m off bs).toList.drop (off + bs.length) = m.toList.drop (off + bs.length) := by
  have hl : min off m.size = off := Nat.min_eq_left (by omega)
  rw [toList_write m off bs h, List.drop_append, List.drop_append]
  simp [hl]

theorem write_full (m : Mem) (bs : List UInt8) (h : m.size = bs.length) : write m 0 bs = bs.toArray := by
  apply Array.ext'
  rw [toList_write m 0 bs (by omega)]
  have : m.toList.drop (0 + bs.length) = [] := List.drop_eq_nil_of_le (by simp; omega)
  rw [this]; simp

theorem memcpy_eq (src : Mem) (n : Nat) (dst : Mem) (dOff sOff : Nat)
    (hd : dOff + n ≤ dst.size) (hs : sOff + n ≤ src.size) :
    memcpy src n dst dOff sOff = .ok (write dst dOff ((src.toList.drop sOff).take n)) := by
  induction n generalizing dst dOff sOff with
  | zero => simp [memcpy]
  | succ n ih =>
    have h1 : sOff < src.size := by omega
    rw [memcpy, Mem.load_ok h1, ok_bind, Mem.store_ok (by omega), ok_bind, Array.set!_eq_setIfInBounds,
      ih _ _ _ (by simp; omega) (by omega), List.drop_eq_getElem_cons (show sOff < src.toList.length by simpa using h1)]
    simp [getElem!_pos, h1]

theorem memset_eq (v : UInt8) (n : Nat) (dst : Mem) (off : Nat) (hd : off + n ≤ dst.size) :
    memset v n dst off = .ok (write dst off (List.replicate n v)) := by
  induction n generalizing dst off with
  | zero => simp [memset]
  | succ n ih =>
    rw [memset, Mem.store_ok (by omega), ok_bind, Array.set!_eq_setIfInBounds, ih _ _ (by simp; omega)]
    simp [List.replicate_succ]

/-- the buffer object is smaller than 2^62 bytes and the cursor is either inside the object or
latched on a negative error code.  2^62 = 4611686018427387904: `encoder_alloc` adds a byte count below
2^62 to `pos` in `ssize_t`, so the sum stays below 2^63; the UPER cursor counts bits and its bound is
2^59 bytes for the same reason (`CCursor.Enc.Inv`). -/
def EInv (e : OEnc) : Prop :=
  e.buf.size < 4611686018427387904 ∧
  ((0 ≤ e.pos ∧ e.pos ≤ e.size ∧ e.size ≤ e.buf.size) ∨
   (e.size < 0 ∧ e.pos = e.size ∧ -4611686018427387904 ≤ e.pos))

/-- the error state: `size` (and `pos`) hold the negated error code -/
def _root_.Asn1.CCursorOer.OEnc.Latched (e : OEnc) : Prop := e.size < 0

/-- the struct after `encoder_abort(err)` on a live cursor: `size = pos = -err` (as `CCursor.Enc.latch`) -/
def _root_.Asn1.CCursorOer.OEnc.latch (e : OEnc) (err : Int) : OEnc := { e with size := -err, pos := -err }

theorem latch_inv {e : OEnc} (h : EInv e) {err : Int} (hp : 0 < err ∧ err ≤ 4611686018427387904) :
    EInv (e.latch err) :=
  ⟨h.1, Or.inr ⟨by simp only [OEnc.latch]; omega, rfl, by simp only [OEnc.latch]; omega⟩⟩

/-- the cursor is live and there is room for `n` more bytes -/
def _root_.Asn1.CCursorOer.OEnc.fits (e : OEnc) (n : Nat) : Prop := 0 ≤ e.size ∧ e.pos + n ≤ e.size

/-- specification of `encoder_append_bytes`: append `bs` if there is room, else latch `-ENOMEM` (= -12) -/
def _root_.Asn1.CCursorOer.OEnc.put (e : OEnc) (bs : List UInt8) : OEnc :=
  if e.size < 0 then e
  else if e.pos + bs.length ≤ e.size then
    { e with buf := write e.buf e.pos.toNat bs, pos := e.pos + bs.length }
  else e.latch 12

/-- one `put` per chunk, in order: a helper that calls `encoder_append_bytes` several times writes the
chunks that fit before it latches -/
def _root_.Asn1.CCursorOer.OEnc.putAll (e : OEnc) : List (List UInt8) → OEnc
  | [] => e
  | c :: cs => (e.put c).putAll cs

theorem put_inv {e : OEnc} (h : EInv e) (bs : List UInt8) : EInv (e.put bs) := by
  unfold OEnc.put
  obtain ⟨hb, h⟩ := h
  split
  · exact ⟨hb, h⟩
  · split
    · refine ⟨by simpa using hb, Or.inl ?_⟩
      simp only [size_write]
      omega
    · exact latch_inv ⟨hb, h⟩ ⟨by omega, by omega⟩

theorem putAll_inv {e : OEnc} (h : EInv e) (cs : List (List UInt8)) : EInv (e.putAll cs) := by
  induction cs generalizing e with
  | nil => exact h
  | cons c cs ih => exact ih (put_inv h c)

theorem put_latched {e : OEnc} (h : e.size < 0) (bs : List UInt8) : e.put bs = e := by
  simp [OEnc.put, h]

theorem putAll_latched {e : OEnc} (h : e.size < 0) (cs : List (List UInt8)) : e.putAll cs = e := by
  induction cs with
  | nil => rfl
  | cons c cs ih => simp [OEnc.putAll, put_latched h, ih]

theorem alloc_eq {e : OEnc} (h : EInv e) (n : UInt64) (hn : n.toNat < 4611686018427387904) :
    ∃ p, e.alloc n = .ok (p, if e.size < 0 then e else if e.pos + n.toNat ≤ e.size
        then { e with pos := e.pos + n.toNat } else e.latch 12) ∧
      (e.fits n.toNat → p = e.pos) ∧ (¬ e.fits n.toNat → p < 0) := by
  obtain ⟨hb, h⟩ := h
  unfold OEnc.alloc OEnc.abort OEnc.fits OEnc.latch
  rw [toSsize_small (by omega), ssz_ok (by omega) (by omega)]
  by_cases hfit : e.pos + (n.toNat : Int) ≤ e.size
  · refine ⟨e.pos, ?_, fun _ => rfl, fun _ => by omega⟩
    by_cases h0 : e.size < 0
    · have hz : (n.toNat : Int) = 0 := by omega
      have hle : e.pos ≤ e.size := by omega
      simp [ok_bind, h0, hz, hle]
    · simp [ok_bind, hfit, h0]
  · refine ⟨-12, ?_, fun _ => by omega, fun _ => by omega⟩
    by_cases h0 : e.size < 0
    · have : ¬ e.size ≥ 0 := by omega
      simp [ok_bind, hfit, h0, this, ENOMEM, ssz]
    · have : e.size ≥ 0 := by omega
      simp [ok_bind, hfit, h0, this, ENOMEM, ssz]

theorem appendBytes_eq {e : OEnc} (h : EInv e) (src : Mem) (n : UInt64)
    (hn : n.toNat < 4611686018427387904) (hs : n.toNat ≤ src.size) :
    e.appendBytes src n = .ok (e.put (src.toList.take n.toNat)) := by
  have hlen : (src.toList.take n.toNat).length = n.toNat := by simp; omega
  obtain ⟨p, ha, hp⟩ := alloc_eq h n hn
  unfold OEnc.fits at hp
  unfold OEnc.appendBytes OEnc.put
  rw [ha, hlen]
  simp only [ok_bind]
  by_cases h0 : e.size < 0
  · rw [if_pos h0, if_pos h0, if_pos (hp.2 (by omega))]
  rw [if_neg h0, if_neg h0]
  by_cases hfit : e.pos + (n.toNat : Int) ≤ e.size
  · have hb : 0 ≤ e.pos ∧ e.pos.toNat + n.toNat ≤ e.buf.size := by
      rcases h.2 with h | h <;> omega
    rw [if_pos hfit, if_pos hfit, hp.1 ⟨by omega, hfit⟩, if_neg (by omega), ptrI, if_neg (by omega),
      Mem.ptr_ok (m := e.buf) (by omega), ok_bind, memcpy_eq src n.toNat e.buf e.pos.toNat 0 hb.2 (by omega), ok_bind]
    simp
  · rw [if_neg hfit, if_neg hfit, if_pos (hp.2 (by omega))]

/-- the same condition as `EInv`, on the decoder struct -/
def DInv (d : ODec) : Prop :=
  d.buf.size < 4611686018427387904 ∧
  ((0 ≤ d.pos ∧ d.pos ≤ d.size ∧ d.size ≤ d.buf.size) ∨
   (d.size < 0 ∧ d.pos = d.size ∧ -4611686018427387904 ≤ d.pos))

/-- the struct after `decoder_abort(err)` on a live cursor -/
def _root_.Asn1.CCursorOer.ODec.latch (d : ODec) (err : Int) : ODec := { d with size := -err, pos := -err }

theorem dlatch_inv {d : ODec} (h : DInv d) {err : Int} (hp : 0 < err ∧ err ≤ 4611686018427387904) :
    DInv (d.latch err) :=
  ⟨h.1, Or.inr ⟨by simp only [ODec.latch]; omega, rfl, by simp only [ODec.latch]; omega⟩⟩

/-- the cursor is live and the next `n` bytes are inside the claimed size -/
def _root_.Asn1.CCursorOer.ODec.fits (d : ODec) (n : Nat) : Prop := 0 ≤ d.size ∧ d.pos + n ≤ d.size

instance (d : ODec) (n : Nat) : Decidable (d.fits n) := by unfold ODec.fits; infer_instance

/-- byte `k` of a read of `n` bytes: the input byte, or 0 when the read fails (`decoder_read_bytes` then fills
the destination with `memset(…, 0, …)`) -/
def _root_.Asn1.CCursorOer.ODec.rd (d : ODec) (n k : Nat) : UInt8 :=
  if d.fits n then d.buf[d.pos.toNat + k]! else 0

/-- cursor after a read of `n` bytes: advance, or latch `-EOUTOFDATA` -/
def _root_.Asn1.CCursorOer.ODec.adv (d : ODec) (n : Nat) : ODec :=
  if d.size < 0 then d
  else if d.pos + n ≤ d.size then { d with pos := d.pos + n }
  else { d with size := -500, pos := -500 }

theorem adv_inv {d : ODec} (h : DInv d) (n : Nat) : DInv (d.adv n) := by
  unfold ODec.adv
  obtain ⟨hb, h⟩ := h
  split
  · exact ⟨hb, h⟩
  · split
    · exact ⟨hb, Or.inl (by simp only; omega)⟩
    · exact ⟨hb, Or.inr (by simp)⟩

@[simp] theorem adv_buf (d : ODec) (n : Nat) : (d.adv n).buf = d.buf := by
  unfold ODec.adv; split
  · rfl
  · split <;> rfl

theorem adv_latched {d : ODec} (h : d.size < 0) (n : Nat) : d.adv n = d := by simp [ODec.adv, h]

theorem adv_fits {d : ODec} {n : Nat} (hf : d.fits n) : d.adv n = { d with pos := d.pos + n } := by
  obtain ⟨h0, h1⟩ := hf
  have : ¬ d.size < 0 := by omega
  simp [ODec.adv, this, h1]

theorem adv_adv (d : ODec) (a b : Nat) : (d.adv a).adv b = d.adv (a + b) := by
  unfold ODec.adv
  by_cases hl : d.size < 0
  · simp [hl]
  · by_cases ha : d.pos + (a : Int) ≤ d.size
    · simp only [if_neg hl, if_pos ha, Int.natCast_add, Int.add_assoc]
    · have : ¬ d.pos + ((a : Int) + (b : Int)) ≤ d.size := by omega
      simp [hl, ha, this, Int.natCast_add]

theorem fits_add {d : ODec} {a b : Nat} (hf : d.fits (a + b)) : d.fits a ∧ (d.adv a).fits b := by
  obtain ⟨h0, h1⟩ := hf
  have hfa : d.fits a := ⟨h0, by omega⟩
  refine ⟨hfa, ?_⟩
  rw [adv_fits hfa]
  exact ⟨h0, by simp only; omega⟩

theorem rd_latched {d : ODec} (h : d.size < 0) (n k : Nat) : d.rd n k = 0 := by
  have : ¬ d.fits n := by unfold ODec.fits; omega
  simp [ODec.rd, this]

theorem rd_of_fits {d : ODec} {n : Nat} (h : d.fits n) : d.rd n = fun k => d.buf[d.pos.toNat + k]! := by
  funext k; simp [ODec.rd, h]

theorem rd_of_not_fits {d : ODec} {n : Nat} (h : ¬ d.fits n) : d.rd n = fun _ => 0 := by
  funext k; simp [ODec.rd, h]

theorem free_eq {d : ODec} (h : DInv d) (n : UInt64) (hn : n.toNat < 4611686018427387904) :
    ∃ p, d.free n = .ok (p, d.adv n.toNat) ∧ (d.fits n.toNat → p = d.pos) ∧ (¬ d.fits n.toNat → p < 0) := by
  obtain ⟨hb, h⟩ := h
  unfold ODec.free ODec.abort ODec.adv ODec.fits
  rw [toSsize_small (by omega), ssz_ok (by omega) (by omega)]
  by_cases hfit : d.pos + (n.toNat : Int) ≤ d.size
  · refine ⟨d.pos, ?_, fun _ => rfl, fun _ => by omega⟩
    by_cases h0 : d.size < 0
    · have hz : (n.toNat : Int) = 0 := by omega
      have hle : d.pos ≤ d.size := by omega
      simp [ok_bind, h0, hz, hle]
    · simp [ok_bind, hfit, h0]
  · refine ⟨-500, ?_, fun _ => by omega, fun _ => by omega⟩
    by_cases h0 : d.size < 0
    · have : ¬ d.size ≥ 0 := by omega
      simp [ok_bind, hfit, h0, this, EOUTOFDATA, ssz]
    · have : d.size ≥ 0 := by omega
      simp [ok_bind, hfit, h0, this, EOUTOFDATA, ssz]

theorem readBytes_eq {d : ODec} (h : DInv d) (dst : Mem) (n : UInt64)
    (hn : n.toNat < 4611686018427387904) (hs : n.toNat ≤ dst.size) :
    d.readBytes dst n = .ok (write dst 0 ((List.range n.toNat).map (d.rd n.toNat)), d.adv n.toNat) := by
  obtain ⟨p, hfree, hp⟩ := free_eq h n hn
  unfold ODec.readBytes
  rw [hfree]
  simp only [ok_bind, adv_buf]
  by_cases hf : d.fits n.toNat
  · have hp := hp.1 hf
    have hb : 0 ≤ d.pos ∧ d.pos.toNat + n.toNat ≤ d.buf.size := by
      rcases h.2 with h | h <;> have := hf.1 <;> have := hf.2 <;> omega
    rw [hp, if_pos hb.1, ptrI, if_neg (by omega), Mem.ptr_ok (by omega), ok_bind,
      memcpy_eq _ _ _ _ _ (by omega) hb.2, ok_bind, window_eq _ _ _ hb.2, rd_of_fits hf]
  · have hp := hp.2 hf
    rw [if_neg (by omega), memset_eq _ _ _ _ (by omega), ok_bind, rd_of_not_fits hf, List.map_const', List.length_range]

end Asn1.C10
