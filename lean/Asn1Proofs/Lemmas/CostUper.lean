import Asn1Proofs.Lemmas.CostReader
import Asn1Proofs.Lemmas.PrefixUper
/-
  C08 for the UPER model: the constants of the allocation bound (`KU`, `seqOfMax`) and what a success of each
  reader `f` means for the lengths (`f_ok`: the exact consumption where there is one, else no increase;
  "every read advances the offset or raises").  The UPER instance shares the namespace `Asn1.Cost` with
  the codec-independent files; aligned PER is in `Asn1.CostP`.
-/
namespace Asn1.Cost
open Asn1.Uper

/-- elements a SEQUENCE OF may hold per bit consumed (+1): `65536` per length octet, or the largest
count the fixed-width length field can announce.  (`max 8192` also when there is a length field: with an
extension bit set the count comes from a length determinant, `Readers.M_ge`.) -/
def seqOfMax (c : SizeC) : Nat :=
  match sizeBits c with
  | none => 8192
  | some w => max 8192 (c.lo + 2 ^ w)

mutual
  /-- `KU` (the constant `K` of UPER): nodes allocated per bit consumed (+1), a function of the type only
  (`KUm`, `KUa`: of a member list, of a list of alternatives).  `2 +` at CHOICE: an extension alternative
  this version does not know is returned as `.choice "" .absent`, two nodes without an alternative's constant. -/
  def KU : Ty → Nat
    | .sequence root _ adds => 1 + KUm root + KUm adds
    | .sequenceOf e c => 1 + KU e * (1 + seqOfMax c)
    | .choice root _ adds => 2 + KUa root + KUa adds
    | _ => 1
  def KUm : Members → Nat
    | .nil => 0
    | .cons _ p t rest => 1 + presenceNodes p + KU t + KUm rest
  def KUa : Alts → Nat
    | .nil => 0
    | .cons _ t rest => KU t + KUa rest
end

theorem readBit_ok {bs r : Bits} {b : Bool} (h : readBit bs = .ok (b, r)) :
    bs.length = r.length + 1 := by
  cases bs with
  | nil => cases h
  | cons x t => simp only [readBit] at h; cases h; simp

theorem readBits_ok {n : Nat} {bs a r : Bits} (h : readBits n bs = .ok (a, r)) :
    bs.length = r.length + n ∧ a.length = n := by
  rw [readBits_eq] at h
  split at h
  · cases h; simp only [List.length_drop, List.length_take]; omega
  · cases h

theorem readNat_ok {n : Nat} {bs r : Bits} {a : Nat} (h : readNat n bs = .ok (a, r)) :
    bs.length = r.length + n ∧ a < 2 ^ n := by
  rw [readNat_eq] at h
  split at h
  · cases h
    refine ⟨by simp only [List.length_drop]; omega, ?_⟩
    have := bitsToNat_lt (bs.take n)
    rwa [List.length_take, Nat.min_eq_left (by assumption)] at this
  · cases h

theorem readLenDet_ok {bs r : Bits} {n : Nat} (h : readLenDet bs = .ok (n, r)) :
    r.length + 8 ≤ bs.length ∧ n ≤ 8192 * (bs.length - r.length) := by
  obtain ⟨⟨v, r1⟩, h1, h⟩ := bind_ok h
  obtain ⟨hl1, hv⟩ := readNat_ok h1
  rcases ite_cases h with ⟨_, h⟩ | ⟨_, h⟩
  · cases h; omega
  rcases ite_cases h with ⟨_, h⟩ | ⟨_, h⟩
  · obtain ⟨⟨w, r2⟩, h2, h⟩ := bind_ok h
    obtain ⟨hl2, hw⟩ := readNat_ok h2
    cases h; omega
  rcases ite_cases h with ⟨_, h⟩ | ⟨_, h⟩
  · cases h; omega
  rcases ite_cases h with ⟨_, h⟩ | ⟨_, h⟩
  · cases h; omega
  rcases ite_cases h with ⟨_, h⟩ | ⟨_, h⟩
  · cases h; omega
  rcases ite_cases h with ⟨_, h⟩ | ⟨_, h⟩
  · cases h; omega
  · cases h

theorem skipPad_ok {s : Nat} {bs r : Bits} (h : skipPad s bs = .ok r) : r.length ≤ bs.length := by
  unfold skipPad at h
  dsimp only at h
  split at h
  · cases h; simp only [List.length_drop]; omega
  · cases h

theorem skipUnknown_ok (bitmap : Bits) {bs r : Bits} (h : skipUnknown bitmap bs = .ok r) :
    r.length ≤ bs.length := by
  have := pf_skipUnknown (x := []) (B := True) bitmap bs
  rw [List.append_nil] at this
  exact this.len_le (fun h => h rfl) List.append_nil h

theorem optBit_ok {c : Bool} {bs r : Bits} {b : Bool}
    (h : (if c = true then readBit bs else .ok (false, bs)) = .ok (b, r)) : r.length ≤ bs.length :=
  (pf_optBit c).ni h

theorem readSize_ok {c : SizeC} {w : Nat} {bs r : Bits} {n : Nat} (h : readSize c w bs = .ok (n, r)) :
    r.length ≤ bs.length ∧ n < c.lo + 2 ^ w := by
  unfold readSize at h
  split at h
  · obtain ⟨⟨d, r1⟩, h1, h⟩ := bind_ok h
    obtain ⟨hl, hd⟩ := readNat_ok h1
    cases h; omega
  · cases h; exact ⟨Nat.le_refl _, by have := Nat.two_pow_pos w; omega⟩

theorem lenDet_readLenDet : LenDet List.length readLenDet := fun _ _ _ => readLenDet_ok

theorem ni_readNat (n : Nat) : NI List.length (readNat n) := fun bs a r h => by have := (readNat_ok h).1; omega
theorem ni_readBit : NI List.length readBit := fun bs a r h => by have := readBit_ok h; omega
theorem ni_decUnconstrained : NI List.length decUnconstrained := fun _ _ _ => pf_decUnconstrained.ni

theorem seqOfMax_ge (c : SizeC) : 8192 ≤ seqOfMax c := by
  unfold seqOfMax; split
  · exact Nat.le_refl _
  · exact Nat.le_max_left _ _

theorem seqOfMax_sized {c : SizeC} {w : Nat} (h : sizeBits c = some w) : c.lo + 2 ^ w ≤ seqOfMax c := by
  unfold seqOfMax; rw [h]; exact Nat.le_max_right _ _

theorem pot_readBits (n : Nat) {K : Nat} (hK : 1 ≤ K) (bs : Bits) :
    Pot List.length (fun b : Bits => (packBits b).length) K 0 bs.length (readBits n bs) :=
  .consumed hK fun a r h => by
    obtain ⟨h1, h2⟩ := readBits_ok h
    have := packBits_length_le a
    exact ⟨by omega, by omega⟩

/-- items that cost input are paid by it, one unit each.  The budget is written `n * 0`, the form in which
`chunks_pot` takes its inner loop. -/
theorem pot_decRepeat {α : Type} {p : Bits → DecM (α × Bits)}
    (hp : ∀ bs a r, p bs = .ok (a, r) → r.length < bs.length) {K : Nat} (hK : 1 ≤ K) (n : Nat) (bs : Bits) :
    Pot List.length (sumSize fun _ : α => 1) K (n * 0) bs.length (decRepeat p n bs) :=
  repeat_pot (rep := decRepeat p) (fun _ => rfl) (fun _ _ => rfl)
    (fun s => .consumed hK fun a r h => by have := hp s a r h; exact ⟨by omega, by omega⟩) n bs

theorem pot_decChunks {α : Type} {p : Bits → DecM (α × Bits)}
    (hp : ∀ bs a r, p bs = .ok (a, r) → r.length < bs.length) {K : Nat} (hK : 1 ≤ K) (f : Nat) (bs : Bits) :
    Pot List.length (List.length : List α → Nat) K 0 bs.length (decChunks p f bs) :=
  (chunks_pot (chunks := decChunks p) (fun _ => rfl) (fun _ _ => rfl) lenDet_readLenDet (Nat.zero_le K)
    (pot_decRepeat hp hK) f bs).mono (fun xs => Nat.le_of_eq (sumSize_one xs).symm) (Nat.le_refl _)

theorem readers : Readers List.length readBit id readLenDet readSize seqOfMax where
  bit_ni := ni_readBit
  al_le := fun _ => Nat.le_refl _
  ld_ok := lenDet_readLenDet
  readSize_ok := fun c w s n r hsb h => by
    have := readSize_ok h
    have := seqOfMax_sized hsb
    omega
  M_ge := seqOfMax_ge

end Asn1.Cost
