import Asn1Model.Xer
import Asn1Proofs.Lemmas.JerLeaf
import Asn1Proofs.Lemmas.XmlParse
/-
  Text forms of the XER leaf types: decimal INTEGER text, hexadecimal OCTET STRING text,
  binary BIT STRING text — each read back by the decoder's text parser.
-/
namespace Asn1.Xer
open Asn1.Xml

theorem dropWhile_eq_self {α : Type} (p : α → Bool) (l : List α) (h : ∀ x ∈ l, p x = false) :
    l.dropWhile p = l := by
  cases l with
  | nil => rfl
  | cons a r => simp [List.dropWhile, h a (List.mem_cons_self ..)]

theorem pyStrip_eq_self (t : List Nat) (h : ∀ c ∈ t, isPyWs c = false) : pyStrip t = t := by
  unfold pyStrip
  rw [dropWhile_eq_self _ t h, dropWhile_eq_self _ t.reverse (by simpa using h), List.reverse_reverse]

theorem pyDigits_digits (ds : List Nat) (h : ds.all isDigit = true) (prev : Bool)
    (hne : ds ≠ [] ∨ prev = true) : pyDigits ds prev = some ds := by
  induction ds generalizing prev with
  | nil =>
    rcases hne with h | h
    · exact absurd rfl h
    · simp [pyDigits, h]
  | cons c r ih =>
    simp only [List.all_cons, Bool.and_eq_true] at h
    unfold pyDigits
    rw [if_pos h.1, ih h.2 true (Or.inr rfl)]
    rfl

theorem splitSign_digit (c : Nat) (r : List Nat) (h45 : c ≠ 45) (h43 : c ≠ 43) :
    splitSign (c :: r) = (false, c :: r) := by
  unfold splitSign
  split
  · rename_i heq; cases heq; exact absurd rfl h45
  · rename_i heq; cases heq; exact absurd rfl h43
  · rfl

theorem parseInt_digits (neg : Prop) [Decidable neg] (ds : List Nat) (hds : ds.all isDigit = true) (hne : ds ≠ [])
    (hlen : ¬ ds.length > maxStrDigits) :
    parseInt (if neg then 45 :: ds else ds) = .ok (if neg then -(decToNat ds : Int) else decToNat ds) := by
  have hall : ∀ c ∈ ds, 48 ≤ c ∧ c ≤ 57 := by
    simpa [List.all_eq_true, isDigit] using hds
  have ht : ∀ c ∈ (if neg then 45 :: ds else ds), c < 128 ∧ isPyWs c = false := by
    intro c hc
    have : c = 45 ∨ (48 ≤ c ∧ c ≤ 57) := by
      split at hc
      · rcases List.mem_cons.1 hc with rfl | hc
        · exact .inl rfl
        · exact .inr (hall c hc)
      · exact .inr (hall c hc)
    simp only [isPyWs, Bool.or_eq_false_iff, Bool.and_eq_false_iff, beq_eq_false_iff_ne, decide_eq_false_iff_not]
    omega
  have hsp : splitSign (if neg then 45 :: ds else ds) = (decide neg, ds) := by
    by_cases h : neg
    · rw [if_pos h, decide_eq_true h]; rfl
    · rw [if_neg h, decide_eq_false h]
      cases ds with
      | nil => exact absurd rfl hne
      | cons c r =>
        have := hall c (List.mem_cons_self ..)
        exact splitSign_digit c r (by omega) (by omega)
  have h128 : (if neg then 45 :: ds else ds).any (fun c => decide (128 ≤ c)) = false := by
    simp only [List.any_eq_false, decide_eq_true_eq]
    exact fun c hc => by have := (ht c hc).1; omega
  unfold parseInt
  rw [h128, pyStrip_eq_self _ (fun c hc => (ht c hc).2)]
  simp only [Bool.false_eq_true, if_false, hsp, pyDigits_digits ds hds false (Or.inl hne), if_neg hlen,
    decide_eq_true_eq]

theorem integer_roundtrip (c : IntC) (inList : Bool) (nm : String) (i : Int)
    (h : (natToDec i.natAbs).length ≤ maxStrDigits) :
    ∃ x, enc (.integer c) inList nm (.int i) = .ok x ∧ dec (.integer c) inList x = .ok (.int i) ∧ x.name = nm := by
  have hne := natToDec_ne_nil i.natAbs
  have hp := parseInt_digits (i < 0) _ (natToDec_digits i.natAbs) hne (by omega)
  have hval : (if i < 0 then -(decToNat (natToDec i.natAbs) : Int) else decToNat (natToDec i.natAbs)) = i := by
    rw [decToNat_natToDec]
    split <;> omega
  have hit : intText i = .ok (if i < 0 then 45 :: natToDec i.natAbs else natToDec i.natAbs) := by
    unfold intText
    simp only []
    rw [if_neg (by omega)]
  have hemp : (if i < 0 then 45 :: natToDec i.natAbs else natToDec i.natAbs).isEmpty = false := by
    split <;> simp [hne]
  rw [hval] at hp
  generalize (if i < 0 then 45 :: natToDec i.natAbs else natToDec i.natAbs) = t at hp hit hemp
  exact ⟨leaf nm t, by simp only [enc, hit],
    by simp only [dec, leaf, XmlT.text, hemp, Bool.false_eq_true, if_false, hp], rfl⟩

theorem hexPairs_eq_unhex : ∀ l, hexPairs l = Jer.unhex l
  | [] => rfl
  | [_] => rfl
  | a :: b :: r => by rw [hexPairs, Jer.unhex, hexPairs_eq_unhex r]; rfl

theorem hexPairs_hexText (bs : Bytes) (h : allBytes bs = true) : hexPairs (hexText bs) = some bs :=
  (hexPairs_eq_unhex _).trans (Jer.unhex_hexUpper bs h)

theorem hexText_length (bs : Bytes) : (hexText bs).length = 2 * bs.length := by
  induction bs with
  | nil => rfl
  | cons b r ih =>
    simp only [hexText, List.flatMap_cons, List.length_append, List.length_cons, List.length_nil] at ih ⊢
    omega

theorem parseHex_hexText (bs : Bytes) (h : allBytes bs = true) : parseHex (hexText bs) = .ok bs := by
  unfold parseHex
  rw [hexText_length, if_neg (by omega)]
  simp only [hexPairs_hexText bs h]

theorem hexText_isEmpty (bs : Bytes) : (hexText bs).isEmpty = bs.isEmpty := by
  cases bs <;> simp [hexText]

theorem bitText_all (bs : Bits) : (bitText bs).all (fun c => c == 48 || c == 49) = true := by
  induction bs with
  | nil => rfl
  | cons b r ih =>
    simp only [bitText, List.map_cons, List.all_cons, Bool.and_eq_true] at ih ⊢
    exact ⟨by cases b <;> rfl, ih⟩

theorem bitText_back (bs : Bits) : (bitText bs).map (· == 49) = bs := by
  induction bs with
  | nil => rfl
  | cons b r ih =>
    simp only [bitText, List.map_cons, List.map_map] at ih ⊢
    rw [ih]
    cases b <;> rfl

theorem parseBits_bitText (bs : Bits) :
    parseBits (bitText bs) = .ok (.bits (packBits bs) bs.length) := by
  unfold parseBits
  rw [if_pos (bitText_all bs), bitText_back]

end Asn1.Xer
