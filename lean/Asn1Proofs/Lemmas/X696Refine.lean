import Asn1Proofs.Lemmas.X696Seq
/-
  C06: the complete SEQUENCE and the induction over `Ty`.
-/
namespace Asn1.X696

theorem all_isNone_eq (slots : List (Option Bytes)) :
    slots.all Option.isNone = (slots.filterMap id).isEmpty := by
  induction slots with
  | nil => rfl
  | cons a r ih => cases a <;> simp [ih]

theorem ref_sequence (root : Members) (ext : Bool) (adds : Members)
    (ihr : root.All REF) (iha : adds.All REF) : REF (.sequence root ext adds) := by
  intro v hwf ht hdev
  obtain ⟨fs, rfl, ht⟩ := hasType_sequence ht
  obtain ⟨hwr, hwa, hnd, -⟩ := wf_sequence hwf
  obtain ⟨hokr, hoka⟩ := membersOk_of_hasType root adds ext fs hnd ht
  rw [devs] at hdev
  simp only [List.append_eq_nil_iff] at hdev
  obtain ⟨⟨⟨⟨hdr, hda⟩, hdef⟩, _⟩, hsw⟩ := hdev
  have hdef' : additionIsDefault adds fs = false := by
    cases h : additionIsDefault adds fs with
    | false => rfl
    | true => simp [h] at hdef
  obtain ⟨hroot, a1, a2⟩ := encRoot_eq fs root ihr hwr hokr hdr
  obtain ⟨⟨slots, hs, ha, hlen⟩, b1, b2⟩ :=
    slots_eq fs adds iha hwa hoka hda hdef' (additionFails_false hoka hsw)
  refine ⟨?_, by simp only [Oer.utf8Ok, a1, b1, Bool.and_self],
    by simp only [Oer.noSwallow, a2, b2, Bool.and_self]⟩
  rw [Oer.enc_sequence, enc, preamble_eq, ok_bind, hroot]
  cases hroot : encRoot root fs with
  | error e => rfl
  | ok body =>
    rw [ok_bind]
    cases ext with
    | false => rfl
    | true =>
      rw [hs, ha]
      simp only [all_isNone_eq, Bool.true_and, if_true]
      cases hemp : (slots.filterMap id).isEmpty with
      | true => simp
      | false =>
        have hpl : (packBits (slots.map Option.isSome)).length = (adds.length + 7) / 8 := by
          rw [Asn1.packBits_length, List.length_map, hlen]
        simp only [Bool.not_false, Bool.false_eq_true, if_true, if_false, List.length_map, hlen,
          Nat.sub_self, List.replicate_zero, List.nil_append, encBitsVar, lengthDet_eq, hpl]
        rw [Uper.mapM_congr Oer.wrap openType _ fun x _ => (openType_eq x).symm, Nat.add_comm 1,
          ← padLength_eq]
        cases Oer.lenDet ((adds.length + 7) / 8 + 1) <;>
          cases List.mapM openType (slots.filterMap id) <;> simp [ok_bind, error_bind]

theorem ref_all (t : Ty) : REF t :=
  Ty.induct (P := REF)
    ref_boolean ref_null ref_integer ref_enumerated ref_octetString ref_bitString ref_charString
    ref_sequence ref_sequenceOf ref_choice t

end Asn1.X696
