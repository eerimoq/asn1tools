import Asn1Model.Json
/-
  The lexical level of the JSON reader on what the writer produces: numbers, `\uXXXX` escapes, string bodies,
  white space.  GSER writes its INTEGERs with the same `renderInt`.
-/
namespace Asn1.Json

theorem digitsVal_append_singleton (ds : List Nat) (c : Nat) :
    digitsVal (ds ++ [c]) = 10 * digitsVal ds + (c - 48) := by
  simp [digitsVal, List.foldl_append]

theorem natDigitsAux_spec (fuel : Nat) : ∀ (n : Nat) (acc : List Nat), n < fuel →
    ∃ ds, natDigitsAux fuel n acc = ds ++ acc ∧ (∀ c ∈ ds, isDigit c = true) ∧ ds ≠ [] ∧
      digitsVal ds = n ∧ (ds.head? = some 48 → ds = [48]) := by
  induction fuel with
  | zero => intro n acc h; omega
  | succ fuel ih =>
    intro n acc h
    unfold natDigitsAux
    by_cases h10 : n < 10
    · rw [if_pos h10]
      refine ⟨[48 + n], rfl, ?_, by simp, ?_, ?_⟩
      · intro c hc
        simp only [List.mem_singleton] at hc
        subst hc
        simp only [isDigit, Bool.and_eq_true, decide_eq_true_eq]
        omega
      · simp [digitsVal]
      · intro hh
        simp only [List.head?_cons, Option.some.injEq] at hh
        have : n = 0 := by omega
        subst this; rfl
    · rw [if_neg h10]
      obtain ⟨ds, h1, h2, h3, h4, h5⟩ := ih (n / 10) ((48 + n % 10) :: acc) (by omega)
      refine ⟨ds ++ [48 + n % 10], by rw [h1]; simp, ?_, by simp, ?_, ?_⟩
      · intro c hc
        simp only [List.mem_append, List.mem_singleton] at hc
        rcases hc with hc | hc
        · exact h2 c hc
        · subst hc
          simp only [isDigit, Bool.and_eq_true, decide_eq_true_eq]
          omega
      · rw [digitsVal_append_singleton, h4]; omega
      · intro hh
        exfalso
        cases ds with
        | nil => exact h3 rfl
        | cons d ds' =>
          simp only [List.cons_append, List.head?_cons, Option.some.injEq] at hh
          subst hh
          have := h5 rfl
          rw [this] at h4
          simp [digitsVal] at h4
          omega

theorem natDigits_spec (n : Nat) :
    (∀ c ∈ natDigits n, isDigit c = true) ∧ natDigits n ≠ [] ∧ digitsVal (natDigits n) = n ∧
      ((natDigits n).head? = some 48 → natDigits n = [48]) := by
  obtain ⟨ds, h1, h2, h3, h4, h5⟩ := natDigitsAux_spec (n + 1) n [] (by omega)
  have : natDigits n = ds := by rw [natDigits, h1]; simp
  rw [this]
  exact ⟨h2, h3, h4, h5⟩

/-- what may come next: the first character of what follows satisfies `p`; the end of the input counts as
admissible -/
def headP (p : Nat → Prop) : List Nat → Prop
  | [] => True
  | c :: _ => p c

theorem headP.mono {p q : Nat → Prop} (h : ∀ c, p c → q c) : ∀ {s : List Nat}, headP p s → headP q s
  | [], _ => trivial
  | c :: _, hp => h c hp

/-- `,` `]` `}` and the white-space characters: what the writer puts after a value -/
def stops : List Nat := [44, 93, 125, 32, 9, 10, 13]

/-- none of them continues a number: no digit, no `.`, `e`, `E` -/
theorem stops_table : ∀ c ∈ stops, isDigit c = false ∧ c ≠ 46 ∧ c ≠ 101 ∧ c ≠ 69 := by decide

theorem isWs_stop {c : Nat} (h : isWs c = true) : c ∈ stops := by
  simp only [isWs, Bool.or_eq_true, beq_iff_eq] at h
  rcases h with ((h | h) | h) | h <;> subst h <;> decide

/-- the follow condition of the reader lemmas: a value is followed by one of `stops`, or by nothing -/
def okFollow (rest : List Nat) : Prop := headP (· ∈ stops) rest

/-- the weaker condition under which a digit run is read back whole -/
def notDigitHead (rest : List Nat) : Prop := headP (isDigit · = false) rest

theorem okFollow_ws_append (w : List Nat) (c : Nat) (rest : List Nat) (hw : ∀ x ∈ w, isWs x = true)
    (hc : c ∈ stops) : okFollow (w ++ c :: rest) := by
  cases w with
  | nil => exact hc
  | cons x w => exact isWs_stop (hw x (List.mem_cons_self ..))

theorem spanDigits_append (ds rest : List Nat) (hd : ∀ c ∈ ds, isDigit c = true)
    (hr : notDigitHead rest) :
    spanDigits (ds ++ rest) = (ds, rest) := by
  induction ds with
  | nil =>
    cases rest with
    | nil => rfl
    | cons c r => simp only [List.nil_append, spanDigits]; rw [show isDigit c = false from hr]; simp
  | cons d ds ih =>
    have hdd := hd d (List.mem_cons_self ..)
    simp only [List.cons_append, spanDigits, hdd, if_true]
    rw [ih (fun c hc => hd c (List.mem_cons_of_mem _ hc))]

theorem okFollow_not_digit {rest : List Nat} (h : okFollow rest) : notDigitHead rest :=
  h.mono fun c hc => (stops_table c hc).1

theorem okFollow_head {p : Nat} {r : List Nat} (h : okFollow (p :: r)) : p ≠ 46 ∧ p ≠ 101 ∧ p ≠ 69 :=
  (stops_table p h).2

theorem parseExp_int (neg : Bool) (ds rest : List Nat) (hr : okFollow rest) :
    parseExp neg ds [] rest = some (.num (signed neg (digitsVal ds)), rest) := by
  cases rest with
  | nil => simp [parseExp]
  | cons e r =>
    have h := okFollow_head hr
    simp [parseExp, h.2.1, h.2.2]

theorem parseNumber_digits (neg : Bool) (ds rest : List Nat) (hd : ∀ c ∈ ds, isDigit c = true) (hne : ds ≠ [])
    (hz : ds.head? = some 48 → ds = [48]) (hr : okFollow rest) :
    parseNumber ((if neg then 45 :: ds else ds) ++ rest) = some (.num (signed neg (digitsVal ds)), rest) := by
  cases ds with
  | nil => exact absurd rfl hne
  | cons d ds' =>
    have hd45 : ¬ d = 45 := by
      have hdd := hd d (List.mem_cons_self ..)
      simp only [isDigit, Bool.and_eq_true, decide_eq_true_eq] at hdd; omega
    have hsp : spanDigits (d :: (ds' ++ rest)) = (d :: ds', rest) :=
      spanDigits_append (d :: ds') rest hd (okFollow_not_digit hr)
    have hlead : ¬ (d = 48 ∧ (!ds'.isEmpty) = true) := by
      rintro ⟨rfl, h2⟩
      have := hz rfl
      simp only [List.cons.injEq, true_and] at this
      subst this
      simp at h2
    have key := parseExp_int neg (d :: ds') rest hr
    have hin : (if neg then 45 :: d :: ds' else d :: ds') ++ rest =
        if neg then 45 :: d :: (ds' ++ rest) else d :: (ds' ++ rest) := by
      cases neg <;> rfl
    rw [hin]
    cases rest with
    | nil =>
      cases neg
      · simp only [parseNumber, hd45, hsp, hlead, Bool.false_eq_true, if_false]
        exact key
      · simp only [parseNumber, hsp, hlead, if_true, if_false]
        exact key
    | cons p r =>
      have h46 := (okFollow_head hr).1
      cases neg
      · simp only [parseNumber, hd45, hsp, hlead, Bool.false_eq_true, if_false, h46]
        exact key
      · simp only [parseNumber, hsp, hlead, if_true, if_false, h46]
        exact key

theorem parseNumber_renderInt (i : Int) (rest : List Nat) (hr : okFollow rest) :
    parseNumber (renderInt i ++ rest) = some (.num i, rest) := by
  unfold renderInt
  by_cases hneg : i < 0
  · obtain ⟨h1, h2, h3, h4⟩ := natDigits_spec (-i).toNat
    have := parseNumber_digits true _ rest h1 h2 h4 hr
    rw [if_pos rfl, h3] at this
    rw [if_pos hneg, this, signed, if_pos rfl]
    congr 3; omega
  · obtain ⟨h1, h2, h3, h4⟩ := natDigits_spec i.toNat
    have := parseNumber_digits false _ rest h1 h2 h4 hr
    rw [if_neg Bool.false_ne_true, h3] at this
    rw [if_neg hneg, this, signed, if_neg Bool.false_ne_true]
    congr 3; omega

theorem renderInt_head (i : Int) : ∃ h tl, renderInt i = h :: tl ∧ (h = 45 ∨ isDigit h = true) := by
  unfold renderInt
  by_cases hneg : i < 0
  · rw [if_pos hneg]; exact ⟨45, _, rfl, Or.inl rfl⟩
  · rw [if_neg hneg]
    obtain ⟨h1, h2, _, _⟩ := natDigits_spec i.toNat
    cases hd : natDigits i.toNat with
    | nil => exact absurd hd h2
    | cons d tl => exact ⟨d, tl, rfl, Or.inr (h1 d (by rw [hd]; exact List.mem_cons_self ..))⟩

/-- the first character of a number is none of those `value` dispatches on before it tries a number, and is
not white space or a closing bracket -/
theorem numHead_facts {h : Nat} (hh : h = 45 ∨ isDigit h = true) :
    isWs h = false ∧ h ≠ 93 ∧ h ≠ 125 ∧ h ≠ 110 ∧ h ≠ 116 ∧ h ≠ 102 ∧ h ≠ 34 ∧ h ≠ 91 ∧ h ≠ 123 := by
  have : h = 45 ∨ (48 ≤ h ∧ h ≤ 57) := by
    simpa only [isDigit, Bool.and_eq_true, decide_eq_true_eq] using hh
  simp only [isWs, Bool.or_eq_false_iff, beq_eq_false_iff_ne]
  omega

theorem hexNat_hexDigitN (d : Nat) (h : d < 16) : hexNat (hexDigitN d) = some d := by
  unfold hexDigitN hexNat
  by_cases h10 : d < 10
  · rw [if_pos h10, if_pos (by omega)]; congr 1; omega
  · rw [if_neg h10, if_neg (by omega), if_pos (by omega)]; congr 1; omega

theorem hex4_digits (u : Nat) (h : u < 65536) (r : List Nat) :
    hex4 (hexDigitN (u / 4096 % 16) :: hexDigitN (u / 256 % 16) :: hexDigitN (u / 16 % 16) ::
      hexDigitN (u % 16) :: r) = some (u, r) := by
  simp only [hex4, hexNat_hexDigitN _ (Nat.mod_lt _ (by decide : 16 > 0))]
  congr 2
  omega

theorem hexDigitN_ne (d : Nat) (h : d < 16) (c : Nat) (hc : c < 48 ∨ (57 < c ∧ c < 97) ∨ 102 < c) :
    hexDigitN d ≠ c := by
  unfold hexDigitN
  split <;> omega

theorem uEscape_eq (u : Nat) : uEscape u = 92 :: 117 :: hexDigitN (u / 4096 % 16) :: hexDigitN (u / 256 % 16) ::
    hexDigitN (u / 16 % 16) :: hexDigitN (u % 16) :: [] := rfl

theorem strStep_escape_bmp (u : Nat) (h : u < 65536) (hs : ¬ (0xd800 ≤ u ∧ u < 0xe000)) (r : List Nat) :
    strStep (uEscape u ++ r) = some (u, r) := by
  rw [uEscape_eq]
  simp only [List.cons_append, List.nil_append, strStep, hex4_digits u h, Nat.reduceEqDiff, reduceIte]
  rw [if_neg (by omega), if_neg (by omega)]

theorem strStep_pair_gen (hi lo : Nat) (hhi : 0xd800 ≤ hi ∧ hi < 0xdc00) (hlo : 0xdc00 ≤ lo ∧ lo < 0xe000)
    (r : List Nat) :
    strStep (uEscape hi ++ uEscape lo ++ r) = some (0x10000 + (hi - 0xd800) * 1024 + (lo - 0xdc00), r) := by
  rw [uEscape_eq, uEscape_eq]
  simp only [List.cons_append, List.nil_append, strStep, hex4_digits hi (by omega), hex4_digits lo (by omega),
    Nat.reduceEqDiff, and_self, reduceIte, if_pos hhi, if_pos hlo]

theorem strStep_escape_pair (c : Nat) (h1 : 0x10000 ≤ c) (h2 : c < 0x110000) (r : List Nat) :
    strStep (uEscape (0xd800 + (c - 0x10000) / 1024 % 1024) ++ uEscape (0xdc00 + (c - 0x10000) % 1024) ++ r)
      = some (c, r) := by
  have key := strStep_pair_gen (0xd800 + (c - 0x10000) / 1024 % 1024) (0xdc00 + (c - 0x10000) % 1024)
    (by omega) (by omega) r
  rw [key, Option.some.injEq, Prod.mk.injEq]
  exact ⟨by omega, rfl⟩

/-- the two-character escapes of `ESCAPE_DCT`: code point and the letter after the backslash -/
def shortEsc : List (Nat × Nat) := [(34, 34), (92, 92), (10, 110), (13, 114), (9, 116), (12, 102), (8, 98)]

theorem renderChar_cases (c : Nat) :
    (∃ e, (c, e) ∈ shortEsc ∧ renderChar c = [92, e]) ∨
    (32 ≤ c ∧ c ≤ 126 ∧ c ≠ 34 ∧ c ≠ 92 ∧ renderChar c = [c]) ∨
    (c < 0x10000 ∧ ¬ (32 ≤ c ∧ c ≤ 126) ∧ renderChar c = uEscape c) ∨
    (0x10000 ≤ c ∧
      renderChar c = uEscape (0xd800 + (c - 0x10000) / 1024 % 1024) ++ uEscape (0xdc00 + (c - 0x10000) % 1024)) := by
  by_cases hs : c = 34 ∨ c = 92 ∨ c = 10 ∨ c = 13 ∨ c = 9 ∨ c = 12 ∨ c = 8
  · refine .inl ?_
    rcases hs with rfl | rfl | rfl | rfl | rfl | rfl | rfl <;> exact ⟨_, by decide, rfl⟩
  · refine .inr ?_
    unfold renderChar
    rw [if_neg (by omega), if_neg (by omega), if_neg (by omega), if_neg (by omega), if_neg (by omega),
      if_neg (by omega), if_neg (by omega)]
    by_cases hp : 32 ≤ c ∧ c ≤ 126
    · rw [if_pos hp]; exact .inl ⟨hp.1, hp.2, by omega, by omega, rfl⟩
    · rw [if_neg hp]
      by_cases hb : c < 0x10000
      · rw [if_pos hb]; exact .inr (.inl ⟨hb, hp, rfl⟩)
      · rw [if_neg hb]; exact .inr (.inr ⟨by omega, rfl⟩)

theorem strStep_renderChar (c : Nat) (hc : isScalar c = true) (r : List Nat) :
    strStep (renderChar c ++ r) = some (c, r) := by
  have hlt : c < 0x110000 := by
    simp only [isScalar, Bool.and_eq_true, decide_eq_true_eq] at hc; exact hc.1
  rcases renderChar_cases c with ⟨e, hm, h⟩ | ⟨_, _, h34, h92, h⟩ | ⟨hb, hp, h⟩ | ⟨ha, h⟩ <;> rw [h]
  · simp only [shortEsc, List.mem_cons, Prod.mk.injEq, List.not_mem_nil, or_false] at hm
    rcases hm with ⟨rfl, rfl⟩ | ⟨rfl, rfl⟩ | ⟨rfl, rfl⟩ | ⟨rfl, rfl⟩ | ⟨rfl, rfl⟩ | ⟨rfl, rfl⟩ | ⟨rfl, rfl⟩ <;> rfl
  · simp only [List.cons_append, List.nil_append, strStep, if_neg h92, if_neg h34, hc, reduceIte]
    rw [if_neg (by omega)]
  · refine strStep_escape_bmp c hb ?_ r
    simp only [isScalar, Bool.and_eq_true, decide_eq_true_eq, Bool.not_eq_true', Bool.and_eq_false_iff,
      decide_eq_false_iff_not] at hc
    omega
  · exact strStep_escape_pair c ha hlt r

theorem renderChar_head (c : Nat) : ∃ h tl, renderChar c = h :: tl ∧ h ≠ 34 := by
  rcases renderChar_cases c with ⟨e, _, h⟩ | ⟨_, _, h34, _, h⟩ | ⟨_, _, h⟩ | ⟨_, h⟩
  · exact ⟨92, _, h, by decide⟩
  · exact ⟨c, _, h, h34⟩
  · exact ⟨92, _, h, by decide⟩
  · exact ⟨92, _, h, by decide⟩

theorem parseStr_render (cps : List Nat) (hs : ∀ c ∈ cps, isScalar c = true) (r : List Nat) (fuel : Nat)
    (hf : cps.length + 1 ≤ fuel) :
    parseStr fuel (cps.flatMap renderChar ++ 34 :: r) = some (cps, r) := by
  induction cps generalizing fuel with
  | nil =>
    match fuel, hf with
    | fuel + 1, _ => simp [parseStr]
  | cons c cps ih =>
    match fuel, hf with
    | fuel + 1, hf =>
      obtain ⟨h, tl, e, hne⟩ := renderChar_head c
      have step := strStep_renderChar c (hs c (List.mem_cons_self ..)) (cps.flatMap renderChar ++ 34 :: r)
      rw [List.flatMap_cons, List.append_assoc]
      rw [e] at step ⊢
      rw [List.cons_append] at step ⊢
      rw [parseStr, if_neg hne, step]
      simp only []
      rw [ih (fun x hx => hs x (List.mem_cons_of_mem _ hx)) fuel (by simp at hf; omega)]

theorem skipWs_of_not_ws (c : Nat) (r : List Nat) (h : isWs c = false) : skipWs (c :: r) = c :: r := by
  simp [skipWs, h]

theorem skipWs_ws_append (w s : List Nat) (hw : ∀ c ∈ w, isWs c = true) : skipWs (w ++ s) = skipWs s := by
  induction w with
  | nil => rfl
  | cons c w ih =>
    rw [List.cons_append, skipWs, if_pos (hw c (List.mem_cons_self ..))]
    exact ih (fun x hx => hw x (List.mem_cons_of_mem _ hx))

theorem nl_ws (indent : Option Nat) (level : Nat) : ∀ c ∈ nl indent level, isWs c = true := by
  intro c hc
  cases indent with
  | none => simp [nl] at hc
  | some n =>
    simp only [nl, List.mem_cons, List.mem_replicate] at hc
    rcases hc with hc | ⟨_, hc⟩ <;> subst hc <;> decide

theorem skipWs_nl (indent : Option Nat) (level : Nat) (s : List Nat) :
    skipWs (nl indent level ++ s) = skipWs s := skipWs_ws_append _ _ (nl_ws indent level)

end Asn1.Json
