import Asn1Proofs.Lemmas.CCursorBits
/-
  C09, functional part, encoder side: the bits `writeBit`, `writeNnbi` and `writeBytes` (aligned
  `memcpy` branch and unaligned loop) append, each as an `Appends` statement (loops by `Appends.trans`), and
  the byte strings of the fixed width helpers.
-/
namespace Asn1.CCursor
open Asn1

theorem writeBit_other (buf : Mem) (p v j : Nat) (h : j ≠ p / 8) :
    (writeBit buf p v)[j]! = buf[j]! := by
  unfold writeBit
  split <;> simp only [get_set!_ne _ _ _ _ (Ne.symm h)]

theorem mask_testBit (v s k : Nat) (hv : v ≤ 1) (hs : s ≤ 7) :
    (UInt8.ofNat (v <<< s)).toNat.testBit k = (decide (k = s) && v == 1) := by
  rw [UInt8.toNat_ofNat', Nat.testBit_mod_two_pow, Nat.testBit_shiftLeft]
  have : v = 0 ∨ v = 1 := by omega
  rcases this with rfl | rfl
  · simp
  · by_cases hk : k = s
    · subst hk; simp; omega
    · simp only [hk, decide_false, Bool.false_and]
      by_cases h2 : k ≥ s
      · have : k - s ≠ 0 := by omega
        have h1 : Nat.testBit 1 (k - s) = false :=
          Bool.eq_false_iff.2 (fun h => this (Nat.testBit_one_eq_true_iff_self_eq_zero.1 h))
        simp [h1]
      · simp [h2]

theorem writeBit_byte (buf : Mem) (p v : Nat) (hp : p / 8 < buf.size) :
    (writeBit buf p v)[p / 8]!
      = (if p % 8 = 0 then 0 else buf[p / 8]!) ||| UInt8.ofNat (v <<< (7 - p % 8)) := by
  unfold writeBit
  split
  · rw [get_set!_same _ _ _ (by simpa using hp), get_set!_same _ _ _ hp]
  · rw [get_set!_same _ _ _ hp]

theorem getBit_writeBit_eq (buf : Mem) (p v q : Nat) (hv : v ≤ 1) (hp : p / 8 < buf.size) :
    getBit (writeBit buf p v) q
      = if q / 8 = p / 8 then
          ((if p % 8 = 0 then false else getBit buf q) || (decide (q = p) && v == 1))
        else getBit buf q := by
  by_cases hq : q / 8 = p / 8
  · rw [if_pos hq, getBit_def, hq, writeBit_byte buf p v hp, UInt8.toNat_or, Nat.testBit_or,
      mask_testBit v _ _ hv (by omega)]
    have e : decide (7 - q % 8 = 7 - p % 8) = decide (q = p) := by
      apply decide_eq_decide.2; omega
    rw [e]
    congr 1
    split
    · simp
    · rw [getBit_def, hq]
  · rw [if_neg hq]
    exact getBit_congr_byte (writeBit_other buf p v _ hq)

/-- `buf'` is `buf` with `bits` appended at bit position `p`: nothing before `p` changes, the bits stand at `p`, and
zero padding follows up to the byte boundary (what the `|=` of the next helper relies on).  Every write of the encoder
helpers has this shape, and two of them in a row have it again (`Appends.trans`). -/
structure Appends (buf buf' : Mem) (p : Nat) (bits : Bits) : Prop where
  size : buf'.size = buf.size
  before : ∀ q, q < p → getBit buf' q = getBit buf q
  here : bitsFrom buf' p bits.length = bits
  padded : Padded buf' (p + bits.length)

theorem Appends.of_length {buf buf' : Mem} {p n : Nat} {bits : Bits} (hn : bits.length = n)
    (hs : buf'.size = buf.size) (h1 : ∀ q, q < p → getBit buf' q = getBit buf q)
    (h2 : bitsFrom buf' p n = bits) (h3 : Padded buf' (p + n)) : Appends buf buf' p bits := by
  subst hn
  exact ⟨hs, h1, h2, h3⟩

theorem Appends.refl {buf : Mem} {p : Nat} (hpad : Padded buf p) : Appends buf buf p [] :=
  ⟨rfl, fun _ _ => rfl, rfl, hpad⟩

theorem Appends.trans {b b1 b2 : Mem} {p : Nat} {x y : Bits} (h1 : Appends b b1 p x)
    (h2 : Appends b1 b2 (p + x.length) y) : Appends b b2 p (x ++ y) := by
  refine ⟨h2.size.trans h1.size, fun q hq => (h2.before q (by omega)).trans (h1.before q hq), ?_, ?_⟩
  · rw [List.length_append, bitsFrom_add, h2.here,
      (bitsFrom_congr fun k hk => h2.before (p + k) (by omega)).trans h1.here]
  · rw [List.length_append, ← Nat.add_assoc]
    exact h2.padded

theorem Appends.here_eq {b b' : Mem} {p n : Nat} {x : Bits} (h : Appends b b' p x) (hn : x.length = n) :
    bitsFrom b' p n = x :=
  hn ▸ h.here

theorem Appends.written {b b' : Mem} {p n : Nat} {x : Bits} (h : Appends b b' p x) (hn : x.length = n) :
    bitsFrom b' 0 (p + n) = bitsFrom b 0 p ++ x ∧ Padded b' (p + n) := by
  subst hn
  refine ⟨?_, h.padded⟩
  rw [bitsFrom_add, Nat.zero_add, h.here]
  congr 1
  exact bitsFrom_congr fun k hk => h.before (0 + k) (by omega)

theorem writeBit_appends (buf : Mem) (p v : Nat) (hv : v ≤ 1) (hp : p / 8 < buf.size)
    (hpad : Padded buf p) : Appends buf (writeBit buf p v) p [v == 1] := by
  refine ⟨writeBit_size _ _ _, ?_, congrArg (· :: []) ?_, ?_⟩
  · intro q hq
    rw [getBit_writeBit_eq buf p v q hv hp]
    split
    · rename_i h8
      have hne : ¬ q = p := by omega
      have hp0 : ¬ p % 8 = 0 := by omega
      simp [hne, hp0]
    · rfl
  · show getBit (writeBit buf p v) (p + 0) = (v == 1)
    rw [Nat.add_zero, getBit_writeBit_eq buf p v p hv hp]
    simp only [if_true, decide_true, Bool.true_and]
    split
    · simp
    · rw [hpad p (Nat.le_refl _) (by omega)]; simp
  · show Padded (writeBit buf p v) (p + 1)
    intro q h1 h2
    rw [getBit_writeBit_eq buf p v q hv hp]
    have h8 : q / 8 = p / 8 := by omega
    have hne : ¬ q = p := by omega
    simp only [h8, if_true, hne, decide_false, Bool.false_and, Bool.or_false]
    split
    · rfl
    · exact hpad q (by omega) (by omega)

theorem nnbi_bit (value : UInt64) (k : Nat) (hk : k < 64) :
    ((value >>> UInt64.ofNat k) &&& 1).toNat = if value.toNat.testBit k then 1 else 0 := by
  rw [UInt64.toNat_and, UInt64.toNat_shiftRight, UInt64.toNat_ofNat', show k % 2 ^ 64 % 64 = k by omega]
  exact shr_and_one _ _

theorem writeNnbi_appends (value : UInt64) (size : Nat) (hsize : size ≤ 64) :
    ∀ (n i : Nat) (buf : Mem) (p : Nat), i + n = size → (p + n + 7) / 8 ≤ buf.size → Padded buf p →
      Appends buf (writeNnbi value size n i buf p) p (natToBits n value.toNat) := by
  intro n
  induction n with
  | zero => intro i buf p _ _ hpad; exact .refl hpad
  | succ n ih =>
    intro i buf p hin hsz hpad
    have e : size - i - 1 = n := by omega
    rw [writeNnbi, e, nnbi_bit value n (by omega), natToBits_succ_testBit]
    generalize hv : (if value.toNat.testBit n = true then 1 else 0) = v
    have hvb : value.toNat.testBit n = (v == 1) := by
      subst hv; cases value.toNat.testBit n <;> rfl
    have h1 := writeBit_appends buf p v (by subst hv; split <;> omega) (by omega) hpad
    rw [hvb]
    exact h1.trans (ih (i + 1) _ (p + 1) (by omega) (by rw [writeBit_size]; omega) h1.padded)

/-- one iteration of the unaligned loop of `encoder_append_bytes`: the byte `b` written at bit position `P` -/
def putByte (buf : Mem) (P : Nat) (b : UInt8) : Mem :=
  (buf.set! (P / 8) (buf[P / 8]! ||| UInt8.ofNat (b.toNat >>> (P % 8)))).set! (P / 8 + 1)
    (UInt8.ofNat (b.toNat <<< (8 - P % 8)))

theorem putByte_size (buf : Mem) (P : Nat) (b : UInt8) : (putByte buf P b).size = buf.size := by
  simp [putByte]

theorem putByte_other (buf : Mem) (P : Nat) (b : UInt8) (j : Nat) (h1 : j ≠ P / 8)
    (h2 : j ≠ P / 8 + 1) : (putByte buf P b)[j]! = buf[j]! := by
  unfold putByte
  rw [get_set!_ne _ _ _ _ (Ne.symm h2), get_set!_ne _ _ _ _ (Ne.symm h1)]

theorem putByte_lo (buf : Mem) (P : Nat) (b : UInt8) (hsz : P / 8 + 1 < buf.size) :
    (putByte buf P b)[P / 8]! = buf[P / 8]! ||| UInt8.ofNat (b.toNat >>> (P % 8)) := by
  unfold putByte
  rw [get_set!_ne _ _ _ _ (by omega), get_set!_same _ _ _ (by omega)]

theorem putByte_hi (buf : Mem) (P : Nat) (b : UInt8) (hsz : P / 8 + 1 < buf.size) :
    (putByte buf P b)[P / 8 + 1]! = UInt8.ofNat (b.toNat <<< (8 - P % 8)) := by
  unfold putByte
  rw [get_set!_same _ _ _ (by rw [Mem.size_set!]; omega)]

theorem putByte_appends (buf : Mem) (P : Nat) (b : UInt8) (hP : P % 8 ≠ 0)
    (hsz : P / 8 + 1 < buf.size) (hpad : Padded buf P) :
    Appends buf (putByte buf P b) P (natToBits 8 b.toNat) := by
  have hb := b.toNat_lt
  have hlo : ∀ q, q / 8 = P / 8 →
      getBit (putByte buf P b) q = (getBit buf q || b.toNat.testBit (P % 8 + (7 - q % 8))) := by
    intro q hq
    rw [getBit_def, hq, putByte_lo buf P b hsz, UInt8.toNat_or, Nat.testBit_or, UInt8.toNat_ofNat',
      Nat.testBit_mod_two_pow, Nat.testBit_shiftRight, getBit_def, hq]
    have : decide (7 - q % 8 < 8) = true := by simp; omega
    rw [this, Bool.true_and]
  have hhi : ∀ q, q / 8 = P / 8 + 1 →
      getBit (putByte buf P b) q
        = (decide (7 - q % 8 ≥ 8 - P % 8) && b.toNat.testBit (7 - q % 8 - (8 - P % 8))) := by
    intro q hq
    rw [getBit_def, hq, putByte_hi buf P b hsz, UInt8.toNat_ofNat', Nat.testBit_mod_two_pow,
      Nat.testBit_shiftLeft]
    have : decide (7 - q % 8 < 8) = true := by simp; omega
    rw [this, Bool.true_and]
  refine .of_length (natToBits_length 8 _) (putByte_size _ _ _) ?_ ?_ ?_
  · intro q hq
    by_cases h8 : q / 8 = P / 8
    · rw [hlo q h8, byte_testBit_ge b _ (by omega), Bool.or_false]
    · exact getBit_congr_byte (putByte_other buf P b _ h8 (by omega))
  · apply List.ext_getElem
    · simp
    · intro k h1 h2
      have hk : k < 8 := by simpa using h1
      rw [bitsFrom_getElem, natToBits_getElem]
      by_cases h8 : (P + k) / 8 = P / 8
      · rw [hlo _ h8, hpad (P + k) (by omega) (by omega), Bool.false_or]
        congr 1; omega
      · have h9 : (P + k) / 8 = P / 8 + 1 := by omega
        rw [hhi _ h9]
        have : decide (7 - (P + k) % 8 ≥ 8 - P % 8) = true := by simp; omega
        rw [this, Bool.true_and]
        congr 1; omega
  · intro q h1 h2
    have h9 : q / 8 = P / 8 + 1 := by omega
    rw [hhi _ h9]
    have : decide (7 - q % 8 ≥ 8 - P % 8) = false := by simp; omega
    rw [this, Bool.false_and]

theorem pureAppendBytesLoop_succ (src : Mem) (bytePos pib n i : Nat) (buf : Mem) (h8 : pib < 8) :
    pureAppendBytesLoop src bytePos pib (n + 1) i buf
      = pureAppendBytesLoop src bytePos pib n (i + 1) (putByte buf (8 * (bytePos + i) + pib) src[i]!) := by
  have e1 : (8 * (bytePos + i) + pib) / 8 = bytePos + i := by omega
  have e2 : (8 * (bytePos + i) + pib) % 8 = pib := by omega
  simp only [pureAppendBytesLoop, putByte, e1, e2]

theorem pureAppendBytesLoop_appends (src : Mem) (bytePos pib : Nat) (h0 : 0 < pib) (h8 : pib < 8) :
    ∀ (n i : Nat) (buf : Mem) (P : Nat), P = 8 * (bytePos + i) + pib → bytePos + i + n < buf.size → Padded buf P →
      Appends buf (pureAppendBytesLoop src bytePos pib n i buf) P
        (bytesToBits ((List.range n).map fun k => src[i + k]!.toNat)) := by
  intro n
  induction n with
  | zero => intro i buf P _ _ hpad; exact .refl hpad
  | succ n ih =>
    intro i buf P hP hsz hpad
    have h1 := putByte_appends buf P src[i]! (by omega) (by omega) hpad
    have hp1 : Padded (putByte buf P src[i]!) (P + 8) := by
      have := h1.padded
      rwa [natToBits_length] at this
    have h2 := ih (i + 1) (putByte buf P src[i]!) (P + 8) (by omega) (by rw [putByte_size]; omega) hp1
    rw [pureAppendBytesLoop_succ _ _ _ _ _ _ h8, ← hP, List.range_succ_eq_map, List.map_cons, List.map_map]
    have := h1.trans (by rw [natToBits_length]; exact h2)
    simpa [bytesToBits, Function.comp_def, Nat.add_assoc, Nat.add_comm 1] using this

theorem writeBytes_appends (buf : Mem) (p : Nat) (src : Mem) (n : Nat) (hn : n ≤ src.size)
    (hsz : (p + 8 * n + 7) / 8 ≤ buf.size) (hpad : Padded buf p) :
    Appends buf (writeBytes buf p src n) p (bytesToBits ((src.toList.take n).map UInt8.toNat)) := by
  rw [bytes_take_eq src n hn]
  unfold writeBytes
  by_cases hal : p % 8 = 0
  · rw [if_pos hal]
    obtain ⟨h2, h3⟩ := pureMemcpy_spec src n buf (p / 8) 0 (by omega)
    refine .of_length (n := 8 * n) (by rw [Asn1.bytesToBits_length, List.length_map, List.length_range])
      (pureMemcpy_size _ _ _ _ _) (fun q hq => getBit_congr_byte (h3 _ (by omega))) ?_
      (padded_aligned _ _ (by omega))
    refine bitsFrom_of_bytes _ p _ n fun k hk => ?_
    rw [show p + 8 * k = 8 * (p / 8 + k) by omega, bitsFrom_byte, h2 k hk, Nat.zero_add]
  · rw [if_neg hal]
    by_cases hn0 : n = 0
    · subst hn0
      exact .refl hpad
    · have := pureAppendBytesLoop_appends src (p / 8) (p % 8) (by omega) (by omega) n 0 buf p (by omega) (by omega) hpad
      simpa using this

theorem bytesToBits_u8 (v : UInt8) : bytesToBits ((#[v] : Mem).toList.map UInt8.toNat) = natToBits 8 v.toNat := by
  simp [bytesToBits]

theorem bytesToBits_bytesU16 (v : UInt16) :
    bytesToBits ((bytesU16 v).toList.map UInt8.toNat) = natToBits 16 v.toNat :=
  (congrArg bytesToBits (bytesU16_toNat v)).trans (bytesToBits_natToBytesN 2 v.toNat)

theorem bytesToBits_bytesU32 (v : UInt32) :
    bytesToBits ((bytesU32 v).toList.map UInt8.toNat) = natToBits 32 v.toNat :=
  (congrArg bytesToBits (bytesU32_toNat v)).trans (bytesToBits_natToBytesN 4 v.toNat)

theorem bytesToBits_bytesU64 (v : UInt64) :
    bytesToBits ((bytesU64 v).toList.map UInt8.toNat) = natToBits 64 v.toNat :=
  (congrArg bytesToBits (bytesU64_toNat v)).trans (bytesToBits_natToBytesN 8 v.toNat)

theorem bitsFrom_writeBytes_all (buf : Mem) (p : Nat) (src : Mem)
    (hsz : (p + 8 * src.size + 7) / 8 ≤ buf.size) (hpad : Padded buf p) :
    bitsFrom (writeBytes buf p src src.size) p (8 * src.size) = bytesToBits (src.toList.map UInt8.toNat) := by
  have h := writeBytes_appends buf p src src.size (Nat.le_refl _) hsz hpad
  rw [List.take_of_length_le (by simp)] at h
  exact h.here_eq (by rw [Asn1.bytesToBits_length, List.length_map, Array.length_toList])

end Asn1.CCursor
