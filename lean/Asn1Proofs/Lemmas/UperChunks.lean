import Asn1Proofs.Lemmas.UperPrim
/-
  Repetition and fragmentation (`decRepeat`, `encChunks` / `decChunks`), built on two notions that the
  sized types of UPER and PER and SEQUENCE OF use: `All2 R items vals` (two lists related position by
  position) and `ItemRT p L item val` (one item round-trips under the bound `L`).
-/
namespace Asn1.Uper

/-- two lists of the same length whose elements correspond by `R`, position by position; in the round
trips: the encodings `items` of the values `vals` -/
inductive All2 {α β : Type} (R : α → β → Prop) : List α → List β → Prop
  | nil : All2 R [] []
  | cons {a b l1 l2} : R a b → All2 R l1 l2 → All2 R (a :: l1) (b :: l2)

/-- per-item round trip on inputs of at most `L` bits.  The bound is there because an item's decoder
may need fuel in proportion to its input (`Uper.RT`); the loops hand each item an input within it
(`L = fuel` for the leaves, `L = fuel - 2` for the elements of a SEQUENCE OF). -/
def ItemRT {α : Type} (p : Bits → DecM (α × Bits)) (L : Nat) (item : Bits) (val : α) : Prop :=
  ∀ rest : Bits, item.length + rest.length ≤ L → p (item ++ rest) = .ok (val, rest)

theorem decRepeat_flatten {α : Type} (p : Bits → DecM (α × Bits)) (L : Nat)
    (items : List Bits) (vals : List α) (h : All2 (ItemRT p L) items vals)
    (rest : Bits) (hL : items.flatten.length + rest.length ≤ L) :
    decRepeat p items.length (items.flatten ++ rest) = .ok (vals, rest) := by
  induction h with
  | nil => rfl
  | @cons item val items vals hx _ ih =>
    simp only [List.flatten_cons, List.length_append, List.length_cons] at hL ⊢
    simp only [decRepeat, List.append_assoc,
      hx (items.flatten ++ rest) (by simp only [List.length_append]; omega), ok_bind, ih (by omega)]

theorem All2.take {α β : Type} {R : α → β → Prop} {l1 : List α} {l2 : List β}
    (h : All2 R l1 l2) (k : Nat) : All2 R (l1.take k) (l2.take k) := by
  induction h generalizing k with
  | nil => simp only [List.take_nil]; exact .nil
  | cons hx _ ih =>
    cases k with
    | zero => exact .nil
    | succ k => simp only [List.take_succ_cons]; exact .cons hx (ih k)

theorem All2.drop {α β : Type} {R : α → β → Prop} {l1 : List α} {l2 : List β}
    (h : All2 R l1 l2) (k : Nat) : All2 R (l1.drop k) (l2.drop k) := by
  induction h generalizing k with
  | nil => simp only [List.drop_nil]; exact .nil
  | cons hx hr ih =>
    cases k with
    | zero => exact .cons hx hr
    | succ k => simp only [List.drop_succ_cons]; exact ih k

theorem All2.length_eq {α β : Type} {R : α → β → Prop} {l1 : List α} {l2 : List β}
    (h : All2 R l1 l2) : l1.length = l2.length := by
  induction h with
  | nil => rfl
  | cons _ _ ih => simp [ih]

theorem decChunks_encChunks {α : Type} (p : Bits → DecM (α × Bits)) (L : Nat)
    (fl : Nat) (items : List Bits) (vals : List α) (h : All2 (ItemRT p L) items vals)
    (hf : items.length / 16384 + 2 ≤ fl)
    (rest : Bits) (hL : (encChunks fl items).length + rest.length ≤ L)
    (fuel : Nat) (hfuel : (encChunks fl items).length < fuel) :
    decChunks p fuel (encChunks fl items ++ rest) = .ok (vals, rest) := by
  -- `fl` is the encoder's own bound on the number of fragments (`encChunked` takes
  -- `items.length / 16384 + 2`: `hf`), and the induction follows the encoder; the decoder's `fuel` only
  -- has to outlast it, which `hfuel` gives since every fragment has its length octet.  `hL` is the
  -- bound of `ItemRT`, handed to every item with what follows it.
  induction fl generalizing items vals fuel with
  | zero => omega
  | succ fl ih =>
    cases fuel with
    | zero => omega
    | succ fuel =>
      have hk := lenDet_snd_le items.length
      have hh := lenDet_length_ge items.length
      have htake : ((items.take (lenDet items.length).2)).length = (lenDet items.length).2 := by
        rw [List.length_take]; omega
      unfold encChunks at hL hfuel ⊢
      simp only at hL hfuel ⊢
      split
      · rename_i hlt
        simp only [hlt, if_true, List.length_append] at hL hfuel
        have hall : (lenDet items.length).2 = items.length := lenDet_snd_eq_of_snd_lt hlt
        rw [hall, List.take_length] at hL hfuel ⊢
        simp only [decChunks, List.append_assoc, readLenDet_lenDet, hall, ok_bind,
          decRepeat_flatten p L items vals h rest (by omega),
          if_pos (show items.length < 16384 by omega)]
      · rename_i hge
        simp only [hge, if_false, List.length_append] at hL hfuel
        have hrep := decRepeat_flatten p L _ _ (All2.take h (lenDet items.length).2)
          (encChunks fl (items.drop (lenDet items.length).2) ++ rest)
          (by simp only [List.length_append]; omega)
        rw [htake] at hrep
        simp only [decChunks, List.append_assoc, readLenDet_lenDet, ok_bind, hrep, hge, if_false,
          ih (items.drop (lenDet items.length).2) (vals.drop (lenDet items.length).2)
            (All2.drop h _) (by rw [List.length_drop]; omega) (by omega) fuel (by omega),
          List.take_append_drop]

theorem encChunked_eq (items : List Bits) : encChunked items = encChunks (items.length / 16384 + 2) items := rfl

theorem decChunks_encChunked {α : Type} (p : Bits → DecM (α × Bits)) (L : Nat)
    (items : List Bits) (vals : List α) (h : All2 (ItemRT p L) items vals)
    (rest : Bits) (hL : (encChunked items).length + rest.length ≤ L)
    (fuel : Nat) (hfuel : (encChunked items).length < fuel) :
    decChunks p fuel (encChunked items ++ rest) = .ok (vals, rest) :=
  decChunks_encChunks p L _ items vals h (Nat.le_refl _) rest hL fuel hfuel

end Asn1.Uper
