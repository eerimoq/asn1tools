import Asn1Proofs.Lemmas.PerSeqExt
import Asn1Proofs.Lemmas.OerBits
/-
  Aligned PER: the type checker pass of `Specification.encode` accepts every well-typed value, so
  `encode` is total on them (`encode_total`); `decode` on the octets of `encode` (`decode_packBits`).
-/
namespace Asn1.Per

/-- the type checker accepts every value of `t`, so `Per.encode` gets as far as the codec -/
def TC (t : Ty) : Prop := ∀ v : Val, t.wf = true → hasType t v = true → typeCheck t v = true

theorem typeCheckAlt_find (as : Alts) (name : String) (v : Val) :
    typeCheckAlt as name v = (as.find name).map (fun x => typeCheck x.2 v) :=
  Alts.search_map name (f := fun as => typeCheckAlt as name v) (fun _ _ _ => rfl) rfl as

theorem typeCheckMembers_cons (name : String) (p : Presence) (t : Ty) (rest : Members)
    (fs : List (String × Val)) :
    typeCheckMembers (.cons name p t rest) fs =
      ((match lookup name fs with
        | some v => typeCheck t v
        | none => true) && typeCheckMembers rest fs) := by
  cases p <;> rfl

theorem tc_members (fs : List (String × Val)) (ms : Members) :
    ms.All TC → ms.wf = true → membersOk ms fs = true → typeCheckMembers ms fs = true := by
  induction ms using Members.ind with
  | nil => intros; rfl
  | cons name p t ms ih =>
    intro hall hwf hok
    simp only [Members.wf, membersOk, Bool.and_eq_true] at hwf hok
    rw [typeCheckMembers_cons, ih hall.2 hwf.2 hok.2, Bool.and_true]
    cases hl : lookup name fs with
    | some v =>
      simp only [hl] at hok
      exact hall.1 v hwf.1 hok.1
    | none => rfl

theorem tc_boolean : TC .boolean := by
  intro v _ ht
  obtain ⟨b, rfl⟩ := hasType_boolean ht
  rfl

theorem tc_null : TC .null := by
  intro v _ ht
  cases hasType_null ht
  rfl

theorem tc_integer (c : IntC) : TC (.integer c) := by
  intro v _ ht
  obtain ⟨i, rfl, -⟩ := hasType_integer ht
  rfl

theorem tc_enumerated (r : List (String × Int)) (e : Option (List (String × Int))) :
    TC (.enumerated r e) := by
  intro v _ ht
  obtain ⟨name, rfl, -⟩ := hasType_enumerated ht
  rfl

theorem tc_octetString (c : SizeC) : TC (.octetString c) := by
  intro v _ ht
  obtain ⟨data, rfl, -⟩ := hasType_octetString ht
  rfl

theorem tc_bitString (c : SizeC) : TC (.bitString c) := by
  intro v _ ht
  obtain ⟨data, n, rfl, -, hlen, -⟩ := hasType_bitString ht
  unfold typeCheck
  simp only [decide_eq_true_eq]
  omega

theorem tc_charString (k : StrKind) (c : SizeC) : TC (.charString k c) := by
  intro v _ ht
  obtain ⟨cps, rfl, -⟩ := hasType_charString ht
  rfl

theorem tc_sequence (root : Members) (ext : Bool) (adds : Members)
    (ihr : root.All TC) (iha : adds.All TC) : TC (.sequence root ext adds) := by
  intro v hwf ht
  obtain ⟨fs, rfl, hrwf, hawf, hokr, hoka⟩ := record_of_hasType hwf ht
  unfold typeCheck
  simp only [Bool.and_eq_true]
  exact ⟨tc_members fs root ihr hrwf hokr, tc_members fs adds iha hawf hoka⟩

theorem tc_sequenceOf (e : Ty) (c : SizeC) (ih : TC e) : TC (.sequenceOf e c) := by
  intro v hwf ht
  obtain ⟨vs, rfl, hty, -⟩ := hasType_sequenceOf ht
  unfold typeCheck
  simp only [List.all_eq_true]
  exact fun v hv => ih v (wf_sequenceOf hwf) (hty v hv)

theorem tc_choice (root : Alts) (ext : Bool) (adds : Alts)
    (ihr : root.All TC) (iha : adds.All TC) : TC (.choice root ext adds) := by
  intro v hwf ht
  obtain ⟨name, w, rfl, hor⟩ := hasType_choice ht
  obtain ⟨_, t, sel, hwt, hty⟩ := Alts.sel_of_hasType hwf hor
  have := sel.all ihr iha w hwt hty
  unfold typeCheck
  rcases sel.finds with h | h
  · simpa only [typeCheckAlt_find, h, Option.map_some]
  · simpa only [typeCheckAlt_find, h, Option.map_some, Option.map_none, Option.getD_some]

theorem tc_all (t : Ty) : TC t :=
  Ty.induct (P := TC)
    tc_boolean tc_null tc_integer tc_enumerated tc_octetString tc_bitString tc_charString
    (fun root ext adds ihr iha => tc_sequence root ext adds ihr iha)
    (fun e c ih => tc_sequenceOf e c ih)
    (fun root ext adds ihr iha => tc_choice root ext adds ihr iha) t

theorem enc_total (t : Ty) (v : Val) (pos : Nat) (hwf : t.wf = true) (ht : hasType t v = true) :
    ∃ bits, enc t pos v = .ok bits :=
  et_all t v pos hwf ht

theorem encode_total (t : Ty) (v : Val) (hwf : t.wf = true) (ht : hasType t v = true) :
    ∃ bits, enc t 0 v = .ok bits ∧ encode t v = .ok (packBits bits) := by
  obtain ⟨bits, hb⟩ := enc_total t v 0 hwf ht
  refine ⟨bits, hb, ?_⟩
  unfold encode
  rw [tc_all t v hwf ht, if_pos rfl, hb]
  rfl

/-- the zero bits `packBits` appends to fill the last octet are the continuation `rest` -/
theorem decode_packBits (t : Ty) (bits : Bits) (w : Val)
    (h : ∀ rest fuel, bits.length + rest.length + 2 ≤ fuel →
      ∃ s, dec t fuel ⟨0, bits ++ rest⟩ = .ok (w, s)) :
    decode t (packBits bits) = .ok w := by
  unfold decode
  rw [bytesToBits_packBits, packBits_length, Uper.padToByte_eq]
  obtain ⟨s, hs⟩ := h (List.replicate (8 * ((bits.length + 7) / 8) - bits.length) false)
    (8 * ((bits.length + 7) / 8) + 2) (by simp only [List.length_replicate]; omega)
  rw [hs]
  rfl

end Asn1.Per
