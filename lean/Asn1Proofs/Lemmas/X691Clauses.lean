import Asn1Proofs.Lemmas.X691Prim
/-
  What a clause of X.691 prescribes once the deviation list is empty, for both variants at once, and
  the two inductions over component lists for any code model that treats a component list the way
  `encode_member` / `encode_additions` (per.py) do.
  Names: `enc_T_ok` (X691Prim): a success of `enc` at the constructor `T` fixes the form of the value;
  `f_inv`: what a success of `f` says in the terms of its clause, given `devs… = []` where the clause
  has deviations; `devsX_nil`: what `devsX … = []` says by itself; a conclusion `… = []` is `_eq_nil`.
-/
namespace Asn1.X691

/- `Except` has no `DecidableEq` of its own.  C05 decides equations `X691.encode … = .ok …` between
closed encoder results (Annex A, the witnesses); the instance is global and stands in the first
module all of them import. -/
deriving instance DecidableEq for Except

/-- The statement of C05 for any variant and code model (`REF := Ref false uperCode`,
`PREF := Ref true Per.enc`; `X696.REF` of C06 is another statement, an equation under `hasType`).
The code model `code` refines the specification of variant `al` at type `t`: without deviation,
where the standard defines an encoding at `pos` the code emits exactly those bits -/
def Ref (al : Bool) (code : Ty → Nat → Val → EncM Bits) (t : Ty) : Prop :=
  ∀ (v : Val) (pos : Nat) (bits : Bits),
    devs al t v = [] → enc al t pos v = .ok bits → code t pos v = .ok bits

theorem invalid_ne_ok {α : Type} (b : α) : (invalid : EncM α) ≠ .ok b := by
  intro h; cases h

section integer
variable {al : Bool} {pos : Nat} {i : Int} {bits : Bits}

/-- a missing bound (12.2.3, 12.2.4): without deviation the semi-constrained form has the octets of
the unconstrained one -/
theorem encInteger_open {c : IntC} (hb : c.lo = none ∨ c.hi = none)
    (hd : devsInteger al c i = []) (h : encInteger al c pos i = .ok bits) :
    c.ext = false ∧ minOctets2c i < 16384 ∧ bits = unconstrained al pos i := by
  obtain ⟨lo, hi, ext⟩ := c
  unfold devsInteger at hd
  unfold encInteger at h
  cases ext with
  | true => cases lo <;> cases hi <;> simp at hb hd
  | false =>
    simp only [Bool.false_eq_true, if_false] at hd h
    cases lo with
    | none =>
      simp only at hd h
      refine ⟨rfl, Nat.lt_of_not_le (ite_cons_eq_nil.mp hd), ?_⟩
      cases hi with
      | none => cases h; rfl
      | some ub =>
        simp only at h
        split at h <;> cases h
        rfl
    | some lb =>
      cases hi with
      | some ub => simp at hb
      | none =>
        simp only at hd h
        split at h
        case isFalse => cases h
        rename_i hle
        cases h
        rw [if_pos hle] at hd
        split at hd
        · cases hd
        · rename_i hne
          refine ⟨rfl, Nat.lt_of_not_le (ite_cons_eq_nil.mp hd), ?_⟩
          unfold semiConstrained unconstrained
          rw [show natToBytesN (minOctets (i - lb).toNat) (i - lb).toNat = intToBytesN (minOctets2c i) i
            by simpa using hne]

/-- both bounds (12.2.1, 12.2.2, 12.1) -/
theorem encInteger_closed {lb ub : Int} {ext : Bool}
    (hd : devsInteger al ⟨some lb, some ub, ext⟩ i = [])
    (h : encInteger al ⟨some lb, some ub, ext⟩ pos i = .ok bits) :
    if lb ≤ i ∧ i ≤ ub then
      bits = (if ext then [false] else []) ++
        cwn al (pos + if ext then 1 else 0) (i - lb).toNat ((ub - lb).toNat + 1) ∧
      (al = true → (ub - lb).toNat + 1 > 65536 → minOctets (ub - lb).toNat ≤ 128)
    else ext = true ∧ minOctets2c i < 16384 ∧ bits = true :: unconstrained al (pos + 1) i := by
  unfold devsInteger at hd
  unfold encInteger at h
  simp only at hd h
  by_cases hin : lb ≤ i ∧ i ≤ ub
  · rw [if_pos hin] at hd ⊢
    have hll : al = true → (ub - lb).toNat + 1 > 65536 → minOctets (ub - lb).toNat ≤ 128 :=
      fun ha h64 => Nat.le_of_not_lt fun hk => ite_cons_eq_nil.mp hd ⟨ha, h64, hk⟩
    cases ext <;>
      simp only [hin, and_self, decide_true, Bool.and_self, if_true, Bool.false_eq_true, if_false] at h <;>
      cases h <;> exact ⟨rfl, hll⟩
  · rw [if_neg hin] at hd ⊢
    have hdec : (decide (lb ≤ i) && decide (i ≤ ub)) = false := by
      simpa [Bool.and_eq_false_iff] using hin
    cases ext with
    | false =>
      simp only [hin, Bool.false_eq_true, if_false] at h
      cases h
    | true =>
      simp only [hdec, if_true, Bool.false_eq_true, if_false, true_and] at hd h
      cases h
      exact ⟨rfl, Nat.lt_of_not_le (ite_cons_eq_nil.mp hd), rfl⟩

end integer

theorem insertAsc_eq (x : String × Int) (xs : List (String × Int)) :
    insertAsc x xs = Uper.insertByVal x xs := by
  induction xs with
  | nil => rfl
  | cons y r ih => simp only [insertAsc, Uper.insertByVal, ih]

theorem sortAsc_eq (xs : List (String × Int)) : sortAsc xs = Uper.sortByVal xs := by
  unfold sortAsc Uper.sortByVal
  induction xs with
  | nil => rfl
  | cons y r ih => simp only [List.foldr_cons, ih, insertAsc_eq]

theorem indexOfName_map_fst (name : String) (xs : List (String × Int)) :
    indexOfName name (xs.map (·.1)) = Uper.nameIndex name xs := by
  induction xs with
  | nil => rfl
  | cons y r ih =>
    obtain ⟨n, v⟩ := y
    simp only [List.map_cons, indexOfName, Uper.nameIndex, ih]

/-- clause 13 in the terms of the code's tables -/
theorem encEnumerated_inv {al : Bool} {root : List (String × Int)}
    {ext : Option (List (String × Int))} {pos : Nat} {name : String} {bits : Bits}
    (hd : devsEnumerated al root ext name = []) (h : encEnumerated al root ext pos name = .ok bits) :
    (∃ i, Uper.nameIndex name (Uper.sortByVal root) = some i ∧
      (al = true → root.length < 256) ∧
      bits = (if ext.isSome then [false] else []) ++
        cwn al (pos + if ext.isSome then 1 else 0) i (Uper.sortByVal root).length) ∨
    (∃ adds j, ext = some adds ∧ Uper.nameIndex name (Uper.sortByVal root) = none ∧
      Uper.nameIndex name adds = some j ∧ devsNsnnwn al j = [] ∧
      bits = true :: nsnnwn al (pos + 1) j) := by
  unfold devsEnumerated at hd
  unfold encEnumerated at h
  simp only [sortAsc_eq, indexOfName_map_fst] at hd h
  cases hi : Uper.nameIndex name (Uper.sortByVal root) with
  | some i =>
    rw [hi] at h hd
    have h255 : al = true → root.length < 256 :=
      fun ha => Nat.lt_of_not_le fun hh => ite_cons_eq_nil.mp hd ⟨ha, hh⟩
    cases ext <;> cases h <;> exact .inl ⟨i, rfl, h255, rfl⟩
  | none =>
    rw [hi] at h hd
    cases ext with
    | none => cases h
    | some adds =>
      simp only at h hd
      cases hj : Uper.nameIndex name adds with
      | none => rw [hj] at h; cases h
      | some j =>
        rw [hj] at h hd
        cases h
        exact .inr ⟨adds, j, rfl, rfl, hj, hd, rfl⟩

theorem devsSize_nil (c : SizeC) (n : Nat) (unimpl : Bool) (h : devsSize c n unimpl = []) :
    c.ext = true → c.hi.isNone = false ∧ (Uper.inSize c n = false → unimpl = false ∧ n < 16384) := by
  intro hext
  unfold devsSize at h
  rw [if_pos hext, inRoot_eq_inSize] at h
  cases hhi : c.hi.isNone with
  | true => simp [hhi] at h
  | false =>
    refine ⟨rfl, ?_⟩
    intro hin
    simp only [hhi, hin, Bool.false_eq_true, if_false] at h
    cases unimpl with
    | true => simp at h
    | false => exact ⟨rfl, Nat.lt_of_not_le (ite_cons_eq_nil.mp h)⟩

theorem length_map_natToBits8 (data : Bytes) : (data.map (natToBits 8)).length = data.length := by simp

theorem devsOpen_nil {e : Bits} (h : devsOpen (.ok e) = []) :
    e.isEmpty = false ∧ (complete e).length < 16384 := by
  unfold devsOpen at h
  obtain ⟨h1, h2⟩ := List.append_eq_nil_iff.mp h
  exact ⟨by simpa using ite_cons_eq_nil.mp h1, Nat.lt_of_not_le (ite_cons_eq_nil.mp h2)⟩

/-- `encode_member` on one root component (`encode_default = False`) in a code model `code`.  The
`|| false` is that argument: with it `Uper.encHere … false` and `Per.encHere … false` are this term
up to unfolding (the Refine files ascribe that type to the hypothesis of `encRoot_ref`'s step) -/
def codeHere (code : Ty → Nat → Val → EncM Bits) (name : String) (p : Presence) (t : Ty)
    (fs : List (String × Val)) (pos : Nat) : EncM Bits :=
  match lookup name fs with
  | some v =>
    match p with
    | .default d => if !(isDefault t v d) || false then code t pos v else .ok []
    | _ => code t pos v
  | none =>
    match p with
    | .mandatory => .error .encodeError
    | _ => .ok []

theorem eq_replicate_of_any_false (bs : Bits) (h : bs.any id = false) :
    bs = List.replicate bs.length false := by
  induction bs with
  | nil => rfl
  | cons b r ih =>
    simp only [List.any_cons, id, Bool.or_eq_false_iff] at h
    rw [List.length_cons, List.replicate_succ, ← ih h.2, h.1]

section lists
variable {al : Bool} {code : Ty → Nat → Val → EncM Bits} {fs : List (String × Val)}

/-- the root components: `M` is the code's loop over the component list, known by its two steps -/
theorem encRoot_ref {M : Members → Nat → EncM Bits} (hnil : ∀ pos, M .nil pos = .ok [])
    (hcons : ∀ name p t rest pos a b, codeHere code name p t fs pos = .ok a →
      M rest (pos + a.length) = .ok b → M (.cons name p t rest) pos = .ok (a ++ b))
    (ms : Members) (hall : ms.All (Ref al code)) :
    ∀ (pos : Nat) (bits : Bits), devsRoot al ms fs = [] → encRoot al ms fs pos = .ok bits →
      M ms pos = .ok bits := by
  induction ms using Members.ind with
  | nil =>
    intro pos bits _ h
    unfold encRoot at h
    cases h
    exact hnil pos
  | cons name p t rest ih =>
    intro pos bits hd h
    obtain ⟨ht, hrest⟩ := hall
    unfold devsRoot at hd
    obtain ⟨hd1, hd2⟩ := List.append_eq_nil_iff.mp hd
    unfold encRoot at h
    simp only at h
    split at h
    · cases h
    rename_i a ha
    split at h <;> cases h
    rename_i b hb
    refine hcons _ _ _ _ _ a b ?_ (ih hrest _ _ hd2 hb)
    unfold codeHere
    cases hl : lookup name fs with
    | none =>
      rw [hl] at ha
      cases p <;> first | exact ha | cases ha
    | some v =>
      rw [hl] at ha hd1
      cases p with
      | mandatory => exact ht v pos a hd1 ha
      | optional => exact ht v pos a hd1 ha
      | default d =>
        simp only at ha hd1 ⊢
        cases hdef : isDefault t v d with
        | true => rw [hdef] at ha; simpa using ha
        | false =>
          rw [hdef] at ha hd1
          exact ht v pos a hd1 ha

/-- the extension additions: `A` is the code's loop, known by what it does on an absent mandatory
addition (it stops), a present one and an absent optional one.  The standard's bitmap is the code's
list of presence bits filled up with zeros. -/
theorem encAdds_ref {A : Members → EncM (Bits × List Bits)} (hnil : A .nil = .ok ([], []))
    (hstop : ∀ name t rest, lookup name fs = none → A (.cons name .mandatory t rest) = .ok ([], []))
    (hpres : ∀ name p t rest v e bm es, lookup name fs = some v → code t 0 v = .ok e →
      A rest = .ok (bm, es) → A (.cons name p t rest) = .ok (true :: bm, e :: es))
    (habs : ∀ name p t rest bm es, lookup name fs = none → p ≠ .mandatory →
      A rest = .ok (bm, es) → A (.cons name p t rest) = .ok (false :: bm, es))
    (ms : Members) (hall : ms.All (Ref al code)) :
    ∀ (bitmap : Bits) (encs : List Bits),
      devsAdds al ms fs = [] → encAdds al ms fs = .ok (bitmap, encs) →
      ∃ present, A ms = .ok (present, encs) ∧
        bitmap = present ++ List.replicate (ms.length - present.length) false ∧
        bitmap.length = ms.length ∧
        bitmap.any id = !encs.isEmpty ∧
        (∀ e ∈ encs, e.isEmpty = false ∧ (complete e).length < 16384) := by
  induction ms using Members.ind with
  | nil =>
    intro bitmap encs _ h
    unfold encAdds at h
    cases h
    exact ⟨[], hnil, rfl, rfl, rfl, by simp⟩
  | cons name p t rest ih =>
    intro bitmap encs hd h
    obtain ⟨ht, hrest⟩ := hall
    unfold devsAdds at hd
    obtain ⟨hd1, hd2⟩ := List.append_eq_nil_iff.mp hd
    unfold encAdds at h
    cases hr : encAdds al rest fs with
    | error e => rw [hr] at h; cases h
    | ok pr =>
      obtain ⟨bm, es⟩ := pr
      rw [hr] at h
      simp only at h
      obtain ⟨present, hp1, hp2, hp4, hp5, hp6⟩ := ih hrest bm es hd2 hr
      simp only [Members.length]
      cases hl : lookup name fs with
      | some v =>
        rw [hl] at h hd1
        simp only at h hd1
        obtain ⟨hdv, hdo⟩ := List.append_eq_nil_iff.mp hd1
        cases he : enc al t 0 v with
        | error e => rw [he] at h; cases h
        | ok e =>
          rw [he] at h hdo
          cases h
          refine ⟨true :: present, hpres _ _ _ _ _ _ _ _ hl (ht v 0 e hdv he) hp1, ?_,
            by simp [hp4], by simp, ?_⟩
          · rw [hp2]; simp
          · intro x hx
            rcases List.mem_cons.mp hx with hx | hx
            · subst hx; exact devsOpen_nil hdo
            · exact hp6 x hx
      | none =>
        rw [hl] at h
        simp only at h
        by_cases hp : p = .mandatory
        · subst hp
          simp only at h
          split at h <;> cases h
          rename_i hany
          have hany' : bm.any id = false := by simpa using hany
          -- the standard accepts an absent mandatory addition only when no later one is present:
          -- `es = []`, and the code's stop with `([], [])` is the all-zero bitmap
          cases List.isEmpty_iff.mp (by simpa [hany'] using hp5.symm)
          refine ⟨[], hstop _ _ _ hl, ?_, by simp [hp4], by simp [hany'], by simp⟩
          rw [eq_replicate_of_any_false bm hany', hp4]
          simp [List.replicate_succ]
        · have hbe : (bitmap, encs) = (false :: bm, es) := by
            cases p <;> first | exact absurd rfl hp | (cases h; rfl)
          cases hbe
          refine ⟨false :: present, habs _ _ _ _ _ _ hl hp hp1, ?_, by simp [hp4],
            by simpa using hp5, hp6⟩
          rw [hp2]; simp

/-- clause 18 without deviation -/
theorem enc_sequence_inv {root adds : Members} {ext : Bool} {pos : Nat} {bits : Bits}
    (hd : devs al (.sequence root ext adds) (.record fs) = [])
    (h : enc al (.sequence root ext adds) pos (.record fs) = .ok bits) :
    ∃ body, devsRoot al root fs = [] ∧
      encRoot al root fs (pos + (if ext then 1 else 0) + (preamble root fs).length) = .ok body ∧
      if ext then
        ∃ bitmap encs, devsAdds al adds fs = [] ∧ encAdds al adds fs = .ok (bitmap, encs) ∧
          if bitmap.any id then
            adds.length ≤ 127 ∧ (al = true → adds.length ≤ 64) ∧
            bits = true :: (preamble root fs ++ body ++
              nsLength al (pos + 1 + (preamble root fs).length + body.length) bitmap ++
              openTypes al (pos + 1 + (preamble root fs).length + body.length +
                (nsLength al (pos + 1 + (preamble root fs).length + body.length) bitmap).length) encs)
          else bits = false :: (preamble root fs ++ body)
      else bits = preamble root fs ++ body := by
  unfold devs at hd
  obtain ⟨hd1, hda⟩ := List.append_eq_nil_iff.mp hd
  have hdr := (List.append_eq_nil_iff.mp hd1).2
  unfold enc at h
  simp only at h
  split at h
  · cases h
  split at h
  · cases h
  rename_i body hb
  refine ⟨body, hdr, hb, ?_⟩
  cases ext with
  | false => simp only [Bool.false_eq_true, if_false] at h ⊢; cases h; rfl
  | true =>
    simp only [if_true] at h hda ⊢
    obtain ⟨hda1, hda2⟩ := List.append_eq_nil_iff.mp hda
    split at h
    · cases h
    rename_i bitmap encs hadds
    rw [hadds] at hda1
    refine ⟨bitmap, encs, hda2, hadds, ?_⟩
    cases hany : bitmap.any id with
    | false => rw [hany] at h; cases h; rfl
    | true =>
      simp only [hany, if_true] at h hda1 ⊢
      cases h
      obtain ⟨h127, h64⟩ := List.append_eq_nil_iff.mp hda1
      exact ⟨Nat.le_of_not_lt (ite_cons_eq_nil.mp h127),
        fun ha => Nat.le_of_not_lt fun hh => ite_cons_eq_nil.mp h64 ⟨ha, hh⟩, rfl⟩

end lists

theorem indexOfName_find (as : Alts) (name : String) :
    indexOfName name as.names = (as.find name).map (·.1) := by
  induction as using Alts.ind with
  | nil => rfl
  | cons n t rest ih =>
    simp only [Alts.names, indexOfName, Alts.find]
    split
    · rfl
    · rw [ih]
      cases rest.find name <;> rfl

theorem encAlt_find (al : Bool) (as : Alts) (name : String) (pos : Nat) (v : Val) :
    encAlt al as name pos v = (as.find name).map (fun x => enc al x.2 pos v) :=
  Alts.search_map name (f := fun as => encAlt al as name pos v) (fun _ _ _ => by rw [encAlt]) (by rw [encAlt]) as

theorem devsAlt_find (al : Bool) (as : Alts) (name : String) (v : Val) (o : Bool) :
    devsAlt al as name v o = match as.find name with
      | some x => devs al x.2 v ++ (if o then devsOpen (enc al x.2 0 v) else [])
      | none => [] :=
  (Alts.search_eq name (f := fun as => devsAlt al as name v o) (fun _ _ _ => by rw [devsAlt]) as).trans
    (by rw [devsAlt]; rfl)

/-- clause 22 without deviation: a root alternative (22.6) or an addition (22.8) -/
theorem enc_choice_inv {al : Bool} {root adds : Alts} {ext : Bool} {name : String} {w : Val}
    {pos : Nat} {bits : Bits} (hd : devs al (.choice root ext adds) (.choice name w) = [])
    (h : enc al (.choice root ext adds) pos (.choice name w) = .ok bits) :
    (∃ idx t body, root.find name = some (idx, t) ∧ devs al t w = [] ∧
      (al = true → root.length > 65536 → minOctets (root.length - 1) ≤ 128) ∧
      enc al t (pos + (if ext then 1 else 0) +
        (cwn al (pos + if ext then 1 else 0) idx root.length).length) w = .ok body ∧
      bits = (if ext then [false] else []) ++ cwn al (pos + if ext then 1 else 0) idx root.length ++ body) ∨
    (∃ j t body, root.find name = none ∧ ext = true ∧ adds.find name = some (j, t) ∧
      devs al t w = [] ∧ devsNsnnwn al j = [] ∧ enc al t 0 w = .ok body ∧
      body.isEmpty = false ∧ (complete body).length < 16384 ∧
      bits = true :: (nsnnwn al (pos + 1) j ++
        openType al (pos + 1 + (nsnnwn al (pos + 1) j).length) body)) := by
  unfold devs at hd
  unfold enc at h
  simp only [indexOfName_find, encAlt_find, devsAlt_find] at hd h
  cases hfr : root.find name with
  | some r =>
    obtain ⟨idx, t⟩ := r
    rw [hfr] at h hd
    simp only [Option.map_some, Bool.false_eq_true, if_false, List.append_nil] at h hd
    obtain ⟨hd0, hd1⟩ := List.append_eq_nil_iff.mp hd
    split at h
    · rename_i body heq
      cases h
      exact .inl ⟨idx, t, body, rfl, hd1,
        fun ha h64 => Nat.le_of_not_lt fun hk => ite_cons_eq_nil.mp hd0 ⟨ha, h64, hk⟩,
        by simpa using heq, rfl⟩
    · cases h
    · cases h
  | none =>
    rw [hfr] at h hd
    simp only [Option.map_none] at h hd
    cases ext with
    | false => cases h
    | true =>
      simp only [if_true] at h hd
      cases hfa : adds.find name with
      | none => rw [hfa] at h; cases h
      | some r =>
        obtain ⟨j, t⟩ := r
        rw [hfa] at h hd
        simp only [Option.map_some] at h hd
        obtain ⟨hd1, hd2⟩ := List.append_eq_nil_iff.mp hd
        obtain ⟨hdt, hdo⟩ := List.append_eq_nil_iff.mp hd2
        split at h
        · rename_i body heq
          cases h
          have he : enc al t 0 w = .ok body := by simpa using heq
          rw [he] at hdo
          obtain ⟨hne, hsm⟩ := devsOpen_nil hdo
          exact .inr ⟨j, t, body, rfl, rfl, rfl, hdt, hd1, he, hne, hsm, rfl⟩
        · cases h
        · cases h

/-- a complete encoding without deviation: the field-list is not empty, so 10.1.3 only packs it -/
theorem encode_inv {al : Bool} {t : Ty} {v : Val} {bytes : Bytes}
    (hd : deviations al t v = []) (h : encode al t v = .ok bytes) :
    ∃ bits, devs al t v = [] ∧ enc al t 0 v = .ok bits ∧ bytes = packBits bits := by
  unfold deviations at hd
  obtain ⟨hd1, hd2⟩ := List.append_eq_nil_iff.mp (eraseDups_eq_nil _ hd)
  unfold encode at h
  cases he : enc al t 0 v with
  | error e => rw [he] at h; cases h
  | ok bits =>
    rw [he] at h hd2
    cases h
    refine ⟨bits, hd1, rfl, ?_⟩
    unfold complete
    rw [if_neg (by simpa using ite_cons_eq_nil.mp hd2)]

/-- the converse for the name the driver adds: a complete encoding other than the single zero
octet did not come from an empty field-list -/
theorem deviations_eq_nil {al : Bool} {t : Ty} {v : Val} {bytes : Bytes} (hd : devs al t v = [])
    (h : encode al t v = .ok bytes) (hb : bytes ≠ [0]) : deviations al t v = [] := by
  unfold deviations
  unfold encode at h
  rw [hd]
  cases he : enc al t 0 v with
  | error e => rfl
  | ok bits =>
    rw [he] at h
    cases h
    cases bits with
    | nil => exact absurd rfl hb
    | cons b r => rfl

end Asn1.X691
