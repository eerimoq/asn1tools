import Asn1Proofs.Lemmas.X691Pad
/-
  The primitives of the ALIGNED variant of the specification in the terms of `Asn1Model/Per.lean`:
  constrained whole numbers, the code's position-threaded loops as the specification's, size constraints.
-/
namespace Asn1.X691
open Asn1.Uper (lenDet)
open Asn1.Per (alignBits padLen alignBits_length padLen_of_aligned alignBits_of_aligned add_padLen_mod
  lenDet_length_mod flatten_length_uniform uniform_map_natToBits uniform_map_singleton)


theorem cwn_true_small (pos v range : Nat) (h : range ≤ 65536) :
    cwn true pos v range = Per.encCwn pos v range (bitLength (range - 1)) := by
  unfold cwn cwnSmall Per.encCwn
  simp only [Bool.not_true, Bool.false_or, decide_eq_true_eq, if_pos h, pad_true]
  by_cases h1 : range ≤ 1
  · have h0 : range - 1 = 0 := by omega
    rw [if_pos h1, if_pos (by omega), h0]
    rfl
  · rw [if_neg h1, minBits_eq]

theorem sizeAsBytes_eq (n : Nat) : Per.sizeAsBytes n = minOctets n := by
  rw [minOctets_eq]; rfl

theorem bitLength_pos {n : Nat} (h : n ≠ 0) : 0 < bitLength n :=
  _root_.Asn1.bitLength_pos h

theorem lt_bitLength_of_pow_le {n w : Nat} (h : 2 ^ w ≤ n) : w < bitLength n :=
  Nat.lt_of_not_le fun hle => Nat.not_lt.2 h ((bitLength_le_iff n w).1 hle)

/-- `Integer.encode` / `Choice.encode_root_index` below the extension bit is the constrained whole
number of 10.5, unless the length of the length needs more than seven bits -/
theorem encConstrainedInt_eq (pos : Nat) (lo hi i : Int)
    (hll : (hi - lo).toNat + 1 > 65536 → minOctets (hi - lo).toNat ≤ 128) :
    Per.encConstrainedInt pos lo hi i = cwn true pos (i - lo).toNat ((hi - lo).toNat + 1) := by
  unfold Per.encConstrainedInt
  simp only
  generalize (hi - lo).toNat = size at *
  generalize (i - lo).toNat = v at *
  by_cases hs : size ≤ 65535
  · rw [if_pos hs, cwn_true_small _ _ _ (by omega), Nat.add_sub_cancel]
  · rw [if_neg hs]
    have hll' := hll (by omega)
    have hs0 : size ≠ 0 := by omega
    rw [minOctets_eq, if_neg hs0] at hll'
    have hbl : 16 < bitLength size := lt_bitLength_of_pow_le (by omega)
    unfold cwn
    simp only [Bool.not_true, Bool.false_or, decide_eq_true_eq, Nat.add_sub_cancel]
    rw [if_neg (by omega)]
    rw [minOctets_eq size, if_neg hs0, if_pos (by omega), sizeAsBytes_eq]
    -- `hll`: at most 128 octets, so the code's field for the octet count has at most seven bits
    -- and `encCwn` writes it unaligned, as 10.5.7.1 does for the range `1 .. ubLen` of 12.2.6 a
    have hib : Per.indefBits (bitLength size) ≤ 7 := by
      unfold Per.indefBits
      apply bitLength_le_of_lt_pow
      omega
    have hpow : 2 ^ Per.indefBits (bitLength size) ≤ 2 ^ 7 := Nat.pow_le_pow_right (by omega) hib
    have ha : Per.encCwn pos (minOctets v - 1) (2 ^ Per.indefBits (bitLength size) + 1)
        (Per.indefBits (bitLength size)) = natToBits (Per.indefBits (bitLength size)) (minOctets v - 1) := by
      unfold Per.encCwn
      rw [if_pos (by omega)]
    have hl : cwnSmall true pos (minOctets v - 1) ((bitLength size + 7) / 8)
        = natToBits (Per.indefBits (bitLength size)) (minOctets v - 1) :=
      cwnSmall_bits true pos _ _ (.inr (by omega))
    rw [ha, hl]
    have hlast : Per.encCwn (pos + (natToBits (Per.indefBits (bitLength size)) (minOctets v - 1)).length +
          (alignBits (pos + (natToBits (Per.indefBits (bitLength size)) (minOctets v - 1)).length)).length)
          v (size + 1) (8 * minOctets v) = natToBits (8 * minOctets v) v := by
      unfold Per.encCwn
      rw [if_neg (by omega), if_neg (by omega), if_neg (by omega), alignBits_of_aligned]
      · rfl
      · rw [alignBits_length]
        exact add_padLen_mod _
    rw [hlast, flatten_map_natToBits8, bytesToBits_natToBytesN, pad_true]

section generic
variable {α : Type} (f g : Nat → α → EncM Bits)

theorem encSeqM_eq (pos : Nat) (vs : List α) : Per.encSeqM f pos vs = seqM f pos vs := by
  induction vs generalizing pos with
  | nil => rfl
  | cons v r ih =>
    rw [Per.encSeqM, seqM]
    cases f pos v with
    | error _ => rfl
    | ok a =>
      dsimp only
      rw [ih]
      cases seqM f (pos + a.length) r <;> rfl

/-- `append_length_determinant_chunks` is the fragmentation procedure of the UNALIGNED variant: the
code aligns the first length determinant itself and no later one -/
theorem encChunksM_eq (fuel pos : Nat) (vs : List α) :
    Per.encChunksM f fuel pos vs = fragM false f fuel pos vs := by
  induction fuel generalizing pos vs with
  | zero => rfl
  | succ fuel ih =>
    rw [Per.encChunksM, fragM]
    simp only [encSeqM_eq, ih, pad_false, lengthOctets_eq, List.length_nil, Nat.add_zero, List.nil_append]
    cases seqM f (pos + (lenDet vs.length).1.length) (vs.take (lenDet vs.length).2) with
    | error _ => rfl
    | ok body =>
      dsimp only
      split
      · rfl
      · cases fragM false f fuel (pos + (lenDet vs.length).1.length + body.length)
          (vs.drop (lenDet vs.length).2) <;> rfl

theorem seqM_congr (vs : List α) (hfg : ∀ v ∈ vs, ∀ p b, f p v = .ok b → g p v = .ok b)
    (pos : Nat) (bits : Bits) (h : seqM f pos vs = .ok bits) : seqM g pos vs = .ok bits := by
  induction vs generalizing pos bits with
  | nil => exact h
  | cons v r ih =>
    rw [seqM] at h ⊢
    cases hv : f pos v with
    | error e => rw [hv] at h; cases h
    | ok a =>
      rw [hv] at h
      simp only at h
      rw [hfg v (by simp) pos a hv]
      simp only
      cases hr : seqM f (pos + a.length) r with
      | error e => rw [hr] at h; cases h
      | ok b =>
        rw [hr] at h
        rw [ih (fun x hx => hfg x (by simp [hx])) _ _ hr]
        exact h

theorem genLenM_lt (al : Bool) (vs : List α) (pos : Nat) (hn : vs.length < 16384) :
    genLenM al f pos vs =
      match seqM f (pos + (pad al pos).length + (lenDet vs.length).1.length) vs with
      | .error e => .error e
      | .ok body => .ok (pad al pos ++ (lenDet vs.length).1 ++ body) := by
  unfold genLenM
  have hf : vs.length / 16384 + 2 = 1 + 1 := by omega
  rw [hf, fragM]
  simp only [lengthOctets_eq, Uper.lenDet_snd_of_lt hn, List.take_length, if_pos hn]
  cases seqM f (pos + (pad al pos).length + (lenDet vs.length).1.length) vs <;> rfl

end generic


theorem extRange_eq (c : SizeC) (n : Nat) (hhi : c.hi.isNone = false) :
    Per.extRange c n = if inRoot c n then .inside else .outside := by
  unfold inRoot Per.extRange
  cases hc : c.hi with
  | none => rw [hc] at hhi; cases hhi
  | some ub => simp only [Bool.and_eq_true, decide_eq_true_eq]

section generic
variable {α : Type} (f : Nat → α → EncM Bits)

/-- `af'` / `av'` are the code's flags for aligning fixed-size contents / contents behind a length; the
first only matters when `lo = ub`, the second only otherwise -/
theorem sizedPrefix_true (c : SizeC) (ub : Nat) (af av af' av' : Bool) (pos n : Nat)
    (hc : c.hi = some ub) (h64 : ub < 65536) (hfix : c.lo = ub → af = af')
    (hvar : c.lo ≠ ub → av = av') :
    sizedPrefix true c.lo ub af av pos n =
      Per.sizePrefix c (bitLength (ub - c.lo)) pos n av' af' := by
  unfold sizedPrefix Per.sizePrefix
  rw [hc]
  by_cases heq : c.lo = ub
  · subst heq
    simp [pad_true, hfix rfl]
  · simp [heq, pad_true, hvar heq, cwn_true_small _ _ _ (show ub - c.lo + 1 ≤ 65536 by omega)]

theorem sizedM_true (c : SizeC) (af av af' av' : Bool) (hfix : c.hi = some c.lo → af = af')
    (vs : List α)
    (hvar : ∀ ub, c.hi = some ub → ub < 65536 → c.lo ≠ ub → inRoot c vs.length = true → av = av')
    (pos : Nat) (bits : Bits)
    (h : sizedM true f c.lo c.hi af av pos vs = .ok bits) :
    Uper.inSize c vs.length = true ∧
    (Uper.sizeBits c = none → genLenM true f pos vs = .ok bits) ∧
    (∀ w, Uper.sizeBits c = some w →
      ∃ body, seqM f (pos + (Per.sizePrefix c w pos vs.length av' af').length) vs = .ok body ∧
        bits = Per.sizePrefix c w pos vs.length av' af' ++ body) := by
  obtain ⟨hlo, hhi, hgen, hpre⟩ := sizedM_inv h
  have hin : inRoot c vs.length = true := by
    unfold inRoot
    cases hc : c.hi with
    | none => simpa using hlo
    | some ub => simpa using ⟨hlo, hhi ub hc⟩
  refine ⟨by rw [← inRoot_eq_inSize]; exact hin, ?_, ?_⟩
  · intro hsb
    apply hgen
    intro ub hub
    unfold Uper.sizeBits at hsb
    rw [hub] at hsb
    simp only at hsb
    split at hsb
    · omega
    · cases hsb
  · intro w hw
    unfold Uper.sizeBits at hw
    cases hc : c.hi with
    | none => rw [hc] at hw; cases hw
    | some ub =>
      rw [hc] at hw
      simp only at hw
      split at hw
      · cases hw
      cases hw
      have h64 : ub < 65536 := by omega
      obtain ⟨body, hb, rfl⟩ := hpre ub hc h64
      rw [sizedPrefix_true c ub af av af' av' pos vs.length hc h64 (fun e => hfix (e ▸ hc))
        (fun hne => hvar ub hc h64 hne hin)] at hb ⊢
      exact ⟨body, hb, rfl⟩

end generic

end Asn1.X691
