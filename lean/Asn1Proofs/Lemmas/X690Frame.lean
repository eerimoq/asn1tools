import Asn1Proofs.Lemmas.X690Tag
import Asn1Proofs.Lemmas.TyInduct
import Asn1Proofs.Lemmas.DerSeq
import Asn1Model.X690Strict
/-
  C04: the reference BER decoder (`decV`, strict `decVS`) seen from outside: what a success of its
  framing functions (`takeN`, `stripPrefix`, `readLength`, `primitiveContents`, `componentPresent`)
  says about the input, and that it does not depend on what follows the octets read.  No component
  starts where the contents of a constructed encoding end (`atEndB` of DerSeq.lean, either length
  form), and an encoding, whose first octet is not zero (`HeadNZ`), is not taken for the end.  Then
  the decoders case by case; the four leaves that have only a primitive form share one equation
  (`decV_leaf`).
-/
namespace Asn1.X690
open Asn1.Der (mkTag)

theorem takeN_eq_splitAux (n : Nat) (bs acc : Bytes) : takeN n bs acc = Oer.splitAux n bs acc := by
  induction n generalizing bs acc with
  | zero => rfl
  | succ n ih =>
    cases bs with
    | nil => rfl
    | cons b r => simp only [takeN, Oer.splitAux]; exact ih r (b :: acc)

theorem takeN_some {n : Nat} {bs c r : Bytes} (h : takeN n bs [] = some (c, r)) :
    bs = c ++ r ∧ c.length = n := by
  rw [takeN_eq_splitAux, Oer.splitAux_eq] at h
  split at h
  · cases h
    simp
    omega
  · cases h

theorem takeN_append (a b : Bytes) : takeN a.length (a ++ b) [] = some (a, b) := by
  rw [takeN_eq_splitAux, Oer.splitAux_append]; simp

theorem takeN_append_right {n : Nat} {bs c r : Bytes} (x : Bytes) (h : takeN n bs [] = some (c, r)) :
    takeN n (bs ++ x) [] = some (c, r ++ x) := by
  obtain ⟨rfl, rfl⟩ := takeN_some h
  rw [List.append_assoc]; exact takeN_append c (r ++ x)

theorem stripPrefix_some {p bs r : Bytes} (h : stripPrefix p bs = some r) : bs = p ++ r := by
  induction p generalizing bs with
  | nil => cases bs <;> cases h <;> rfl
  | cons x ps ih =>
    cases bs with
    | nil => simp [stripPrefix] at h
    | cons b t =>
      simp only [stripPrefix] at h
      split at h
      · rename_i hb
        rw [ih h, eq_of_beq hb]; rfl
      · cases h

theorem stripPrefix_append (p r : Bytes) : stripPrefix p (p ++ r) = some r := by
  induction p with
  | nil => cases r <;> rfl
  | cons a ps ih => simp only [List.cons_append, stripPrefix, beq_self_eq_true, if_true, ih]

theorem stripPrefix_append_right {p bs r : Bytes} (x : Bytes) (h : stripPrefix p bs = some r) :
    stripPrefix p (bs ++ x) = some (r ++ x) := by
  rw [stripPrefix_some h, List.append_assoc]; exact stripPrefix_append _ _

/-- the three forms of 8.1.3 -/
theorem readLength_some {bs r : Bytes} {l : Len} (h : readLength bs = some (l, r)) :
    ∃ b t, bs = b :: t ∧
      ((b < 128 ∧ l = .definite b ∧ r = t) ∨ (b = 128 ∧ l = .indefinite ∧ r = t) ∨
       (128 < b ∧ b < 255 ∧ ∃ ds, takeN (b - 128) t [] = some (ds, r) ∧ l = .definite (bytesToNat ds))) := by
  cases bs with
  | nil => simp [readLength] at h
  | cons b t =>
    refine ⟨b, t, rfl, ?_⟩
    simp only [readLength] at h
    split at h
    · rename_i h1; cases h; exact .inl ⟨h1, rfl, rfl⟩
    · split at h
      · rename_i h2; cases h; exact .inr (.inl ⟨h2, rfl, rfl⟩)
      · split at h
        · rename_i h1 h2 h3
          split at h
          · rename_i ds r' hds
            cases h
            exact .inr (.inr ⟨by omega, h3, ds, hds, rfl⟩)
          · cases h
        · cases h

theorem readLength_append_right {bs r : Bytes} {l : Len} (x : Bytes) (h : readLength bs = some (l, r)) :
    readLength (bs ++ x) = some (l, r ++ x) := by
  obtain ⟨b, t, rfl, ⟨h1, rfl, rfl⟩ | ⟨h1, rfl, rfl⟩ | ⟨h1, h2, ds, hds, rfl⟩⟩ := readLength_some h
  · simp only [List.cons_append, readLength, if_pos h1]
  · simp [readLength, h1]
  · have e1 : ¬ b < 128 := by omega
    have e2 : ¬ b = 128 := by omega
    simp only [List.cons_append, readLength, if_neg e1, if_neg e2, if_pos h2, takeN_append_right x hds]

theorem readLength_indefinite {bs r : Bytes} (h : readLength bs = some (.indefinite, r)) : bs = 128 :: r := by
  obtain ⟨b, t, rfl, ⟨_, hl, _⟩ | ⟨rfl, _, rfl⟩ | ⟨_, _, _, _, hl⟩⟩ := readLength_some h
  · cases hl
  · rfl
  · cases hl

theorem readLength_validLen (l : Bytes) (n : Nat) (r : Bytes) (hl : Ber.validLen l n)
    (h255 : l.head? ≠ some 255) :
    readLength (l ++ r) = some (.definite n, r) := by
  rcases hl with ⟨rfl, hn⟩ | ⟨k, ds, rfl, hk1, hk2, hlen, hval⟩
  · simp [readLength, hn]
  · have hk : 128 + k ≠ 255 := by
      intro e; apply h255; simp [e]
    have e1 : ¬ (128 + k < 128) := by omega
    have e2 : ¬ (128 + k = 128) := by omega
    have e3 : 128 + k < 255 := by omega
    have e4 : 128 + k - 128 = ds.length := by omega
    simp only [List.cons_append, readLength, if_neg e1, if_neg e2, if_pos e3, e4, takeN_append, hval]

theorem primitiveContents_some {bs c rest : Bytes} (h : primitiveContents bs = some (c, rest)) :
    ∃ n r, readLength bs = some (.definite n, r) ∧ takeN n r [] = some (c, rest) := by
  unfold primitiveContents at h
  split at h
  · rename_i n r hr
    exact ⟨n, r, hr, h⟩
  · cases h

theorem primitiveContents_append_right {bs c r : Bytes} (x : Bytes) (h : primitiveContents bs = some (c, r)) :
    primitiveContents (bs ++ x) = some (c, r ++ x) := by
  obtain ⟨n, r1, hr, hc⟩ := primitiveContents_some h
  simp only [primitiveContents, readLength_append_right x hr, takeN_append_right x hc]

theorem constructedContents_eq (α : Type) (p : Bytes → Option (α × Bytes)) :
    constructedContents p = constructedContentsI (fun _ => p) := rfl

/-- the first octet is not zero (so an encoding is never taken for end-of-contents octets) -/
def HeadNZ (b : Bytes) : Prop := ∃ x r, b = x :: r ∧ x ≠ 0

theorem headNZ_identifier (c : Bool) (i : Nat) : HeadNZ (identifier .context c i) := by
  unfold identifier
  simp only []
  split
  · exact ⟨_, [], rfl, by simp [TagClass.bits]⟩
  · exact ⟨_, _, rfl, by simp [TagClass.bits]⟩

theorem HeadNZ.append {b : Bytes} (h : HeadNZ b) (c : Bytes) : HeadNZ (b ++ c) := by
  obtain ⟨x, r, rfl, hx⟩ := h
  exact ⟨x, r ++ c, rfl, hx⟩

theorem headNZ_ctx (u : Nat) (c : Bool) (i : Nat) : HeadNZ (Der.mkTag u c (some i)) :=
  identifier_context u c i ▸ headNZ_identifier c i

theorem headNZ_tagOf (t : Ty) (tg : Option Nat) : HeadNZ (Der.tagOf t tg) := by
  cases tg with
  | some i => exact headNZ_ctx _ _ i
  | none =>
    cases t with
    | charString k c => cases k <;> exact ⟨_, [], rfl, by simp [Der.univNumber, Der.isConstructed]⟩
    | _ => exact ⟨_, [], rfl, by simp [Der.univNumber, Der.isConstructed]⟩

theorem enc_headNZ {t : Ty} {tg : Option Nat} {v : Val} {b : Bytes} (h : Der.enc t tg v = .ok b) : HeadNZ b := by
  rcases Der.enc_form h with ⟨⟨content, rfl⟩, _⟩ | ⟨_, _, t', j, v', h'⟩
  · unfold Der.tlv
    rw [List.append_assoc]
    exact (headNZ_tagOf t tg).append _
  · obtain ⟨r, rfl, _⟩ := Der.enc_tagOf h'
    exact (headNZ_tagOf t' (some j)).append r

theorem headNZ_not_end {b : Bytes} (h : HeadNZ b) (r : Bytes) :
    ((b ++ r).isEmpty || startsEOC (b ++ r)) = false := by
  obtain ⟨x, b', rfl, hx⟩ := h
  cases x with
  | zero => exact absurd rfl hx
  | succ x => simp [startsEOC]

theorem stripPrefix_atEnd (indef c : Bool) (i : Nat) (z : Bytes) (h : atEndB indef z = true) :
    stripPrefix (identifier .context c i) z = none := by
  obtain ⟨hd, tl, e, hne⟩ := headNZ_identifier c i
  rw [e]
  cases indef with
  | false =>
    simp only [atEndB, if_false, Bool.false_eq_true, List.isEmpty_iff] at h
    subst h; rfl
  | true =>
    simp only [atEndB, if_true] at h
    obtain ⟨r, rfl⟩ := startsEOC_iff.mp h
    simp only [stripPrefix]
    have : (hd == 0) = false := by simpa using hne
    simp [this]

theorem componentPresent_atEnd (indef : Bool) (t : Ty) (i : Nat) (z : Bytes) (h : atEndB indef z = true) :
    componentPresent t i z = false := by
  unfold componentPresent
  simp [stripPrefix_atEnd indef _ i z h]

theorem componentPresent_tag {t : Ty} {i : Nat} {bs : Bytes} (h : componentPresent t i bs = true) :
    ∃ (c : Bool) (r : Bytes), bs = mkTag 0 c (some i) ++ r ∧
      (c = derConstructed t ∨ (isStringType t = true ∧ c = true)) := by
  unfold componentPresent at h
  simp only [Bool.or_eq_true, Bool.and_eq_true, Option.isSome_iff_exists] at h
  rcases h with ⟨r, hr⟩ | ⟨hst, r, hr⟩
  · exact ⟨_, r, identifier_context 0 _ i ▸ stripPrefix_some hr, .inl rfl⟩
  · exact ⟨true, r, identifier_context 0 _ i ▸ stripPrefix_some hr, .inr ⟨hst, rfl⟩⟩

theorem tagGe_of_componentPresent {t : Ty} {i : Nat} {bs : Bytes} (h : componentPresent t i bs = true) :
    TagGe i bs := by
  obtain ⟨c, r, e, _⟩ := componentPresent_tag h
  exact ⟨i, 0, c, r, Nat.le_refl _, e⟩

theorem stripPrefix_ctx_other (c c' : Bool) (u i j : Nat) (r : Bytes) (hij : i ≠ j) :
    stripPrefix (identifier .context c i) (mkTag u c' (some j) ++ r) = none := by
  cases h : stripPrefix (identifier .context c i) (mkTag u c' (some j) ++ r) with
  | none => rfl
  | some r' =>
    have := stripPrefix_some h
    rw [identifier_context 0] at this
    exact absurd (Der.mkTag_ctx_prefix_free this.symm) hij

theorem componentPresent_other (t : Ty) (u i j : Nat) (c : Bool) (r : Bytes) (hij : i ≠ j) :
    componentPresent t i (mkTag u c (some j) ++ r) = false := by
  simp [componentPresent, stripPrefix_ctx_other _ _ _ _ _ _ hij]

theorem decComponentsS_nil (i fuel : Nat) (bs : Bytes) : decComponentsS .nil i fuel bs = some ([], bs) := rfl

theorem decComponents_cons (name : String) (p : Presence) (t : Ty) (rest : Members) (i fuel : Nat)
    (bs : Bytes) :
    decComponents (.cons name p t rest) i fuel bs =
      if componentPresent t i bs then
        match decV t (some i) fuel bs with
        | none => none
        | some (v, r) =>
          match decComponents rest (i + 1) fuel r with
          | none => none
          | some (fs, r') => some ((name, v) :: fs, r')
      else
        match p with
        | .mandatory => none
        | .optional => decComponents rest (i + 1) fuel bs
        | .default d =>
          match decComponents rest (i + 1) fuel bs with
          | none => none
          | some (fs, r') => some ((name, d) :: fs, r') := by
  cases p <;> rfl

theorem decComponentsS_cons (name : String) (p : Presence) (t : Ty) (rest : Members) (i fuel : Nat) (bs : Bytes) :
    decComponentsS (.cons name p t rest) i fuel bs =
      if componentPresent t i bs then
        match decVS t (some i) fuel bs with
        | none => none
        | some (v, r) =>
          match decComponentsS rest (i + 1) fuel r with
          | none => none
          | some (fs, r') => some ((name, v) :: fs, r')
      else
        match p with
        | .mandatory => none
        | .optional => decComponentsS rest (i + 1) fuel bs
        | .default d =>
          match decComponentsS rest (i + 1) fuel bs with
          | none => none
          | some (fs, r') => some ((name, d) :: fs, r') := by
  cases p <;> rfl

theorem decV_octetString (c : SizeC) (tg : Option Nat) (fuel : Nat) (bs : Bytes) :
    decV (.octetString c) tg fuel bs =
      match stringChunks 4 fuel (header (.octetString c) tg false) (header (.octetString c) tg true) bs with
      | some (cs, r) => some (.bytes cs.flatten, r)
      | none => none := rfl

theorem decV_bitString (c : SizeC) (tg : Option Nat) (fuel : Nat) (bs : Bytes) :
    decV (.bitString c) tg fuel bs =
      match stringChunks 3 fuel (header (.bitString c) tg false) (header (.bitString c) tg true) bs with
      | some (cs, r) =>
        match bitsOfChunks cs with
        | some (data, n) => some (.bits (cleanBits data n) n, r)
        | none => none
      | none => none := rfl

theorem decV_charString (k : StrKind) (c : SizeC) (tg : Option Nat) (fuel : Nat) (bs : Bytes) :
    decV (.charString k c) tg fuel bs =
      match stringChunks 4 fuel (header (.charString k c) tg false) (header (.charString k c) tg true) bs with
      | some (cs, r) =>
        match charsOf k cs.flatten with
        | some cps => some (.str cps, r)
        | none => none
      | none => none := rfl

/-- the contents parser `decV` hands to `constructedContents` for a SEQUENCE ("Ref": of the reference
decoder): the components of the extension root, then the additions -/
def componentsRef (root adds : Members) (fuel : Nat) (c : Bytes) : Option (Val × Bytes) :=
  match decComponents root 0 fuel c with
  | none => none
  | some (fs1, c1) =>
    match decComponents adds root.length fuel c1 with
    | none => none
    | some (fs2, c2) => some (Val.record (fs1 ++ fs2), c2)

theorem componentsRef_of {root adds : Members} {fuel : Nat} {c c1 c2 : Bytes} {fs1 fs2 : List (String × Val)}
    (h1 : decComponents root 0 fuel c = some (fs1, c1))
    (h2 : decComponents adds root.length fuel c1 = some (fs2, c2)) :
    componentsRef root adds fuel c = some (.record (fs1 ++ fs2), c2) := by
  simp only [componentsRef, h1, h2]

theorem decV_sequence (root : Members) (e : Bool) (adds : Members) (tg : Option Nat) (fuel : Nat) (bs : Bytes) :
    decV (.sequence root e adds) tg fuel bs =
      match stripPrefix (header (.sequence root e adds) tg true) bs with
      | none => none
      | some r => constructedContents (componentsRef root adds fuel) r := rfl

theorem decV_sequenceOf (e : Ty) (c : SizeC) (tg : Option Nat) (fuel : Nat) (bs : Bytes) :
    decV (.sequenceOf e c) tg fuel bs =
      match stripPrefix (header (.sequenceOf e c) tg true) bs with
      | none => none
      | some r =>
        match constructedContents (elements (decV e none fuel) fuel) r with
        | some (vs, r') => some (.list vs, r')
        | none => none := rfl

/-- the parser `decV` uses for a CHOICE: the first alternative of the root that is there, else of the
additions -/
def chosenRef (root adds : Alts) (fuel : Nat) (b : Bytes) : Option (Val × Bytes) :=
  match decAlternatives root 0 fuel b with
  | some x => some x
  | none => decAlternatives adds root.length fuel b

theorem decV_choice (root : Alts) (e : Bool) (adds : Alts) (tg : Option Nat) (fuel : Nat) (bs : Bytes) :
    decV (.choice root e adds) tg fuel bs =
      match tg with
      | none => chosenRef root adds fuel bs
      | some i =>
        match stripPrefix (identifier .context true i) bs with
        | none => none
        | some r => constructedContents (chosenRef root adds fuel) r := by
  cases tg <;> rfl

theorem decVS_octetString (c : SizeC) (tg : Option Nat) (fuel : Nat) (bs : Bytes) :
    decVS (.octetString c) tg fuel bs = decV (.octetString c) tg fuel bs := rfl

theorem decVS_charString (k : StrKind) (c : SizeC) (tg : Option Nat) (fuel : Nat) (bs : Bytes) :
    decVS (.charString k c) tg fuel bs = decV (.charString k c) tg fuel bs := rfl

theorem decVS_bitString (c : SizeC) (tg : Option Nat) (fuel : Nat) (bs : Bytes) :
    decVS (.bitString c) tg fuel bs =
      match stringChunks 3 fuel (header (.bitString c) tg false) (header (.bitString c) tg true) bs with
      | some (cs, r) =>
        match bitsOfChunks cs with
        | some (data, n) => if cleanBits data n == data then some (.bits data n, r) else none
        | none => none
      | none => none := rfl

/-- `componentsRef` of the strict decoder `decVS` -/
def componentsRefS (root adds : Members) (fuel : Nat) (c : Bytes) : Option (Val × Bytes) :=
  match decComponentsS root 0 fuel c with
  | none => none
  | some (fs1, c1) =>
    match decComponentsS adds root.length fuel c1 with
    | none => none
    | some (fs2, c2) => some (Val.record (fs1 ++ fs2), c2)

theorem componentsRefS_some {root adds : Members} {fuel : Nat} {c y : Bytes} {v : Val}
    (h : componentsRefS root adds fuel c = some (v, y)) :
    ∃ fs1 c1 fs2, decComponentsS root 0 fuel c = some (fs1, c1) ∧
      decComponentsS adds root.length fuel c1 = some (fs2, y) ∧ v = .record (fs1 ++ fs2) := by
  unfold componentsRefS at h
  split at h
  · cases h
  · rename_i fs1 c1 h1
    split at h
    · cases h
    · rename_i fs2 c2 h2
      cases h
      exact ⟨fs1, c1, fs2, h1, h2, rfl⟩

theorem decVS_sequence (root : Members) (e : Bool) (adds : Members) (tg : Option Nat) (fuel : Nat) (bs : Bytes) :
    decVS (.sequence root e adds) tg fuel bs =
      match stripPrefix (header (.sequence root e adds) tg true) bs with
      | none => none
      | some r => constructedContentsI (fun _ => componentsRefS root adds fuel) r := rfl

theorem decVS_sequenceOf (e : Ty) (c : SizeC) (tg : Option Nat) (fuel : Nat) (bs : Bytes) :
    decVS (.sequenceOf e c) tg fuel bs =
      match stripPrefix (header (.sequenceOf e c) tg true) bs with
      | none => none
      | some r =>
        match constructedContents (elements (decVS e none fuel) fuel) r with
        | some (vs, r') => some (.list vs, r')
        | none => none := rfl

/-- `chosenRef` of the strict decoder `decVS` -/
def chosenRefS (root adds : Alts) (fuel : Nat) (b : Bytes) : Option (Val × Bytes) :=
  match decAlternativesS root 0 fuel b with
  | some x => some x
  | none => decAlternativesS adds root.length fuel b

theorem decVS_choice (root : Alts) (e : Bool) (adds : Alts) (tg : Option Nat) (fuel : Nat) (bs : Bytes) :
    decVS (.choice root e adds) tg fuel bs =
      match tg with
      | none => chosenRefS root adds fuel bs
      | some i =>
        match stripPrefix (identifier .context true i) bs with
        | none => none
        | some r => constructedContents (chosenRefS root adds fuel) r := by
  cases tg <;> rfl

theorem decComponentsS_cons_present {name : String} {p : Presence} {t : Ty} {rest : Members} {i fuel : Nat}
    {x y : Bytes} {fs : List (String × Val)} (hp : componentPresent t i x = true)
    (h : decComponentsS (.cons name p t rest) i fuel x = some (fs, y)) :
    ∃ v x' fs', decVS t (some i) fuel x = some (v, x') ∧ decComponentsS rest (i + 1) fuel x' = some (fs', y) ∧
      fs = (name, v) :: fs' := by
  rw [decComponentsS_cons, if_pos hp] at h
  split at h
  · cases h
  · rename_i v x' hv
    split at h
    · cases h
    · rename_i fs' y' hr
      cases h
      exact ⟨v, x', fs', hv, hr, rfl⟩

theorem decComponentsS_cons_absent {name : String} {p : Presence} {t : Ty} {rest : Members} {i fuel : Nat}
    {x y : Bytes} {fs : List (String × Val)} (hp : componentPresent t i x = false)
    (h : decComponentsS (.cons name p t rest) i fuel x = some (fs, y)) :
    ∃ fs', decComponentsS rest (i + 1) fuel x = some (fs', y) ∧
      ((p = .optional ∧ fs = fs') ∨ ∃ d, p = .default d ∧ fs = (name, d) :: fs') := by
  rw [decComponentsS_cons, hp] at h
  cases p with
  | mandatory => cases h
  | optional => exact ⟨fs, h, .inl ⟨rfl, rfl⟩⟩
  | default d =>
    simp only [Bool.false_eq_true, if_false] at h
    split at h
    · cases h
    · rename_i fs' y' hr
      cases h
      exact ⟨fs', hr, .inr ⟨d, rfl, rfl⟩⟩

theorem decAlternatives_cons (n : String) (t : Ty) (rest : Alts) (i fuel : Nat) (bs : Bytes) :
    decAlternatives (.cons n t rest) i fuel bs =
      if componentPresent t i bs then
        match decV t (some i) fuel bs with
        | some (v, r) => some (.choice n v, r)
        | none => none
      else decAlternatives rest (i + 1) fuel bs := rfl

theorem decAlternativesS_cons (n : String) (t : Ty) (rest : Alts) (i fuel : Nat) (bs : Bytes) :
    decAlternativesS (.cons n t rest) i fuel bs =
      if componentPresent t i bs then
        match decVS t (some i) fuel bs with
        | some (v, r) => some (.choice n v, r)
        | none => none
      else decAlternativesS rest (i + 1) fuel bs := rfl

theorem decAlternatives_none (as : Alts) (u : Nat) (c : Bool) (idx i fuel : Nat) (bs : Bytes)
    (h : i + as.length ≤ idx) :
    decAlternatives as i fuel (mkTag u c (some idx) ++ bs) = none := by
  induction as using Alts.ind generalizing i with
  | nil => rfl
  | cons n t rest ih =>
    simp only [Alts.length] at h
    rw [decAlternatives_cons, componentPresent_other t u i idx c bs (by omega)]
    simp only [Bool.false_eq_true, if_false]
    exact ih (i + 1) (by omega)

theorem enumNameOf_eq_enumName (v : Int) (l : List (String × Int)) : enumNameOf v l = Oer.enumName v l := by
  induction l with
  | nil => rfl
  | cons x r ih =>
    obtain ⟨n, w⟩ := x
    simp only [enumNameOf, Oer.enumName, ih]

/-- leaves that have only a primitive form -/
def isPrimLeaf : Ty → Bool
  | .boolean => true | .null => true | .integer _ => true | .enumerated _ _ => true | _ => false

/-- the value the contents octets of a primitive leaf stand for (8.2.2, 8.8.2, 8.3, 8.4) -/
def leafValue : Ty → Bytes → Option Val
  | .boolean, [b] => some (.bool (b != 0))
  | .null, [] => some .null
  | .integer _, ct => if minimalInteger ct then some (.int (bytesToInt ct)) else none
  | .enumerated root ext, ct =>
    if minimalInteger ct then (enumNameOf (bytesToInt ct) (root ++ ext.getD [])).map .enum else none
  | _, _ => none

theorem decV_boolean (tg : Option Nat) (fuel : Nat) (bs : Bytes) :
    decV .boolean tg fuel bs =
      match stripPrefix (header .boolean tg false) bs with
      | none => none
      | some r =>
        match primitiveContents r with
        | some ([b], r') => some (.bool (b != 0), r')
        | _ => none := rfl

theorem decV_null (tg : Option Nat) (fuel : Nat) (bs : Bytes) :
    decV .null tg fuel bs =
      match stripPrefix (header .null tg false) bs with
      | none => none
      | some r =>
        match primitiveContents r with
        | some ([], r') => some (.null, r')
        | _ => none := rfl

theorem decV_integer (c : IntC) (tg : Option Nat) (fuel : Nat) (bs : Bytes) :
    decV (.integer c) tg fuel bs =
      match stripPrefix (header (.integer c) tg false) bs with
      | none => none
      | some r =>
        match primitiveContents r with
        | some (ct, r') => if minimalInteger ct then some (.int (bytesToInt ct), r') else none
        | none => none := rfl

theorem decV_enumerated (root : List (String × Int)) (ext : Option (List (String × Int))) (tg : Option Nat)
    (fuel : Nat) (bs : Bytes) :
    decV (.enumerated root ext) tg fuel bs =
      match stripPrefix (header (.enumerated root ext) tg false) bs with
      | none => none
      | some r =>
        match primitiveContents r with
        | some (ct, r') =>
          if minimalInteger ct then
            match enumNameOf (bytesToInt ct) (root ++ ext.getD []) with
            | some n => some (.enum n, r')
            | none => none
          else none
        | none => none := rfl

theorem decV_leaf {t : Ty} (hl : isPrimLeaf t = true) (tg : Option Nat) (fuel : Nat) (bs : Bytes) :
    decV t tg fuel bs =
      match stripPrefix (header t tg false) bs with
      | none => none
      | some r =>
        match primitiveContents r with
        | none => none
        | some (ct, r') => (leafValue t ct).map (·, r') := by
  cases t with
  | boolean =>
    rw [decV_boolean]
    cases stripPrefix (header .boolean tg false) bs with
    | none => rfl
    | some r =>
      dsimp only
      generalize primitiveContents r = o
      rcases o with _ | ⟨⟨_ | ⟨b, _ | ⟨b', ct⟩⟩, r'⟩⟩ <;> rfl
  | null =>
    rw [decV_null]
    cases stripPrefix (header .null tg false) bs with
    | none => rfl
    | some r =>
      dsimp only
      generalize primitiveContents r = o
      rcases o with _ | ⟨⟨_ | ⟨b, ct⟩, r'⟩⟩ <;> rfl
  | integer c =>
    rw [decV_integer]
    cases stripPrefix (header (.integer c) tg false) bs with
    | none => rfl
    | some r =>
      dsimp only
      generalize primitiveContents r = o
      rcases o with _ | ⟨⟨ct, r'⟩⟩
      · rfl
      · simp only [leafValue]; split <;> rfl
  | enumerated root ext =>
    rw [decV_enumerated]
    cases stripPrefix (header (.enumerated root ext) tg false) bs with
    | none => rfl
    | some r =>
      dsimp only
      generalize primitiveContents r = o
      rcases o with _ | ⟨⟨ct, r'⟩⟩
      · rfl
      · simp only [leafValue]
        split
        · cases enumNameOf (bytesToInt ct) (root ++ ext.getD []) <;> rfl
        · rfl
  | _ => simp [isPrimLeaf] at hl

theorem decVS_leaf {t : Ty} (hl : isPrimLeaf t = true) (tg : Option Nat) (fuel : Nat) (bs : Bytes) :
    decVS t tg fuel bs = decV t tg fuel bs := by
  cases t <;> first | rfl | simp [isPrimLeaf] at hl

theorem decV_leaf_some {t : Ty} {tg : Option Nat} {fuel : Nat} {bs rest : Bytes} {v : Val}
    (hl : isPrimLeaf t = true) (h : decV t tg fuel bs = some (v, rest)) :
    ∃ r ct, stripPrefix (header t tg false) bs = some r ∧ primitiveContents r = some (ct, rest) ∧
      leafValue t ct = some v := by
  rw [decV_leaf hl] at h
  split at h
  · cases h
  · rename_i r hs
    split at h
    · cases h
    · rename_i ct r' hp
      cases hv : leafValue t ct with
      | none => simp [hv] at h
      | some w =>
        simp only [hv, Option.map_some, Option.some.injEq, Prod.mk.injEq] at h
        obtain ⟨rfl, rfl⟩ := h
        exact ⟨r, ct, hs, hp, hv⟩

theorem decV_leaf_append (t : Ty) (tg : Option Nat) (fuel : Nat) (bs rest extra : Bytes) (v : Val)
    (hl : isPrimLeaf t = true) (h : decV t tg fuel bs = some (v, rest)) :
    decV t tg fuel (bs ++ extra) = some (v, rest ++ extra) := by
  obtain ⟨r, ct, hs, hp, hv⟩ := decV_leaf_some hl h
  rw [decV_leaf hl]
  simp only [stripPrefix_append_right extra hs, primitiveContents_append_right extra hp, hv, Option.map_some]

end Asn1.X690

#print axioms Asn1.X690.decV_leaf_append
