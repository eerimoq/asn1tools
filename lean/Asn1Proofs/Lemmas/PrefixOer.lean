import Asn1Proofs.Lemmas.PrefixCore
/- The readers `Oer.dec` is made of, on a cut input (`Mono`). -/
namespace Asn1.Oer
variable {x : Bytes} {B : Prop}

theorem pf_readBytes (n : Nat) : Mono x B (readBytes n) := by
  intro q
  rw [readBytes_eq, readBytes_eq]
  exact (CutL.take (fun l => l) n q x).mono (Nat.sub_le _ _)

theorem pf_readByte : Mono x B readByte := by
  intro q
  cases q with
  | nil => exact .fail (lost_or fun hx => by rw [hx]; rfl)
  | cons b t => exact (Cut.pure trivial).mono (Nat.le_succ _)

theorem pf_readLenDet : Mono x B readLenDet := by
  intro q
  refine .bind (pf_readByte q) fun v r1 _ _ => ?_
  exact .ite (fun _ => .pure trivial) fun _ => .bind (pf_readBytes _ r1) fun ds r2 _ _ => .pure trivial

theorem pf_decSigned : Mono x B decSigned := by
  intro q
  refine .bind (pf_readLenDet q) fun k r1 _ _ => ?_
  refine .bind (pf_readBytes _ r1) fun ds r2 _ _ => ?_
  exact .ite (fun _ => .error) fun _ => .pure trivial

theorem pf_decUnsigned : Mono x B decUnsigned := by
  intro q
  refine .bind (pf_readLenDet q) fun k r1 _ _ => ?_
  exact .bind (pf_readBytes _ r1) fun ds r2 _ _ => .pure trivial

theorem pf_readTagRest (f : Nat) : ∀ (f' : Nat) (q : Bytes), q.length < f' → (q ++ x).length < f →
    CutL x B q.length (readTagRest f (q ++ x)) (readTagRest f' q) := by
  induction f with
  | zero => exact fun _ _ _ h => absurd h (Nat.not_lt_zero _)
  | succ f ih =>
    intro f' q hf hf2
    obtain ⟨f'', rfl⟩ : ∃ k, f' = k + 1 := ⟨f' - 1, by omega⟩
    cases q with
    | nil => exact .fail (lost_or fun hx => by rw [hx]; rfl)
    | cons b t =>
      refine (Cut.ite (fun _ => .pure trivial) fun _ => ?_).mono (Nat.le_succ t.length)
      simp only [List.length_cons, List.cons_append] at hf hf2
      exact .bind (ih f'' t (by omega) (by omega)) fun tl r1 _ _ => .pure trivial

theorem pf_readTag : Mono x B readTag := by
  intro q
  refine .bind (pf_readByte q) fun b r1 _ _ => ?_
  refine .ite (fun _ => ?_) fun _ => .pure trivial
  exact .bind (pf_readTagRest _ _ r1 (Nat.lt_succ_self _) (Nat.lt_succ_self _)) fun tl r2 _ _ => .pure trivial

theorem pf_decRepeat {α : Type} {p : Bytes → DecM (α × Bytes)} (hp : Mono x B p) (n : Nat) :
    Mono x B (decRepeat p n) := by
  induction n with
  | zero => exact fun q => .pure trivial
  | succ n ih =>
    intro q
    refine .bind (hp q) fun a1 r1 _ _ => ?_
    exact .bind (ih r1) fun as r2 _ _ => .pure trivial

theorem pf_skipUnknown (bitmap : Bits) : ∀ q : Bytes,
    CutLU x B q.length (skipUnknown bitmap (q ++ x)) (skipUnknown bitmap q) := by
  induction bitmap with
  | nil => exact fun q => .pure trivial
  | cons present bitmap ih =>
    intro q
    simp only [skipUnknown]
    split
    · exact .bind_stateLast (pf_readLenDet q) fun len r1 _ _ => .bind_stateLast (pf_readBytes _ r1) fun _ r2 _ _ => ih r2
    · exact ih q

end Asn1.Oer
