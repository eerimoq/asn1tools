import Asn1Proofs.Lemmas.PrepLoc
/-
  Reordering the type assignments of one module: name lookups do not see the order (names are
  distinct), so every pass computes the same thing for every assignment.
-/
namespace Asn1.SpecDict
open Preprocess

/-- a permutation of lists given uniformly for all element types (reverse, rotate, swap two
positions, reorder by a list of indices, …).  Uniform, with `map`, and not a `List.Perm` of one
list: the theorem applies the SAME reordering to the assignments before and after the rewrite,
two lists with other content. -/
structure NatPerm where
  app : ∀ {α : Type}, List α → List α
  map : ∀ {α β : Type} (f : α → β) (l : List α), app (l.map f) = (app l).map f
  perm : ∀ {α : Type} (l : List α), (app l).Perm l

theorem find?_eq_none_of_not_mem {α : Type} {k : String} {l : List (String × α)}
    (h : k ∉ l.map Prod.fst) : find? k l = none := by
  induction l with
  | nil => rfl
  | cons x t ih =>
    obtain ⟨a, b⟩ := x
    simp only [List.map_cons, List.mem_cons, not_or] at h
    simp only [find?]
    rw [if_neg (fun e => h.1 e.symm)]
    exact ih h.2

theorem find?_perm {α : Type} (k : String) {l l' : List (String × α)} (hp : l.Perm l')
    (hn : (l.map Prod.fst).Nodup) : find? k l = find? k l' := by
  induction hp with
  | nil => rfl
  | cons x _ ih =>
    obtain ⟨a, b⟩ := x
    simp only [List.map_cons, List.nodup_cons] at hn
    simp only [find?]
    split
    · rfl
    · exact ih hn.2
  | swap x y l =>
    obtain ⟨a, b⟩ := x
    obtain ⟨c, d⟩ := y
    simp only [List.map_cons, List.nodup_cons, List.mem_cons, not_or] at hn
    simp only [find?]
    by_cases h1 : a = k
    · by_cases h2 : c = k
      · exact absurd (h2.trans h1.symm) hn.1.1
      · simp [h1, h2]
    · by_cases h2 : c = k <;> simp [h1, h2]
  | trans h₁ _ ih₁ ih₂ =>
    exact (ih₁ hn).trans (ih₂ ((h₁.map Prod.fst).nodup_iff.1 hn))

theorem find?_modifyAt_map {α β : Type} (g : α → α) (φ : α → β) (i : Nat) (l : List (String × α))
    (k : String) (h : ∀ v, l[i]? = some (k, v) → φ (g v) = φ v) :
    (find? k (modifyAt g i l)).map φ = (find? k l).map φ := by
  induction l generalizing i with
  | nil => cases i <;> rfl
  | cons x t ih =>
    obtain ⟨a, b⟩ := x
    cases i with
    | zero =>
      simp only [modifyAt, find?]
      split
      · rename_i hk; subst hk; exact congrArg some (h b rfl)
      · rfl
    | succ i =>
      simp only [modifyAt, find?]
      split
      · rfl
      · exact ih i (fun v hv => h v (by simpa using hv))

/-- what a lookup reads of a module: its imports and its answers to type lookups -/
def Module.view (m : Module) : List (String × List String) × (String → Option Desc) :=
  (m.imports, fun name => find? name m.types)

/-- under every module name the two dictionaries hold modules that every lookup reads alike -/
def LookupEquiv (s' s : Spec) : Prop :=
  ∀ mod, (find? mod s').map Module.view = (find? mod s).map Module.view

theorem lookupType_succ (s : Spec) (f : Nat) (name mod : String) :
    lookupType s (f + 1) name mod =
      match (find? mod s).map Module.view with
      | none => none
      | some (imps, look) =>
        match look name with
        | some td => some (td, mod)
        | none =>
          match importFrom name imps with
          | none => none
          | some frm => lookupType s f name frm := by
  simp only [lookupType]
  cases find? mod s <;> rfl

theorem lookupType_congr {s' s : Spec} (h : LookupEquiv s' s) (f : Nat) (name mod : String) :
    lookupType s' f name mod = lookupType s f name mod := by
  induction f generalizing mod with
  | zero => rfl
  | succ f ih => simp only [lookupType_succ, h mod, ih]

theorem expandWith_congr {s' s : Spec} (h : LookupEquiv s' s)
    {rec' rec : String → List Item → List Item} (hrec : ∀ mod ms, rec' mod ms = rec mod ms)
    (lf : Nat) (mod : String) (l : List Item) :
    expandWith rec' s' lf mod l = expandWith rec s lf mod l := by
  induction l with
  | nil => rfl
  | cons i t ih =>
    cases i with
    | compOf r =>
      simp only [expandWith, lookupType_congr h, ih]
      congr 1
      split <;> simp [hrec]
    | marker => simp [expandWith, ih]
    | group g => simp [expandWith, ih]
    | desc d => simp [expandWith, ih]

theorem expandItems_congr {s' s : Spec} (h : LookupEquiv s' s) (lf f : Nat) (mod : String)
    (l : List Item) : expandItems s' lf f mod l = expandItems s lf f mod l := by
  induction f generalizing mod l with
  | zero => rfl
  | succ f ih => exact expandWith_congr h (fun mod ms => ih mod ms) lf mod l

/-- two skeletons that no lookup and no `resolve` tells apart (the fuels are the two that `resolve`
computes from the skeleton) -/
structure SkelEquiv (sk' sk : Skel) : Prop where
  lookup : ∀ f name mod, lookupCore sk' f name mod = lookupCore sk f name mod
  lf : lookupFuel sk' = lookupFuel sk
  rf : resolveFuel sk' = resolveFuel sk

theorem resolveCore_congr {sk' sk : Skel} (h : SkelEquiv sk' sk) (lf f : Nat) (c : Core)
    (mod : String) : resolveCore sk' lf f c mod = resolveCore sk lf f c mod := by
  induction f generalizing c mod with
  | zero => rfl
  | succ f ih =>
    simp only [resolveCore, h.lookup]
    split
    · rfl
    · split
      · rfl
      · exact ih _ _

theorem resolve_congr {sk' sk : Skel} (h : SkelEquiv sk' sk) (c : Core) (mod : String) :
    resolve sk' c mod = resolve sk c mod := by
  unfold resolve
  rw [h.lf, h.rf]
  exact resolveCore_congr h _ _ c mod

section
variable {sk' sk : Skel} (h : SkelEquiv sk' sk)
include h

theorem kindAttrs_congr (mt mn : String) (a : Attrs) :
    kindAttrs sk' mt mn a = kindAttrs sk mt mn a := by
  unfold kindAttrs defaultKind
  rw [resolve_congr h]

theorem convAttrs_congr (n : Bool) (mn : String) (a : Attrs) :
    convAttrs sk' n mn a = convAttrs sk n mn a := by
  unfold convAttrs
  rw [resolve_congr h]

mutual
  theorem tagDesc_congr (mt mn : String) (k : Option Nat) (d : Desc) :
      tagDesc sk' mt mn k d = tagDesc sk mt mn k d :=
    match d with
    | .mk a b => by
      simp only [tagDesc]
      rw [kindAttrs_congr h, tagBody_congr mt mn b]
  theorem tagBody_congr (mt mn : String) (b : Body) :
      tagBody sk' mt mn b = tagBody sk mt mn b :=
    match b with
    | .leaf => rfl
    | .members ms => congrArg Body.members (tagItems_congr mt mn _ ms)
    | .element e => congrArg Body.element (tagDesc_congr mt mn none e)
  theorem tagItems_congr (mt mn : String) (k : Option Nat) (l : List Item) :
      tagItems sk' mt mn k l = tagItems sk mt mn k l :=
    match l with
    | [] => rfl
    | .marker :: t => cons_congr rfl (tagItems_congr mt mn k t)
    | .compOf _ :: t => cons_congr rfl (tagItems_congr mt mn k t)
    | .group g :: t =>
      cons_congr (congrArg Item.group (tagDescs_congr mt mn k g)) (tagItems_congr mt mn _ t)
    | .desc d :: t =>
      cons_congr (congrArg Item.desc (tagDesc_congr mt mn k d)) (tagItems_congr mt mn _ t)
  theorem tagDescs_congr (mt mn : String) (k : Option Nat) (g : List Desc) :
      tagDescs sk' mt mn k g = tagDescs sk mt mn k g :=
    match g with
    | [] => rfl
    | d :: t => cons_congr (tagDesc_congr mt mn k d) (tagDescs_congr mt mn _ t)
end

mutual
  theorem defDesc_congr (n : Bool) (mn : String) (c : Bool) (d : Desc) :
      defDesc sk' n mn c d = defDesc sk n mn c d :=
    match d with
    | .mk a b => by
      simp only [defDesc]
      rw [convAttrs_congr h, defBody_congr n mn _ b]
  theorem defBody_congr (n : Bool) (mn : String) (c : Bool) (b : Body) :
      defBody sk' n mn c b = defBody sk n mn c b :=
    match b with
    | .leaf => rfl
    | .members ms => congrArg Body.members (defItems_congr n mn c ms)
    | .element e => congrArg Body.element (defDesc_congr n mn false e)
  theorem defItems_congr (n : Bool) (mn : String) (c : Bool) (l : List Item) :
      defItems sk' n mn c l = defItems sk n mn c l :=
    match l with
    | [] => rfl
    | i :: t => cons_congr (defItem_congr n mn c i) (defItems_congr n mn c t)
  theorem defItem_congr (n : Bool) (mn : String) (c : Bool) (i : Item) :
      defItem sk' n mn c i = defItem sk n mn c i :=
    match i with
    | .marker => rfl
    | .compOf _ => rfl
    | .group g => congrArg Item.group (defDescs_congr n mn c g)
    | .desc d => congrArg Item.desc (defDesc_congr n mn c d)
  theorem defDescs_congr (n : Bool) (mn : String) (c : Bool) (g : List Desc) :
      defDescs sk' n mn c g = defDescs sk n mn c g :=
    match g with
    | [] => rfl
    | d :: t => cons_congr (defDesc_congr n mn c d) (defDescs_congr n mn c t)
end

theorem locDesc_congr (n : Bool) (mn mt : String) (ext : Bool) (d : Desc) :
    locDesc sk' n mn mt ext d = locDesc sk n mn mt ext d := by
  unfold locDesc
  rw [tagDesc_congr h, defDesc_congr h]

end

end Asn1.SpecDict
