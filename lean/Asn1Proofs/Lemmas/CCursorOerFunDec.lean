import Asn1Proofs.Lemmas.CCursorOerDec
import Asn1Proofs.Lemmas.OerPrim
import Asn1Proofs.Lemmas.BerFramingLemmas
/-
  C10, functional layer (decoder side): the values the OER C decoder helpers return are the
  big-endian numbers of the Python-codec model, and `decoder_read_length_determinant` agrees with
  `Oer.readLenDet`.
-/
namespace Asn1.C10
open Asn1 Asn1.CCursor Asn1.CCursorOer

/-- the next `n` input octets after the cursor, as `Bytes` of the Python codec (fewer if the buffer ends first) -/
def _root_.Asn1.CCursorOer.ODec.next (d : ODec) (n : Nat) : Bytes :=
  ((d.buf.toList.drop d.pos.toNat).take n).map UInt8.toNat

/-- all input after the cursor, as `Bytes`: what the Python codec's readers are run on -/
def _root_.Asn1.CCursorOer.ODec.rest (d : ODec) : Bytes := d.next d.remaining

/-- input octet `k` after the cursor: what a read that fits returns as its byte `k` (`rd_eq_at`) -/
def _root_.Asn1.CCursorOer.ODec.at (d : ODec) (k : Nat) : UInt8 := d.buf[d.pos.toNat + k]!

theorem rd_eq_at {d : ODec} {n : Nat} (hf : d.fits n) (k : Nat) : d.rd n k = d.at k := by
  simp [ODec.rd, hf, ODec.at]

theorem fits_bounds {d : ODec} (h : DInv d) {n : Nat} (hf : d.fits n) :
    0 ≤ d.pos ∧ d.pos.toNat + n ≤ d.buf.size := by
  obtain ⟨h0, h1⟩ := hf
  rcases h.2 with h | h <;> omega

theorem next_eq_at {d : ODec} (h : DInv d) {n : Nat} (hf : d.fits n) :
    d.next n = (List.range n).map fun k => (d.at k).toNat := by
  have hb := fits_bounds h hf
  unfold ODec.next
  rw [window_eq _ _ _ hb.2]
  simp [ODec.at, Function.comp_def]

theorem next_length {d : ODec} (h : DInv d) {n : Nat} (hf : d.fits n) : (d.next n).length = n := by
  rw [next_eq_at h hf]; simp

theorem at_adv {d : ODec} (h : DInv d) {a : Nat} (hf : d.fits a) (k : Nat) :
    (d.adv a).at k = d.at (a + k) := by
  have hb := fits_bounds h hf
  rw [adv_fits hf]
  unfold ODec.at
  simp only
  have : (d.pos + (a : Int)).toNat + k = d.pos.toNat + (a + k) := by omega
  rw [this]

theorem rest_length {d : ODec} (h : DInv d) (h0 : 0 ≤ d.size) : d.rest.length = d.remaining := by
  unfold ODec.rest ODec.next ODec.remaining
  rcases h.2 with h | h
  · simp; omega
  · omega

theorem fits_of_le_rest {d : ODec} (h : DInv d) (h0 : 0 ≤ d.size) {n : Nat} (hl : n ≤ d.rest.length) :
    d.fits n := by
  rw [rest_length h h0] at hl
  unfold ODec.remaining at hl
  refine ⟨h0, ?_⟩
  rcases h.2 with h | h <;> omega

theorem rest_split {d : ODec} (h : DInv d) {n : Nat} (hf : d.fits n) :
    d.rest = d.next n ++ (d.adv n).rest := by
  have hb := fits_bounds h hf
  obtain ⟨h0, h1⟩ := hf
  rw [adv_fits ⟨h0, h1⟩]
  unfold ODec.rest ODec.next ODec.remaining
  simp only
  have e1 : (d.size - d.pos).toNat = n + (d.size - (d.pos + n)).toNat := by omega
  have e2 : (d.pos + (n : Int)).toNat = d.pos.toNat + n := by omega
  rw [e1, List.take_add, List.drop_drop, e2, List.map_append]

theorem size_adv_of_fits {d : ODec} {n : Nat} (hf : d.fits n) : 0 ≤ (d.adv n).size := by
  rw [adv_fits hf]; exact hf.1

theorem next1 {d : ODec} (h : DInv d) (hf : d.fits 1) : d.next 1 = [d.u8.toNat] := by
  rw [next_eq_at h hf]; simp [List.range_succ, ODec.u8, rd_eq_at hf]

theorem rest_cons {d : ODec} (h : DInv d) (h0 : 0 ≤ d.size) {b : Nat} {t : Bytes} (hrest : d.rest = b :: t) :
    d.fits 1 ∧ b = d.u8.toNat ∧ t = (d.adv 1).rest := by
  have hf1 : d.fits 1 := fits_of_le_rest h h0 (by rw [hrest]; simp)
  have hsp := rest_split h hf1
  rw [next1 h hf1, hrest] at hsp
  exact ⟨hf1, (List.cons.inj hsp).1, (List.cons.inj hsp).2⟩

theorem u8_toNat {d : ODec} (h : DInv d) (hf : d.fits 1) : d.u8.toNat = bytesToNat (d.next 1) := by
  rw [next1 h hf]; simp [bytesToNat]

theorem u16_toNat {d : ODec} (h : DInv d) (hf : d.fits 2) : d.u16.toNat = bytesToNat (d.next 2) := by
  rw [next_eq_at h hf]
  simp only [ODec.u16, rd_eq_at hf, u16_bytes, List.range_succ, List.range_zero, List.nil_append,
    List.cons_append, List.map_cons, List.map_nil]

theorem u32_toNat {d : ODec} (h : DInv d) (hf : d.fits 4) : d.u32.toNat = bytesToNat (d.next 4) := by
  rw [next_eq_at h hf]
  simp only [ODec.u32, rd_eq_at hf, u32_bytes, List.range_succ, List.range_zero, List.nil_append,
    List.cons_append, List.map_cons, List.map_nil]

theorem u64_toNat {d : ODec} (h : DInv d) (hf : d.fits 8) : d.u64.toNat = bytesToNat (d.next 8) := by
  rw [next_eq_at h hf]
  simp only [ODec.u64, rd_eq_at hf, u64_bytes, List.range_succ, List.range_zero, List.nil_append,
    List.cons_append, List.map_cons, List.map_nil]

/-- the three-octet value of `decoder_read_uint(3)` / case 3 of the length determinant -/
theorem u24_toNat {d : ODec} (h : DInv d) (hf : d.fits 3) :
    (d.u8.toUInt32 <<< 16 ||| (d.adv 1).u16.toUInt32).toNat = bytesToNat (d.next 3) := by
  obtain ⟨hf1, hf2⟩ := fits_add (a := 1) (b := 2) hf
  have hu16 := u16_toNat (adv_inv h 1) hf2
  have hlt : (d.adv 1).u16.toNat < 2 ^ 16 := (d.adv 1).u16.toNat_lt
  rw [next_eq_at (adv_inv h 1) hf2] at hu16
  rw [next_eq_at h hf, UInt32.toNat_or, shl_toNat32 _ _ (by decide), UInt16.toNat_toUInt32,
    show (16 : UInt32).toNat = 16 from rfl, ← Nat.shiftLeft_add_eq_or_of_lt hlt, Nat.shiftLeft_eq, hu16]
  simp only [ODec.u8, rd_eq_at hf1, at_adv h hf1, Nat.reduceAdd, Nat.add_zero, List.range_succ, List.range_zero,
    List.nil_append, List.cons_append, List.map_cons, List.map_nil, bytesToNat, List.foldl_cons, List.foldl_nil]
  omega

theorem uintSpec_of_fits {d : ODec} (h : DInv d) {k : Nat} (hk : 1 ≤ k ∧ k ≤ 4) (hf : d.fits k) :
    (uintSpec d k).2 = d.adv k ∧ (uintSpec d k).1.toNat = bytesToNat (d.next k) := by
  have hc : k = 1 ∨ k = 2 ∨ k = 3 ∨ k = 4 := by omega
  rcases hc with rfl | rfl | rfl | rfl
  · exact ⟨rfl, (UInt8.toNat_toUInt32 _).trans (u8_toNat h hf)⟩
  · exact ⟨rfl, (UInt16.toNat_toUInt32 _).trans (u16_toNat h hf)⟩
  · exact ⟨adv_adv d 1 2, u24_toNat h hf⟩
  · exact ⟨rfl, u32_toNat h hf⟩

theorem eq_of_next {d : ODec} {k x n : Nat} (hx : x = bytesToNat (d.next k)) (hv : d.next k = natToBytesN k n)
    (hn : n < 256 ^ k) : x = n := by
  rw [hx, hv, bytesToNat_natToBytesN, Nat.mod_eq_of_lt hn]

theorem readU8_of_next {d : ODec} (h : DInv d) (j : Junk) (hj : j.Pre) (hf : d.fits 1) (v : UInt8)
    (hv : d.next 1 = natToBytesN 1 v.toNat) : d.readU8 j = .ok (v, d.adv 1) := by
  rw [readU8_eq h j hj, UInt8.toNat_inj.mp (eq_of_next (u8_toNat h hf) hv v.toNat_lt)]

theorem readU16_of_next {d : ODec} (h : DInv d) (j : Junk) (hj : j.Pre) (hf : d.fits 2) (v : UInt16)
    (hv : d.next 2 = natToBytesN 2 v.toNat) : d.readU16 j = .ok (v, d.adv 2) := by
  rw [readU16_eq h j hj, UInt16.toNat_inj.mp (eq_of_next (u16_toNat h hf) hv v.toNat_lt)]

theorem readU32_of_next {d : ODec} (h : DInv d) (j : Junk) (hj : j.Pre) (hf : d.fits 4) (v : UInt32)
    (hv : d.next 4 = natToBytesN 4 v.toNat) : d.readU32 j = .ok (v, d.adv 4) := by
  rw [readU32_eq h j hj, UInt32.toNat_inj.mp (eq_of_next (u32_toNat h hf) hv v.toNat_lt)]

theorem readU64_of_next {d : ODec} (h : DInv d) (j : Junk) (hj : j.Pre) (hf : d.fits 8) (v : UInt64)
    (hv : d.next 8 = natToBytesN 8 v.toNat) : d.readU64 j = .ok (v, d.adv 8) := by
  rw [readU64_eq h j hj, UInt64.toNat_inj.mp (eq_of_next (u64_toNat h hf) hv v.toNat_lt)]

theorem take_of_readBytes {d : ODec} (h : DInv d) (h0 : 0 ≤ d.size) {k : Nat} {ds r : Bytes}
    (hr : Oer.readBytes k d.rest = .ok (ds, r)) :
    d.fits k ∧ ds = d.next k ∧ r = (d.adv k).rest := by
  obtain ⟨hk, rfl, rfl⟩ := Oer.readBytes_ok hr
  have hf : d.fits k := fits_of_le_rest h h0 hk
  have hs := rest_split h hf
  refine ⟨hf, ?_, ?_⟩
  · rw [hs, List.take_left' (next_length h hf)]
  · rw [hs, List.drop_left' (next_length h hf)]

/-- `decoder_read_length_determinant` against the Python codec's `read_length_determinant`, for a first octet
`< 0x80` or in `0x81..0x84`; the other first octets are `readLengthDeterminant_unsupported` -/
theorem readLengthDeterminant_readLenDet {d : ODec} (h : DInv d) (h0 : 0 ≤ d.size) (j : Junk) (hj : j.Pre)
    {v : Nat} {r : Bytes} (hr : Oer.readLenDet d.rest = .ok (v, r))
    (hk : d.u8.toNat < 128 ∨ (129 ≤ d.u8.toNat ∧ d.u8.toNat ≤ 132)) :
    ∃ d', d.readLengthDeterminant j = .ok (UInt32.ofNat v, d') ∧ v < 4294967296 ∧
      0 ≤ d'.size ∧ d'.rest = r ∧ DInv d' := by
  obtain ⟨b, t, hrest, hcase⟩ := Oer.readLenDet_ok hr
  obtain ⟨hf1, rfl, rfl⟩ := rest_cons h h0 hrest
  have h1 := adv_inv h 1
  have hlt := d.u8.toNat_lt
  rw [readLengthDeterminant_eq h j hj]
  rcases hcase with ⟨hb, hv, hr'⟩ | ⟨hb, ds, hrb, hv⟩
  · subst hv hr'
    rw [lenDetSpec_short hb, ← UInt8.toNat_toUInt32, UInt32.ofNat_toNat]
    exact ⟨_, rfl, UInt32.toNat_lt _, size_adv_of_fits hf1, rfl, h1⟩
  · obtain ⟨hfk, hds, hr'⟩ := take_of_readBytes h1 (size_adv_of_fits hf1) hrb
    rw [hv, hds, hr', show d.u8.toNat - 128 = d.u8.toNat % 128 by omega] at *
    obtain ⟨h2, hv⟩ := uintSpec_of_fits h1 (show 1 ≤ d.u8.toNat % 128 ∧ d.u8.toNat % 128 ≤ 4 by omega) hfk
    rw [lenDetSpec_long hb, ← hv, UInt32.ofNat_toNat]
    exact ⟨(d.adv 1).adv (d.u8.toNat % 128), congrArg Except.ok (Prod.ext rfl h2), UInt32.toNat_lt _,
      size_adv_of_fits hfk, rfl, adv_inv h1 _⟩

/-- a first octet `0x80` (length of length 0) or `> 0x84` (length of length `> 4`) makes the C decoder return
`0xffffffff` having consumed one octet; it does not latch an error -/
theorem readLengthDeterminant_unsupported {d : ODec} (h : DInv d) (j : Junk) (hj : j.Pre)
    (hk : d.u8.toNat = 128 ∨ 133 ≤ d.u8.toNat) :
    d.readLengthDeterminant j = .ok (0xffffffff, d.adv 1) := by
  have hlt := d.u8.toNat_lt
  rw [readLengthDeterminant_eq h j hj, lenDetSpec_long (by omega), uintSpec, sw, if_neg (by omega), if_neg (by omega),
    if_neg (by omega), if_neg (by omega)]

theorem readLengthDeterminant_lenDet {d : ODec} (h : DInv d) (h0 : 0 ≤ d.size) (j : Junk) (hj : j.Pre)
    (n : UInt32) {l : Bytes} (hl : Oer.lenDet n.toNat = .ok l) (t : Bytes) (hin : d.rest = l ++ t) :
    ∃ d', d.readLengthDeterminant j = .ok (n, d') ∧ 0 ≤ d'.size ∧ d'.rest = t ∧ DInv d' := by
  have hr := Oer.readLenDet_lenDet hl t
  rw [← hin] at hr
  have hfirst : d.u8.toNat < 128 ∨ (129 ≤ d.u8.toNat ∧ d.u8.toNat ≤ 132) := by
    have hlt := n.toNat_lt
    rw [Oer.lenDet_def] at hl
    split at hl
    · cases hl
      obtain ⟨_, hb, _⟩ := rest_cons h h0 hin
      omega
    · have hb1 := Ber.one_le_byteLength n.toNat (by omega)
      have hb4 := (byteLength_le_iff n.toNat 4).mpr (by omega)
      rw [natToBytesMin, natToBytesN_length, if_neg (by omega)] at hl
      cases hl
      obtain ⟨_, hb, _⟩ := rest_cons h h0 hin
      omega
  obtain ⟨d', hd, _, hs, hrest, hinv⟩ := readLengthDeterminant_readLenDet h h0 j hj hr hfirst
  exact ⟨d', by rw [hd, UInt32.ofNat_toNat], hs, hrest, hinv⟩

end Asn1.C10
