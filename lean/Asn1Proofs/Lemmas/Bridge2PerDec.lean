import Asn1Proofs.Lemmas.PyStrLemmas
import Asn1Proofs.Lemmas.Bridge2Defs
import Asn1Proofs.Lemmas.PerRead
/-
  The translated `per.Decoder` (the bit string held as a Python `str` of '0' / '1' characters and a count of unread bits)
  against the `Per.St` readers of `Asn1Model/Per.lean`.  Every method that consumes `n` bits goes through one lemma,
  `per_consume_refines`; the rest are the Python idioms the methods use.  The statements, method by method, are in
  `Properties/C05u.lean`.
-/
namespace Asn1.Bridge
open Asn1 Asn1.Translated
open Asn1.Uper (Err)

/-- The field `al`: `Decoder.__init__` sets `total_number_of_bits = 8 * len(encoded)`, and
`Per.align` (which pads the number of bits READ to a multiple of 8) agrees with `Decoder.align_always` (which drops
`number_of_bits & 7` of the REMAINING bits) only because of that; without `al` the statements about
`align_always` and `read_constrained_whole_number` are false (`per_align_always_refines_original_false`). -/
structure PDecInv (d : per_DecoderS) : Prop where
  nb : 0 ≤ d.number_of_bits
  le : d.number_of_bits ≤ d.total_number_of_bits
  len : (d.value.length : Int) = d.total_number_of_bits
  bin : ∀ c ∈ d.value, c = '0' ∨ c = '1'
  al : d.total_number_of_bits % 8 = 0

/-- the invariant without the alignment of the total, for the counterexample -/
structure PDecInv0 (d : per_DecoderS) : Prop where
  nb : 0 ≤ d.number_of_bits
  le : d.number_of_bits ≤ d.total_number_of_bits
  len : (d.value.length : Int) = d.total_number_of_bits
  bin : ∀ c ∈ d.value, c = '0' ∨ c = '1'

/-- the model state the translated `per.Decoder` stands for: Python keeps the whole input as a string of '0'/'1' and counts
`number_of_bits` DOWN; the model keeps the bits still to read and counts the position up -/
def pAbs (d : per_DecoderS) : Per.St :=
  ⟨(d.total_number_of_bits - d.number_of_bits).toNat,
   (d.value.drop (d.total_number_of_bits - d.number_of_bits).toNat).map (· == '1')⟩

theorem PDecInv.view {d : per_DecoderS} (h : PDecInv d) :
    ∃ (N T : Nat) (val : List Char), d = ⟨(N : Int), (T : Int), val⟩ ∧ N ≤ T ∧ val.length = T ∧
      (∀ c ∈ val, c = '0' ∨ c = '1') ∧ T % 8 = 0 := by
  obtain ⟨nb, tot, val⟩ := d
  obtain ⟨N, rfl⟩ := Int.eq_ofNat_of_zero_le (show 0 ≤ nb from h.nb)
  obtain ⟨T, rfl⟩ := Int.eq_ofNat_of_zero_le (show 0 ≤ tot from Int.le_trans h.nb h.le)
  have hal : (T : Int) % 8 = 0 := h.al
  exact ⟨N, T, val, rfl, Int.ofNat_le.1 h.le, Int.ofNat_inj.1 h.len, h.bin, by omega⟩

theorem pdec_inv_mk (N T : Nat) (val : List Char) (h1 : N ≤ T) (h2 : val.length = T)
    (h3 : ∀ c ∈ val, c = '0' ∨ c = '1') (h4 : T % 8 = 0) : PDecInv ⟨(N : Int), (T : Int), val⟩ :=
  ⟨Int.natCast_nonneg N, Int.ofNat_le.2 h1, congrArg Nat.cast h2, h3, by show (T : Int) % 8 = 0; omega⟩

theorem pAbs_mk (N T : Nat) (val : List Char) (h : N ≤ T) :
    pAbs ⟨(N : Int), (T : Int), val⟩ = ⟨T - N, (val.drop (T - N)).map (· == '1')⟩ := by
  unfold pAbs
  simp only
  rw [← Int.ofNat_sub h, Int.toNat_natCast]

theorem pAbs_advance (N T n : Nat) (val : List Char) (hn : n ≤ N) (h : N ≤ T) :
    pAbs ⟨((N - n : Nat) : Int), (T : Int), val⟩ = ⟨T - N + n, ((val.drop (T - N)).map (· == '1')).drop n⟩ := by
  rw [pAbs_mk _ _ _ (Nat.le_trans (Nat.sub_le N n) h), ← List.map_drop, List.drop_drop,
    show T - (N - n) = T - N + n by omega]

theorem per_align_always_refines (d : per_DecoderS) (h : PDecInv d) :
    PDecInv (per_Decoder_align_always d) ∧ pAbs (per_Decoder_align_always d) = Per.align (pAbs d) := by
  obtain ⟨N, T, val, rfl, hNT, hlen, hbin, hal⟩ := h.view
  unfold per_Decoder_align_always
  simp only [Py.band7]
  rw [← Int.ofNat_sub (Nat.mod_le N 8)]
  refine ⟨pdec_inv_mk _ _ _ (Nat.le_trans (Nat.sub_le _ _) hNT) hlen hbin hal, ?_⟩
  rw [pAbs_advance N T (N % 8) val (Nat.mod_le N 8) hNT, pAbs_mk N T val hNT]
  unfold Per.align Per.padLen
  simp only
  -- padding the count of bits read is dropping the odd unread bits, the total being whole octets (`hal`)
  rw [show (8 - (T - N) % 8) % 8 = N % 8 by omega]

/-- Three unread bits of four: the code drops 3 bits (position 4), the model pads position 1 up to 8. -/
theorem per_align_always_refines_original_false :
    ¬ (∀ d : per_DecoderS, PDecInv0 d →
        PDecInv0 (per_Decoder_align_always d) ∧ pAbs (per_Decoder_align_always d) = Per.align (pAbs d)) := by
  intro hall
  have h := hall ⟨3, 4, ['0', '0', '0', '0']⟩
    ⟨by decide, by decide, by decide, by decide⟩
  have h2 := congrArg Per.St.pos h.2
  revert h2
  decide

theorem per_readNat_eq_readBits (n : Nat) (s : Per.St) :
    Per.readNat n s = Per.readBits n s >>= fun p => .ok (bitsToNat p.1, p.2) := by
  unfold Per.readNat Per.readBits
  cases Uper.splitExact n s.bs <;> rfl

theorem per_readBit_eq_readBits (s : Per.St) :
    Per.readBit s = Per.readBits 1 s >>= fun p => .ok (p.1.headD false, p.2) := by
  obtain ⟨pos, bs⟩ := s
  cases bs <;> rfl

/-- A method of the shape `if n > self.number_of_bits: raise OutOfDataError(..); …; self.number_of_bits -= n; return …`
(`skip_bits`, `read_bit`, `read_bits`, `read_non_negative_binary_integer`); `f` is what the model makes of the next `n`
bits. -/
theorem per_consume_refines {α β : Type} {v : α → β → Prop} {N T : Nat} {val : List Char} (hNT : N ≤ T)
    (hlen : val.length = T) (hbin : ∀ c ∈ val, c = '0' ∨ c = '1') (hal : T % 8 = 0) (n : Nat)
    {x : Except String (per_DecoderS × α)} {y : Except Err (β × Per.St)} (f : Bits → β)
    (hy : y = Per.readBits n (pAbs ⟨(N : Int), (T : Int), val⟩) >>= fun p => .ok (f p.1, p.2))
    (hx : n ≤ N → ∃ a, x = .ok (⟨((N - n : Nat) : Int), (T : Int), val⟩, a) ∧
      v a (f (((val.drop (T - N)).take n).map (· == '1')))) :
    Refines PDecInv pAbs v (if decide ((n : Int) > (N : Int)) then .error "OutOfDataError" else x) y := by
  subst hy
  have hl : ((val.drop (T - N)).map (· == '1')).length = N := by
    rw [List.length_map, List.length_drop, hlen, Nat.sub_sub_self hNT]
  rw [Per.readBits_eq, pAbs_mk N T val hNT]
  simp only [hl]
  by_cases hn : n ≤ N
  · obtain ⟨a, rfl, hv⟩ := hx hn
    rw [if_pos hn, if_neg (mt of_decide_eq_true (Int.not_lt.2 (Int.ofNat_le.2 hn))), ok_bind, ← List.map_take]
    exact Refines.ok (pdec_inv_mk _ _ _ (Nat.le_trans (Nat.sub_le N n) hNT) hlen hbin hal)
      (pAbs_advance N T n val hn hNT) hv
  · rw [if_neg hn, if_pos (decide_eq_true (Int.ofNat_lt.2 (Nat.lt_of_not_le hn)))]
    exact Refines.err (.inl rfl)

theorem mem_slice {val : List Char} (hbin : ∀ c ∈ val, c = '0' ∨ c = '1') (a n : Nat) :
    ∀ c ∈ (val.drop a).take n, c = '0' ∨ c = '1' :=
  fun c hc => hbin c (List.mem_of_mem_drop (List.mem_of_mem_take hc))

/-- `self.value[offset:offset + n]` with `offset = number_of_read_bits()`: the next `n` characters -/
theorem per_slice_unread {N T n : Nat} {val : List Char} (hNT : N ≤ T) (hlen : val.length = T) (hn : n ≤ N) :
    Py.slice val ((T : Int) - (N : Int)) ((T : Int) - (N : Int) + (n : Int)) = (val.drop (T - N)).take n ∧
      ((val.drop (T - N)).take n).length = n := by
  constructor
  · rw [← Int.ofNat_sub hNT, Py.slice_nat val (T - N) n]
  · rw [List.length_take, List.length_drop, hlen, Nat.sub_sub_self hNT, Nat.min_eq_left hn]

theorem per_rnnbi_refines_bits (d : per_DecoderS) (h : PDecInv d) (n : Nat) :
    Refines PDecInv pAbs (fun a (bits : Bits) => a = (bitsToNat bits : Int) ∧ bits.length = n)
      (per_Decoder_read_non_negative_binary_integer d n) (Per.readBits n (pAbs d)) := by
  obtain ⟨N, T, val, rfl, hNT, hlen, hbin, hal⟩ := h.view
  unfold per_Decoder_read_non_negative_binary_integer per_Decoder_number_of_read_bits
  refine per_consume_refines hNT hlen hbin hal n (fun b => b) (bind_pure _).symm fun hn => ?_
  obtain ⟨hsl, hvl⟩ := per_slice_unread hNT hlen hn
  refine ⟨(bitsToNat (((val.drop (T - N)).take n).map (· == '1')) : Nat), ?_, rfl, (List.length_map _).trans hvl⟩
  by_cases h0 : n = 0
  · subst h0
    rfl
  · have hne : (val.drop (T - N)).take n ≠ [] := fun e => h0 (hvl.symm.trans (congrArg List.length e))
    rw [if_neg (mt of_decide_eq_true (mt Int.ofNat_eq_zero.1 h0))]
    dsimp only
    rw [hsl, intOfBin_eq _ hne (mem_slice hbin _ _), ok_bind, ← Int.ofNat_sub hn]
    rfl

theorem per_rnnbi_refines (d : per_DecoderS) (h : PDecInv d) (n : Nat) :
    Refines PDecInv pAbs (fun a (v : Nat) => a = (v : Int) ∧ v < 2 ^ n)
      (per_Decoder_read_non_negative_binary_integer d n) (Per.readNat n (pAbs d)) := by
  rw [per_readNat_eq_readBits, ← bind_pure (per_Decoder_read_non_negative_binary_integer d n)]
  exact (per_rnnbi_refines_bits d h n).bind fun s a bits hs hv => Refines.ok hs rfl ⟨hv.1, hv.2 ▸ bitsToNat_lt bits⟩

/-- `binascii.unhexlify(hex(int('10000000' + v + '0' * p, 2))[4:])` where `p` pads `v` to whole octets: the sentinel octet
keeps the leading zeros of `v`, and `[4:]` drops `0x80` again, so the result is the bits of `v` packed, zero padded. -/
theorem unhex_sentinel {β : Type} (v : List Char) (hb : ∀ c ∈ v, c = '0' ∨ c = '1') (n : Nat) (hn : v.length = n)
    (k : List Int → Except String β) :
    (Py.intOfBin ((['1', '0', '0', '0', '0', '0', '0', '0'] : List Char) ++ v ++ List.replicate ((8 - n % 8) % 8) '0')
      >>= fun i => Py.unhexAfter4 i >>= k) = k (ofNats (packBits (v.map (· == '1')))) := by
  subst hn
  generalize hp : (8 - v.length % 8) % 8 = p
  have hk : 8 * ((v.length + p) / 8) = v.length + p := by omega
  have hl : (v.map (· == '1') ++ List.replicate p false).length = 8 * ((v.length + p) / 8) := by
    rw [List.length_append, List.length_map, List.length_replicate, hk]
  have hlt := bitsToNat_lt (v.map (· == '1') ++ List.replicate p false)
  rw [hl, ← pow256] at hlt
  have e : ((['1', '0', '0', '0', '0', '0', '0', '0'] : List Char) ++ v ++ List.replicate p '0').map (· == '1')
      = [true, false, false, false, false, false, false, false] ++ (v.map (· == '1') ++ List.replicate p false) := by
    rw [List.map_append, List.map_append, List.map_replicate, List.append_assoc]
    rfl
  have hbin : ∀ c ∈ (['1', '0', '0', '0', '0', '0', '0', '0'] : List Char) ++ v ++ List.replicate p '0',
      c = '0' ∨ c = '1' := by
    intro c hc
    rw [List.mem_append, List.mem_append, List.mem_replicate] at hc
    rcases hc with (hc | hc) | hc
    · simp at hc; rcases hc with rfl | rfl <;> simp
    · exact hb c hc
    · exact .inl hc.2
  rw [intOfBin_eq _ (by simp) hbin, e, bitsToNat_append, hl, ← pow256, ok_bind]
  show Py.unhexAfter4
    ((128 * 256 ^ ((v.length + p) / 8) + bitsToNat (v.map (· == '1') ++ List.replicate p false) : Nat) : Int) >>= k = _
  rw [unhexAfter4_sentinel _ _ hlt, ok_bind,
    packBits_eq _ _ p (by rw [List.length_map, hp]) (by rw [List.length_map, hk])]

/-- `if number_of_alignment_bits != 8: value += '0' * number_of_alignment_bits`, for `8 - m` alignment bits -/
theorem pad_to_octet (s : List Char) (m : Nat) (hm : m < 8) :
    (if decide ((8 : Int) - (m : Int) ≠ 8)
      then (pure (s ++ Py.strRepeat ['0'] ((8 : Int) - (m : Int))) : Except String (List Char)) else pure s)
      = pure (s ++ List.replicate ((8 - m) % 8) '0') := by
  by_cases h0 : m = 0
  · subst h0
    exact congrArg pure (List.append_nil s).symm
  · rw [if_pos (decide_eq_true (by omega)), show (8 : Int) - (m : Int) = ((8 - m : Nat) : Int) by omega,
      strRepeat_zero, Nat.mod_eq_of_lt (by omega)]

/-- `((v & 0x7f) << 8) | w`, the two-octet form in `read_length_determinant` -/
theorem two_octet_length (v w : Nat) (hw : w < 256) :
    Py.bor (Py.shl (Py.band (v : Int) 127) 8) (w : Int) = ((v % 128 * 256 + w : Nat) : Int) := by
  rw [Py.band127]
  exact (bor_shl _ (Int.natCast_nonneg _) w 8 hw).trans (by rw [cast_mul_pow, ← Int.natCast_add])

theorem truthy_bit {a : Int} {b : Bool} (h : bitVal a b) : Py.truthyInt a = b := by
  subst h
  cases b <;> rfl

end Asn1.Bridge
