import Asn1Proofs.Lemmas.X691Prim
/-
  The UNALIGNED variant of the specification in the terms of `Asn1Model/Uper.lean`: constrained whole
  numbers, the position-threaded loops of the specification against the code's `mapM` (`Uper.enc` does
  not look at the position), size constraints.
-/
namespace Asn1.X691
open Asn1.Uper (lenDet encChunks encChunked mapM_length mapM_append)

theorem cwn_false (pos v range : Nat) : cwn false pos v range = natToBits (bitLength (range - 1)) v :=
  cwn_bits false pos v range (.inl rfl)

section generic
variable {α : Type} (f : Nat → α → EncM Bits) (g : α → EncM Bits)

theorem seqM_mapM (vs : List α) (hfg : ∀ v ∈ vs, ∀ p b, f p v = .ok b → g v = .ok b)
    (pos : Nat) (bits : Bits) (h : seqM f pos vs = .ok bits) :
    ∃ items, vs.mapM g = .ok items ∧ items.flatten = bits := by
  induction vs generalizing pos bits with
  | nil =>
    rw [seqM] at h; cases h
    exact ⟨[], Uper.mapM_nil' g, rfl⟩
  | cons v r ih =>
    rw [seqM] at h
    cases hv : f pos v with
    | error e => rw [hv] at h; cases h
    | ok a =>
      rw [hv] at h
      simp only at h
      cases hr : seqM f (pos + a.length) r with
      | error e => rw [hr] at h; cases h
      | ok b =>
        rw [hr] at h
        cases h
        obtain ⟨items, hi1, hi2⟩ := ih (fun x hx => hfg x (by simp [hx])) _ _ hr
        refine ⟨a :: items, ?_, by simp [hi2]⟩
        rw [Uper.mapM_cons', hfg v (by simp) pos a hv, hi1]

/-- `hfuel`: the fuel covers every fragment (each but the last takes at least 16K components), so
neither loop stops early; the components of the first fragment (`take`) and of the rest (`drop`) are
encoded separately and put together again by `mapM_append` -/
theorem fragM_mapM (fuel : Nat) (vs : List α) (hfg : ∀ v ∈ vs, ∀ p b, f p v = .ok b → g v = .ok b)
    (pos : Nat) (bits : Bits) (hfuel : vs.length < fuel * 16384)
    (h : fragM false f fuel pos vs = .ok bits) :
    ∃ items, vs.mapM g = .ok items ∧ bits = encChunks fuel items := by
  induction fuel generalizing vs pos bits with
  | zero => omega
  | succ fuel ih =>
    rw [fragM] at h
    simp only [pad_false, lengthOctets_eq, List.length_nil, Nat.add_zero, List.nil_append] at h
    have hk := Uper.lenDet_snd_le vs.length
    cases hb : seqM f (pos + (lenDet vs.length).1.length) (vs.take (lenDet vs.length).2) with
    | error e => rw [hb] at h; cases h
    | ok body =>
      rw [hb] at h
      simp only at h
      obtain ⟨items1, h11, h12⟩ := seqM_mapM f g _
        (fun x hx => hfg x (List.mem_of_mem_take hx)) _ _ hb
      have hl1 : items1.length = (lenDet vs.length).2 := by
        rw [mapM_length _ _ _ h11, List.length_take]; omega
      by_cases hlt : (lenDet vs.length).2 < 16384
      · rw [if_pos hlt] at h
        cases h
        have hkeq := Uper.lenDet_snd_eq_of_snd_lt hlt
        rw [hkeq, List.take_length] at h11
        refine ⟨items1, h11, ?_⟩
        rw [encChunks]
        have hl : items1.length = vs.length := mapM_length _ _ _ h11
        rw [hl]
        simp only [if_pos hlt]
        rw [hkeq, ← hl, List.take_length, h12]
      · rw [if_neg hlt] at h
        cases hr : fragM false f fuel (pos + (lenDet vs.length).1.length + body.length)
            (vs.drop (lenDet vs.length).2) with
        | error e => rw [hr] at h; cases h
        | ok rest =>
          rw [hr] at h
          cases h
          obtain ⟨items2, h21, h22⟩ := ih (vs.drop (lenDet vs.length).2)
            (fun x hx => hfg x (List.mem_of_mem_drop hx)) _ _
            (by simp only [List.length_drop]; omega) hr
          have hall := mapM_append g _ _ _ _ h11 h21
          rw [List.take_append_drop] at hall
          refine ⟨items1 ++ items2, hall, ?_⟩
          rw [encChunks]
          have hl : (items1 ++ items2).length = vs.length := mapM_length _ _ _ hall
          rw [hl]
          simp only [if_neg hlt]
          have ht : (items1 ++ items2).take (lenDet vs.length).2 = items1 := by
            rw [← hl1]; simp
          have hd : (items1 ++ items2).drop (lenDet vs.length).2 = items2 := by
            rw [← hl1]; simp
          rw [ht, hd, h12, h22]

theorem genLenM_mapM (vs : List α) (hfg : ∀ v ∈ vs, ∀ p b, f p v = .ok b → g v = .ok b)
    (pos : Nat) (bits : Bits) (h : genLenM false f pos vs = .ok bits) :
    ∃ items, vs.mapM g = .ok items ∧ bits = encChunked items := by
  unfold genLenM at h
  obtain ⟨items, h1, h2⟩ := fragM_mapM f g _ vs hfg pos bits (by omega) h
  refine ⟨items, h1, ?_⟩
  unfold encChunked
  rw [mapM_length _ _ _ h1]; exact h2

end generic

theorem sizedPrefix_false (lo ub : Nat) (af av : Bool) (pos n : Nat) :
    sizedPrefix false lo ub af av pos n =
      if lo = ub then [] else natToBits (bitLength (ub - lo)) (n - lo) := by
  unfold sizedPrefix
  simp only [pad_false, ite_self, List.append_nil, cwn_false, Nat.add_sub_cancel]

/-- what the code model (M) writes for a size inside the (root of the) size constraint, below the
extension bit: chunks without a bound below 64K, else a length field unless the size is fixed -/
def mSized (c : SizeC) (items : List Bits) : Bits :=
  match Uper.sizeBits c with
  | none => encChunked items
  | some w =>
    if some c.lo ≠ c.hi then natToBits w (items.length - c.lo) ++ items.flatten
    else items.flatten

section generic
variable {α : Type} (f : Nat → α → EncM Bits) (g : α → EncM Bits)

theorem sizedM_false (c : SizeC) (af av : Bool) (vs : List α)
    (hfg : ∀ v ∈ vs, ∀ p b, f p v = .ok b → g v = .ok b) (pos : Nat) (bits : Bits)
    (h : sizedM false f c.lo c.hi af av pos vs = .ok bits) :
    ∃ items, vs.mapM g = .ok items ∧ bits = mSized c items ∧ Uper.inSize c vs.length = true := by
  obtain ⟨hlo, hhi, hgen, hfix⟩ := sizedM_inv h
  unfold mSized Uper.sizeBits Uper.inSize
  cases hc : c.hi with
  | none =>
    obtain ⟨items, h1, h2⟩ := genLenM_mapM f g vs hfg pos bits (hgen (by rw [hc]; nofun))
    exact ⟨items, h1, h2, by simpa using hlo⟩
  | some ub =>
    have hub := hhi ub hc
    by_cases h64 : ub < 65536
    · obtain ⟨body, hb, rfl⟩ := hfix ub hc h64
      obtain ⟨items, h1, rfl⟩ := seqM_mapM f g vs hfg _ _ hb
      refine ⟨items, h1, ?_, by simp; omega⟩
      rw [sizedPrefix_false, mapM_length _ _ _ h1]
      simp only [if_neg (show ¬ ub > 65535 by omega), Option.some.injEq, ne_eq, ite_not]
      split <;> simp
    · obtain ⟨items, h1, h2⟩ := genLenM_mapM f g vs hfg pos bits
        (hgen (by rw [hc]; intro u hu; cases hu; omega))
      exact ⟨items, h1, by simp only [if_pos (show ub > 65535 by omega)]; exact h2, by simp; omega⟩

theorem extSizedM_false (c : SizeC) (af av : Bool) (vs : List α)
    (hfg : ∀ v ∈ vs, ∀ p b, f p v = .ok b → g v = .ok b) (pos : Nat) (bits : Bits)
    (h : extSizedM false f c af av pos vs = .ok bits) :
    ∃ items, vs.mapM g = .ok items ∧
      ((c.ext = true ∧ Uper.inSize c vs.length = false ∧ bits = true :: encChunked items) ∨
       (Uper.inSize c vs.length = true ∧
          bits = (if c.ext then [false] else []) ++ mSized c items)) := by
  rcases extSizedM_inv h with ⟨hext, hin, b, hb, rfl⟩ | ⟨hext, hin, b, hb, rfl⟩ | ⟨hext, hb⟩
  · obtain ⟨items, h1, rfl⟩ := genLenM_mapM f g vs hfg _ _ hb
    exact ⟨items, h1, .inl ⟨hext, by rw [← inRoot_eq_inSize]; exact hin, rfl⟩⟩
  · obtain ⟨items, h1, rfl, h3⟩ := sizedM_false f g c af av vs hfg _ _ hb
    exact ⟨items, h1, .inr ⟨h3, by rw [hext]; rfl⟩⟩
  · obtain ⟨items, h1, rfl, h3⟩ := sizedM_false f g c af av vs hfg _ _ hb
    exact ⟨items, h1, .inr ⟨h3, by rw [hext]; rfl⟩⟩

end generic

end Asn1.X691
