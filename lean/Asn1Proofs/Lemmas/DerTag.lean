import Asn1Proofs.Lemmas.OerTag
import Asn1Model.Der
/-
  Identifier octets of the BER / DER model: `mkTag` (= `Ber.encTag`, long form from tag number 31 up),
  `matchTag`, `readTag`.  Context tags are prefix-free and no shorter for a larger number: that is why a
  decoder facing the tag of a later member reports `TAG_MISMATCH` (`.ok none`) and no error.
-/
namespace Asn1.Der
open Asn1.Oer (splitAux)

theorem encTag_short_der (n flags : Nat) (h : n < 31) : Ber.encTag n flags = [flags + n] := by
  unfold Ber.encTag; rw [if_pos h]

theorem encTag_long_der (n flags : Nat) (h : ¬ n < 31) :
    ∃ xs y, Ber.base128 (bitLength n + 1) n = xs ++ [y] ∧ (∀ x ∈ xs, x < 128) ∧ y < 128 ∧
      Oer.b128val xs * 128 + y = n ∧
      Ber.encTag n flags = (flags + 31) :: (xs.map (· + 128) ++ [y]) := by
  obtain ⟨xs, y, hxy, hxs, hy, hval⟩ := Oer.base128_digits n
  rw [← Ber.base128_eq_oer] at hxy
  refine ⟨xs, y, hxy, hxs, hy, hval, ?_⟩
  unfold Ber.encTag
  rw [if_neg h]
  simp only [hxy, List.dropLast_concat, List.getLast?_concat, Option.getD_some]

theorem encTag_length_der (n flags : Nat) :
    (Ber.encTag n flags).length =
      if n < 31 then 1 else 1 + (Ber.base128 (bitLength n + 1) n).length := by
  by_cases h : n < 31
  · rw [encTag_short_der n flags h, if_pos h]; rfl
  · obtain ⟨xs, y, hxy, _, _, _, he⟩ := encTag_long_der n flags h
    rw [he, if_neg h, hxy]
    simp only [List.length_cons, List.length_append, List.length_map, List.length_nil]
    omega

theorem base128_length_mono (f : Nat) : ∀ (f' n m : Nat), n ≤ m → n < 128 ^ f → m < 128 ^ f' →
    0 < f' → (Ber.base128 f n).length ≤ (Ber.base128 f' m).length := by
  induction f with
  | zero => intro f' n m _ _ _ _; simp [Ber.base128]
  | succ f ih =>
    intro f' n m hnm hn hm hf'
    cases f' with
    | zero => omega
    | succ f' =>
      unfold Ber.base128
      by_cases h1 : n < 128
      · rw [if_pos h1]
        by_cases h2 : m < 128
        · rw [if_pos h2]; exact Nat.le_refl _
        · rw [if_neg h2]; simp
      · have h2 : ¬ m < 128 := by omega
        rw [if_neg h1, if_neg h2]
        simp only [List.length_append, List.length_cons, List.length_nil]
        have hm' : m / 128 < 128 ^ f' := by rw [Nat.pow_succ] at hm; omega
        have hpos : 0 < f' := by
          cases f' with
          | zero => simp at hm'; omega
          | succ _ => omega
        have := ih f' (n / 128) (m / 128) (Nat.div_le_div_right hnm)
          (by rw [Nat.pow_succ] at hn; omega) hm' hpos
        omega

theorem tagRest_body (mid : Bytes) (last : Nat) (rest : Bytes)
    (hm : ∀ m ∈ mid, 128 ≤ m) (hl : last < 128) :
    tagRest (mid ++ [last] ++ rest) = some (mid ++ [last], rest) := by
  induction mid with
  | nil =>
    simp only [List.nil_append, List.cons_append, tagRest]
    rw [if_neg (by omega)]
  | cons m r ih =>
    have := hm m (by simp)
    have ih' := ih (fun z hz => hm z (by simp [hz]))
    simp only [List.cons_append, tagRest]
    rw [if_pos (by omega), ih']

theorem readTag_encTag_der (n fl : Nat) (r : Bytes) (hfl : fl % 32 = 0) (hr : r ≠ []) :
    readTag (Ber.encTag n fl ++ r) = .ok (Ber.encTag n fl, r) := by
  have hre : r.isEmpty = false := by cases r with
    | nil => exact absurd rfl hr
    | cons _ _ => rfl
  by_cases h : n < 31
  · rw [encTag_short_der n fl h]
    simp only [readTag, List.cons_append, List.nil_append]
    rw [if_neg (by omega)]
    simp [hre]
  · obtain ⟨xs, y, _, hxs, hy, _, he⟩ := encTag_long_der n fl h
    rw [he]
    simp only [readTag, List.cons_append]
    rw [if_pos (by omega)]
    rw [tagRest_body (xs.map (· + 128)) y r (by
      intro m hm
      obtain ⟨a, _, rfl⟩ := List.mem_map.mp hm
      omega) hy]
    simp [hre]

theorem encTag_inj_der {fl fl' i j : Nat} (hfl : fl % 32 = 0) (hfl' : fl' % 32 = 0)
    (h : Ber.encTag i fl = Ber.encTag j fl') : i = j := by
  by_cases hi : i < 31 <;> by_cases hj : j < 31
  · rw [encTag_short_der i fl hi, encTag_short_der j fl' hj] at h
    simp only [List.cons.injEq, and_true] at h
    omega
  · obtain ⟨xs, y0, _, _, _, _, he⟩ := encTag_long_der j fl' hj
    rw [encTag_short_der i fl hi, he] at h
    simp at h
  · obtain ⟨xs, y0, _, _, _, _, he⟩ := encTag_long_der i fl hi
    rw [encTag_short_der j fl' hj, he] at h
    simp at h
  · obtain ⟨xs, y0, _, _, _, hv, he⟩ := encTag_long_der i fl hi
    obtain ⟨xs', y0', _, _, _, hv', he'⟩ := encTag_long_der j fl' hj
    rw [he, he'] at h
    obtain ⟨h1, h2⟩ := List.append_inj' (List.cons.inj h).2 rfl
    rw [← hv, ← hv', (List.map_inj_right (fun a b h => Nat.add_right_cancel h)).mp h1,
      (List.cons.inj h2).1]

/-- `read_tag` cuts the same identifier octets off both sides -/
theorem encTag_prefix_free_der {fl fl' i j : Nat} {x y : Bytes}
    (hfl : fl % 32 = 0) (hfl' : fl' % 32 = 0)
    (h : Ber.encTag i fl ++ x = Ber.encTag j fl' ++ y) : i = j := by
  have h' : Ber.encTag i fl ++ (x ++ [0]) = Ber.encTag j fl' ++ (y ++ [0]) := by
    rw [← List.append_assoc, h, List.append_assoc]
  have := congrArg readTag h'
  rw [readTag_encTag_der i fl _ hfl (by simp), readTag_encTag_der j fl' _ hfl' (by simp)] at this
  injection this with this
  exact encTag_inj_der hfl hfl' (Prod.mk.inj this).1

theorem mkTag_some_der (u : Nat) (c : Bool) (i : Nat) :
    ∃ fl, (fl = 128 ∨ fl = 160) ∧ mkTag u c (some i) = Ber.encTag i fl := by
  cases c
  · exact ⟨128, Or.inl rfl, rfl⟩
  · exact ⟨160, Or.inr rfl, rfl⟩

theorem mkTag_none_der (u : Nat) (c : Bool) :
    ∃ fl, (fl = 0 ∨ fl = 32) ∧ mkTag u c none = Ber.encTag u fl := by
  cases c
  · exact ⟨0, Or.inl rfl, rfl⟩
  · exact ⟨32, Or.inr rfl, rfl⟩

theorem mkTag_eq_encTag (u : Nat) (c : Bool) (tg : Option Nat) :
    ∃ n fl, mkTag u c tg = Ber.encTag n fl ∧ fl % 32 = 0 ∧ fl + 31 < 256 := by
  cases tg <;> cases c <;> exact ⟨_, _, rfl, by decide, by decide⟩

theorem matchTag_self (tag r : Bytes) : matchTag tag (tag ++ r) = .ok (some r) := by
  unfold matchTag
  rw [Oer.splitAux_append]
  simp

theorem mkTag_ctx_prefix_free {u u' : Nat} {c c' : Bool} {i j : Nat} {x y : Bytes}
    (h : mkTag u c (some i) ++ x = mkTag u' c' (some j) ++ y) : i = j := by
  obtain ⟨fl, hfl, he⟩ := mkTag_some_der u c i
  obtain ⟨fl', hfl', he'⟩ := mkTag_some_der u' c' j
  rw [he, he'] at h
  exact encTag_prefix_free_der (by omega) (by omega) h

theorem mkTag_ctx_inj {u u' : Nat} {c c' : Bool} {i j : Nat}
    (h : mkTag u c (some i) = mkTag u' c' (some j)) : i = j :=
  mkTag_ctx_prefix_free (x := []) (y := []) (by rw [h])

theorem mkTag_ctx_length_mono {u u' : Nat} {c c' : Bool} {i j : Nat} (h : i ≤ j) :
    (mkTag u c (some i)).length ≤ (mkTag u' c' (some j)).length := by
  obtain ⟨fl, _, he⟩ := mkTag_some_der u c i
  obtain ⟨fl', _, he'⟩ := mkTag_some_der u' c' j
  rw [he, he', encTag_length_der, encTag_length_der]
  by_cases hj : j < 31
  · have hi : i < 31 := by omega
    rw [if_pos hi, if_pos hj]; exact Nat.le_refl _
  · rw [if_neg hj]
    by_cases hi : i < 31
    · rw [if_pos hi]; omega
    · rw [if_neg hi]
      have := base128_length_mono (bitLength i + 1) (bitLength j + 1) i j h
        (lt_pow128 i) (lt_pow128 j) (by omega)
      omega

/-- the shape used by the BER string decoder: cutting `tag.length` octets off an encoding that starts
with a later tag gives something that is not tag `[i]` in any form -/
theorem split_ctx_mismatch {u u' : Nat} {c c' : Bool} {i j : Nat} (r : Bytes) (h : i < j) :
    ∃ t r', splitAux (mkTag u c (some i)).length (mkTag u' c' (some j) ++ r) [] = some (t, r') ∧
      ∀ (u'' : Nat) (c'' : Bool), t ≠ mkTag u'' c'' (some i) := by
  have hlen := mkTag_ctx_length_mono (u := u) (u' := u') (c := c) (c' := c') (Nat.le_of_lt h)
  generalize mkTag u c (some i) = A at hlen
  generalize hB : mkTag u' c' (some j) = B at hlen
  have hk : (B.take A.length).length = A.length := by rw [List.length_take]; omega
  refine ⟨B.take A.length, B.drop A.length ++ r, ?_, ?_⟩
  · have := Oer.splitAux_append (B.take A.length) (B.drop A.length ++ r) []
    rw [hk, ← List.append_assoc, List.take_append_drop] at this
    simpa using this
  · intro u'' c'' ht
    have : mkTag u'' c'' (some i) ++ B.drop A.length = mkTag u' c' (some j) ++ [] := by
      rw [← ht, hB]; simp
    have := mkTag_ctx_prefix_free this
    omega

theorem matchTag_ctx_mismatch {u u' : Nat} {c c' : Bool} {i j : Nat} (r : Bytes) (h : i < j) :
    matchTag (mkTag u c (some i)) (mkTag u' c' (some j) ++ r) = .ok none := by
  obtain ⟨t, r', hs, hne⟩ := split_ctx_mismatch (u := u) (u' := u') (c := c) (c' := c') r h
  unfold matchTag
  rw [hs]
  have : (t == mkTag u c (some i)) = false := beq_eq_false_iff_ne.mpr (hne u c)
  simp [this]

theorem readTag_mkTag (u : Nat) (c : Bool) (tg : Option Nat) (r : Bytes) (hr : r ≠ []) :
    readTag (mkTag u c tg ++ r) = .ok (mkTag u c tg, r) := by
  obtain ⟨n, fl, he, hfl, _⟩ := mkTag_eq_encTag u c tg
  rw [he]
  exact readTag_encTag_der n fl r hfl hr

theorem readTag_mkTag_ctx (u : Nat) (c : Bool) (i : Nat) (r : Bytes) (hr : r ≠ []) :
    readTag (mkTag u c (some i) ++ r) = .ok (mkTag u c (some i), r) :=
  readTag_mkTag u c (some i) r hr

set_option linter.unusedVariables false in
theorem readTag_mkTag_univ (u : Nat) (c : Bool) (r : Bytes) (hu : u < 31) (hr : r ≠ []) :
    readTag (mkTag u c none ++ r) = .ok (mkTag u c none, r) :=
  readTag_mkTag u c none r hr

theorem encTag_validTag_der (n fl : Nat) (hfl : fl % 32 = 0) (hb : fl + 31 < 256) :
    Ber.validTag (Ber.encTag n fl) :=
  Ber.encTag_validTag n fl (by omega) hfl

theorem validTag_lt_256_der {t : Bytes} (ht : Ber.validTag t) : ∀ b ∈ t, b < 256 := by
  rcases ht with ⟨b, rfl, hb, _⟩ | ⟨b, mid, last, rfl, hb, _, hm, hl⟩
  · intro x hx
    simp only [List.mem_singleton] at hx
    omega
  · intro x hx
    simp only [List.mem_cons, List.mem_append, List.not_mem_nil, or_false] at hx
    rcases hx with rfl | hx | rfl
    · exact hb
    · exact (hm x hx).2
    · omega

theorem mkTag_valid (u : Nat) (c : Bool) (tg : Option Nat) : Ber.validTag (mkTag u c tg) := by
  obtain ⟨n, fl, he, hfl, hb⟩ := mkTag_eq_encTag u c tg
  rw [he]
  exact encTag_validTag_der n fl hfl hb

set_option linter.unusedVariables false in
theorem mkTag_univ_validTag (u : Nat) (c : Bool) (hu : u < 31) : Ber.validTag (mkTag u c none) :=
  mkTag_valid u c none

theorem mkTag_ctx_lt_256 (u : Nat) (c : Bool) (i : Nat) : ∀ b ∈ mkTag u c (some i), b < 256 :=
  validTag_lt_256_der (mkTag_valid u c (some i))

theorem mkTag_univ_lt_256 (u : Nat) (c : Bool) (hu : u < 31) : ∀ b ∈ mkTag u c none, b < 256 :=
  validTag_lt_256_der (mkTag_univ_validTag u c hu)

theorem tagRest_ext (r t r' x : Bytes) (h : tagRest r = some (t, r')) :
    tagRest (r ++ x) = some (t, r' ++ x) := by
  induction r generalizing t r' with
  | nil => simp only [tagRest] at h; cases h
  | cons b r ih =>
    simp only [tagRest, List.cons_append] at h ⊢
    split at h
    · rename_i hb
      rw [if_pos hb]
      split at h
      · rename_i t0 r0 h0
        cases h
        rw [ih _ _ h0]
      · cases h
    · rename_i hb
      rw [if_neg hb]
      cases h; rfl

theorem readTag_cases (q : Bytes) :
    readTag q = .error .decodeError ∨
      ∃ t r', readTag q = .ok (t, r') ∧ ∀ x, readTag (q ++ x) = .ok (t, r' ++ x) := by
  cases q with
  | nil => exact .inl rfl
  | cons b r =>
    by_cases hb : b % 32 = 31
    · cases htr : tagRest r with
      | none => left; simp only [readTag, hb, htr, if_true]
      | some tr =>
        obtain ⟨t, r'⟩ := tr
        cases hr' : r' with
        | nil => left; subst hr'; simp only [readTag, hb, htr, if_true, List.isEmpty_nil]
        | cons c r'' =>
          right
          refine ⟨b :: t, r', ?_, ?_⟩
          · subst hr'
            simp only [readTag, hb, htr, if_true, List.isEmpty_cons, Bool.false_eq_true, if_false]
          · intro x
            have := tagRest_ext r t r' x htr
            subst hr'
            simp only [List.cons_append, readTag, hb, this, if_true, List.isEmpty_cons,
              Bool.false_eq_true, if_false]
    · cases hr : r with
      | nil => left; simp only [readTag, hb, if_false, List.isEmpty_nil, if_true]
      | cons c r'' =>
        right
        refine ⟨[b], c :: r'', ?_, ?_⟩
        · simp only [readTag, hb, if_false, List.isEmpty_cons, Bool.false_eq_true]
        · intro x
          simp only [List.cons_append, readTag, hb, if_false, List.isEmpty_cons, Bool.false_eq_true]

end Asn1.Der

#print axioms Asn1.Der.mkTag_ctx_prefix_free
#print axioms Asn1.Der.split_ctx_mismatch
#print axioms Asn1.Der.readTag_mkTag_ctx
