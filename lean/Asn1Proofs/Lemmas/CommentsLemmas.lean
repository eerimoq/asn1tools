import Asn1Model.Comments
/-
  Facts about the scanner `Comments.go` of the comment pre-pass (C14).  What it writes stands in
  the relation `Blanked` to what it reads; what is proved about new-lines, single positions and the
  head character follows from that relation alone.  The rest is about string literals and about
  running the scanner on its own output (`go_idem`) and on a text with no comment opener and no
  quote (`go_no_comment`).

  The modules about `Comments.go` (this one, Properties/C14, C14More, Properties/C14b) form ONE
  import chain, so that the auxiliary declarations Lean generates on demand (`go.eq_N`,
  `go.induct`, …) are generated once: generating them independently in two modules makes importing
  both fail with `environment already contains …`.
-/
namespace Asn1.C14
open Asn1.Comments

theorem map_eq_ok {ε α β : Type} (f : α → β) (x : Except ε α) (o : β) :
    f <$> x = .ok o ↔ ∃ o', x = .ok o' ∧ f o' = o := by
  cases x <;> simp [Functor.map, Except.map]

/-- `o` is `s` with some characters other than new-lines replaced by blanks -/
def Blanked : List Char → List Char → Prop
  | [], [] => True
  | c :: s, d :: o => (d = c ∨ d = ' ' ∧ c ≠ '\n') ∧ Blanked s o
  | _, _ => False

theorem go_blanked (st : St) (a : Nat) (s o : List Char) (h : go st a s = .ok o) :
    Blanked s o := by
  fun_induction go st a s generalizing o <;>
    simp only [map_eq_ok, Except.ok.injEq, reduceCtorEq] at h
  case case1 | case2 => subst h; trivial
  all_goals
    obtain ⟨o', h', rfl⟩ := h
    simp [Blanked, *]
  -- left over: an ordinary character blanked inside a comment is not a new-line
  all_goals exact .inr ‹_›

theorem Blanked.newlines {s o : List Char} (h : Blanked s o) :
    o.map (· == '\n') = s.map (· == '\n') := by
  fun_induction Blanked s o
  · rfl
  · rename_i c s d o ih
    obtain ⟨rfl | ⟨rfl, hc⟩, hso⟩ := h
    · simp [ih hso]
    · simp [ih hso, hc]
  · exact h.elim

theorem Blanked.zip {s o : List Char} (h : Blanked s o) :
    ∀ x ∈ List.zip s o, x.2 = x.1 ∨ x.2 = ' ' := by
  fun_induction Blanked s o
  · simp
  · rintro x (_ | ⟨_, hx⟩)
    · exact h.1.imp_right And.left
    · rename_i ih; exact ih h.2 x hx
  · exact h.elim

theorem Blanked.head {s o : List Char} {x : Char} (h : Blanked s (x :: o)) (hx : x ≠ ' ') :
    ∃ r, s = x :: r := by
  cases s with
  | nil => exact h.elim
  | cons c r => exact ⟨r, by rw [h.1.resolve_right fun hb => hx hb.1]⟩

/- The clauses of `Comments.go` as Lean numbers them (`go.eq_N`, and `caseN` of `fun_induction`):
   1–4   end of input in the states normal, str, single, multi;
   then one block per event, within it the states in the order normal, str, single, multi:
   5–8   `/*`;   9–13  `*/` (12 is `multi 0`, 13 is `multi (d+1)`);   14–17  `--`;
   18–21 new-line;   22–25  the quote;   26–29  any other character (these carry the five
   side conditions "not the head of one of the events above").
   So `eq_23` is the closing quote of a literal, `eq_26` / `case26` an ordinary character in the
   normal state, `eq_27` / `case27` one inside a literal. -/

/-- the recursion follows the tokeniser, which may take the character together with the next one -/
theorem go_str_cons (a : Nat) (c : Char) (r : List Char) (hc : c ≠ '"') :
    go .str a (c :: r) = (fun o => c :: o) <$> go .str a r := by
  by_cases h1 : ∃ r', c = '/' ∧ r = '*' :: r'
  · obtain ⟨r', rfl, rfl⟩ := h1
    rw [go.eq_6, go_str_cons a '*' r' (by decide), Functor.map_map]
  by_cases h2 : ∃ r', c = '*' ∧ r = '/' :: r'
  · obtain ⟨r', rfl, rfl⟩ := h2
    rw [go.eq_10, go_str_cons a '/' r' (by decide), Functor.map_map]
  by_cases h3 : ∃ r', c = '-' ∧ r = '-' :: r'
  · obtain ⟨r', rfl, rfl⟩ := h3
    rw [go.eq_15, go_str_cons a '-' r' (by decide), Functor.map_map]
  by_cases h4 : c = '\n'
  · subst h4; rw [go.eq_19]
  exact go.eq_27 a c r (fun r' hc hr => h1 ⟨r', hc, hr⟩) (fun r' hc hr => h2 ⟨r', hc, hr⟩)
    (fun r' hc hr => h3 ⟨r', hc, hr⟩) h4 hc
termination_by r.length
decreasing_by all_goals simp [*]

theorem go_normal_blank (a : Nat) (r : List Char) :
    go .normal a (' ' :: r) = (fun o => ' ' :: o) <$> go .normal a r := by
  rw [go.eq_26] <;> simp

/-- the state in which the second pass is when it reaches the same offset -/
def reSt : St → St
  | .str => .str
  | _ => .normal

theorem go_idem (st : St) (a : Nat) (s o : List Char) (h : go st a s = .ok o) :
    ∀ a', go (reSt st) a' o = .ok o := by
  fun_induction go st a s generalizing o <;> intro a' <;>
    simp only [map_eq_ok, Except.ok.injEq, reduceCtorEq] at h
  case case1 | case2 => subst h; rfl
  all_goals
    obtain ⟨o', h', rfl⟩ := h
    rename_i ih
    have ih := ih o' h' a'
    simp only [reSt] at ih ⊢
  -- an ordinary character kept in the normal state is read as one again: what follows it in the
  -- output can only complete an event if what followed it in the input did
  case case26 x4 x3 x2 x1 x0 _ =>
    have side : ∀ d, d ≠ ' ' → ∀ r, o' = d :: r → ∃ r', _ = d :: r' :=
      fun d hd r ho => (go_blanked _ _ _ _ (ho ▸ h')).head hd
    rw [go.eq_26 a' _ o' (fun r hc ho => (side '*' (by decide) r ho).elim fun r' => x4 r' hc)
      (fun r hc ho => (side '/' (by decide) r ho).elim fun r' => x3 r' hc)
      (fun r hc ho => (side '-' (by decide) r ho).elim fun r' => x2 r' hc) x1 x0, ih]
    rfl
  case case27 x0 _ => rw [go_str_cons a' _ o' x0, ih]; rfl
  all_goals
    simp only [go_normal_blank, go.eq_9, go.eq_18, go.eq_19, go.eq_22, go.eq_23, go_str_cons, ih,
      ne_eq, Char.reduceEq, not_false_eq_true]
    rfl

theorem go_str_append (a : Nat) (body rest : List Char) (hb : '"' ∉ body) :
    go .str a (body ++ rest) = (fun o => body ++ o) <$> go .str a rest := by
  induction body with
  | nil => simp only [List.nil_append]; cases go St.str a rest <;> rfl
  | cons c body ih =>
    rw [List.cons_append, go_str_cons a c _ fun h => hb (h ▸ .head _), ih fun h => hb (.tail _ h),
      Functor.map_map]
    rfl

theorem no_infix_tail {x y c : Char} {r : List Char}
    (h : ∀ pre post, c :: r ≠ pre ++ x :: y :: post) : ∀ pre post, r ≠ pre ++ x :: y :: post :=
  fun pre post e => h (c :: pre) post (by simp [e])

/-- `st` is a variable, fixed by `hst`, so that `fun_induction` applies -/
theorem go_no_comment (st : St) (a : Nat) (s : List Char) (hst : st = .normal)
    (h1 : ∀ pre post, s ≠ pre ++ '-' :: '-' :: post)
    (h2 : ∀ pre post, s ≠ pre ++ '/' :: '*' :: post)
    (h3 : '"' ∉ s) : go st a s = .ok s := by
  -- the clauses of the normal state remain, in the order: end of input, `/*`, `*/`, `--`,
  -- new-line, quote, any other character
  fun_induction go st a s <;> (try contradiction)
  · rfl
  · exact absurd rfl (h2 [] _)
  · rename_i ih
    rw [ih rfl (no_infix_tail (no_infix_tail h1)) (no_infix_tail (no_infix_tail h2))
      fun h => h3 (.tail _ (.tail _ h))]; rfl
  · exact absurd rfl (h1 [] _)
  · rename_i ih
    rw [ih rfl (no_infix_tail h1) (no_infix_tail h2) fun h => h3 (.tail _ h)]; rfl
  · exact absurd (.head _) h3
  · rename_i ih
    rw [ih rfl (no_infix_tail h1) (no_infix_tail h2) fun h => h3 (.tail _ h)]; rfl

end Asn1.C14
