import Asn1Proofs.Lemmas.PerChoice
import Asn1Proofs.Lemmas.Records
/-
  Aligned PER SEQUENCE: preamble and root members.
-/
namespace Asn1.Per
open Asn1.Uper (EncM DecM)

/-- what `encMembers` writes at one member: the local `here` of its arm -/
def encHere (p : Presence) (t : Ty) (ov : Option Val) (encDefault : Bool) (pos : Nat) : EncM Bits :=
  match ov with
  | some v =>
    match p with
    | .default d => if !(isDefault t v d) || encDefault then enc t pos v else .ok []
    | _ => enc t pos v
  | none =>
    match p with
    | .mandatory => .error .encodeError
    | _ => .ok []

theorem encMembers_cons (name : String) (p : Presence) (t : Ty) (rest : Members)
    (fs : List (String × Val)) (b : Bool) (pos : Nat) :
    encMembers (.cons name p t rest) fs b pos =
      (match encHere p t (lookup name fs) b pos with
       | .error e => .error e
       | .ok a =>
         match encMembers rest fs b (pos + a.length) with
         | .error e => .error e
         | .ok r => .ok (a ++ r)) := by
  cases p <;> rfl

theorem encPreamble_cons (name : String) (p : Presence) (t : Ty) (rest : Members)
    (fs : List (String × Val)) :
    encPreamble (.cons name p t rest) fs =
      (match p with
       | .mandatory => encPreamble rest fs
       | .optional => (lookup name fs).isSome :: encPreamble rest fs
       | .default d =>
         match lookup name fs with
         | some v => (!(isDefault t v d)) :: encPreamble rest fs
         | none => false :: encPreamble rest fs) := by
  cases p <;> rfl

theorem optionalCount_cons (name : String) (p : Presence) (t : Ty) (rest : Members) :
    optionalCount (.cons name p t rest) =
      (match p with | .mandatory => optionalCount rest | _ => optionalCount rest + 1) := by
  cases p <;> rfl

theorem encPreamble_length (fs : List (String × Val)) (ms : Members) :
    (encPreamble ms fs).length = optionalCount ms := by
  induction ms using Members.ind with
  | nil => rfl
  | cons name p t rest ih =>
    rw [encPreamble_cons, optionalCount_cons]
    cases p with
    | mandatory => exact ih
    | optional => simp [ih]
    | default d => cases lookup name fs <;> simp [ih]

/-- what `decMembers` does at a member that is present: decode it, then the rest -/
def decHere (name : String) (t : Ty) (rest : Members) (fuel : Nat) (fl : Bits) (s : St) :
    DecM (List (String × Val) × St) := do
  let (v, r) ← dec t fuel s
  let (fs, r') ← decMembers rest fuel fl r
  .ok ((name, v) :: fs, r')

theorem decMembers_mandatory (name : String) (t : Ty) (rest : Members) (fuel : Nat) (fl : Bits)
    (s : St) :
    decMembers (.cons name .mandatory t rest) fuel fl s = decHere name t rest fuel fl s := rfl

theorem decMembers_optional_true (name : String) (t : Ty) (rest : Members) (fuel : Nat) (fl : Bits)
    (s : St) :
    decMembers (.cons name .optional t rest) fuel (true :: fl) s = decHere name t rest fuel fl s := rfl

theorem decMembers_optional_false (name : String) (t : Ty) (rest : Members) (fuel : Nat) (fl : Bits)
    (s : St) :
    decMembers (.cons name .optional t rest) fuel (false :: fl) s = decMembers rest fuel fl s := rfl

theorem decMembers_default_true (name : String) (d : Val) (t : Ty) (rest : Members) (fuel : Nat)
    (fl : Bits) (s : St) :
    decMembers (.cons name (.default d) t rest) fuel (true :: fl) s = decHere name t rest fuel fl s :=
  rfl

theorem decMembers_default_false (name : String) (d : Val) (t : Ty) (rest : Members) (fuel : Nat)
    (fl : Bits) (s : St) :
    decMembers (.cons name (.default d) t rest) fuel (false :: fl) s =
      (do let (fs, r') ← decMembers rest fuel fl s; .ok ((name, d) :: fs, r')) := rfl

theorem et_members (fs : List (String × Val)) (b : Bool) (ms : Members) :
    ms.All ET → ms.wf = true → membersOk ms fs = true →
    ∀ pos, ∃ body, encMembers ms fs b pos = .ok body := by
  induction ms using Members.ind with
  | nil => intros; exact ⟨[], rfl⟩
  | cons name p t ms ih =>
    intro hall hwf hok pos
    simp only [Members.wf, membersOk, Bool.and_eq_true] at hwf hok
    have : ∃ a, encHere p t (lookup name fs) b pos = .ok a := by
      unfold encHere
      cases hl : lookup name fs with
      | some v =>
        simp only [hl] at hok
        obtain ⟨a, ha⟩ := hall.1 v pos hwf.1 hok.1
        cases p with
        | default d =>
          simp only
          split
          · exact ⟨a, ha⟩
          · exact ⟨[], rfl⟩
        | _ => exact ⟨a, ha⟩
      | none =>
        simp only [hl] at hok
        cases p with
        | mandatory => simp at hok
        | _ => exact ⟨[], rfl⟩
    obtain ⟨a, ha⟩ := this
    obtain ⟨body, hbody⟩ := ih hall.2 hwf.2 hok.2 (pos + a.length)
    rw [encMembers_cons, ha]
    simp only [hbody]
    exact ⟨_, rfl⟩

end Asn1.Per
