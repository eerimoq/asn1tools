import Asn1Proofs.Lemmas.GserUtf8
import Asn1Proofs.Lemmas.UperMisc
import Asn1Proofs.Lemmas.Records
/-
  Tree level of the GSER model, by one induction on the type (`rt_all`): the writer `toG` is total on
  typed values, the character strings of the tree it builds consist of Unicode scalar values, and -- when
  the names of the type are identifiers -- the tree is well formed (`wfG`: what the reader lemmas need)
  and `toVal` reads it back to the canonical value: `toVal t (toG t v) = canonG t v`.  With the reader's
  `parseValue_ws_renderV` this gives the round trip of the text in any layout (`read_layout`).
-/
namespace Asn1.Gser
open Asn1.Jer (strCps enumNames findName strCps_inj strCps_beq findName_of_mem)
open Asn1.Uper (mapM_nil' mapM_cons')
open Asn1.Uper (alphabet_lt)

-- `toG` and `toVal` on ENUMERATED, OCTET STRING and the classes with components.  The proofs below rewrite with
-- these and not with the names `toG` / `toVal`, for which Lean derives the equations of the whole mutual
-- definition anew in every theorem.
theorem toG_enumerated (root : List (String × Int)) (ext : Option (List (String × Int))) (n : String) :
    toG (.enumerated root ext) (.enum n) =
      if (enumNames root ext).contains n then .ok (.word (strCps n)) else .error .encodeError := rfl

theorem toG_sequence (root : Members) (ext : Bool) (adds : Members) (fs : List (String × Val)) :
    toG (.sequence root ext adds) (.record fs) =
      match membersToG root fs with
      | .error e => .error e
      | .ok a =>
        match membersToG adds fs with
        | .error e => .error e
        | .ok b => .ok (.braces (a ++ b)) := rfl

theorem toG_sequenceOf (e : Ty) (c : SizeC) (vs : List Val) :
    toG (.sequenceOf e c) (.list vs) =
      match vs.mapM (toG e) with
      | .error err => .error err
      | .ok gs => .ok (.braces (gs.map fun g => (none, g))) := rfl

theorem toG_choice (root : Alts) (ext : Bool) (adds : Alts) (n : String) (v : Val) :
    toG (.choice root ext adds) (.choice n v) =
      match altToG root n v with
      | some r => r
      | none =>
        match altToG adds n v with
        | some r => r
        | none => .error .encodeError := rfl

theorem toVal_enumerated (root : List (String × Int)) (ext : Option (List (String × Int))) (w : List Nat) :
    toVal (.enumerated root ext) (.word w) =
      match findName w (enumNames root ext) with
      | some n => some (.enum n)
      | none => none := rfl

theorem toVal_octetString (c : SizeC) (ds : List Nat) :
    toVal (.octetString c) (.hstr ds) =
      match pairBytes ds with
      | some bs => some (.bytes bs)
      | none => none := rfl

theorem toVal_sequence (root : Members) (ext : Bool) (adds : Members) (its : List (Option (List Nat) × GVal)) :
    toVal (.sequence root ext adds) (.braces its) =
      match membersOfG root its with
      | none => none
      | some (a, rest) =>
        match membersOfG adds rest with
        | none => none
        | some (b, rest') => if rest'.isEmpty then some (.record (a ++ b)) else none := rfl

theorem toVal_sequenceOf (e : Ty) (c : SizeC) (its : List (Option (List Nat) × GVal)) :
    toVal (.sequenceOf e c) (.braces its) =
      match unnamed its with
      | none => none
      | some gs =>
        match mapOpt (toVal e) gs with
        | some vs => some (.list vs)
        | none => none := rfl

theorem toVal_choice (root : Alts) (ext : Bool) (adds : Alts) (id : List Nat) (x : GVal) :
    toVal (.choice root ext adds) (.choice id x) =
      match altOfG root id x with
      | some r => r
      | none =>
        match altOfG adds id x with
        | some r => r
        | none => none := rfl

def RT (t : Ty) : Prop :=
  ∀ v : Val, t.wf = true → hasType t v = true →
    ∃ g, toG t v = .ok g ∧ strsScalar g ∧ (idsOk t = true → toVal t g = some (canonG t v) ∧ wfG g = true)

theorem rt_boolean : RT .boolean := by
  intro v _ ht
  obtain ⟨b, rfl⟩ := hasType_boolean ht
  exact ⟨_, rfl, trivial, fun _ => by cases b <;> exact ⟨rfl, rfl⟩⟩

theorem rt_null : RT .null := by
  intro v _ ht
  rw [hasType_null ht]
  exact ⟨_, rfl, trivial, fun _ => ⟨rfl, rfl⟩⟩

theorem rt_integer (c : IntC) : RT (.integer c) := by
  intro v _ ht
  obtain ⟨i, rfl, _⟩ := hasType_integer ht
  exact ⟨_, rfl, trivial, fun _ => ⟨rfl, rfl⟩⟩

theorem rt_enumerated (root : List (String × Int)) (ext : Option (List (String × Int))) :
    RT (.enumerated root ext) := by
  intro v _ ht
  obtain ⟨n, rfl, -⟩ := hasType_enumerated ht
  have hm : n ∈ enumNames root ext := mem_enumNames_of_hasType ht
  refine ⟨.word (strCps n), ?_, trivial, fun hid => ⟨?_, ?_⟩⟩
  · rw [toG_enumerated, if_pos (List.contains_iff_mem.mpr hm)]
  · rw [toVal_enumerated, findName_of_mem n _ hm]
    rfl
  · exact isWord_of_isIdent (List.all_eq_true.mp hid n hm)

theorem pairBytes_nibbles (bs : Bytes) (h : allBytes bs = true) : pairBytes (nibbles bs) = some bs := by
  induction bs with
  | nil => rfl
  | cons b r ih =>
    simp only [allBytes, List.all_cons, Bool.and_eq_true, decide_eq_true_eq] at h
    have hr : allBytes r = true := by unfold allBytes; exact h.2
    simp only [nibbles, List.flatMap_cons, List.cons_append, List.nil_append] at ih ⊢
    rw [pairBytes, ih hr]
    simp only [Option.some.injEq, List.cons.injEq, and_true]
    omega

theorem nibbles_lt (bs : Bytes) : ∀ d ∈ nibbles bs, d < 16 := by
  intro d hd
  simp only [nibbles, List.mem_flatMap, List.mem_cons, List.not_mem_nil, or_false] at hd
  obtain ⟨b, _, hb⟩ := hd
  rcases hb with hb | hb <;> subst hb <;> omega

theorem rt_octetString (c : SizeC) : RT (.octetString c) := by
  intro v _ ht
  obtain ⟨bs, rfl, hb, -⟩ := hasType_octetString ht
  refine ⟨_, rfl, trivial, fun _ => ⟨?_, ?_⟩⟩
  · rw [toVal_octetString, pairBytes_nibbles bs hb]
    rfl
  · simp only [wfG, List.all_eq_true, decide_eq_true_eq]
    exact nibbles_lt bs

theorem rt_bitString (c : SizeC) : RT (.bitString c) := by
  intro v _ ht
  obtain ⟨data, n, rfl, _, hlen, _⟩ := hasType_bitString ht
  have hl : ((bytesToBits data).take n).length = n := by
    rw [List.length_take, Asn1.bytesToBits_length, hlen]
    omega
  exact ⟨_, rfl, trivial, fun _ => ⟨congrArg (fun k => some (Val.bits (cleanBits data n) k)) hl, rfl⟩⟩

theorem rt_charString (k : StrKind) (c : SizeC) : RT (.charString k c) := by
  intro v _ ht
  obtain ⟨cps, rfl, h⟩ := hasType_charString ht
  refine ⟨_, rfl, ?_, fun _ => ⟨rfl, rfl⟩⟩
  intro cp hcp
  rcases h with ⟨-, h⟩ | ⟨-, hal, -⟩
  · exact h cp hcp
  · have := alphabet_lt _ cp (List.contains_iff_mem.1 (hal cp hcp))
    omega

theorem unnamed_map (gs : List GVal) : unnamed (gs.map fun g => (none, g)) = some gs := by
  induction gs with
  | nil => rfl
  | cons g gs ih => simp only [List.map_cons, unnamed, ih]

theorem wfItems_map (gs : List GVal) (h : ∀ g ∈ gs, wfG g = true) :
    wfItems (gs.map fun g => (none, g)) = true := by
  induction gs with
  | nil => rfl
  | cons g gs ih =>
    simp only [List.map_cons, wfItems, nameOk, Bool.true_and, Bool.and_eq_true]
    exact ⟨h g (List.mem_cons_self ..), ih (fun x hx => h x (List.mem_cons_of_mem _ hx))⟩

theorem itemsScalar_map (gs : List GVal) (h : ∀ g ∈ gs, strsScalar g) :
    itemsScalar (gs.map fun g => (none, g)) := by
  induction gs with
  | nil => trivial
  | cons g gs ih =>
    exact ⟨h g (List.mem_cons_self ..), ih (fun x hx => h x (List.mem_cons_of_mem _ hx))⟩

theorem seqOf_items (e : Ty) (ih : RT e) (hwf : e.wf = true) :
    ∀ vs : List Val, (∀ v ∈ vs, hasType e v = true) →
      ∃ gs, vs.mapM (toG e) = .ok gs ∧ (∀ g ∈ gs, strsScalar g) ∧
        (idsOk e = true → mapOpt (toVal e) gs = some (vs.map (canonG e)) ∧ ∀ g ∈ gs, wfG g = true) := by
  intro vs
  induction vs with
  | nil => exact fun _ => ⟨[], mapM_nil' _, List.forall_mem_nil _, fun _ => ⟨rfl, List.forall_mem_nil _⟩⟩
  | cons v vs ihl =>
    intro hall
    obtain ⟨g, hg, sg, rg⟩ := ih v hwf (hall v (List.mem_cons_self ..))
    obtain ⟨gs, hgs, sgs, rgs⟩ := ihl (fun x hx => hall x (List.mem_cons_of_mem _ hx))
    refine ⟨g :: gs, by rw [mapM_cons', hg, hgs], List.forall_mem_cons.mpr ⟨sg, sgs⟩, fun hid => ?_⟩
    obtain ⟨h1, h2⟩ := rg hid
    obtain ⟨h3, h4⟩ := rgs hid
    exact ⟨by simp only [mapOpt, h1, h3, List.map_cons], List.forall_mem_cons.mpr ⟨h2, h4⟩⟩

theorem rt_sequenceOf (e : Ty) (c : SizeC) (ih : RT e) : RT (.sequenceOf e c) := by
  intro v hwf ht
  obtain ⟨vs, rfl, hvs, -⟩ := hasType_sequenceOf ht
  obtain ⟨gs, hgs, sgs, rgs⟩ := seqOf_items e ih (wf_sequenceOf hwf) vs hvs
  refine ⟨.braces (gs.map fun g => (none, g)), by simp only [toG_sequenceOf, hgs], itemsScalar_map gs sgs, fun hid => ?_⟩
  obtain ⟨h1, h2⟩ := rgs hid
  exact ⟨by simp only [toVal_sequenceOf, unnamed_map, h1]; rfl, wfItems_map gs h2⟩

/-- the list of components does not begin with one named `k`: then `selectNamed k` finds nothing -/
def headNot (k : List Nat) : List (Option (List Nat) × GVal) → Prop
  | (some k', _) :: _ => k' ≠ k
  | _ => True

theorem headNot_append (k : List Nat) (a tail : List (Option (List Nat) × GVal))
    (ha : ∀ it ∈ a, it.1 ≠ some k) (ht : headNot k tail) : headNot k (a ++ tail) := by
  cases a with
  | nil => exact ht
  | cons it a' =>
    obtain ⟨nm, g⟩ := it
    have := ha (nm, g) (List.mem_cons_self ..)
    cases nm with
    | none => trivial
    | some k' =>
      simp only [List.cons_append, headNot]
      intro e
      exact this (by rw [e])

theorem select_none (k : List Nat) (its : List (Option (List Nat) × GVal)) (h : headNot k its) :
    selectNamed k its = none := by
  unfold selectNamed
  cases its with
  | nil => rfl
  | cons it r =>
    obtain ⟨nm, g⟩ := it
    cases nm with
    | none => rfl
    | some k' =>
      simp only [headNot] at h
      have : (k' == k) = false := beq_eq_false_iff_ne.mpr h
      simp only [this, Bool.false_eq_true, if_false]

theorem wfItems_append (a b : List (Option (List Nat) × GVal)) (ha : wfItems a = true) (hb : wfItems b = true) :
    wfItems (a ++ b) = true := by
  induction a with
  | nil => exact hb
  | cons x r ih =>
    obtain ⟨nm, v⟩ := x
    simp only [wfItems, Bool.and_eq_true] at ha
    simp only [List.cons_append, wfItems, ha.1.1, ha.1.2, ih ha.2, Bool.and_self]

theorem itemsScalar_append (a b : List (Option (List Nat) × GVal)) (ha : itemsScalar a) (hb : itemsScalar b) :
    itemsScalar (a ++ b) := by
  induction a with
  | nil => exact hb
  | cons x r ih => exact ⟨ha.1, ih ha.2⟩

/-- The members present are written, each under its own name; the reader, walking the declarations, finds
each written member at the head of what is left (a member that is absent is not mistaken for a later one:
the names are distinct) and ends at `tail` when that does not start with one of the names. -/
theorem membersToG_spec (fs : List (String × Val)) :
    ∀ ms : Members, Members.All RT ms → ms.wf = true → membersOk ms fs = true →
      ∃ a, membersToG ms fs = .ok a ∧ itemsScalar a ∧ (∀ it ∈ a, ∃ n ∈ ms.names, it.1 = some (strCps n)) ∧
        (membersIdsOk ms = true → ms.names.Nodup → wfItems a = true ∧
          ∀ tail, (∀ n ∈ ms.names, headNot (strCps n) tail) →
            membersOfG ms (a ++ tail) = some (canonGMembers ms fs, tail)) := by
  intro ms
  induction ms using Members.ind with
  | nil => exact fun _ _ _ => ⟨[], rfl, trivial, List.forall_mem_nil _, fun _ _ => ⟨rfl, fun _ _ => rfl⟩⟩
  | cons name p t rest ih =>
    intro hall hwf hok
    simp only [Members.wf, Bool.and_eq_true] at hwf
    simp only [membersOk, Bool.and_eq_true] at hok
    obtain ⟨a, ha, sa, na, ra⟩ := ih hall.2 hwf.2 hok.2
    have na' : ∀ it ∈ a, ∃ n ∈ (Members.cons name p t rest).names, it.1 = some (strCps n) :=
      fun it hit => (na it hit).imp fun n hn => ⟨List.mem_cons_of_mem _ hn.1, hn.2⟩
    cases hl : lookup name fs with
    | some v =>
      rw [hl] at hok
      obtain ⟨g, hg, sg, rg⟩ := hall.1 v hwf.1 hok.1
      refine ⟨(some (strCps name), g) :: a, by simp only [membersToG, hl, hg, ha], ⟨sg, sa⟩, ?_, fun hid hnd => ?_⟩
      · exact List.forall_mem_cons.mpr ⟨⟨name, List.mem_cons_self .., rfl⟩, na'⟩
      · simp only [membersIdsOk, Bool.and_eq_true] at hid
        obtain ⟨h1, h2⟩ := rg hid.1.2
        obtain ⟨h3, h4⟩ := ra hid.2 (List.nodup_cons.mp hnd).2
        refine ⟨by simp only [wfItems, nameOk, hid.1.1, h2, h3, Bool.and_self], fun tail htail => ?_⟩
        simp only [List.cons_append, membersOfG, selectNamed, beq_self_eq_true, if_true, h1, canonGMembers, hl,
          h4 tail fun n hn => htail n (List.mem_cons_of_mem _ hn)]
    | none =>
      rw [hl] at hok
      cases p with
      | mandatory => exact Bool.noConfusion hok.1
      | _ =>
        refine ⟨a, by simp only [membersToG, hl, ha], sa, na', fun hid hnd => ?_⟩
        simp only [membersIdsOk, Bool.and_eq_true] at hid
        obtain ⟨h3, h4⟩ := ra hid.2 (List.nodup_cons.mp hnd).2
        refine ⟨h3, fun tail htail => ?_⟩
        have hsel : selectNamed (strCps name) (a ++ tail) = none := by
          refine select_none _ _ (headNot_append _ _ _ (fun it hit e => ?_) (htail name (List.mem_cons_self ..)))
          obtain ⟨n, hn, e'⟩ := na it hit
          rw [e', Option.some.injEq] at e
          exact (List.nodup_cons.mp hnd).1 (strCps_inj e ▸ hn)
        simp only [membersOfG, hsel, canonGMembers, hl, h4 tail fun n hn => htail n (List.mem_cons_of_mem _ hn)]

theorem rt_sequence (root : Members) (ext : Bool) (adds : Members)
    (ihr : Members.All RT root) (iha : Members.All RT adds) : RT (.sequence root ext adds) := by
  intro v hwf ht
  obtain ⟨fs, rfl, -⟩ := hasType_sequence ht
  obtain ⟨hwr, hwa, hnd, _⟩ := wf_sequence hwf
  obtain ⟨hok1, hok2⟩ := membersOk_of_hasType root adds ext fs hnd ht
  obtain ⟨a, ha, sa, _, ra⟩ := membersToG_spec fs root ihr hwr hok1
  obtain ⟨b, hb, sb, nb, rb⟩ := membersToG_spec fs adds iha hwa hok2
  refine ⟨.braces (a ++ b), by simp only [toG_sequence, ha, hb], itemsScalar_append a b sa sb, fun hid => ?_⟩
  simp only [idsOk, Bool.and_eq_true] at hid
  obtain ⟨nd1, nd2, disj⟩ := List.nodup_append.mp hnd
  obtain ⟨w1, r1⟩ := ra hid.1 nd1
  obtain ⟨w2, r2⟩ := rb hid.2 nd2
  -- what follows the root members in the text are additions, named differently
  have tailb : ∀ n ∈ root.names, headNot (strCps n) b := by
    intro n hn
    rw [← List.append_nil b]
    refine headNot_append _ b [] (fun it hit e => ?_) trivial
    obtain ⟨m, hm, e'⟩ := nb it hit
    rw [e', Option.some.injEq] at e
    exact disj n hn m hm (strCps_inj e).symm
  have r2' := r2 [] fun _ _ => trivial
  rw [List.append_nil] at r2'
  exact ⟨by simp only [toVal_sequence, r1 b tailb, r2']; rfl, wfItems_append a b w1 w2⟩

theorem idsOk_of_sel {root adds : Alts} {ext : Bool} {n : String} {idx : Nat} {t : Ty}
    (sel : Alts.Sel root adds n idx t) (hid : idsOk (.choice root ext adds) = true) :
    isIdent (strCps n) = true ∧ idsOk t = true := by
  have key : ∀ (as : Alts) (j : Nat), altsIdsOk as = true → as.find n = some (j, t) →
      isIdent (strCps n) = true ∧ idsOk t = true := by
    intro as
    induction as using Alts.ind with
    | nil => exact fun _ _ h => nomatch h
    | cons m u rest ih =>
      intro j hid h
      simp only [altsIdsOk, Bool.and_eq_true] at hid
      rcases Alts.find_cons_some h with ⟨rfl, _, rfl⟩ | ⟨j', h', _⟩
      · exact hid.1
      · exact ih j' hid.2 h'
  simp only [idsOk, Bool.and_eq_true] at hid
  rcases sel with h | ⟨_, j, h, _⟩
  · exact key root idx hid.1 h
  · exact key adds j hid.2 h

theorem rt_choice (root : Alts) (ext : Bool) (adds : Alts)
    (ihr : Alts.All RT root) (iha : Alts.All RT adds) : RT (.choice root ext adds) := by
  intro v hwf ht
  obtain ⟨n, v, rfl, hor⟩ := hasType_choice ht
  obtain ⟨_, t, sel, hwt, htv⟩ := Alts.sel_of_hasType hwf hor
  have ih := sel.all ihr iha
  obtain ⟨g, hg, sg, rg⟩ := ih v hwt htv
  have e1 := Alts.search_eq n (f := fun as => altToG as n v) fun _ _ _ => rfl
  have e2 := Alts.search_eq n (f := fun as => altOfG as (strCps n) g) fun m _ _ => by rw [altOfG, strCps_beq]
  have e3 := Alts.search_eq n (f := fun as => canonGAlt as n v) fun _ _ _ => rfl
  refine ⟨.choice (strCps n) g, ?_, sg, fun hid => ?_⟩
  · rcases sel.finds with h | h <;> simp only [toG_choice, e1 root, e1 adds, h, altToG, hg]
  · obtain ⟨hn, hit⟩ := idsOk_of_sel sel hid
    obtain ⟨h1, h2⟩ := rg hit
    refine ⟨?_, by simp only [wfG, hn, h2, Bool.and_self]⟩
    rcases sel.finds with h | h <;>
      simp only [toVal_choice, canonG, e2 root, e2 adds, e3 root, e3 adds, h, altOfG, canonGAlt, h1]

theorem rt_all (t : Ty) : RT t :=
  Ty.induct (P := RT)
    rt_boolean rt_null rt_integer rt_enumerated rt_octetString rt_bitString rt_charString
    (fun root ext adds ihr iha => rt_sequence root ext adds ihr iha)
    (fun e c ih => rt_sequenceOf e c ih)
    (fun root ext adds ihr iha => rt_choice root ext adds ihr iha) t

theorem toG_spec {t : Ty} {v : Val} {g : GVal} (hwf : t.wf = true) (ht : hasType t v = true)
    (he : toG t v = .ok g) :
    strsScalar g ∧ (idsOk t = true → toVal t g = some (canonG t v) ∧ wfG g = true) := by
  obtain ⟨g', hg', h⟩ := rt_all t v hwf ht
  rw [he, Except.ok.injEq] at hg'
  exact hg' ▸ h

theorem enc_of_toG {t : Ty} {v : Val} {g : GVal} (indent : Option Nat) (h : toG t v = .ok g) :
    enc t v indent = .ok (render indent g) := by
  rw [enc, h]

theorem encTop_of_enc {t : Ty} {v : Val} {indent : Option Nat} {s : List Nat} (name : String)
    (h : enc t v indent = .ok s) :
    encTop name t v indent = .ok ((strCps name).map lowerAscii ++ [32] ++ strCps name ++ [32] ++
      kAssign ++ [32] ++ lstrip s) := by
  rw [encTop, h]

theorem encode_of_encTop {name : String} {t : Ty} {v : Val} {indent : Option Nat} {s : List Nat}
    (h : encTop name t v indent = .ok s) : encode name t v indent = .ok (s.flatMap Uper.utf8Enc) := by
  rw [encode, h]

theorem read_layout {t : Ty} {v : Val} {g : GVal} (hwf : t.wf = true) (hid : idsOk t = true)
    (ht : hasType t v = true) (he : toG t v = .ok g) (ind : Nat) (sep lead : List Nat)
    (hs : ∀ c ∈ sep, Json.isWs c = true) (hl : ∀ c ∈ lead, Json.isWs c = true) :
    read t (lead ++ renderV ind sep g) = some (canonG t v) := by
  obtain ⟨h1, h2⟩ := (toG_spec hwf ht he).2 hid
  rw [read, parseValue_ws_renderV true ind sep g h2 (Or.inl rfl) hs lead hl]
  exact h1

#print axioms Asn1.Gser.rt_choice

end Asn1.Gser
