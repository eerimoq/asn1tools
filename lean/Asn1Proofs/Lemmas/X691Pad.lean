import Asn1Proofs.Lemmas.PerSeqExt
import Asn1Proofs.Lemmas.X691Prim
import Asn1Proofs.Lemmas.X691Clauses
import Asn1Proofs.Lemmas.OerBits
/-
  The fields of the specification that are whole octets behind their first length determinant, over
  the variant: ALIGNED is UNALIGNED with padding in front (`pad false _ = []`, `pad true = alignBits`),
  because every later length determinant or open type starts at a multiple of eight bits.  Also the two
  normally small forms without deviation, which have the code's bits in both variants, and with them
  ENUMERATED, whose arm the two code models share (`enumerated_ref`).
-/
namespace Asn1.X691
open Asn1.Uper (lenDet encChunks encChunked)
open Asn1.Per (alignBits padLen alignBits_length padLen_of_aligned alignBits_of_aligned add_padLen_mod
  lenDet_length_mod flatten_length_uniform uniform_map_natToBits uniform_map_singleton)

theorem pad_true (pos : Nat) : pad true pos = alignBits pos := rfl

theorem pad_nil (al : Bool) {pos : Nat} (h : al = true → pos % 8 = 0) : pad al pos = [] := by
  cases al
  · rfl
  · exact alignBits_of_aligned (h rfl)

theorem pad_end (al : Bool) (pos : Nat) : al = true → (pos + (pad al pos).length) % 8 = 0 := by
  rintro rfl
  rw [pad_true, alignBits_length]
  exact add_padLen_mod pos

/-- every fragment but the last holds a multiple of 16K items, hence (uniform items) a whole number
of octets: only the first length determinant is padded -/
theorem frag_pad (al : Bool) {u : Nat} (fuel pos : Nat) (items : List Bits)
    (hu : al = true → ∀ x ∈ items, x.length = u) :
    frag al fuel pos items = (if fuel = 0 then [] else pad al pos) ++ encChunks fuel items := by
  induction fuel generalizing pos items with
  | zero => rfl
  | succ fuel ih =>
    simp only [frag, encChunks, lengthOctets_eq, Nat.succ_ne_zero, if_false]
    by_cases hk : (lenDet items.length).2 < 16384
    · simp [hk]
    · simp only [hk, if_false]
      rw [ih _ _ (fun ha x hx => hu ha x (List.mem_of_mem_drop hx))]
      have hal : pad al (pos + (pad al pos).length + (lenDet items.length).1.length +
          ((List.take (lenDet items.length).2 items).flatten).length) = [] := by
        refine pad_nil al fun ha => ?_
        have hb : ((List.take (lenDet items.length).2 items).flatten).length % 8 = 0 := by
          rw [flatten_length_uniform u _ (fun x hx => hu ha x (List.mem_of_mem_take hx)),
            List.length_take]
          have h1 := Uper.lenDet_snd_le items.length
          have h2 := Uper.lenDet_snd_mod _ hk
          rw [Nat.min_eq_left h1, Nat.mul_comm, Nat.mul_mod, h2]; simp
        have h1 := pad_end al pos ha
        have h2 := lenDet_length_mod items.length
        omega
      rw [hal]
      simp

theorem genLen_pad (al : Bool) {u : Nat} (pos : Nat) (items : List Bits)
    (hu : al = true → ∀ x ∈ items, x.length = u) :
    genLen al pos items = pad al pos ++ encChunked items := by
  unfold genLen encChunked
  rw [frag_pad al _ _ _ hu, if_neg (by omega)]

theorem genLen_false (pos : Nat) (items : List Bits) : genLen false pos items = encChunked items :=
  genLen_pad false (u := 0) pos items nofun

theorem lenOctets_pad (al : Bool) (pos : Nat) (bs : Bytes) :
    lenOctets al pos bs = pad al pos ++ encChunked (bs.map (natToBits 8)) :=
  genLen_pad al _ _ fun _ => uniform_map_natToBits 8 bs

theorem lenOctets_small (al : Bool) (pos : Nat) (bs : Bytes) (h : bs.length < 16384) :
    lenOctets al pos bs = pad al pos ++ ((lenDet bs.length).1 ++ bytesToBits bs) := by
  rw [lenOctets_pad, encChunked_small _ (by simpa using h), flatten_map_natToBits8]
  simp

theorem unconstrained_pad (al : Bool) (pos : Nat) (i : Int) (h : minOctets2c i < 16384) :
    unconstrained al pos i = pad al pos ++ Uper.encUnconstrained i := by
  unfold unconstrained Uper.encUnconstrained
  rw [minOctets2c_eq] at h ⊢
  rw [lenOctets_small _ _ _ (by rw [intToBytesN_length]; exact h), intToBytesN_length]

/-- 10.6 without deviation: up to 63 in both variants, beyond that UNALIGNED only -/
theorem nsnnwn_code (al : Bool) (pos n : Nat) (hd : devsNsnnwn al n = []) :
    nsnnwn al pos n = Uper.encNsnnwn n := by
  unfold devsNsnnwn at hd
  obtain ⟨hd1, hd2⟩ := List.append_eq_nil_iff.mp hd
  unfold nsnnwn Uper.encNsnnwn
  by_cases hn : n ≤ 63
  · rw [if_pos hn, if_pos (by omega), natToBits_succ_of_lt (w := 6) (by omega)]
  · have hal : al = false := by
      cases al
      · rfl
      · exact absurd ⟨rfl, by omega⟩ (ite_cons_eq_nil.mp hd1)
    subst hal
    rw [if_neg hn, if_neg (by omega)]
    have hk : minOctets n < 16384 :=
      Nat.lt_of_not_le fun hk => ite_cons_eq_nil.mp hd2 ⟨by omega, hk⟩
    have hm : minOctets n = (bitLength n + 7) / 8 := by rw [minOctets_eq, if_neg (by omega)]
    unfold semiConstrained
    rw [hm] at hk ⊢
    rw [lenOctets_small _ _ _ (by rw [natToBytesN_length]; exact hk), natToBytesN_length,
      bytesToBits_natToBytesN]
    rfl

theorem openType_pad (al : Bool) (pos : Nat) (e : Bits) (hne : e.isEmpty = false)
    (hlen : (complete e).length < 16384) : openType al pos e = pad al pos ++ Per.openType e := by
  unfold openType Per.openType
  unfold complete at hlen ⊢
  rw [hne] at hlen ⊢
  simp only [Bool.false_eq_true, if_false] at hlen ⊢
  rw [lenOctets_small _ _ _ hlen, bytesToBits_packBits, packBits_length, ← Uper.padToByte_length_div]

/-- each open type is a whole number of octets: only the first one is padded -/
theorem openTypes_pad (al : Bool) (pos : Nat) (encs : List Bits)
    (h : ∀ e ∈ encs, e.isEmpty = false ∧ (complete e).length < 16384) :
    openTypes al pos encs = (if encs.isEmpty then [] else pad al pos) ++ encs.flatMap Per.openType := by
  induction encs generalizing pos with
  | nil => rfl
  | cons e r ih =>
    rw [openTypes, List.flatMap_cons]
    simp only [List.isEmpty_cons, Bool.false_eq_true, if_false]
    obtain ⟨h1, h2⟩ := h e (by simp)
    rw [openType_pad _ _ _ h1 h2, ih _ (fun x hx => h x (by simp [hx]))]
    have hal : pad al (pos + (pad al pos ++ Per.openType e).length) = [] := by
      refine pad_nil al fun ha => ?_
      rw [List.length_append]
      have h1 := pad_end al pos ha
      have h2 := Per.openType_length_mod e
      omega
    rw [hal]
    simp

/-- 10.9.3.4 without deviation: up to 64 additions in both variants, up to 127 UNALIGNED -/
theorem nsLength_code (al : Bool) (pos : Nat) (bitmap : Bits) (h1 : 1 ≤ bitmap.length)
    (h2 : bitmap.length ≤ 127) (h3 : al = true → bitmap.length ≤ 64) :
    ∃ nl, Uper.encNsLength bitmap.length = .ok nl ∧ nsLength al pos bitmap = nl ++ bitmap := by
  unfold Uper.encNsLength nsLength
  by_cases h64 : bitmap.length ≤ 64
  · refine ⟨natToBits 7 (bitmap.length - 1), by rw [if_pos h64], ?_⟩
    simp only [h1, h64, and_self, if_true]
    rw [natToBits_succ_of_lt (w := 6) (by omega)]
  · cases al with
    | true => exact absurd (h3 rfl) h64
    | false =>
      refine ⟨natToBits 9 (0x100 + bitmap.length), by rw [if_neg h64, if_pos h2], ?_⟩
      simp only [h64, and_false, if_false]
      rw [genLen_false, encChunked_small _ (by simp; omega), flatten_map_singleton]
      simp only [List.length_map]
      rw [Uper.lenDet_short _ (show bitmap.length < 128 by omega), natToBits_succ_of_ge (w := 8) (by omega) (by omega)]
      have : 256 + bitmap.length - 2 ^ 8 = bitmap.length := by omega
      rw [this]
      rfl

/-- ENUMERATED for both variants and any code model that has `Uper.enc`'s arm there (`Per.enc` has
the same term) -/
theorem enumerated_ref (al : Bool) (code : Ty → Nat → Val → EncM Bits)
    (root : List (String × Int)) (ext : Option (List (String × Int)))
    (hcode : ∀ pos name, code (.enumerated root ext) pos (.enum name) =
      Uper.enc (.enumerated root ext) (.enum name)) :
    Ref al code (.enumerated root ext) := by
  intro v pos bits hd he
  obtain ⟨name, rfl, h⟩ := enc_enumerated_ok he
  replace hd : devsEnumerated al root ext name = [] := hd
  rw [hcode]
  unfold Uper.enc
  rcases encEnumerated_inv hd h with ⟨i, hi, h255, rfl⟩ | ⟨adds, j, rfl, hi, hj, hdj, rfl⟩
  · rw [cwn_bits al _ _ _ (by
      cases al
      · exact .inl rfl
      · exact .inr (by have := h255 rfl; have := Uper.sortByVal_length root; omega))]
    cases ext <;> simp only [hi] <;> rfl
  · simp only [hi, hj]
    rw [nsnnwn_code _ _ _ hdj]
    rfl

end Asn1.X691
