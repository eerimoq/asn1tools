import Asn1Model.Prim
import Asn1Model.CCursor
/-
  C09: UNCHECKED, total, pure counterparts of the memory-touching helpers of
  `Asn1Model/CCursor.lean` (`Array.set!` / `[·]!` instead of the checked accessors, `Nat` indices
  instead of wrapping `UInt64`), and the bit-level vocabulary in which their effect is stated (`getBit`,
  `bitsFrom`, `Padded`).  `CCursorRefine.lean` (encoder) and `CCursorRefineDec.lean` (decoder) prove that under
  the invariant the checked model never faults and computes exactly these functions (that is the
  memory-safety proof); `CCursorBitsEnc.lean` and `CCursorBitsDec.lean` prove what these functions do at the bit
  level (the functional proof), over the groundwork of `CCursorBits.lean`.
-/
namespace Asn1.CCursor
open Asn1

/-- bit `p` of a memory object; bit 0 is the most significant bit of byte 0 -/
def getBit (m : Mem) (p : Nat) : Bool := m[p / 8]!.toNat.testBit (7 - p % 8)

/-- the `n` bits starting at bit position `p` -/
def bitsFrom (m : Mem) (p n : Nat) : Bits := (List.range n).map fun i => getBit m (p + i)

/-- zero padding: the bits from `p` up to the next byte boundary are zero.  (The encoder helpers use
`|=` and rely on this.) -/
def Padded (m : Mem) (p : Nat) : Prop := ∀ q, p ≤ q → q < 8 * ((p + 7) / 8) → getBit m q = false

/-- effect of `encoder_append_bit(value = v)` at bit position `p` on the buffer -/
def writeBit (buf : Mem) (p v : Nat) : Mem :=
  let buf1 := if p % 8 = 0 then buf.set! (p / 8) 0 else buf
  buf1.set! (p / 8) (buf1[p / 8]! ||| UInt8.ofNat (v <<< (7 - p % 8)))

/-- `memcpy(&dst[dOff], &src[sOff], n)`, index by index (`memcpy_ok`, `pureMemcpy_spec`).  The OER half describes the
same `memcpy` on lists, as `C10.write` (`C10.memcpy_eq`). -/
def pureMemcpy (src : Mem) : (n : Nat) → (dst : Mem) → (dOff sOff : Nat) → Mem
  | 0, dst, _, _ => dst
  | n + 1, dst, dOff, sOff => pureMemcpy src n (dst.set! dOff src[sOff]!) (dOff + 1) (sOff + 1)

/-- the unaligned loop of `encoder_append_bytes` -/
def pureAppendBytesLoop (src : Mem) (bytePos pib : Nat) : (n : Nat) → (i : Nat) → Mem → Mem
  | 0, _, buf => buf
  | n + 1, i, buf =>
    let buf := buf.set! (bytePos + i) (buf[bytePos + i]! ||| UInt8.ofNat (src[i]!.toNat >>> pib))
    let buf := buf.set! (bytePos + i + 1) (UInt8.ofNat (src[i]!.toNat <<< (8 - pib)))
    pureAppendBytesLoop src bytePos pib n (i + 1) buf

/-- effect of `encoder_append_bytes(src, n)` at bit position `p` on the buffer -/
def writeBytes (buf : Mem) (p : Nat) (src : Mem) (n : Nat) : Mem :=
  if p % 8 = 0 then pureMemcpy src n buf (p / 8) 0 else pureAppendBytesLoop src (p / 8) (p % 8) n 0 buf

/-- effect of the loop of `encoder_append_non_negative_binary_integer(value, size)`:
`n` remaining iterations, loop counter `i`, current bit position `p` -/
def writeNnbi (value : UInt64) (size : Nat) : (n : Nat) → (i : Nat) → (buf : Mem) → (p : Nat) → Mem
  | 0, _, buf, _ => buf
  | n + 1, i, buf, p =>
    writeNnbi value size n (i + 1)
      (writeBit buf p ((value >>> UInt64.ofNat (size - i - 1)) &&& 1).toNat) (p + 1)

/-- the bytes `encoder_append_uint16/32/64` hand to `encoder_append_bytes`.  The OER half has the same C expressions
as lists, `C10.be16/32/64`; `C10.be16_toNat` … `be64_toNat` join the two. -/
def bytesU16 (v : UInt16) : Mem := #[UInt8.ofNat (v.toNat >>> 8), UInt8.ofNat v.toNat]
def bytesU32 (v : UInt32) : Mem := #[(v >>> 24).toUInt8, (v >>> 16).toUInt8, (v >>> 8).toUInt8, v.toUInt8]
def bytesU64 (v : UInt64) : Mem :=
  #[(v >>> 56).toUInt8, (v >>> 48).toUInt8, (v >>> 40).toUInt8, (v >>> 32).toUInt8,
    (v >>> 24).toUInt8, (v >>> 16).toUInt8, (v >>> 8).toUInt8, v.toUInt8]

/-- value of `decoder_read_bit` at bit position `p` -/
def readBitVal (buf : Mem) (p : Nat) : Nat := (buf[p / 8]!.toNat >>> (7 - p % 8)) &&& 1

/-- the unaligned loop of `decoder_read_bytes` -/
def pureReadBytesLoop (src : Mem) (bytePos pib : Nat) : (n : Nat) → (i : Nat) → Mem → Mem
  | 0, _, dst => dst
  | n + 1, i, dst =>
    let dst := dst.set! i (UInt8.ofNat (src[bytePos + i]!.toNat <<< pib))
    let dst := dst.set! i (dst[i]! ||| UInt8.ofNat (src[bytePos + i + 1]!.toNat >>> (8 - pib)))
    pureReadBytesLoop src bytePos pib n (i + 1) dst

/-- destination object after `decoder_read_bytes(dst, n)` at bit position `p` -/
def readBytesVal (buf : Mem) (p : Nat) (dst : Mem) (n : Nat) : Mem :=
  if p % 8 = 0 then pureMemcpy buf n dst 0 (p / 8) else pureReadBytesLoop buf (p / 8) (p % 8) n 0 dst

/-- value of the loop of `decoder_read_non_negative_binary_integer`: `n` remaining iterations,
accumulator `v`, bit position `p` -/
def readNnbiVal (buf : Mem) : (n : Nat) → (v : UInt64) → (p : Nat) → UInt64
  | 0, v, _ => v
  | n + 1, v, p => readNnbiVal buf n ((v <<< 1) ||| UInt64.ofNat (readBitVal buf p)) (p + 1)

/-- values assembled by `decoder_read_uint16/32/64` from the bytes read -/
def valU16 (m : Mem) : UInt16 := UInt16.ofNat ((m[0]!.toNat <<< 8) ||| m[1]!.toNat)
def valU32 (m : Mem) : UInt32 :=
  (m[0]!.toUInt32 <<< 24) ||| (m[1]!.toUInt32 <<< 16) ||| (m[2]!.toUInt32 <<< 8) ||| m[3]!.toUInt32
def valU64 (m : Mem) : UInt64 :=
  (m[0]!.toUInt64 <<< 56) ||| (m[1]!.toUInt64 <<< 48) ||| (m[2]!.toUInt64 <<< 40) ||| (m[3]!.toUInt64 <<< 32)
  ||| (m[4]!.toUInt64 <<< 24) ||| (m[5]!.toUInt64 <<< 16) ||| (m[6]!.toUInt64 <<< 8) ||| m[7]!.toUInt64

end Asn1.CCursor
