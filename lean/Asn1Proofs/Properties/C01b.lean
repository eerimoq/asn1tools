import Asn1Proofs.Lemmas.DerRoundtrip
import Asn1Proofs.Lemmas.DerCounterexample
import Asn1Proofs.Lemmas.DerCheckTypes
/-
  C01 (binary codecs round-trip) for BER and DER, stated for `decode_with_length` and so also the round-trip half
  of C15; proved in Lemmas/DerRoundtrip.lean.

  Canonical value: `Der.canon' = X690.canonV` (Asn1Model/X690Value.lean).  It differs from
  `Typing.canon` (PER / OER) in one place: the BER / DER decoders fill in the DEFAULT value of an
  absent *extension addition* too (`Der.cex_canon_not_enough`).  Hence the DEFAULT hypothesis is
  `X690.defaultsOkV` (DEFAULT values written in `canonV` normal form) rather than `Ty.defaultsOk`.
-/
namespace Asn1.C01b
open Asn1

/-- C01 for DER, with arbitrary trailing octets: `decode_with_length` returns the canonical value and exactly
the length of the encoding.  `henum`: the numbers of an ENUMERATED are distinct (`enum_distinct_necessary`). -/
theorem der_roundtrip (t : Ty) (v : Val) (bytes rest : Bytes)
    (hwf : t.wf = true) (henum : Oer.oerWf t = true) (hd : X690.defaultsOkV t = true)
    (ht : hasType t v = true) (he : Der.encode t v = .ok bytes) :
    Der.decodeWithLength t (bytes ++ rest) = .ok (Der.canon' t v, bytes.length) := by
  unfold Der.decodeWithLength
  rw [Der.rt_all_der t none v bytes rest _ hwf henum hd ht (Der.enc_of_encode he) (by simp; omega)]

/-- C01 for BER (the BER encoder is the DER encoder; the BER decoder is a different function) -/
theorem ber_roundtrip (t : Ty) (v : Val) (bytes rest : Bytes)
    (hwf : t.wf = true) (henum : Oer.oerWf t = true) (hd : X690.defaultsOkV t = true)
    (ht : hasType t v = true) (he : BerCodec.encode t v = .ok bytes) :
    BerCodec.decodeWithLength t (bytes ++ rest) = .ok (Der.canon' t v, bytes.length) := by
  unfold BerCodec.decodeWithLength
  have he' : Der.encode t v = .ok bytes := he
  rw [Der.rt_all_ber t none v bytes rest _ hwf henum hd ht (Der.enc_of_encode he') (by simp; omega)]

theorem der_roundtrip_decode (t : Ty) (v : Val) (bytes : Bytes)
    (hwf : t.wf = true) (henum : Oer.oerWf t = true) (hd : X690.defaultsOkV t = true)
    (ht : hasType t v = true) (he : Der.encode t v = .ok bytes) :
    Der.decode t bytes = .ok (Der.canon' t v) := by
  have := der_roundtrip t v bytes [] hwf henum hd ht he
  rw [List.append_nil] at this
  unfold Der.decode; rw [this]; rfl

theorem ber_roundtrip_decode (t : Ty) (v : Val) (bytes : Bytes)
    (hwf : t.wf = true) (henum : Oer.oerWf t = true) (hd : X690.defaultsOkV t = true)
    (ht : hasType t v = true) (he : BerCodec.encode t v = .ok bytes) :
    BerCodec.decode t bytes = .ok (Der.canon' t v) := by
  have := ber_roundtrip t v bytes [] hwf henum hd ht he
  rw [List.append_nil] at this
  unfold BerCodec.decode; rw [this]; rfl

/-- the same inside any tagging context (member `[i]` / alternative `[i]`), for the recursive decoders -/
theorem der_roundtrip_tagged (t : Ty) (tg : Option Nat) (v : Val) (bytes rest : Bytes) (fuel : Nat)
    (hwf : t.wf = true) (henum : Oer.oerWf t = true) (hd : X690.defaultsOkV t = true)
    (ht : hasType t v = true) (he : Der.enc t tg v = .ok bytes) (hf : bytes.length < fuel) :
    Der.dec t tg fuel (bytes ++ rest) = .ok (some (Der.canon' t v, bytes.length, rest)) :=
  Der.rt_all_der t tg v bytes rest fuel hwf henum hd ht he hf

/-- well-typed values are accepted by the codec proper (no `EncodeError`, so nothing for
`encode_additions` to swallow) -/
theorem enc_total (t : Ty) (tg : Option Nat) (v : Val) (hwf : t.wf = true) (ht : hasType t v = true) :
    ∃ bytes, Der.enc t tg v = .ok bytes := Der.enc_total t tg v hwf ht

/-- ... and by `encode` (type checker model + codec), for DER and BER -/
theorem encode_total (t : Ty) (v : Val) (hwf : t.wf = true) (ht : hasType t v = true) :
    (∃ bytes, Der.encode t v = .ok bytes) ∧ (∃ bytes, BerCodec.encode t v = .ok bytes) :=
  ⟨Der.encode_total t v hwf ht, Der.encode_total_ber t v hwf ht⟩

/-- necessity of `Oer.oerWf` (ENUMERATED { a(0), ..., b(0) }: b ↦ 0a 01 00 ↦ a) -/
theorem enum_distinct_necessary :
    ¬ (∀ (t : Ty) (v : Val) (bytes rest : Bytes),
        t.wf = true → X690.defaultsOkV t = true → hasType t v = true → Der.encode t v = .ok bytes →
        Der.decodeWithLength t (bytes ++ rest) = .ok (Der.canon' t v, bytes.length)) := by
  intro h
  obtain ⟨hwf, _, hd, ht, _⟩ := Der.cex_enum_hyps
  have := h Der.cexEnumTy (.enum "b") [0x0a, 1, 0] [] hwf hd ht Der.cex_enum_enc
  rw [List.append_nil, Der.cex_enum_dec] at this
  have hv : Val.enum "a" = Der.canon' Der.cexEnumTy (.enum "b") := by
    injection this with h1; exact (Prod.mk.inj h1).1
  exact Der.ne_of_beq_false (by rfl) hv

/-- necessity of `X690.defaultsOkV` over `Ty.defaultsOk` (`x SEQUENCE { a BOOLEAN, ..., b INTEGER DEFAULT 5 }
DEFAULT { a TRUE }`: { x { a TRUE } } ↦ 30 00 ↦ { x { a TRUE } }, canonical value { x { a TRUE, b 5 } }) -/
theorem defaultsOkV_necessary :
    ¬ (∀ (t : Ty) (v : Val) (bytes rest : Bytes),
        t.wf = true → Oer.oerWf t = true → t.defaultsOk = true → hasType t v = true →
        Der.encode t v = .ok bytes →
        Der.decodeWithLength t (bytes ++ rest) = .ok (Der.canon' t v, bytes.length)) := by
  intro h
  obtain ⟨hwf, howf, hd, ht, _⟩ := Der.cex_def_hyps
  have := h Der.cexDefTy Der.cexDefVal [0x30, 0] [] hwf howf hd ht Der.cex_def_enc
  rw [List.append_nil, Der.cex_def_dec] at this
  have hv : Der.cexDefVal = Der.canon' Der.cexDefTy Der.cexDefVal := by
    injection this with h1; exact (Prod.mk.inj h1).1
  exact Der.ne_of_beq_false (by rfl) hv

/-- non-vacuity: OPTIONAL, DEFAULT (root and addition), a CHOICE-typed member (EXPLICIT wrapper), an
extensible CHOICE inside a SEQUENCE OF, a BIT STRING with unused bits -/
example :
    let t : Ty := .sequenceOf (.sequence
        (.cons "a" .optional (.integer ⟨some 0, some 300, true⟩)
        (.cons "b" (.default (.bool true)) .boolean
        (.cons "s" .optional (.bitString ⟨0, none, false⟩) .nil))) true
        (.cons "c" .optional (.choice (.cons "x" .null (.cons "y" (.octetString ⟨0, none, false⟩) .nil)) true
            (.cons "z" (.charString .ia5 ⟨1, some 4, false⟩) .nil))
        (.cons "d" (.default (.int 7)) (.integer ⟨none, none, false⟩) .nil))) ⟨0, some 3, true⟩
    let v : Val := .list [.record [("a", .int 70000), ("s", .bits [0xff] 3), ("c", .choice "z" (.str [65, 66]))],
                          .record [("b", .bool false)]]
    t.wf = true ∧ Oer.oerWf t = true ∧ X690.defaultsOkV t = true ∧ hasType t v = true ∧
      Der.encode t v = .ok [0x30, 0x16, 0x30, 0x0f, 0x80, 3, 1, 0x11, 0x70, 0x82, 2, 5, 0xe0, 0xa3, 4, 0x82, 2, 65, 66,
                            0x30, 3, 0x81, 1, 0] ∧
      Der.canon' t v = .list [.record [("a", .int 70000), ("b", .bool true), ("s", .bits [0xe0] 3),
                                       ("c", .choice "z" (.str [65, 66])), ("d", .int 7)],
                              .record [("b", .bool false), ("d", .int 7)]] := by
  refine ⟨by decide +kernel, by decide +kernel, by decide +kernel, by decide +kernel, by rfl, by rfl⟩

#print axioms Asn1.C01b.der_roundtrip
#print axioms Asn1.C01b.ber_roundtrip
#print axioms Asn1.C01b.enum_distinct_necessary
#print axioms Asn1.C01b.defaultsOkV_necessary

end Asn1.C01b
