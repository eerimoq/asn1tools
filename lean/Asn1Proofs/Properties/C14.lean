import Asn1Proofs.Lemmas.CommentsLemmas
/-
  C14 — the comment pre-pass `ignore_comments` (`Comments.strip`) only overwrites characters with blanks: every
  new-line and every character it keeps stays at its offset.
-/
namespace Asn1.C14
open Asn1.Comments

/-- Positions of new-lines: exactly what line/column reporting depends on. -/
def nlSkeleton (s : List Char) : List Bool := s.map (· == '\n')

theorem go_newlines (st : St) (a : Nat) (s o : List Char)
    (h : go st a s = .ok o) : nlSkeleton o = nlSkeleton s :=
  (go_blanked st a s o h).newlines

theorem strip_ok_iff (s o : List Char) : strip s = .ok o ↔ go .normal 0 s = .ok o := by
  unfold strip; split <;> simp_all

/-- The pre-pass never moves, adds or removes a new-line: an offset in the blanked text lies
on the same line and column as in the original text, so a syntax error located by the grammar
in the blanked text is reported with the line of the offending item in the original text. -/
theorem strip_newlines (s o : List Char) (h : strip s = .ok o) : nlSkeleton o = nlSkeleton s :=
  go_newlines _ _ _ _ ((strip_ok_iff s o).1 h)

theorem strip_length (s o : List Char) (h : strip s = .ok o) : o.length = s.length := by
  have := congrArg List.length (strip_newlines s o h)
  simpa [nlSkeleton] using this

theorem go_pointwise (st : St) (a : Nat) (s o : List Char)
    (h : go st a s = .ok o) : ∀ x ∈ List.zip s o, x.2 = x.1 ∨ x.2 = ' ' :=
  (go_blanked st a s o h).zip

theorem strip_pointwise (s o : List Char) (h : strip s = .ok o) :
    ∀ x ∈ List.zip s o, x.2 = x.1 ∨ x.2 = ' ' := go_pointwise _ _ _ _ ((strip_ok_iff s o).1 h)

example : strip "a \"x--y\" -- c\nb".toList = .ok "a \"x--y\"     \nb".toList := by
  simp [strip, go]; rfl

end Asn1.C14
