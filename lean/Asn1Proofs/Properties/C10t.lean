import Asn1Model.Translated
import Asn1Model.CCursorOer
import Asn1Proofs.Lemmas.PyPrimLemmas
/-
  C10 — TRANSLATOR TIE: `get_length_determinant_length` of /repo/asn1tools/source/c/oer.py, regenerated on every run, is
  the model function `staticLenDetLen` about which `static_ne_runtime_iff` / `static_defect_smallest` (the recorded
  finding C10-lendet-typo) are proved.  Repairing or changing the constant in the source breaks this obligation.
-/
namespace Asn1.C10t
open Asn1 Asn1.Translated

theorem translated_get_length_determinant_length (n : Nat) :
    c_oer_get_length_determinant_length (n : Int) = (CCursorOer.staticLenDetLen n : Int) := by
  unfold c_oer_get_length_determinant_length CCursorOer.staticLenDetLen
  rw [Py.ite_natCast_lt n 128 128 rfl, Py.ite_natCast_lt n 256 256 rfl, Py.ite_natCast_lt n 65536 65536 rfl,
    Py.ite_natCast_lt n 1677726 1677726 rfl]
  simp only [apply_ite (Nat.cast : Nat → Int)]
  rfl

end Asn1.C10t
