import Asn1Proofs.Lemmas.Bridge2PerDec
/-
  C05 / C16 / C08 — translator tie for the PER bit reader.  `Asn1.Translated.per_Decoder_*` are regenerated from the Python
  class `per.Decoder` (/repo/asn1tools/codecs/per.py: the input as a str of '0'/'1' characters, a count of remaining bits)
  by harness/py2lean.py on every run.  Under the invariant `PDecInv` (established by `Decoder(data)`, preserved by every
  method) each method refines (`Refines`) the reading primitive of the PER code model about which `per_refines`, the
  truncation theorems (C16) and the allocation bounds (C08) are stated.  In particular a read beyond the end of the input
  is OutOfDataError, never a value, for every state and width.  `PDecInv` needs `total_number_of_bits % 8 = 0` (whole
  octets): without it `align_always` does not refine `Per.align` (`per_align_always_refines_original_false`).
-/
namespace Asn1.C05u
open Asn1 Asn1.Translated Asn1.Bridge

theorem per_number_of_read_bits (d : per_DecoderS) (h : PDecInv d) :
    per_Decoder_number_of_read_bits d = ((pAbs d).pos : Int) := by
  unfold per_Decoder_number_of_read_bits pAbs
  have := h.le
  simp only
  omega

theorem per_align_always_refines (d : per_DecoderS) (h : PDecInv d) :
    PDecInv (per_Decoder_align_always d) ∧ pAbs (per_Decoder_align_always d) = Per.align (pAbs d) :=
  Bridge.per_align_always_refines d h

theorem per_skip_bits_refines (d : per_DecoderS) (h : PDecInv d) (n : Nat) :
    Refines PDecInv pAbs (fun (_ : Unit) (_ : Bits) => True)
      ((per_Decoder_skip_bits d n).map (fun s => (s, ()))) (Per.readBits n (pAbs d)) := by
  obtain ⟨N, T, val, rfl, hNT, hlen, hbin, hal⟩ := h.view
  unfold per_Decoder_skip_bits
  rw [apply_ite (Except.map _)]
  exact per_consume_refines hNT hlen hbin hal n (fun b => b) (bind_pure _).symm fun hn =>
    ⟨(), by rw [← Int.ofNat_sub hn]; rfl, trivial⟩

theorem per_read_bit_refines (d : per_DecoderS) (h : PDecInv d) :
    Refines PDecInv pAbs bitVal (per_Decoder_read_bit d) (Per.readBit (pAbs d)) := by
  obtain ⟨N, T, val, rfl, hNT, hlen, hbin, hal⟩ := h.view
  unfold per_Decoder_read_bit per_Decoder_number_of_read_bits
  -- the guard `number_of_bits == 0` in the form of the other methods' `1 > number_of_bits`
  rw [decide_eq_decide.2 (show (N : Int) = 0 ↔ ((1 : Nat) : Int) > (N : Int) by omega)]
  refine per_consume_refines hNT hlen hbin hal 1 (fun b => b.headD false) (per_readBit_eq_readBits _) fun hn => ?_
  have hidx : T - N < val.length := by
    rw [hlen]
    exact Nat.sub_lt (Nat.lt_of_lt_of_le hn hNT) hn
  refine ⟨if val[T - N] == '1' then 1 else 0, ?_, ?_⟩
  · rw [← Int.ofNat_sub hNT, strIdx_eq val (T - N) hidx, ok_bind,
      intOfDec_bit _ (hbin _ (List.getElem_mem hidx)), ok_bind,
      show (N : Int) - 1 = ((N - 1 : Nat) : Int) from (Int.ofNat_sub hn).symm]
    rfl
  · rw [List.drop_eq_getElem_cons hidx]
    rfl

theorem per_read_non_negative_binary_integer_refines (d : per_DecoderS) (h : PDecInv d) (n : Nat) :
    Refines PDecInv pAbs natVal (per_Decoder_read_non_negative_binary_integer d n) (Per.readNat n (pAbs d)) :=
  (per_rnnbi_refines d h n).mono fun _ _ hv => hv.1

/-- `read_bits` returns the bits packed into octets, zero padded -/
theorem per_read_bits_refines (d : per_DecoderS) (h : PDecInv d) (n : Nat) :
    Refines PDecInv pAbs (fun a (bits : Bits) => a = ofNats (packBits bits))
      (per_Decoder_read_bits d n) (Per.readBits n (pAbs d)) := by
  obtain ⟨N, T, val, rfl, hNT, hlen, hbin, hal⟩ := h.view
  unfold per_Decoder_read_bits per_Decoder_number_of_read_bits
  refine per_consume_refines hNT hlen hbin hal n (fun b => b) (bind_pure _).symm fun hn =>
    ⟨ofNats (packBits (((val.drop (T - N)).take n).map (· == '1'))), ?_, rfl⟩
  obtain ⟨hsl, hvl⟩ := per_slice_unread hNT hlen hn
  dsimp only
  rw [hsl, ← Int.ofNat_sub hn, Py.fmod8, pad_to_octet _ _ (Nat.mod_lt n (by omega)), pure_bind,
    unhex_sentinel _ (mem_slice hbin (T - N) n) n hvl]
  rfl

theorem per_read_length_determinant_refines (d : per_DecoderS) (h : PDecInv d) :
    Refines PDecInv pAbs natVal (per_Decoder_read_length_determinant d) (Per.readLenDet (pAbs d)) := by
  unfold per_Decoder_read_length_determinant Per.readLenDet
  refine (per_rnnbi_refines d h 8).bind fun s a v hs hv => ?_
  obtain ⟨rfl, hv⟩ := hv
  dsimp only
  refine Refines.ite (Py.band128_eq_zero_iff hv) (fun _ => Refines.ok hs rfl rfl) fun c1 => ?_
  refine Refines.ite (Py.band192_eq_128_iff (Nat.le_of_not_lt c1) hv) (fun _ => ?_) fun _ => ?_
  · refine (per_rnnbi_refines s hs 8).bind fun s a w hs hw => ?_
    obtain ⟨rfl, hw⟩ := hw
    dsimp only
    rw [two_octet_length v w hw, show v % 128 = v - 128 by omega]
    exact Refines.ok hs rfl rfl
  refine Refines.ite Int.ofNat_inj (fun _ => Refines.ok hs rfl rfl) fun _ => ?_
  refine Refines.ite Int.ofNat_inj (fun _ => Refines.ok hs rfl rfl) fun _ => ?_
  refine Refines.ite Int.ofNat_inj (fun _ => Refines.ok hs rfl rfl) fun _ => ?_
  refine Refines.ite Int.ofNat_inj (fun _ => Refines.ok hs rfl rfl) fun _ => ?_
  exact Refines.err (.inr rfl)

theorem per_read_normally_small_non_negative_whole_number_refines (d : per_DecoderS) (h : PDecInv d) :
    Refines PDecInv pAbs natVal (per_Decoder_read_normally_small_non_negative_whole_number d) (Per.decNsnnwn (pAbs d)) := by
  unfold per_Decoder_read_normally_small_non_negative_whole_number Per.decNsnnwn
  refine (C05u.per_read_bit_refines d h).bind fun s a b hs hv => ?_
  dsimp only
  rw [truthy_bit hv]
  cases b
  · rw [Bool.not_false, if_pos rfl, if_pos rfl, bind_assoc]
    exact (per_rnnbi_refines s hs 6).bind_left fun s a v hs hv => Refines.ok hs rfl hv.1
  · rw [Bool.not_true, if_neg Bool.false_ne_true, if_neg Bool.false_ne_true, bind_assoc]
    refine (C05u.per_read_length_determinant_refines s hs).bind fun s a n hs hv => ?_
    obtain rfl := hv
    dsimp only
    rw [Py.mul8, bind_assoc]
    exact (per_rnnbi_refines s hs (8 * n)).bind_left fun s a v hs hv => Refines.ok hs rfl hv.1

theorem per_read_normally_small_length_refines (d : per_DecoderS) (h : PDecInv d) :
    Refines PDecInv pAbs natVal (per_Decoder_read_normally_small_length d) (Per.decNsLength (pAbs d)) := by
  unfold per_Decoder_read_normally_small_length Per.decNsLength
  refine (C05u.per_read_bit_refines d h).bind fun s a b hs hv => ?_
  dsimp only
  rw [truthy_bit hv]
  cases b
  · rw [Bool.not_false, if_pos rfl, if_pos rfl]
    exact (per_rnnbi_refines s hs 6).bind fun s a v hs hv => Refines.ok hs rfl (congrArg (· + 1) hv.1)
  · rw [Bool.not_true, if_neg Bool.false_ne_true, if_neg Bool.false_ne_true]
    refine (C05u.per_read_bit_refines s hs).bind fun s a b hs hv => ?_
    dsimp only
    rw [truthy_bit hv]
    cases b
    · rw [Bool.not_false, if_pos rfl, if_pos rfl]
      exact (per_rnnbi_refines s hs 7).bind_left fun s a v hs hv => Refines.ok hs rfl hv.1
    · exact Refines.err rfl

theorem per_read_constrained_whole_number_refines (d : per_DecoderS) (h : PDecInv d) (lo hi : Int) (nbits : Nat) (hr : lo ≤ hi) :
    Refines PDecInv pAbs (fun a (v : Nat) => a = lo + v)
      (per_Decoder_read_constrained_whole_number d lo hi nbits) (Per.decCwn (hi - lo + 1).toNat nbits (pAbs d)) := by
  unfold per_Decoder_read_constrained_whole_number Per.decCwn
  obtain ⟨R, hR⟩ := Int.eq_ofNat_of_zero_le (show 0 ≤ hi - lo + 1 by omega)
  obtain ⟨ai, aa⟩ := Bridge.per_align_always_refines d h
  simp only [hR, Int.toNat_natCast, ite_bind, bind_assoc, ← aa]
  have fin : ∀ (x : per_DecoderS) (n : Nat) (k : per_DecoderS × Int → Except String (per_DecoderS × Int)), PDecInv x →
      (∀ s a, k (s, a) = .ok (s, a + lo)) → Refines PDecInv pAbs (fun a (v : Nat) => a = lo + v)
        (per_Decoder_read_non_negative_binary_integer x n >>= k) (Per.readNat n (pAbs x)) := fun x n k hx hk =>
    (per_rnnbi_refines x hx n).bind_left fun s a v hs hv => by
      rw [hk, hv.1]
      exact Refines.ok hs rfl (Int.add_comm _ _)
  refine Refines.ite Int.ofNat_le (fun _ => fin d nbits _ h fun s a => rfl) fun _ => ?_
  refine Refines.ite Int.ofNat_inj (fun _ => fin _ 8 _ ai fun s a => rfl) fun _ => ?_
  exact Refines.ite Int.ofNat_le (fun _ => fin _ 16 _ ai fun s a => rfl) fun _ => fin _ nbits _ ai fun s a => rfl

theorem per_read_unconstrained_whole_number_refines (d : per_DecoderS) (h : PDecInv d) :
    Refines PDecInv pAbs (fun a (i : Int) => a = i)
      (per_Decoder_read_unconstrained_whole_number d) (Per.decUnconstrained (pAbs d)) := by
  unfold per_Decoder_read_unconstrained_whole_number Per.decUnconstrained
  refine (C05u.per_read_length_determinant_refines d h).bind fun s a k hs hv => ?_
  obtain rfl := hv
  dsimp only
  rw [Py.mul8]
  refine (per_rnnbi_refines_bits s hs (8 * k)).bind fun s a bits hs hv => ?_
  obtain ⟨rfl, hl⟩ := hv
  dsimp only
  by_cases k0 : k = 0
  · subst k0
    -- a length of 0: `1 << (0 - 1)` raises ValueError, the model's `.foreign`
    rw [shlE_neg _ _ (by decide)]
    exact Refines.err rfl
  · have hlt : bitsToNat bits < 2 ^ (8 * k) := hl ▸ bitsToNat_lt bits
    have hk : 1 ≤ 8 * k := by omega
    rw [if_neg k0, show ((8 * k : Nat) : Int) - 1 = ((8 * k - 1 : Nat) : Int) from (Int.ofNat_sub hk).symm, shlE_natCast,
      shlE_natCast, ok_bind, truthy_sign_bit _ (8 * k) hk hlt, ok_bind, ite_bind, pure_bind, pure_bind]
    exact Refines.ite Iff.rfl (fun _ => Refines.ok hs rfl (sub_mask _ _)) fun _ => Refines.ok hs rfl rfl

theorem per_align_always_refines_original_false  :
    ¬ (∀ d : per_DecoderS, PDecInv0 d →
        PDecInv0 (per_Decoder_align_always d) ∧ pAbs (per_Decoder_align_always d) = Per.align (pAbs d)) :=
  Bridge.per_align_always_refines_original_false

end Asn1.C05u
