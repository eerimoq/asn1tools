import Asn1Proofs.Lemmas.UperRoundtrip
import Asn1Proofs.Lemmas.UperCounterexample
import Asn1Proofs.Lemmas.OerRoundtrip
import Asn1Proofs.Lemmas.OerCounterexample
/-
  C01 (binary codecs round-trip) for UPER and OER, proved in Lemmas/{Uper,Oer}Roundtrip.lean.  The hypotheses beyond
  typing are the predicates of recorded findings (known_findings.json); their witnesses are here and in
  Lemmas/{Uper,Oer}Counterexample.lean.
-/
namespace Asn1.C01
open Asn1

/-- witness of finding C01-oer-fixed-utf8: `UTF8String (SIZE(2))` with a two-octet character -/
theorem witness_oer_fixed_utf8 :
    Oer.enc (.charString .utf8 ⟨2, some 2, false⟩) (.str [229, 228]) = .ok [195, 165, 195, 164] ∧
    Oer.dec (.charString .utf8 ⟨2, some 2, false⟩) [195, 165, 195, 164] = .ok (.str [229], [195, 164]) := by
  constructor <;> rfl

/-- witness of finding C01-per-unfragmented-length at the smallest size: an extensible OCTET STRING of
16384 octets outside its root is written with the fragment marker `c1` and *all* octets after it. -/
theorem witness_uper_unfragmented_marker : (Uper.lenDet 16384).1 = natToBits 8 0xc1 := by rfl

/-- witness of finding C01-per-ext-open-range: `INTEGER (0..MAX, ...)` raises TypeError in the code,
`.foreign` in the model -/
theorem witness_uper_ext_open_range :
    Uper.enc (.integer ⟨some 0, none, true⟩) (.int 5) = .error .foreign := by rfl

/-- C01 for UPER: for every well-formed type of the model universe (any nesting, any constraint shape,
OPTIONAL/DEFAULT, extension additions, extensible CHOICE/ENUMERATED) and every value the checkers accept,
decoding the encoder's output in front of any further bits returns the canonical value and leaves those bits.
Partial outside two finding predicates: `fragFree` (finding `C01-per-unfragmented-length`: no length ≥ 16384
that the code writes without fragmentation) and `nsOk` (no index of an ENUMERATED/CHOICE addition that needs
≥ 16384 octets, i.e. more than 2^131064 additions; `Uper.roundtrip_original_false`). -/
theorem uper_roundtrip_partial (t : Ty) (v : Val) (bits rest : Bits) (fuel : Nat)
    (hwf : t.wf = true) (hd : t.defaultsOk = true) (ht : hasType t v = true)
    (hf : Uper.fragFree t v = true) (hns : t.nsOk = true) (he : Uper.enc t v = .ok bits)
    (hfuel : bits.length + rest.length + 2 ≤ fuel) :
    Uper.dec t fuel (bits ++ rest) = .ok (canon t v, rest) :=
  Uper.roundtrip_partial t v bits rest fuel hwf hd hns ht hf he hfuel

/-- every value accepted by the checkers is accepted by the UPER encoder -/
theorem uper_enc_total (t : Ty) (v : Val)
    (hwf : t.wf = true) (hd : t.defaultsOk = true) (ht : hasType t v = true) :
    ∃ bits, Uper.enc t v = .ok bits := Uper.enc_total t v hwf hd ht

/-- non-vacuity: a SEQUENCE with OPTIONAL, DEFAULT, an extension addition and an extensible CHOICE inside
a SEQUENCE OF satisfies every hypothesis of `uper_roundtrip_partial` -/
example :
    let t : Ty := .sequenceOf (.sequence
        (.cons "a" .optional (.integer ⟨some 0, some 300, true⟩)
        (.cons "b" (.default (.bool true)) .boolean .nil)) true
        (.cons "c" .optional (.choice (.cons "x" .null (.cons "y" (.octetString ⟨0, none, false⟩) .nil)) true
            (.cons "z" (.charString .ia5 ⟨1, some 4, false⟩) .nil)) .nil)) ⟨0, some 3, true⟩
    let v : Val := .list [.record [("a", .int 70000), ("c", .choice "z" (.str [65, 66]))], .record [("b", .bool false)]]
    t.wf = true ∧ t.defaultsOk = true ∧ hasType t v = true ∧ Uper.fragFree t v = true ∧ t.nsOk = true ∧
      (Uper.enc t v).isOk = true := by
  decide +kernel

/-- C01 for OER, same universe as `uper_roundtrip_partial`.  Partial outside two finding predicates: `utf8Ok`
(finding `C01-oer-fixed-utf8`: a UTF8String under a fixed SIZE(n) is read back as n octets) and `noSwallow` (no
EncodeError is swallowed inside an extension addition, `except EncodeError: pass`; reachable only through a length
that needs more than 127 length octets, `Oer.roundtrip_original_false`). -/
theorem oer_roundtrip_partial (t : Ty) (v : Val) (bytes rest : Bytes)
    (hwf : t.wf = true) (hwf' : Oer.oerWf t = true) (hd : t.defaultsOk = true)
    (ht : hasType t v = true) (hu : Oer.utf8Ok t v = true) (hns : Oer.noSwallow t v = true)
    (he : Oer.enc t v = .ok bytes) :
    Oer.dec t (bytes ++ rest) = .ok (canon t v, rest) :=
  Oer.roundtrip_partial t v bytes rest hwf hwf' hd ht hu hns he

/-- every value accepted by the checkers is accepted by the OER encoder, unless a length needs more
than 127 length octets (then the library's EncodeError) -/
theorem oer_enc_total (t : Ty) (v : Val)
    (hwf : t.wf = true) (hd : t.defaultsOk = true) (ht : hasType t v = true) :
    (∃ bytes, Oer.enc t v = .ok bytes) ∨ Oer.enc t v = .error .encodeError :=
  Oer.enc_total t v hwf hd ht

end Asn1.C01
