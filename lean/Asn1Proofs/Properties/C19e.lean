import Asn1Proofs.Lemmas.PrepSpec
/-
  C19e — the meaning of EXTENSIBILITY IMPLIED for the dictionary rewrite
  (`Compiler.pre_process_extensibility_implied`, model: `Asn1.SpecDict.extDesc`, run for the
  modules whose header carries the flag by `Asn1.SpecDict.Preprocess.run`).

  X.680 clause 13.4: in a module with EXTENSIBILITY IMPLIED every SEQUENCE, SET and CHOICE (and
  ENUMERATED, not a member list and not touched by the pass) of the module that has no extension
  marker is treated as if it had one at its end.  For the rewrite this means: after `run`, in every
  module whose header says EXTENSIBILITY IMPLIED, EVERY member list at ANY depth of EVERY type
  assignment — members of members, members inside `[[ ]]` groups, and the element type of a
  SEQUENCE OF / SET OF written in place — carries an extension marker.

  The predicate is `Desc.Marked` ("every member list inside has the marker"): the pass establishes it,
  it is exactly the fixed points of the pass, and the tag and DEFAULT passes, which run after it, keep
  it at every level of the nested type because they commute with the pass.
-/
namespace Asn1.SpecDict

mutual
  /-- every SEQUENCE / SET / CHOICE member list inside the descriptor (the descriptor's own, those
  of its members at any depth, of the members of its `[[ ]]` groups, of its SEQUENCE OF / SET OF
  element) contains the extension marker -/
  def Desc.Marked : Desc → Prop
    | .mk _ b => Body.Marked b
  termination_by structural d => d
  def Body.Marked : Body → Prop
    | .leaf => True
    | .members ms => hasMarker ms = true ∧ ItemsMarked ms
    | .element e => Desc.Marked e
  termination_by structural b => b
  def ItemsMarked : List Item → Prop
    | [] => True
    | i :: t => Item.Marked i ∧ ItemsMarked t
  termination_by structural l => l
  def Item.Marked : Item → Prop
    | .marker => True
    | .compOf _ => True
    | .group g => DescsMarked g
    | .desc d => Desc.Marked d
  termination_by structural i => i
  def DescsMarked : List Desc → Prop
    | [] => True
    | d :: t => Desc.Marked d ∧ DescsMarked t
  termination_by structural l => l
end

theorem ItemsMarked_append {l₁ l₂ : List Item} :
    ItemsMarked (l₁ ++ l₂) ↔ ItemsMarked l₁ ∧ ItemsMarked l₂ := by
  induction l₁ with
  | nil => simp [ItemsMarked]
  | cons i t ih => simp [ItemsMarked, ih, and_assoc]

theorem ItemsMarked_addMarker {l : List Item} (h : ItemsMarked l) : ItemsMarked (addMarker l) :=
  addMarker_rec h (ItemsMarked_append.2 ⟨h, trivial, trivial⟩)

theorem ItemsMarked_iff_forall {l : List Item} : ItemsMarked l ↔ ∀ i ∈ l, Item.Marked i := by
  induction l with
  | nil => simp [ItemsMarked]
  | cons i t ih => simp [ItemsMarked, ih]

theorem DescsMarked_iff_forall {l : List Desc} : DescsMarked l ↔ ∀ d ∈ l, Desc.Marked d := by
  induction l with
  | nil => simp [DescsMarked]
  | cons d t ih => simp [DescsMarked, ih]

mutual
  theorem extDesc_marked' (d : Desc) : (extDesc d).Marked :=
    match d with
    | .mk _ b => extBody_marked b
  theorem extBody_marked (b : Body) : (extBody b).Marked :=
    match b with
    | .leaf => trivial
    | .members ms => ⟨hasMarker_addMarker _, ItemsMarked_addMarker (extItems_marked ms)⟩
    | .element e => extDesc_marked' e
  theorem extItems_marked (l : List Item) : ItemsMarked (extItems l) :=
    match l with
    | [] => trivial
    | i :: t => ⟨extItem_marked i, extItems_marked t⟩
  theorem extItem_marked (i : Item) : (extItem i).Marked :=
    match i with
    | .marker => trivial
    | .compOf _ => trivial
    | .group g => extDescs_marked g
    | .desc d => extDesc_marked' d
  theorem extDescs_marked (l : List Desc) : DescsMarked (extDescs l) :=
    match l with
    | [] => trivial
    | d :: t => ⟨extDesc_marked' d, extDescs_marked t⟩
end

mutual
  theorem extDesc_of_marked (d : Desc) (h : d.Marked) : extDesc d = d :=
    match d with
    | .mk a b => congrArg (Desc.mk a) (extBody_of_marked b h)
  theorem extBody_of_marked (b : Body) (h : b.Marked) : extBody b = b :=
    match b, h with
    | .leaf, _ => rfl
    | .members ms, ⟨hm, hi⟩ => by
      simp only [extBody]
      rw [extItems_of_marked ms hi, addMarker_of_hasMarker hm]
    | .element e, h => congrArg Body.element (extDesc_of_marked e h)
  theorem extItems_of_marked (l : List Item) (h : ItemsMarked l) : extItems l = l :=
    match l, h with
    | [], _ => rfl
    | i :: t, ⟨hi, ht⟩ => cons_congr (extItem_of_marked i hi) (extItems_of_marked t ht)
  theorem extItem_of_marked (i : Item) (h : i.Marked) : extItem i = i :=
    match i with
    | .marker => rfl
    | .compOf _ => rfl
    | .group g => congrArg Item.group (extDescs_of_marked g h)
    | .desc d => congrArg Item.desc (extDesc_of_marked d h)
  theorem extDescs_of_marked (l : List Desc) (h : DescsMarked l) : extDescs l = l :=
    match l, h with
    | [], _ => rfl
    | d :: t, ⟨hd, ht⟩ => cons_congr (extDesc_of_marked d hd) (extDescs_of_marked t ht)
end

section
variable (sk : Skel) (mt mn : String)

theorem tagBody_marked (b : Body) (h : b.Marked) : (tagBody sk mt mn b).Marked := by
  have := extBody_marked (tagBody sk mt mn b)
  rwa [extBody_tagBody, extBody_of_marked b h] at this

theorem tagItems_marked (k : Option Nat) (l : List Item) (h : ItemsMarked l) :
    ItemsMarked (tagItems sk mt mn k l) := by
  have := extItems_marked (tagItems sk mt mn k l)
  rwa [extItems_tagItems, extItems_of_marked l h] at this

theorem tagDescs_marked (k : Option Nat) (l : List Desc) (h : DescsMarked l) :
    DescsMarked (tagDescs sk mt mn k l) := by
  have := extDescs_marked (tagDescs sk mt mn k l)
  rwa [extDescs_tagDescs, extDescs_of_marked l h] at this

end

section
variable (sk : Skel) (n : Bool) (mn : String)

theorem defBody_marked (c : Bool) (b : Body) (h : b.Marked) :
    (defBody sk n mn c b).Marked := by
  have := extBody_marked (defBody sk n mn c b)
  rwa [extBody_defBody, extBody_of_marked b h] at this

theorem defItems_marked (c : Bool) (l : List Item) (h : ItemsMarked l) :
    ItemsMarked (defItems sk n mn c l) := by
  have := extItems_marked (defItems sk n mn c l)
  rwa [extItems_defItems, extItems_of_marked l h] at this

theorem defItem_marked (c : Bool) (i : Item) (h : i.Marked) :
    (defItem sk n mn c i).Marked := by
  have := extItem_marked (defItem sk n mn c i)
  rwa [extItem_defItem, extItem_of_marked i h] at this

theorem defDescs_marked (c : Bool) (l : List Desc) (h : DescsMarked l) :
    DescsMarked (defDescs sk n mn c l) := by
  have := extDescs_marked (defDescs sk n mn c l)
  rwa [extDescs_defDescs, extDescs_of_marked l h] at this

end

end Asn1.SpecDict

namespace Asn1.C19e
open Asn1.SpecDict Asn1.SpecDict.Preprocess

theorem extDesc_marked (d : Desc) : (extDesc d).Marked := extDesc_marked' d

theorem marked_iff_extDesc_eq (d : Desc) : d.Marked ↔ extDesc d = d :=
  ⟨extDesc_of_marked d, fun h => h ▸ extDesc_marked d⟩

theorem tagDesc_marked (sk : Skel) (mt mn : String) (k : Option Nat) (d : Desc) (h : d.Marked) :
    (tagDesc sk mt mn k d).Marked := by
  have := extDesc_marked' (tagDesc sk mt mn k d)
  rwa [extDesc_tagDesc, extDesc_of_marked d h] at this

theorem defDesc_marked (sk : Skel) (n : Bool) (mn : String) (c : Bool) (d : Desc) (h : d.Marked) :
    (defDesc sk n mn c d).Marked := by
  have := extDesc_marked' (defDesc sk n mn c d)
  rwa [extDesc_defDesc, extDesc_of_marked d h] at this

theorem locDesc_marked (sk : Skel) (n : Bool) (mn mt : String) (d : Desc) :
    (locDesc sk n mn mt true d).Marked := by
  unfold locDesc
  exact defDesc_marked _ _ _ _ _ (tagDesc_marked _ _ _ _ _ (by simpa using extDesc_marked d))

def ModMarked (s : Spec) (j : Nat) : Prop :=
  ∀ mn m, s[j]? = some (mn, m) → m.extImplied = true → ∀ p ∈ m.types, p.2.Marked

theorem ModMarked_procModule_self (n : Bool) (s : Spec) (i : Nat) :
    ModMarked (procModule n s i) i := by
  intro mn m' hm' hx p hp
  obtain ⟨_, m, m₁, _, _, hskm, he⟩ := getElem?_procModule_self n hm'
  cases he
  obtain ⟨d0, _, hd⟩ := mem_mapSnd (k := p.1) (w := p.2) hp
  have hx' : m.extImplied = true := (Module.skel_fields hskm).2.1.symm.trans hx
  rw [hd, hx']
  exact locDesc_marked _ _ _ _ d0

theorem ModMarked_procModule_ne (n : Bool) {s : Spec} {i j : Nat} (hji : j ≠ i)
    (h : ModMarked s j) : ModMarked (procModule n s i) j := by
  intro mn m hm
  rw [getElem?_procModule_ne n s hji] at hm
  exact h mn m hm

/-- C19e for the whole rewrite: after `Compiler.pre_process`, in every module whose header says
EXTENSIBILITY IMPLIED every type assignment is `Marked`.  No hypothesis on the dictionary `d` is
needed: neither well-formedness of references, nor distinct module names, nor absence of
COMPONENTS OF. -/
theorem run_extensibility_implied (n : Bool) (d : Spec) (i : Nat) (mn : String) (m : Module)
    (h : (run n d)[i]? = some (mn, m)) (hx : m.extImplied = true) :
    ∀ p ∈ m.types, p.2.Marked :=
  run_getElem?_of_step n (Inv := fun _ => True)
    (Q := fun q => q.2.extImplied = true → ∀ p ∈ q.2.types, p.2.Marked) (fun _ _ _ => trivial)
    (fun s i q _ hq => ModMarked_procModule_self n s i q.1 q.2 hq) d trivial h hx

theorem run_extensibility_implied_mem (n : Bool) (d : Spec) (mn : String) (m : Module)
    (h : (mn, m) ∈ run n d) (hx : m.extImplied = true) : ∀ p ∈ m.types, p.2.Marked := by
  obtain ⟨i, hi⟩ := List.getElem?_of_mem h
  exact run_extensibility_implied n d i mn m hi hx

/-- the header flag read BEFORE the rewrite decides (the rewrite does not change headers) -/
theorem run_extensibility_implied_of_source (n : Bool) (d : Spec) (i : Nat) (mn : String)
    (m : Module) (h : d[i]? = some (mn, m)) (hx : m.extImplied = true) :
    ∃ m', (run n d)[i]? = some (mn, m') ∧ m'.extImplied = true ∧ ∀ p ∈ m'.types, p.2.Marked := by
  obtain ⟨m', hm', hsk⟩ := header_of_skel_eq (skel_run n d) h
  have hx' : m'.extImplied = true := by rw [(Module.skel_fields hsk).2.1]; exact hx
  exact ⟨m', hm', hx', run_extensibility_implied n d i mn m' hm' hx'⟩

/-- the member-list of the element type of a SEQUENCE OF / SET OF written in place -/
def elementMembers : Desc → Option (List Item)
  | .mk _ (.element (.mk _ (.members ms))) => some ms
  | _ => none

def typeOf (s : Spec) (mn tn : String) : Option Desc :=
  match find? mn s with
  | none => none
  | some m => find? tn m.types

def elementMarkers (s : Spec) (mn tn : String) : Option (List Bool) :=
  match typeOf s mn tn with
  | none => none
  | some d => (elementMembers d).map (fun ms => ms.map Item.isMarker)

/-- `A ::= SEQUENCE OF CHOICE { item OCTET STRING }`, the CHOICE written in place, no marker -/
def exA : Desc :=
  .mk { type := "SEQUENCE OF" } (.element (.mk { type := "CHOICE" } (.members [
    .desc (.mk { type := "OCTET STRING", name := some "item" } .leaf)])))

/-- `M DEFINITIONS EXTENSIBILITY IMPLIED ::= BEGIN A ::= SEQUENCE OF CHOICE { item OCTET STRING } END` -/
def exImplied : Spec := [("M", { extImplied := true, types := [("A", exA)] })]

def exPlain : Spec := [("M", { extImplied := false, types := [("A", exA)] })]

example : elementMarkers exImplied "M" "A" = some [false] := by decide +kernel

/-- after the rewrite the CHOICE inside the SEQUENCE OF has the member and then the marker -/
theorem exImplied_marker : elementMarkers (run false exImplied) "M" "A" = some [false, true] := by
  decide +kernel

theorem exImplied_last :
    (((typeOf (run false exImplied) "M" "A").bind elementMembers).bind List.getLast?).map
      Item.isMarker = some true := by
  decide +kernel

/-- `numeric_enums` makes no difference -/
example : elementMarkers (run true exImplied) "M" "A" = some [false, true] := by decide +kernel

theorem exPlain_no_marker : elementMarkers (run false exPlain) "M" "A" = some [false] := by
  decide +kernel

example : ∀ m, (run false exImplied)[0]? = some ("M", m) → ∀ p ∈ m.types, p.2.Marked := by
  intro m hm
  refine run_extensibility_implied false exImplied 0 "M" m hm ?_
  obtain ⟨m', hm', hx, _⟩ :=
    run_extensibility_implied_of_source false exImplied 0 "M" _ rfl rfl
  rw [hm] at hm'
  simp only [Option.some.injEq, Prod.mk.injEq, true_and] at hm'
  rw [hm']; exact hx

theorem exA_not_marked : ¬ exA.Marked := by
  simp [exA, Desc.Marked, Body.Marked, hasMarker]

/-- the rewrite leaves the module without the flag as it is (nothing to tag, no DEFAULT) -/
theorem exPlain_unchanged : run false exPlain = exPlain := by rfl

theorem exPlain_not_marked :
    ¬ ∀ mn m, (run false exPlain)[0]? = some (mn, m) → ∀ p ∈ m.types, p.2.Marked := by
  rw [exPlain_unchanged]
  intro h
  exact exA_not_marked
    (h "M" { extImplied := false, types := [("A", exA)] } rfl ("A", exA) (List.mem_singleton.2 rfl))

/-
  Two modules with one name (impossible for a Python dictionary, possible for the association list
  `Spec`): the rewrite addresses modules by POSITION, so the theorem needs no "distinct module
  names" hypothesis.  Both copies are rewritten, each according to its own header.
-/
def exDup : Spec :=
  [("M", { extImplied := true, types := [("A", exA)] }),
   ("M", { extImplied := false, types := [("A", exA)] }),
   ("M", { extImplied := true, types := [("A", exA)] })]

def markersAt (s : Spec) (i : Nat) : Option (List Bool) :=
  match s[i]? with
  | none => none
  | some (_, m) =>
    match m.types with
    | [(_, d)] => (elementMembers d).map (fun ms => ms.map Item.isMarker)
    | _ => none

theorem exDup_markers :
    markersAt (run false exDup) 0 = some [false, true]
    ∧ markersAt (run false exDup) 1 = some [false]
    ∧ markersAt (run false exDup) 2 = some [false, true] := by
  decide +kernel

/-
  COMPONENTS OF from a module WITHOUT the flag into a module WITH the flag: the copied members are
  part of the type assignment of the flagged module and get their markers too (pass 1 runs before
  pass 2 in the same module).

    N DEFINITIONS ::= BEGIN  S ::= SEQUENCE { c CHOICE { x NULL } }  END
    M DEFINITIONS EXTENSIBILITY IMPLIED ::= BEGIN IMPORTS S FROM N;
        T ::= SEQUENCE { COMPONENTS OF S }  END
-/
def exCompOf : Spec :=
  [("N", { types := [("S", .mk { type := "SEQUENCE" } (.members [
      .desc (.mk { type := "CHOICE", name := some "c" } (.members [
        .desc (.mk { type := "NULL", name := some "x" } .leaf)]))]))] }),
   ("M", { extImplied := true, imports := [("N", ["S"])], types := [
      ("T", .mk { type := "SEQUENCE" } (.members [.compOf "S"]))] })]

/-- the marker flags of the member list of a type and of the member list of its first member -/
def outerInner : Option Desc → Option (List Bool × List Bool)
  | some (.mk _ (.members (.desc (.mk a (.members inner)) :: rest))) =>
    some ((Item.desc (.mk a (.members inner)) :: rest).map Item.isMarker, inner.map Item.isMarker)
  | _ => none

theorem exCompOf_markers :
    outerInner (typeOf (run false exCompOf) "M" "T") = some ([false, true], [false, true])
    ∧ outerInner (typeOf (run false exCompOf) "N" "S") = some ([false], [false]) := by
  decide +kernel

end Asn1.C19e

#print axioms Asn1.C19e.extDesc_marked
#print axioms Asn1.C19e.marked_iff_extDesc_eq
#print axioms Asn1.C19e.tagDesc_marked
#print axioms Asn1.C19e.defDesc_marked
#print axioms Asn1.C19e.locDesc_marked
#print axioms Asn1.C19e.run_extensibility_implied
#print axioms Asn1.C19e.run_extensibility_implied_mem
#print axioms Asn1.C19e.run_extensibility_implied_of_source
#print axioms Asn1.C19e.exImplied_marker
#print axioms Asn1.C19e.exImplied_last
#print axioms Asn1.C19e.exPlain_no_marker
#print axioms Asn1.C19e.exPlain_not_marked
#print axioms Asn1.C19e.exDup_markers
#print axioms Asn1.C19e.exCompOf_markers
