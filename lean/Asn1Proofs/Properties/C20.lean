import Asn1Proofs.Lemmas.GserParse
import Asn1Proofs.Lemmas.GserTree
import Asn1Proofs.Lemmas.GserUtf8
import Asn1Proofs.Lemmas.GserCanon
/-
  C20 — "GSER output is well-formed value notation that determines the value: for every type and value
  the GSER encoder emits text that an independent RFC 3641 reader parses completely and maps back to the
  same abstract value, in both compact and indented layouts; two different values never produce the same
  text."

  Model (Asn1Model/Gser.lean, validated against codecs/gser.py by tools/compare_gser.py and on every run of
  the check): the writer `Gser.enc` (the Value text), `Gser.encTop` (`name Name ::= Value`), `Gser.encode`
  (octets), and the reader `Gser.read` / `Gser.readTop` / `Gser.decode`, written from the ABNF of RFC 3641;
  "parses completely" = nothing but white space may follow.

  "The same abstract value" is `Gser.canonG t v`: `v` with the unused bits of BIT STRINGs cleared (they are
  not in the text) and absent DEFAULT components filled in (root members and additions alike).

  Hypotheses (all decidable):
    `t.wf`          the type is one the compiler accepts (distinct member / alternative / item names ...)
    `hasType t v`   the value passes the library's type and constraint checks
    `Gser.idsOk t`  every name in the type is an RFC 3641 identifier (the ASN.1 parser admits no others)
    `Gser.typeNameOk name`  (whole texts only) the type name is a typereference
  The closed witnesses at the end show that `idsOk`, `typeNameOk` and `hasType` are needed (none for `t.wf`).

  Recorded deviation (finding predicate `Gser.hasChoiceText`): a ChoiceValue is written `id : value`; the
  ABNF has no white space around the colon.  The round trip is proved for the reader that accepts it
  (X.680 value notation); `gser_strict_outside_choice` proves that the strict ABNF reader reads every
  text without a ChoiceValue, `strict_abnf_rejects_choice_text` is the witness.
-/
namespace Asn1.C20
open Asn1 Asn1.Gser

theorem gser_tree_roundtrip (t : Ty) (v : Val) (g : GVal)
    (hwf : t.wf = true) (hid : idsOk t = true) (ht : hasType t v = true) (he : toG t v = .ok g) :
    toVal t g = some (canonG t v) :=
  ((toG_spec hwf ht he).2 hid).1

theorem gser_tree_wf (t : Ty) (v : Val) (g : GVal)
    (hwf : t.wf = true) (hid : idsOk t = true) (ht : hasType t v = true) (he : toG t v = .ok g) :
    wfG g = true :=
  ((toG_spec hwf ht he).2 hid).2

/-- `indent`: compact (`none`, the library's `indent=None`) or indented with any width (`some n`) -/
theorem gser_parse_render (indent : Option Nat) (g : GVal) (hg : wfG g = true) :
    parseValue true (render indent g) = some g :=
  parseValue_render true indent g hg (Or.inl rfl)

theorem gser_parse_layout (ind : Nat) (sep lead : List Nat) (g : GVal) (hg : wfG g = true)
    (hs : ∀ c ∈ sep, Json.isWs c = true) (hl : ∀ c ∈ lead, Json.isWs c = true) :
    parseValue true (lead ++ renderV ind sep g) = some g :=
  parseValue_ws_renderV true ind sep g hg (Or.inl rfl) hs lead hl

theorem gser_enc_total (name : String) (t : Ty) (v : Val) (indent : Option Nat)
    (hwf : t.wf = true) (ht : hasType t v = true) :
    (∃ s, enc t v indent = .ok s) ∧ (∃ s, encTop name t v indent = .ok s) ∧
      (∃ bs, encode name t v indent = .ok bs) := by
  obtain ⟨g, hg, _⟩ := rt_all t v hwf ht
  have h1 := enc_of_toG indent hg
  have h2 := encTop_of_enc name h1
  exact ⟨⟨_, h1⟩, ⟨_, h2⟩, ⟨_, encode_of_encTop h2⟩⟩

/-- C20 for the Value text: in every layout the text the writer emits is parsed completely by the
independent reader and maps back to the canonical value -/
theorem gser_roundtrip (t : Ty) (v : Val) (indent : Option Nat) (s : List Nat)
    (hwf : t.wf = true) (hid : idsOk t = true) (ht : hasType t v = true) (he : enc t v indent = .ok s) :
    read t s = some (canonG t v) := by
  obtain ⟨g, hg, _⟩ := rt_all t v hwf ht
  obtain ⟨ind, sep, hs, e⟩ := render_eq indent g
  rw [enc_of_toG indent hg, Except.ok.injEq] at he
  rw [← he, e]
  exact read_layout hwf hid ht hg ind sep [] hs (List.forall_mem_nil _)

/-- the whole text `name Name ::= Value` is read as a value assignment with the two names and the
canonical value -/
theorem gser_roundtrip_top (name : String) (t : Ty) (v : Val) (indent : Option Nat) (s : List Nat)
    (hwf : t.wf = true) (hid : idsOk t = true) (hn : typeNameOk name = true) (ht : hasType t v = true)
    (he : encTop name t v indent = .ok s) :
    readTop t s = some ((Jer.strCps name).map lowerAscii, Jer.strCps name, canonG t v) := by
  obtain ⟨g, hg, _, hr⟩ := rt_all t v hwf ht
  obtain ⟨h1, h2⟩ := hr hid
  rw [encTop_of_enc name (enc_of_toG indent hg), Except.ok.injEq] at he
  rw [← he, readTop, parseAssignment_render true (Jer.strCps name) hn indent g h2 (Or.inl rfl)]
  simp only [h1]

/-- the octets (`encoded.encode('utf-8')`): decoding them as UTF-8 and reading the text gives the
canonical value -/
theorem gser_roundtrip_octets (name : String) (t : Ty) (v : Val) (indent : Option Nat) (bs : Bytes)
    (hwf : t.wf = true) (hid : idsOk t = true) (hn : typeNameOk name = true) (ht : hasType t v = true)
    (he : encode name t v indent = .ok bs) :
    decode t bs = some ((Jer.strCps name).map lowerAscii, Jer.strCps name, canonG t v) := by
  obtain ⟨g, hg, hss, hr⟩ := rt_all t v hwf ht
  have hs := encTop_of_enc name (enc_of_toG indent hg)
  rw [encode_of_encTop hs, Except.ok.injEq] at he
  rw [← he, decode, textCps_utf8Enc _ (assignment_scalar _ hn indent g (hr hid).2 hss)]
  exact gser_roundtrip_top name t v indent _ hwf hid hn ht hs

/-- two values with the same text are the same abstract value, even when the two texts were written with
different layouts -/
theorem gser_injective (t : Ty) (v w : Val) (i j : Option Nat) (s : List Nat)
    (hwf : t.wf = true) (hid : idsOk t = true) (hv : hasType t v = true) (hw : hasType t w = true)
    (h1 : enc t v i = .ok s) (h2 : enc t w j = .ok s) :
    canonG t v = canonG t w := by
  have a := gser_roundtrip t v i s hwf hid hv h1
  have b := gser_roundtrip t w j s hwf hid hw h2
  rw [a] at b
  exact Option.some.inj b

/-- contrapositive, as the property states it: different abstract values never produce the same text -/
theorem gser_different_values_different_texts (t : Ty) (v w : Val) (i : Option Nat) (s s' : List Nat)
    (hwf : t.wf = true) (hid : idsOk t = true) (hv : hasType t v = true) (hw : hasType t w = true)
    (hne : canonG t v ≠ canonG t w) (h1 : enc t v i = .ok s) (h2 : enc t w i = .ok s') :
    s ≠ s' := by
  intro e
  subst e
  exact hne (gser_injective t v w i i s hwf hid hv hw h1 h2)

theorem gser_injective_octets (name : String) (t : Ty) (v w : Val) (i j : Option Nat) (bs : Bytes)
    (hwf : t.wf = true) (hid : idsOk t = true) (hn : typeNameOk name = true)
    (hv : hasType t v = true) (hw : hasType t w = true)
    (h1 : encode name t v i = .ok bs) (h2 : encode name t w j = .ok bs) :
    canonG t v = canonG t w := by
  have a := gser_roundtrip_octets name t v i bs hwf hid hn hv h1
  have b := gser_roundtrip_octets name t w j bs hwf hid hn hw h2
  rw [a] at b
  simp only [Option.some.injEq, Prod.mk.injEq, true_and] at b
  exact b

theorem gser_indent_irrelevant (t : Ty) (v : Val) (i j : Option Nat) (s s' : List Nat)
    (hwf : t.wf = true) (hid : idsOk t = true) (ht : hasType t v = true)
    (h1 : enc t v i = .ok s) (h2 : enc t v j = .ok s') :
    read t s = read t s' := by
  rw [gser_roundtrip t v i s hwf hid ht h1, gser_roundtrip t v j s' hwf hid ht h2]

theorem gser_reencode (t : Ty) (v : Val) (i j : Option Nat) (s : List Nat)
    (hwf : t.wf = true) (hid : idsOk t = true) (ht : hasType t v = true) (h1 : enc t v i = .ok s)
    (w : Val) (hr : read t s = some w) (hw : hasType t w = true) (s' : List Nat) (h2 : enc t w j = .ok s') :
    read t s' = some (canonG t w) ∧ w = canonG t v := by
  have a := gser_roundtrip t v i s hwf hid ht h1
  rw [a] at hr
  exact ⟨gser_roundtrip t w j s' hwf hid hw h2, (Option.some.inj hr).symm⟩

/-- `canonG` is `canon` (the value the library's binary decoders return) whenever no extension addition is
declared DEFAULT (`addsPlain`, decidable): the two differ only in that `canon` leaves an absent DEFAULT
addition absent, while a reader of the notation has no reason to treat additions differently (X.680 25.9) -/
theorem canonG_eq_canon (t : Ty) (v : Val) (hp : addsPlain t = true) : canonG t v = canon t v :=
  (canonG_eq_canonV t v).trans (ce_all t hp v)

theorem gser_roundtrip_canon (t : Ty) (v : Val) (indent : Option Nat) (s : List Nat)
    (hwf : t.wf = true) (hid : idsOk t = true) (hp : addsPlain t = true) (ht : hasType t v = true)
    (he : enc t v indent = .ok s) :
    read t s = some (canon t v) := by
  rw [← canonG_eq_canon t v hp]
  exact gser_roundtrip t v indent s hwf hid ht he

theorem canonG_differs_on_default_addition :
    let t : Ty := .sequence .nil true (.cons "x" (.default (.int 5)) (.integer ⟨none, none, false⟩) .nil)
    addsPlain t = false ∧ (canonG t (.record []) == .record [("x", .int 5)]) = true ∧
      (canon t (.record []) == .record []) = true := by
  refine ⟨by decide, by decide +kernel, by decide +kernel⟩

/-- outside the finding predicate the strict ABNF reader (no white space around `:`) reads the text too -/
theorem gser_strict_outside_choice (t : Ty) (v : Val) (indent : Option Nat) (g : GVal)
    (hwf : t.wf = true) (hid : idsOk t = true) (ht : hasType t v = true) (hg : toG t v = .ok g)
    (hc : hasChoiceText g = false) :
    parseValue false (render indent g) = some g :=
  parseValue_render false indent g ((toG_spec hwf ht hg).2 hid).2 (Or.inr hc)

/-- witness of the deviation: the text the writer emits for a CHOICE value, `a : NULL`, is rejected by the
strict ABNF reader, which accepts `a:NULL`; the X.680 reader accepts both -/
theorem strict_abnf_rejects_choice_text :
    enc (.choice (.cons "a" .null .nil) false .nil) (.choice "a" .null) none = .ok [97, 32, 58, 32, 78, 85, 76, 76] ∧
    parseValue false [97, 32, 58, 32, 78, 85, 76, 76] = none ∧
    parseValue false [97, 58, 78, 85, 76, 76] = some (.choice [97] (.word kNULL)) ∧
    parseValue true [97, 32, 58, 32, 78, 85, 76, 76] = some (.choice [97] (.word kNULL)) ∧
    parseValue true [97, 58, 78, 85, 76, 76] = some (.choice [97] (.word kNULL)) := by
  refine ⟨by rfl, by rfl, by rfl, by rfl, by rfl⟩

/-- `idsOk` is necessary: an ENUMERATED item named `a b` (not an identifier) is written as `a b`, which is
not a Value -/
theorem ids_necessary :
    let t : Ty := .enumerated [("a b", 0)] none
    t.wf = true ∧ hasType t (.enum "a b") = true ∧ idsOk t = false ∧
      enc t (.enum "a b") none = .ok [97, 32, 98] ∧ read t [97, 32, 98] = none := by
  refine ⟨by decide, by decide, by decide, by rfl, by rfl⟩

/-- `idsOk` is necessary (names that look like other tokens): a member named `TRUE` is not read as a member name -/
theorem ids_necessary_keyword :
    let t : Ty := .sequence (.cons "TRUE" .mandatory .boolean .nil) false .nil
    t.wf = true ∧ hasType t (.record [("TRUE", .bool true)]) = true ∧ idsOk t = false ∧
      (match enc t (.record [("TRUE", .bool true)]) none with
       | .ok s => (read t s).isNone
       | .error _ => false) = true := by
  refine ⟨by decide, by decide, by decide, by rfl⟩

/-- `typeNameOk` is necessary: with the type name `a b` the prefix is not a value assignment -/
theorem type_name_necessary :
    typeNameOk "a b" = false ∧
    (match encTop "a b" .boolean (.bool true) none with
     | .ok s => (readTop .boolean s).isNone
     | .error _ => false) = true := by
  refine ⟨by decide, by rfl⟩

/-- `hasType` is necessary (1): a BIT STRING value with fewer octets than its length says is written with the
bits it has; the text reads back as a shorter BIT STRING -/
theorem typed_necessary_bits :
    let t : Ty := .bitString ⟨0, none, false⟩
    hasType t (.bits [] 5) = false ∧ enc t (.bits [] 5) none = .ok [39, 39, 66] ∧
      (match read t [39, 39, 66] with
       | some w => w == .bits [] 0 && !(w == canonG t (.bits [] 5))
       | none => false) = true := by
  refine ⟨by decide, by rfl, by rfl⟩

/-- `hasType` is necessary (2): a record without a mandatory member is refused (EncodeError) -/
theorem typed_necessary_mandatory :
    let t : Ty := .sequence (.cons "a" .mandatory .boolean .nil) false .nil
    hasType t (.record []) = false ∧ enc t (.record []) none = .error .encodeError := by
  refine ⟨by decide, by rfl⟩

/-- the text of an encoder result (`none` = refused), a type with decidable equality -/
def txt (r : Except Uper.Err (List Nat)) : Option (List Nat) :=
  match r with
  | .ok s => some s
  | .error _ => none

def cps (s : String) : List Nat := s.toList.map Char.toNat

/-- The characters of a string literal without evaluating `String.toList` (a literal is `String.ofList` of its
characters by definition): the kernel's evaluation of `String.toList` decodes UTF-8 and grows faster than
linearly with the length of the literal. -/
theorem cps_ofList (l : List Char) : cps (String.ofList l) = l.map Char.toNat := by
  rw [cps, String.toList_ofList]

/-- a SEQUENCE OF SEQUENCE with OPTIONAL, DEFAULT (root and addition), BIT STRINGs (empty, with unused bits),
an OCTET STRING, an ENUMERATED, a UTF8String with quotes / new-line / NUL / non-ASCII characters and a
CHOICE inside a CHOICE -/
def exT : Ty :=
  .sequenceOf (.sequence
    (.cons "a" .optional (.integer ⟨some 0, some 300, true⟩)
    (.cons "b" (.default (.bool true)) .boolean
    (.cons "c" .mandatory (.bitString ⟨4, some 4, false⟩)
    (.cons "d" .mandatory (.bitString ⟨0, none, false⟩)
    (.cons "s" .mandatory (.charString .utf8 ⟨0, none, false⟩) .nil))))) true
    (.cons "x" (.default (.int 5)) (.integer ⟨none, none, false⟩)
    (.cons "y-z" .optional (.choice (.cons "n" .null (.cons "o" (.octetString ⟨0, none, false⟩) .nil)) true
      (.cons "e" (.enumerated [("r", 0)] (some [("q2", 1)]))
      (.cons "c" (.choice (.cons "l" (.sequenceOf (.sequenceOf .boolean ⟨0, none, false⟩) ⟨0, none, false⟩) .nil) false .nil)
      .nil))) .nil))) ⟨0, some 3, true⟩

def exV : Val :=
  .list [.record [("a", .int 70000), ("c", .bits [0xaf] 4), ("d", .bits [0xff, 0x80] 9),
                  ("s", .str [97, 34, 34, 92, 10, 0, 233, 0x1d11e, 34]), ("y-z", .choice "e" (.enum "q2"))],
         .record [("b", .bool false), ("c", .bits [0x50] 4), ("d", .bits [] 0), ("s", .str []),
                  ("x", .int (-1)), ("y-z", .choice "o" (.bytes []))],
         .record [("c", .bits [0x00] 4), ("d", .bits [0x80] 1), ("s", .str [34]),
                  ("y-z", .choice "c" (.choice "l" (.list [.list [], .list [.bool true, .bool false]])))]]

example : exT.wf = true ∧ hasType exT exV = true ∧ idsOk exT = true ∧ typeNameOk "My-Type2" = true := by
  refine ⟨by decide +kernel, by decide +kernel, by decide +kernel, by decide +kernel⟩

example : ∀ indent ∈ [none, some 0, some 1, some 4],
    (match enc exT exV indent with
     | .ok s => (match read exT s with | some w => w == canonG exT exV | none => false)
     | .error _ => false) = true := by decide +kernel

example : ∀ indent ∈ [none, some 0, some 2],
    (match encode "My-Type2" exT exV indent with
     | .ok bs => (match decode exT bs with
                  | some (vn, tn, w) => vn == Jer.strCps "my-type2" && tn == Jer.strCps "My-Type2" && w == canonG exT exV
                  | none => false)
     | .error _ => false) = true := by decide +kernel

/-- the canonical value differs from the value: DEFAULTs filled in (`b`, `x`), unused bits cleared (`c` of the
first record: `0xaf` -> `0xa0`) -/
example : canonG exT exV =
  .list [.record [("a", .int 70000), ("b", .bool true), ("c", .bits [0xa0] 4), ("d", .bits [0xff, 0x80] 9),
                  ("s", .str [97, 34, 34, 92, 10, 0, 233, 0x1d11e, 34]), ("x", .int 5), ("y-z", .choice "e" (.enum "q2"))],
         .record [("b", .bool false), ("c", .bits [0x50] 4), ("d", .bits [] 0), ("s", .str []),
                  ("x", .int (-1)), ("y-z", .choice "o" (.bytes []))],
         .record [("b", .bool true), ("c", .bits [0x00] 4), ("d", .bits [0x80] 1), ("s", .str [34]), ("x", .int 5),
                  ("y-z", .choice "c" (.choice "l" (.list [.list [], .list [.bool true, .bool false]])))]] := by
  rfl

example :
    txt (enc (.sequence (.cons "s" .mandatory (.charString .ia5 ⟨0, none, false⟩)
          (.cons "o" .mandatory (.octetString ⟨0, none, false⟩)
          (.cons "b" .mandatory (.bitString ⟨0, none, false⟩)
          (.cons "l" .mandatory (.sequenceOf (.sequenceOf .boolean ⟨0, none, false⟩) ⟨0, none, false⟩)
          (.cons "c" .mandatory (.choice (.cons "x" (.choice (.cons "y" (.integer ⟨none, none, false⟩) .nil) false .nil) .nil) false .nil)
          .nil))))) false .nil)
      (.record [("s", .str [97, 34, 98]), ("o", .bytes []), ("b", .bits [] 0),
                ("l", .list [.list [], .list [.bool true]]), ("c", .choice "x" (.choice "y" (.int (-12))))]) none)
    = some (cps "{ s \"a\"\"b\", o ''H, b ''B, l { { }, { TRUE } }, c x : y : -12 }") := by
  rw [cps_ofList]
  decide +kernel

example :
    txt (encTop "A" (.sequenceOf (.sequence (.cons "a" .mandatory .boolean .nil) false .nil) ⟨0, none, false⟩)
      (.list [.record [("a", .bool true)], .record [("a", .bool false)]]) (some 2))
    = some (cps "a A ::= {\n  {\n    a TRUE\n  },\n  {\n    a FALSE\n  }\n}") := by
  rw [cps_ofList]
  decide +kernel

/-- near misses are told apart: strings differing by a quote, `''B` / `''H`, bit strings differing in
trailing zero bits, an empty list and a list with an empty list -/
example :
    txt (enc (.charString .ia5 ⟨0, none, false⟩) (.str [97, 34, 98]) none) ≠ txt (enc (.charString .ia5 ⟨0, none, false⟩) (.str [97, 34, 34, 98]) none) ∧
    txt (enc (.bitString ⟨0, none, false⟩) (.bits [0x80] 1) none) ≠ txt (enc (.bitString ⟨0, none, false⟩) (.bits [0x80] 2) none) ∧
    txt (enc (.bitString ⟨0, none, false⟩) (.bits [] 0) none) ≠ txt (enc (.octetString ⟨0, none, false⟩) (.bytes []) none) ∧
    txt (enc (.sequenceOf (.sequenceOf .null ⟨0, none, false⟩) ⟨0, none, false⟩) (.list []) none) ≠
      txt (enc (.sequenceOf (.sequenceOf .null ⟨0, none, false⟩) ⟨0, none, false⟩) (.list [.list []]) none) := by
  refine ⟨by decide +kernel, by decide +kernel, by decide +kernel, by decide +kernel⟩

example :
    parseValue true (cps "1 2") = none ∧ parseValue true ("01"|> cps) = none ∧
    parseValue true ("-0"|> cps) = none ∧ parseValue true ("{ a 1, }"|> cps) = none ∧
    parseValue true ("'ab'H"|> cps) = none ∧ parseValue true ("\"a\"b\""|> cps) = none ∧
    parseValue true ("\"abc"|> cps) = none ∧ parseValue true ("'012'B"|> cps) = none ∧
    parseValue true ("a-"|> cps) = none ∧ parseValue true ("{ a 1"|> cps) = none := by
  refine ⟨by decide +kernel, by decide +kernel, by decide +kernel, by decide +kernel, by decide +kernel,
    by decide +kernel, by decide +kernel, by decide +kernel, by decide +kernel, by decide +kernel⟩

example :
    let t : Ty := .sequence (.cons "a" .mandatory .boolean (.cons "b" .optional (.integer ⟨none, none, false⟩) .nil)) false .nil
    (match read t ("{ a TRUE, b 1 }"|> cps) with
     | some w => w == .record [("a", .bool true), ("b", .int 1)]
     | none => false) = true ∧
    (read t ("{ b 1, a TRUE }"|> cps)).isNone = true ∧
    (read t ("{ b 1 }"|> cps)).isNone = true ∧
    (read t ("{ a TRUE, c 1 }"|> cps)).isNone = true ∧
    (read t ("{ a 1 }"|> cps)).isNone = true ∧
    (read t ("{ TRUE }"|> cps)).isNone = true := by
  refine ⟨by decide +kernel, by decide +kernel, by decide +kernel, by decide +kernel, by decide +kernel, by decide +kernel⟩

end Asn1.C20
