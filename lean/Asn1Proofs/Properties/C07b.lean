import Asn1Model.Extension
import Asn1Model.BerCodec
import Asn1Proofs.Lemmas.ExtLemmas
import Asn1Proofs.Lemmas.ExtBer
/-
  C07 for the BER model: the statements and side conditions of `C07.forward_der` / `C07.backward_der`
  (C07.lean), with the BER encoder and the BER decoder; proved in Lemmas/ExtBer.lean under the same names.

  The BER encoder of the model is the DER encoder by definition (`BerCodec.enc := Der.enc`); the BER
  decoder is a different function (indefinite lengths, constructed strings, constructed string tags
  in the `tag_to_member` of a CHOICE).  Its SEQUENCE and CHOICE parts are the shared code of ber.py
  (`Der.gSeq` / `Der.gChoice`, `Der.IsCodec`), so those cases are proved once for BER and DER, with the
  decoder as a parameter (`Ext.DerX.xtg_all`); particular to BER are the round trip of the leaf types
  under its own decoder and its SEQUENCE OF loop, which on definite lengths is the der.py loop
  (`Der.items_some`).
-/
namespace Asn1.C07b
open Asn1 Asn1.Ext

/-- BER forward, recursive decoder in any tagging context: value, exact length of the
encoding, and exactly the octets that follow -/
theorem forward_ber_dec (t1 t2 : Ty) (tg : Option Nat) (v : Val) (bytes rest : Bytes) (fuel : Nat)
    (hx : Extends t1 t2)
    (hwf : t2.wf = true) (henum : Oer.oerWf t2 = true) (hd1 : X690.defaultsOkV t1 = true)
    (hd2 : X690.defaultsOkV t2 = true) (ht : hasType t2 v = true)
    (he : BerCodec.enc t2 tg v = .ok bytes) (hf : bytes.length < fuel) :
    BerCodec.dec t1 tg fuel (bytes ++ rest) =
      .ok (some (X690.canonV t1 (project t1 t2 v), bytes.length, rest)) :=
  BerX.forward_ber_dec t1 t2 tg v bytes rest fuel hx hwf henum hd1 hd2 ht he hf

/-- BER forward, `decode_with_length` of the V1 specification on a V2 encoding
followed by arbitrary octets -/
theorem forward_ber (t1 t2 : Ty) (v : Val) (bytes rest : Bytes)
    (hx : Extends t1 t2)
    (hwf : t2.wf = true) (henum : Oer.oerWf t2 = true) (hd1 : X690.defaultsOkV t1 = true)
    (hd2 : X690.defaultsOkV t2 = true) (ht : hasType t2 v = true)
    (he : BerCodec.encode t2 v = .ok bytes) :
    BerCodec.decodeWithLength t1 (bytes ++ rest) =
      .ok (X690.canonV t1 (project t1 t2 v), bytes.length) :=
  BerX.forward_ber t1 t2 v bytes rest hx hwf henum hd1 hd2 ht he

/-- BER backward, recursive decoder in any tagging context -/
theorem backward_ber_dec (t1 t2 : Ty) (tg : Option Nat) (v : Val) (bytes rest : Bytes) (fuel : Nat)
    (hx : Extends t1 t2)
    (hwf : t2.wf = true) (henum : Oer.oerWf t2 = true) (hd1 : X690.defaultsOkV t1 = true)
    (hd2 : X690.defaultsOkV t2 = true) (ht : hasType t1 v = true)
    (he : BerCodec.enc t1 tg v = .ok bytes) (hf : bytes.length < fuel) :
    BerCodec.dec t2 tg fuel (bytes ++ rest) = .ok (some (X690.canonV t2 v, bytes.length, rest)) :=
  BerX.backward_ber_dec t1 t2 tg v bytes rest fuel hx hwf henum hd1 hd2 ht he hf

/-- BER backward, `decode_with_length` of the V2 specification on a V1 encoding -/
theorem backward_ber (t1 t2 : Ty) (v : Val) (bytes rest : Bytes)
    (hx : Extends t1 t2)
    (hwf : t2.wf = true) (henum : Oer.oerWf t2 = true) (hd1 : X690.defaultsOkV t1 = true)
    (hd2 : X690.defaultsOkV t2 = true) (ht : hasType t1 v = true)
    (he : BerCodec.encode t1 v = .ok bytes) :
    BerCodec.decodeWithLength t2 (bytes ++ rest) = .ok (X690.canonV t2 v, bytes.length) :=
  BerX.backward_ber t1 t2 v bytes rest hx hwf henum hd1 hd2 ht he

/-- BER: the encoding of a V1 value does not change when the type is extended (the BER encoder is the
DER encoder, `C07.der_enc_stable`) -/
theorem ber_enc_stable (t1 t2 : Ty) (tg : Option Nat) (v : Val) (hx : Extends t1 t2)
    (hwf : t2.wf = true) (ht : hasType t1 v = true) : BerCodec.enc t2 tg v = BerCodec.enc t1 tg v :=
  BerX.ber_enc_stable hx hwf tg v ht

/-! non-vacuity: a nested extension (an addition whose type is itself extended, inside a
SEQUENCE OF, with a string member so that the BER-only string decoder is on the path) -/

/-- V1: `SEQUENCE OF SEQUENCE { a BOOLEAN, s OCTET STRING, ..., b CHOICE { x NULL, ... } OPTIONAL }` -/
def exT1 : Ty := .sequenceOf (.sequence (.cons "a" .mandatory .boolean
    (.cons "s" .mandatory (.octetString ⟨0, none, false⟩) .nil)) true
  (.cons "b" .optional (.choice (.cons "x" .null .nil) true .nil) .nil)) ⟨0, none, false⟩
/-- V2: `SEQUENCE OF SEQUENCE { a BOOLEAN, s OCTET STRING, ...,
  b CHOICE { x NULL, ..., k1 IA5String } OPTIONAL, n1 INTEGER DEFAULT 7 }` -/
def exT2 : Ty := .sequenceOf (.sequence (.cons "a" .mandatory .boolean
    (.cons "s" .mandatory (.octetString ⟨0, none, false⟩) .nil)) true
  (.cons "b" .optional (.choice (.cons "x" .null .nil) true (.cons "k1" (.charString .ia5 ⟨0, none, false⟩) .nil))
    (.cons "n1" (.default (.int 7)) (.integer ⟨none, none, false⟩) .nil))) ⟨0, none, false⟩
/-- a V2 value using the new alternative and the new addition -/
def exV : Val := .list [.record [("a", .bool true), ("s", .bytes [1, 2]), ("b", .choice "k1" (.str [65])), ("n1", .int 5)],
  .record [("a", .bool false), ("s", .bytes []), ("b", .choice "x" .null)]]
/-- what V1 sees of it -/
def exV' : Val := .list [.record [("a", .bool true), ("s", .bytes [1, 2]), ("b", .choice "" .absent)],
  .record [("a", .bool false), ("s", .bytes []), ("b", .choice "x" .null)]]
def exV1 : Val := .list [.record [("a", .bool true), ("s", .bytes [9]), ("b", .choice "x" .null)],
  .record [("a", .bool false), ("s", .bytes [])]]
/-- what V2 sees of it: the DEFAULT of the addition only V2 knows is filled in -/
def exV1' : Val := .list [.record [("a", .bool true), ("s", .bytes [9]), ("b", .choice "x" .null), ("n1", .int 7)],
  .record [("a", .bool false), ("s", .bytes []), ("n1", .int 7)]]
def exBytes : Bytes := [48, 28, 48, 15, 128, 1, 255, 129, 2, 1, 2, 162, 3, 129, 1, 65, 131, 1, 5,
  48, 9, 128, 1, 0, 129, 0, 162, 2, 128, 0]
def exBytes1 : Bytes := [48, 19, 48, 10, 128, 1, 255, 129, 1, 9, 162, 2, 128, 0, 48, 5, 128, 1, 0, 129, 0]

example : extendsB exT1 exT2 = true ∧ extendsB exT2 exT1 = false ∧ project exT1 exT2 exV = exV' ∧
    X690.canonV exT1 exV' = exV' ∧ X690.canonV exT2 exV1 = exV1' := by
  refine ⟨by rfl, by rfl, by rfl, by rfl, by rfl⟩

/-- every hypothesis of `forward_ber` holds for the example, and its conclusion is the evaluated decoding -/
example : BerCodec.decodeWithLength exT1 (exBytes ++ [0, 0]) = .ok (exV', 30) :=
  forward_ber exT1 exT2 exV exBytes [0, 0] ((extendsB_iff _ _).1 (by rfl))
    (by decide +kernel) (by decide +kernel) (by decide +kernel) (by decide +kernel) (by decide +kernel)
    (by rfl)

/-- the same, evaluated in the kernel without the theorem -/
example : BerCodec.encode exT2 exV = .ok exBytes ∧
    BerCodec.decodeWithLength exT1 (exBytes ++ [0, 0]) = .ok (exV', 30) := by
  constructor <;> rfl

/-- backward: the V1 encoding of a V1 value decodes under V2 -/
example : BerCodec.decodeWithLength exT2 (exBytes1 ++ [5]) = .ok (exV1', 21) :=
  backward_ber exT1 exT2 exV1 exBytes1 [5] ((extendsB_iff _ _).1 (by rfl))
    (by decide +kernel) (by decide +kernel) (by decide +kernel) (by decide +kernel) (by decide +kernel)
    (by rfl)

example : BerCodec.encode exT1 exV1 = .ok exBytes1 ∧
    BerCodec.decodeWithLength exT2 (exBytes1 ++ [5]) = .ok (exV1', 21) := by
  constructor <;> rfl

end Asn1.C07b

#print axioms Asn1.C07b.forward_ber
#print axioms Asn1.C07b.backward_ber
#print axioms Asn1.C07b.forward_ber_dec
#print axioms Asn1.C07b.backward_ber_dec
#print axioms Asn1.C07b.ber_enc_stable
