import Asn1Proofs.Lemmas.X690CompAll
import Asn1Proofs.Lemmas.X690RefDec
/-
  C04: the BER decoder accepts every valid BER serialisation with the same meaning.

  "Valid BER serialisation of a value of type t" = accepted by the reference decoder
  `X690.berDecodeRef` (Asn1Model/X690.lean): any definite length form (padded long forms
  included), indefinite length + end-of-contents on every constructed encoding, OCTET / BIT /
  character strings as arbitrarily nested constructed segments, any non-zero octet for TRUE, any
  value of the unused bits; everything else as the DER encoder produces it.

  Named deviation of the code (decidable predicate `X690.berDeviates t bs`: accepted by the
  reference decoder but not by `X690.berDecodeRefStrict`, Asn1Model/X690Strict.lean):
    * `dirtyUnusedBits` -- `witness_dirty_unused_bits`.
  An indefinite-length SEQUENCE whose type has extension additions, none of them present, is no
  deviation: `fixed_indefinite_extensible_accepted` states what ber.py does there since /repo commit
  300e5ac.
-/
namespace Asn1.C04
open Asn1

/-- the encoder's output is in the specification: the code's BER / DER encoder output is, for
the reference decoder, a BER encoding of the canonical value.  `hlen`: the reference decoder follows X.690 8.1.3.5 c)
(at most 126 subsequent length octets, `X690.readLength_encLength`). -/
theorem encoder_in_spec (t : Ty) (v : Val) (bytes : Bytes)
    (hwf : t.wf = true) (henum : Oer.oerWf t = true) (hd : X690.defaultsOkV t = true)
    (ht : hasType t v = true) (he : Der.encode t v = .ok bytes) (hlen : bytes.length < 256 ^ 126) :
    X690.berDecodeRef t bytes = some (Der.canon' t v) :=
  X690.encoder_in_spec t v bytes hwf henum hd ht he hlen

/-- C04, completeness: every valid BER serialisation, outside the named deviations, is decoded by
the code's BER decoder to the same value -- for all types, all length forms, all nestings of
constructed strings, with no well-formedness hypothesis on the type -/
theorem complete (t : Ty) (bs : Bytes) (v : Val)
    (h : X690.berDecodeRef t bs = some v) (hdev : X690.berDeviates t bs = false) :
    BerCodec.decode t bs = .ok v :=
  X690.complete t bs v h hdev

/-- the same with the exact length and arbitrary trailing octets (`decode_with_length`) -/
theorem complete_with_length (t : Ty) (bs extra : Bytes) (v : Val)
    (h : X690.berDecodeRef t bs = some v) (hdev : X690.berDeviates t bs = false) :
    BerCodec.decodeWithLength t (bs ++ extra) = .ok (v, bs.length) :=
  X690.complete_strict_with_length t bs extra v (X690.strict_of_not_deviates t bs v h hdev)

/-- the recursive form: in any tagging context, whatever follows in the input -/
theorem complete_tagged (t : Ty) (tg : Option Nat) (fuel fuelC : Nat) (bs rest extra : Bytes) (v : Val)
    (h : X690.decVS t tg fuel bs = some (v, rest)) (hf : (bs ++ extra).length < fuelC) :
    ∃ k, BerCodec.dec t tg fuelC (bs ++ extra) = .ok (some (v, k, rest ++ extra)) ∧ bs.length = k + rest.length := by
  obtain ⟨k, hk, hl, _⟩ := X690.comp_all t tg fuel fuelC bs rest extra v h hf
  exact ⟨k, hk, hl⟩

/-- the deviation predicate only removes encodings: the strict reference decoder is a restriction
of the reference decoder -/
theorem strict_sub (t : Ty) (bs : Bytes) (v : Val)
    (h : X690.berDecodeRefStrict t bs = some v) : X690.berDecodeRef t bs = some v :=
  X690.berDecodeRefStrict_sub t bs v h

/-- the length forms and the primitive leaves (BOOLEAN, NULL, INTEGER, ENUMERATED), with no
deviation hypothesis at all -/
theorem complete_partial (t : Ty) (bs : Bytes) (v : Val) (hl : X690.isPrimLeaf t = true)
    (h : X690.berDecodeRef t bs = some v) : BerCodec.decode t bs = .ok v := by
  unfold X690.berDecodeRef at h
  split at h
  · rename_i v' hd
    cases h
    obtain ⟨k, hk, _⟩ := X690.complete_leaf t none (bs.length + 1) bs [] v hl hd
    simp only [BerCodec.decode, BerCodec.decodeWithLength, hk, Except.map]
  · cases h

/-- any definite length octets the reference decoder reads (short, long, padded long) are read by the
code's `decode_length` with the same value.  `h255`: `Ber.validLen` admits a first octet `0xff`, the reference
decoder does not (`X690.readLength_encLength`). -/
theorem any_length_form (l : Bytes) (n : Nat) (content rest : Bytes) (d : Bool)
    (hl : Ber.validLen l n) (h255 : l.head? ≠ some 255) (hc : content.length = n) :
    ∃ hdr, Der.readLen d (l ++ (content ++ rest)) = .ok (some n, hdr, content ++ rest) := by
  have h1 := X690.readLength_validLen l n (content ++ rest) hl h255
  subst hc
  obtain ⟨hdr, h2, _⟩ := X690.readLen_of_readLength (d := d) h1 (X690.takeN_append content rest)
  exact ⟨hdr, h2⟩

/-- ber.py since /repo commit 300e5ac: SEQUENCE { a BOOLEAN, ..., b INTEGER OPTIONAL }, indefinite length, no
addition present (`30 80 80 01 ff 00 00`) decodes, with DEFAULT additions filled in, also nested, also through
the DER model. -/
theorem fixed_indefinite_extensible_accepted :
    let t : Ty := .sequence (.cons "a" .mandatory .boolean .nil) true (.cons "b" .optional (.integer ⟨none, none, false⟩) .nil)
    let d : Ty := .sequence (.cons "a" .mandatory .boolean .nil) true (.cons "b" (.default (.int 7)) (.integer ⟨none, none, false⟩) .nil)
    let o : Ty := .sequence (.cons "x" .mandatory t (.cons "y" .mandatory .boolean .nil)) false .nil
    X690.berDecodeRef t [0x30, 0x80, 0x80, 0x01, 0xff, 0x00, 0x00] = some (.record [("a", .bool true)]) ∧
    BerCodec.decodeWithLength t [0x30, 0x80, 0x80, 0x01, 0xff, 0x00, 0x00] = .ok (.record [("a", .bool true)], 7) ∧
    BerCodec.decodeWithLength d [0x30, 0x80, 0x80, 0x01, 0xff, 0x00, 0x00] = .ok (.record [("a", .bool true), ("b", .int 7)], 7) ∧
    BerCodec.decodeWithLength o [0x30, 0x80, 0xa0, 0x80, 0x80, 0x01, 0xff, 0x00, 0x00, 0x81, 0x01, 0x00, 0x00, 0x00]
      = .ok (.record [("x", .record [("a", .bool true)]), ("y", .bool false)], 14) ∧
    BerCodec.decodeWithLength o [0x30, 0x0a, 0xa0, 0x80, 0x80, 0x01, 0xff, 0x00, 0x00, 0x81, 0x01, 0x00]
      = .ok (.record [("x", .record [("a", .bool true)]), ("y", .bool false)], 12) ∧
    X690.berDecodeRef o [0x30, 0x80, 0xa0, 0x80, 0x80, 0x01, 0xff, 0x00, 0x00, 0x81, 0x01, 0x00, 0x00, 0x00]
      = some (.record [("x", .record [("a", .bool true)]), ("y", .bool false)]) ∧
    BerCodec.decode t [0x30, 0x03, 0x80, 0x01, 0xff] = .ok (.record [("a", .bool true)]) ∧
    BerCodec.decode t [0x30, 0x80, 0x80, 0x01, 0xff, 0x81, 0x01, 0x05, 0x00, 0x00] = .ok (.record [("a", .bool true), ("b", .int 5)]) ∧
    Der.decodeWithLength t [0x30, 0x80, 0x80, 0x01, 0xff, 0x00, 0x00] = .ok (.record [("a", .bool true)], 7) ∧
    Der.decodeWithLength o [0x30, 0x0a, 0xa0, 0x80, 0x80, 0x01, 0xff, 0x00, 0x00, 0x81, 0x01, 0x00]
      = .ok (.record [("x", .record [("a", .bool true)]), ("y", .bool false)], 12) :=
  X690.fixed_indefinite_extensible_accepted

/-- the regression input is outside the deviation predicate -/
theorem fixed_indefinite_extensible_no_deviation :
    X690.berDeviates (.sequence (.cons "a" .mandatory .boolean .nil) true (.cons "b" .optional (.integer ⟨none, none, false⟩) .nil))
      [0x30, 0x80, 0x80, 0x01, 0xff, 0x00, 0x00] = false := by rfl

/-- deviation `dirtyUnusedBits`: the code returns the unused bits as part of the value -/
theorem witness_dirty_unused_bits :
    X690.berDecodeRef (.bitString ⟨0, none, false⟩) [0x03, 0x02, 0x05, 0xff] = some (.bits [0xe0] 3) ∧
    BerCodec.decode (.bitString ⟨0, none, false⟩) [0x03, 0x02, 0x05, 0xff] = .ok (.bits [0xff] 3) ∧
    X690.berDeviates (.bitString ⟨0, none, false⟩) [0x03, 0x02, 0x05, 0xff] = true :=
  ⟨X690.witness_dirty_unused_bits.1, X690.witness_dirty_unused_bits.2, by rfl⟩

-- non-vacuity of `complete`: padded long-form lengths, indefinite lengths, nested constructed
-- segments, in one encoding far from DER
example :
    let t : Ty := .sequence (.cons "s" .mandatory (.octetString ⟨0, none, false⟩)
      (.cons "l" .mandatory (.sequenceOf (.integer ⟨none, none, false⟩) ⟨0, none, false⟩) .nil)) false .nil
    let bs : Bytes := [0x30, 0x80,
      0xa0, 0x80, 0x04, 0x81, 0x01, 0xaa, 0x24, 0x05, 0x04, 0x00, 0x04, 0x01, 0xbb, 0x00, 0x00,
      0xa1, 0x83, 0x00, 0x00, 0x07, 0x02, 0x01, 0x05, 0x02, 0x81, 0x01, 0x07,
      0x00, 0x00]
    X690.berDecodeRef t bs = some (.record [("s", .bytes [0xaa, 0xbb]), ("l", .list [.int 5, .int 7])]) ∧
    X690.berDeviates t bs = false ∧
    BerCodec.decode t bs = .ok (.record [("s", .bytes [0xaa, 0xbb]), ("l", .list [.int 5, .int 7])]) := by
  refine ⟨by rfl, by rfl, by rfl⟩

end Asn1.C04

#print axioms Asn1.C04.complete_partial
