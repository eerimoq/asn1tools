import Asn1Model.Typing
import Asn1Model.Per
import Asn1Proofs.Lemmas.PerRoundtrip
import Asn1Proofs.Lemmas.PerCounterexample
/-
  C01 (binary codecs round-trip) for aligned PER, proved in Lemmas/PerRoundtrip.lean.  The finding predicates
  `Per.fragFree` and `Ty.nsOk` are defined in Lemmas/PerDefs.lean and Lemmas/UperDefs.lean.
-/
namespace Asn1.C01p
open Asn1

/-- C01 for aligned PER, at every start position: for every well-formed type of the model universe (as in
`C01.uper_roundtrip_partial`), every value the checkers accept, every number `pos` of bits already written to the
encoder and every continuation `rest`, the decoder started at `pos` returns the canonical value, leaves `rest` and
reports the position behind the encoding.  In particular every alignment the decoder performs
(`Decoder.align_always`) is matched by padding of the encoder.
Partial outside two finding predicates: `Per.fragFree`, the finding `C01-per-unfragmented-length` (a length ≥ 16384
written without fragmentation and used by the decoder: unconstrained INTEGER octet count, extensible OCTET STRING /
SEQUENCE OF outside the root, open type of a CHOICE addition; NOT the open type of a SEQUENCE addition, whose length
the decoder ignores), and `nsOk` as for UPER. -/
theorem per_roundtrip_partial (t : Ty) (v : Val) (pos : Nat) (bits rest : Bits) (fuel : Nat)
    (hwf : t.wf = true) (hd : t.defaultsOk = true) (ht : hasType t v = true)
    (hf : Per.fragFree t v = true) (hns : t.nsOk = true)
    (he : Per.enc t pos v = .ok bits)
    (hfuel : bits.length + rest.length + 2 ≤ fuel) :
    Per.dec t fuel ⟨pos, bits ++ rest⟩ = .ok (canon t v, ⟨pos + bits.length, rest⟩) :=
  Per.roundtrip_partial t v pos bits rest fuel hwf hd ht hf hns he hfuel

/-- the same with the decoder at any position `pos'` that agrees with the encoder's position modulo 8
(the situation inside an open type: the encoder fills a fresh buffer, the decoder reads it at an octet
boundary of the message) -/
theorem per_roundtrip_mod8 (t : Ty) (v : Val) (pos pos' : Nat) (bits rest : Bits) (fuel : Nat)
    (hwf : t.wf = true) (hd : t.defaultsOk = true) (ht : hasType t v = true)
    (hf : Per.fragFree t v = true) (hns : t.nsOk = true) (hp : pos' % 8 = pos % 8)
    (he : Per.enc t pos v = .ok bits)
    (hfuel : bits.length + rest.length + 2 ≤ fuel) :
    Per.dec t fuel ⟨pos', bits ++ rest⟩ = .ok (canon t v, ⟨pos' + bits.length, rest⟩) :=
  Per.rt_all t v pos pos' bits rest fuel hwf hd hns ht hf hp he hfuel

/-- every value accepted by the checkers is accepted by the aligned PER encoder, at every position -/
theorem per_enc_total (t : Ty) (v : Val) (pos : Nat)
    (hwf : t.wf = true) (ht : hasType t v = true) :
    ∃ bits, Per.enc t pos v = .ok bits := Per.enc_total t v pos hwf ht

/-- Top level: `Specification.decode(name, Specification.encode(name, value))` returns the
canonical value: the type checker pass of `encode` lets every well-typed value through, and the zero
bits that fill the last octet (`packBits`) are left over by the decoder. -/
theorem per_decode_encode (t : Ty) (v : Val) (bytes : Bytes)
    (hwf : t.wf = true) (hd : t.defaultsOk = true) (ht : hasType t v = true)
    (hf : Per.fragFree t v = true) (hns : t.nsOk = true) (he : Per.encode t v = .ok bytes) :
    Per.decode t bytes = .ok (canon t v) :=
  Per.decode_encode t v bytes hwf hd ht hf hns he

/-- top level, with totality of `encode` -/
theorem per_encode_decode (t : Ty) (v : Val)
    (hwf : t.wf = true) (hd : t.defaultsOk = true) (ht : hasType t v = true)
    (hf : Per.fragFree t v = true) (hns : t.nsOk = true) :
    ∃ bytes, Per.encode t v = .ok bytes ∧ Per.decode t bytes = .ok (canon t v) :=
  let ⟨_, _, hE⟩ := Per.encode_total t v hwf ht
  ⟨_, hE, Per.decode_encode t v _ hwf hd ht hf hns hE⟩

/-- `fragFree` is necessary (finding C01-per-unfragmented-length in aligned PER):
`OCTET STRING (SIZE(0, ...))` (`Per.cxTy`) with 16385 zero octets (`Per.cxVal`) satisfies every other
hypothesis of `per_roundtrip_partial` and is encoded (`Per.cxBits` = extension bit, padding, the
fragment marker `c1`, all 16385 octets), but for no continuation and no fuel does the decoder return
the value and the continuation: it stops after 16384 octets. -/
theorem per_roundtrip_fails_without_fragFree :
    Per.cxTy.wf = true ∧ Per.cxTy.defaultsOk = true ∧ hasType Per.cxTy Per.cxVal = true ∧
    Per.cxTy.nsOk = true ∧ Per.fragFree Per.cxTy Per.cxVal = false ∧
    Per.enc Per.cxTy 0 Per.cxVal = .ok Per.cxBits ∧
    ∀ (rest : Bits) (fuel : Nat),
      Per.dec Per.cxTy fuel ⟨0, Per.cxBits ++ rest⟩ ≠
        .ok (canon Per.cxTy Per.cxVal, ⟨0 + Per.cxBits.length, rest⟩) := by
  refine ⟨Per.cx_wf, Per.cx_defaultsOk, Per.cx_hasType, Per.cx_nsOk, Per.cx_not_fragFree, Per.cx_enc 0 rfl, ?_⟩
  intro rest fuel h
  rw [Per.cx_dec] at h
  simp only [Except.ok.injEq, Prod.mk.injEq, Per.St.mk.injEq] at h
  have := congrArg List.length h.2.2
  simp only [List.length_append, natToBits_length] at this
  omega

/-- non-vacuity: a SEQUENCE OF SEQUENCE with OPTIONAL, DEFAULT, an extensible INTEGER outside its root,
an IA5String and an unbounded OCTET STRING (both aligned), two extension additions (an extensible CHOICE
taken in its addition, and an INTEGER in the "indefinite length case") satisfies every hypothesis of
`per_roundtrip_partial` / `per_decode_encode`; the encoding is the 27 octets shown -/
example :
    let t : Ty := .sequenceOf (.sequence
        (.cons "a" .optional (.integer ⟨some 0, some 300, true⟩)
        (.cons "b" (.default (.bool true)) .boolean
        (.cons "s" .optional (.charString .ia5 ⟨0, some 10, false⟩)
        (.cons "o" .optional (.octetString ⟨0, none, false⟩) .nil)))) true
        (.cons "c" .optional (.choice (.cons "x" .null (.cons "y" (.octetString ⟨0, none, false⟩) .nil)) true
            (.cons "z" (.charString .ia5 ⟨1, some 4, false⟩) .nil))
        (.cons "d" .optional (.integer ⟨some 0, some 100000, false⟩) .nil))) ⟨0, some 3, true⟩
    let v : Val := .list [
      .record [("a", .int 70000), ("s", .str [72, 105]), ("c", .choice "z" (.str [65, 66])), ("d", .int 99999)],
      .record [("b", .bool false), ("o", .bytes [1, 2, 3])]]
    t.wf = true ∧ t.defaultsOk = true ∧ hasType t v = true ∧ Per.fragFree t v = true ∧ t.nsOk = true ∧
      (Per.encode t v).toOption = some [90, 128, 3, 1, 17, 112, 32, 72, 105, 3, 128, 5, 128, 3, 64, 65,
        66, 4, 128, 1, 134, 159, 40, 3, 1, 2, 3] := by
  refine ⟨by decide +kernel, by decide +kernel, by decide +kernel, by decide +kernel, by decide +kernel,
    by decide +kernel⟩

end Asn1.C01p

#print axioms Asn1.C01p.per_roundtrip_partial
#print axioms Asn1.C01p.per_roundtrip_mod8
#print axioms Asn1.C01p.per_enc_total
#print axioms Asn1.C01p.per_decode_encode
#print axioms Asn1.C01p.per_encode_decode
#print axioms Asn1.C01p.per_roundtrip_fails_without_fragFree
