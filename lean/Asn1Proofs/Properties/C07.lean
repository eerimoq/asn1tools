import Asn1Model.Extension
import Asn1Proofs.Lemmas.ExtLemmas
import Asn1Proofs.Lemmas.ExtUper
import Asn1Proofs.Lemmas.ExtOer
import Asn1Proofs.Lemmas.ExtDer
/-
  C07 — extension additions keep old and new versions of a type interoperable: UPER, OER and DER
  (aligned PER: C07p.lean; BER: C07b.lean).

  `Ext.Extends t1 t2` (Asn1Model/Extension.lean): version 2 differs from version 1 only by extension
  additions after an extension marker (new SEQUENCE additions, CHOICE alternatives, ENUMERATED items,
  at any nesting depth).  `Ext.project t1 t2 v`: the version-1 view of a version-2 value.

    forward_<codec>  : a V2 encoding, followed by anything, decodes under V1 to the canonical form of
                       the V1 projection and leaves exactly what follows (additions V1 does not know
                       are skipped by exactly their length);
    backward_<codec> : a V1 encoding, followed by anything, decodes under V2 to the same (canonical)
                       value and leaves exactly what follows.

  The side conditions are those of the C01 round-trip theorems (`fragFree`/`nsOk` for UPER,
  `oerWf`/`utf8Ok`/`noSwallow` for OER, `oerWf` for DER; for DER the canonical value is `X690.canonV`
  and DEFAULT values are in `canonV` normal form, `X690.defaultsOkV`), for the ENCODER's type and the value; DEFAULT values
  have to be well-typed canonical values of their member type in both versions (`defaultsOk`).

  Each proof is the codec's `xt_all`, one statement about a decoder type and an encoder type that
  agree up to the tails of their extension additions (`Ext.Compat`), at the pair that
  `Extends.forward` / `Extends.backward` give.
-/
namespace Asn1.C07
open Asn1 Asn1.Ext

theorem forward_uper (t1 t2 : Ty) (v : Val) (bits rest : Bits) (fuel : Nat)
    (hx : Extends t1 t2)
    (hwf : t2.wf = true) (hd1 : t1.defaultsOk = true) (hd2 : t2.defaultsOk = true)
    (hns : t2.nsOk = true) (ht : hasType t2 v = true) (hf : Uper.fragFree t2 v = true)
    (he : Uper.enc t2 v = .ok bits) (hfuel : bits.length + rest.length + 2 ≤ fuel) :
    Uper.dec t1 fuel (bits ++ rest) = .ok (canon t1 (project t1 t2 v), rest) := by
  obtain ⟨hc, hk, hv⟩ := hx.forward false hwf ((defaultsOkG_false t1).trans hd1)
  rw [← canonG_false, ← hv]
  exact UperX.xt_all hc v bits rest fuel hwf hd2 hns hk ht hf he hfuel

theorem backward_uper (t1 t2 : Ty) (v : Val) (bits rest : Bits) (fuel : Nat)
    (hx : Extends t1 t2)
    (hwf : t2.wf = true) (hd1 : t1.defaultsOk = true) (hd2 : t2.defaultsOk = true)
    (hns : t2.nsOk = true) (ht : hasType t1 v = true) (hf : Uper.fragFree t1 v = true)
    (he : Uper.enc t1 v = .ok bits) (hfuel : bits.length + rest.length + 2 ≤ fuel) :
    Uper.dec t2 fuel (bits ++ rest) = .ok (canon t2 v, rest) := by
  obtain ⟨hc, hw1, hk, hv⟩ := hx.backward false hwf ((defaultsOkG_false t1).trans hd1)
    ((defaultsOkG_false t2).trans hd2)
  rw [← canonG_false, ← hv v ht]
  exact UperX.xt_all hc v bits rest fuel hw1 hd1 (nsOk_all.1 hx hns) hk ht hf he hfuel

theorem forward_oer (t1 t2 : Ty) (v : Val) (bytes rest : Bytes)
    (hx : Extends t1 t2)
    (hwf : t2.wf = true) (hwf' : Oer.oerWf t2 = true) (hd1 : t1.defaultsOk = true)
    (hd2 : t2.defaultsOk = true) (ht : hasType t2 v = true) (hu : Oer.utf8Ok t2 v = true)
    (hns : Oer.noSwallow t2 v = true) (he : Oer.enc t2 v = .ok bytes) :
    Oer.dec t1 (bytes ++ rest) = .ok (canon t1 (project t1 t2 v), rest) := by
  obtain ⟨hc, hk, hv⟩ := hx.forward false hwf ((defaultsOkG_false t1).trans hd1)
  rw [← canonG_false, ← hv]
  exact OerX.xt_all hc v bytes rest hwf hwf' hd2 hk ht hu hns he

theorem backward_oer (t1 t2 : Ty) (v : Val) (bytes rest : Bytes)
    (hx : Extends t1 t2)
    (hwf : t2.wf = true) (hwf' : Oer.oerWf t2 = true) (hd1 : t1.defaultsOk = true)
    (hd2 : t2.defaultsOk = true) (ht : hasType t1 v = true) (hu : Oer.utf8Ok t1 v = true)
    (hns : Oer.noSwallow t1 v = true) (he : Oer.enc t1 v = .ok bytes) :
    Oer.dec t2 (bytes ++ rest) = .ok (canon t2 v, rest) := by
  obtain ⟨hc, hw1, hk, hv⟩ := hx.backward false hwf ((defaultsOkG_false t1).trans hd1)
    ((defaultsOkG_false t2).trans hd2)
  rw [← canonG_false, ← hv v ht]
  exact OerX.xt_all hc v bytes rest hw1 (oerWf_of_extends hx hwf') hd1 hk ht hu hns he

/-- DER forward, recursive decoder in any tagging context: value, exact length of the
encoding, and exactly the octets that follow -/
theorem forward_der_dec (t1 t2 : Ty) (tg : Option Nat) (v : Val) (bytes rest : Bytes) (fuel : Nat)
    (hx : Extends t1 t2)
    (hwf : t2.wf = true) (henum : Oer.oerWf t2 = true) (hd1 : X690.defaultsOkV t1 = true)
    (hd2 : X690.defaultsOkV t2 = true) (ht : hasType t2 v = true)
    (he : Der.enc t2 tg v = .ok bytes) (hf : bytes.length < fuel) :
    Der.dec t1 tg fuel (bytes ++ rest) =
      .ok (some (X690.canonV t1 (project t1 t2 v), bytes.length, rest)) := by
  obtain ⟨hc, hk, hv⟩ := hx.forward true hwf ((defaultsOkG_true t1).trans hd1)
  rw [← canonG_true, ← hv]
  exact DerX.xt_all hc tg v bytes rest fuel hwf henum hd2 hk ht he hf

/-- DER forward, `decode_with_length` of the V1 specification on a V2 encoding
followed by arbitrary octets -/
theorem forward_der (t1 t2 : Ty) (v : Val) (bytes rest : Bytes)
    (hx : Extends t1 t2)
    (hwf : t2.wf = true) (henum : Oer.oerWf t2 = true) (hd1 : X690.defaultsOkV t1 = true)
    (hd2 : X690.defaultsOkV t2 = true) (ht : hasType t2 v = true)
    (he : Der.encode t2 v = .ok bytes) :
    Der.decodeWithLength t1 (bytes ++ rest) = .ok (X690.canonV t1 (project t1 t2 v), bytes.length) := by
  unfold Der.decodeWithLength
  rw [forward_der_dec t1 t2 none v bytes rest _ hx hwf henum hd1 hd2 ht (Der.enc_of_encode he)
    (by simp; omega)]

/-- DER backward, recursive decoder in any tagging context -/
theorem backward_der_dec (t1 t2 : Ty) (tg : Option Nat) (v : Val) (bytes rest : Bytes) (fuel : Nat)
    (hx : Extends t1 t2)
    (hwf : t2.wf = true) (henum : Oer.oerWf t2 = true) (hd1 : X690.defaultsOkV t1 = true)
    (hd2 : X690.defaultsOkV t2 = true) (ht : hasType t1 v = true)
    (he : Der.enc t1 tg v = .ok bytes) (hf : bytes.length < fuel) :
    Der.dec t2 tg fuel (bytes ++ rest) = .ok (some (X690.canonV t2 v, bytes.length, rest)) := by
  obtain ⟨hc, hw1, hk, hv⟩ := hx.backward true hwf ((defaultsOkG_true t1).trans hd1)
    ((defaultsOkG_true t2).trans hd2)
  rw [← canonG_true, ← hv v ht]
  exact DerX.xt_all hc tg v bytes rest fuel hw1 (oerWf_of_extends hx henum) hd1 hk ht he hf

/-- DER backward, `decode_with_length` of the V2 specification on a V1 encoding -/
theorem backward_der (t1 t2 : Ty) (v : Val) (bytes rest : Bytes)
    (hx : Extends t1 t2)
    (hwf : t2.wf = true) (henum : Oer.oerWf t2 = true) (hd1 : X690.defaultsOkV t1 = true)
    (hd2 : X690.defaultsOkV t2 = true) (ht : hasType t1 v = true)
    (he : Der.encode t1 v = .ok bytes) :
    Der.decodeWithLength t2 (bytes ++ rest) = .ok (X690.canonV t2 v, bytes.length) := by
  unfold Der.decodeWithLength
  rw [backward_der_dec t1 t2 none v bytes rest _ hx hwf henum hd1 hd2 ht (Der.enc_of_encode he)
    (by simp; omega)]

/-- DER: the encoding of a V1 value does not change when the type is extended (positional tags, new
additions last and absent).  False for UPER / OER, see `uper_enc_not_stable`. -/
theorem der_enc_stable (t1 t2 : Ty) (tg : Option Nat) (v : Val) (hx : Extends t1 t2)
    (hwf : t2.wf = true) (ht : hasType t1 v = true) : Der.enc t2 tg v = Der.enc t1 tg v :=
  DerX.enc_stable hx hwf tg v ht

-- `hwf` is not used: a version-1 value is a version-2 value whether or not the types are well-formed
set_option linter.unusedVariables false in
theorem v1_value_is_v2_value (t1 t2 : Ty) (v : Val) (hx : Extends t1 t2) (hwf : t2.wf = true)
    (ht : hasType t1 v = true) : hasType t2 v = true :=
  hasType_of_extends hx v ht

/-- the decidable checker used by the harness decides `Extends` -/
theorem extendsB_correct (t1 t2 : Ty) : extendsB t1 t2 = true ↔ Extends t1 t2 := extendsB_iff t1 t2

/-! non-vacuity: a nested extension (an addition whose type is itself extended, inside a SEQUENCE OF) -/

/-- V1: `SEQUENCE OF SEQUENCE { a BOOLEAN, ..., b CHOICE { x NULL, ... } OPTIONAL }` -/
def exT1 : Ty := .sequenceOf (.sequence (.cons "a" .mandatory .boolean .nil) true
  (.cons "b" .optional (.choice (.cons "x" .null .nil) true .nil) .nil)) ⟨0, none, false⟩
/-- V2: `SEQUENCE OF SEQUENCE { a BOOLEAN, ..., b CHOICE { x NULL, ..., k1 BOOLEAN } OPTIONAL, n1 INTEGER OPTIONAL }` -/
def exT2 : Ty := .sequenceOf (.sequence (.cons "a" .mandatory .boolean .nil) true
  (.cons "b" .optional (.choice (.cons "x" .null .nil) true (.cons "k1" .boolean .nil))
    (.cons "n1" .optional (.integer ⟨none, none, false⟩) .nil))) ⟨0, none, false⟩
/-- a V2 value using the new alternative and the new addition -/
def exV : Val := .list [.record [("a", .bool true), ("b", .choice "k1" (.bool false)), ("n1", .int 5)],
  .record [("a", .bool false), ("b", .choice "x" .null)]]
/-- what V1 sees of it -/
def exV' : Val := .list [.record [("a", .bool true), ("b", .choice "" .absent)],
  .record [("a", .bool false), ("b", .choice "x" .null)]]
def exV1 : Val := .list [.record [("a", .bool true), ("b", .choice "x" .null)], .record [("a", .bool false)]]
def exBits : Bits := [false, false, false, false, false, false, true, false, true, true, false, false, false, false, false, false, true,
 true, true, false, false, false, false, false, false, true, true, true, false, false, false, false, false, false,
 false, false, false, false, false, false, false, false, true, false, false, false, false, false, false, false, false,
 false, false, false, false, false, false, true, false, false, false, false, false, false, false, false, true, false,
 false, false, false, false, true, false, true, true, false, false, false, false, false, false, false, true, true,
 false, false, false, false, false, false, false, false, true, false, false, false, false, false, false, false, false]
def exBytesOer : Bytes := [1, 2, 128, 255, 2, 6, 192, 3, 129, 1, 0, 2, 1, 5, 128, 0, 2, 6, 128, 1, 128]

example : extendsB exT1 exT2 = true ∧ extendsB exT2 exT1 = false ∧ project exT1 exT2 exV = exV' := by
  refine ⟨by rfl, by rfl, by rfl⟩

/-- every hypothesis of `forward_uper` holds for the example, and its conclusion is the evaluated decoding -/
example : Uper.dec exT1 200 (exBits ++ [true, false, true]) = .ok (exV', [true, false, true]) :=
  forward_uper exT1 exT2 exV exBits [true, false, true] 200 ((extendsB_correct _ _).1 (by rfl))
    (by decide +kernel) (by decide +kernel) (by decide +kernel) (by decide +kernel) (by decide +kernel)
    (by decide +kernel) (by rfl) (by decide +kernel)

/-- the same, evaluated in the kernel without the theorem -/
example : Uper.enc exT2 exV = .ok exBits ∧
    Uper.dec exT1 200 (exBits ++ [true, false, true]) = .ok (exV', [true, false, true]) := by
  constructor <;> rfl

example : Oer.dec exT1 (exBytesOer ++ [7, 8]) = .ok (exV', [7, 8]) :=
  forward_oer exT1 exT2 exV exBytesOer [7, 8] ((extendsB_correct _ _).1 (by rfl))
    (by decide +kernel) (by decide +kernel) (by decide +kernel) (by decide +kernel) (by decide +kernel)
    (by decide +kernel) (by decide +kernel) (by rfl)

example : Oer.enc exT2 exV = .ok exBytesOer ∧ Oer.dec exT1 (exBytesOer ++ [7, 8]) = .ok (exV', [7, 8]) := by
  constructor <;> rfl

/-- backward: the V1 encodings of a V1 value decode under V2 -/
example : Uper.dec exT2 200 ([false, false, false, false, false, false, true, false, true, true, false, false, false, false, false, false,
 false, true, false, false, false, false, false, false, false, true, false, false, false, false, false, false, false,
 false, false, false] ++ [true]) = .ok (exV1, [true]) :=
  backward_uper exT1 exT2 exV1 _ [true] 200 ((extendsB_correct _ _).1 (by rfl))
    (by decide +kernel) (by decide +kernel) (by decide +kernel) (by decide +kernel) (by decide +kernel)
    (by decide +kernel) (by rfl) (by decide +kernel)

example : Oer.dec exT2 ([1, 2, 128, 255, 2, 7, 128, 1, 128, 0, 0] ++ [9]) = .ok (exV1, [9]) :=
  backward_oer exT1 exT2 exV1 _ [9] ((extendsB_correct _ _).1 (by rfl))
    (by decide +kernel) (by decide +kernel) (by decide +kernel) (by decide +kernel) (by decide +kernel)
    (by decide +kernel) (by decide +kernel) (by rfl)

def exBytesDer : Bytes := [48, 22, 48, 11, 128, 1, 255, 161, 3, 129, 1, 0, 130, 1, 5, 48, 7, 128, 1, 0, 161, 2, 128, 0]

example : Der.decodeWithLength exT1 (exBytesDer ++ [0, 0]) = .ok (exV', 24) :=
  forward_der exT1 exT2 exV exBytesDer [0, 0] ((extendsB_correct _ _).1 (by rfl))
    (by decide +kernel) (by decide +kernel) (by decide +kernel) (by decide +kernel) (by decide +kernel)
    (by rfl)

example : Der.encode exT2 exV = .ok exBytesDer ∧
    Der.decodeWithLength exT1 (exBytesDer ++ [0, 0]) = .ok (exV', 24) := by
  constructor <;> rfl

example : Der.decodeWithLength exT2 ([48, 14, 48, 7, 128, 1, 255, 161, 2, 128, 0, 48, 3, 128, 1, 0] ++ [5]) =
    .ok (exV1, 16) :=
  backward_der exT1 exT2 exV1 _ [5] ((extendsB_correct _ _).1 (by rfl))
    (by decide +kernel) (by decide +kernel) (by decide +kernel) (by decide +kernel) (by decide +kernel)
    (by rfl)

/-! `enc t2 v = enc t1 v` for a V1 value `v` is false for UPER and OER: the SEQUENCE presence bitmap has
one bit per addition of the encoder's type (UPER: normally-small length 1 vs 2 and bitmap `1` vs `10`;
OER: unused-bits octet 7 vs 6).  `backward_uper` / `backward_oer` hold nevertheless. -/

theorem uper_enc_not_stable :
    Extends exT1 exT2 ∧ hasType exT1 exV1 = true ∧
    Uper.enc exT1 exV1 = .ok [false, false, false, false, false, false, true, false, true, true, false, false, false, false, false, false,
 false, true, false, false, false, false, false, false, false, true, false, false, false, false, false, false, false,
 false, false, false] ∧
    Uper.enc exT2 exV1 = .ok [false, false, false, false, false, false, true, false, true, true, false, false, false, false, false, false, true,
 true, false, false, false, false, false, false, false, false, true, false, false, false, false, false, false, false,
 false, false, false] := by
  refine ⟨(extendsB_correct _ _).1 (by rfl), by decide +kernel, by rfl, by rfl⟩

theorem oer_enc_not_stable :
    Extends exT1 exT2 ∧ hasType exT1 exV1 = true ∧
    Oer.enc exT1 exV1 = .ok [1, 2, 128, 255, 2, 7, 128, 1, 128, 0, 0] ∧
    Oer.enc exT2 exV1 = .ok [1, 2, 128, 255, 2, 6, 128, 1, 128, 0, 0] := by
  refine ⟨(extendsB_correct _ _).1 (by rfl), by decide +kernel, by rfl, by rfl⟩

end Asn1.C07
