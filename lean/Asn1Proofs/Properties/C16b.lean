import Asn1Model.BerCodec
import Asn1Proofs.Lemmas.PrefixBer
/-
  C16 for the BER model — a truncated encoding is a decode error.  The BER encoder of the model IS the DER
  encoder (`BerCodec.enc := Der.enc`); the BER decoder is a different function (indefinite lengths,
  constructed strings, string alternatives of a CHOICE under two tags).  None of this helps a truncated
  input; what has to be re-argued is listed at the head of `PrefixBer.lean`.
-/
namespace Asn1.C16b
open Asn1

/-- **C16, BER.**  Every strict byte prefix of a BER encoding is rejected by the BER decoder with the
library's decode error: it is not decoded to a value, it is not a `TAG_MISMATCH` turned into anything
else, and no foreign exception escapes.  No side condition at all (exactly the hypotheses of
`C16.der_truncated`): any type of the universe, any value the encoder (type checker included)
accepts. -/
theorem ber_truncated (t : Ty) (v : Val) (bytes : Bytes) (k : Nat)
    (he : BerCodec.encode t v = .ok bytes) (hk : k < bytes.length) :
    BerCodec.decode t (bytes.take k) = .error .decodeError :=
  BerCodec.truncated t v bytes k he hk

/-- the encoder is shared: a BER encoding is a DER encoding (definitionally) -/
theorem ber_encode_eq_der (t : Ty) (v : Val) : BerCodec.encode t v = Der.encode t v := rfl

/-- the ingredient that differs from DER: the BER decoder of a string type entered
through its CONSTRUCTED tag (what `tag_to_member` of a BER CHOICE allows) on a strict prefix of a
definite-length encoding -/
theorem ber_string_truncated (t : Ty) (hs : BerCodec.isString t = true) (tg : Option Nat) (fuel : Nat)
    (constructed : Bool) (q content : Bytes)
    (h : Der.SPre q (Der.tlv (Der.mkTag (Der.univNumber t) constructed tg) content)) :
    BerCodec.dec t tg (fuel + 1) q = .error .decodeError :=
  BerCodec.dec_string_short t hs tg fuel constructed q content h

/-- non-vacuity, on the type of the C16 example (OPTIONAL / DEFAULT members, extension additions, an
extensible CHOICE with string alternatives, a SEQUENCE OF): the encoder accepts the value, the
encoding has 20 octets, and -- evaluated in the kernel, without the theorem -- each of its 20 strict
prefixes is a `decodeError` while the whole encoding decodes -/
example :
    let t : Ty := .sequenceOf (.sequence
        (.cons "a" .optional (.integer ⟨some 0, some 300, true⟩)
        (.cons "b" (.default (.bool true)) .boolean .nil)) true
        (.cons "c" .optional (.choice (.cons "x" .null (.cons "y" (.octetString ⟨0, none, false⟩) .nil)) true
            (.cons "z" (.charString .ia5 ⟨1, some 4, false⟩) .nil)) .nil)) ⟨0, some 3, true⟩
    let v : Val := .list [.record [("a", .int 70000), ("c", .choice "z" (.str [65, 66]))], .record [("b", .bool false)]]
    let bytes : Bytes := [48, 18, 48, 11, 128, 3, 1, 17, 112, 162, 4, 130, 2, 65, 66, 48, 3, 129, 1, 0]
    BerCodec.encode t v = .ok bytes ∧
    ((List.range 20).all fun k =>
      match BerCodec.decode t (bytes.take k) with
      | .error .decodeError => true
      | _ => false) = true ∧
    (BerCodec.decode t bytes).isOk = true := by
  refine ⟨by rfl, by rfl, by rfl⟩

/-- the theorem applied to the bare CHOICE of that example: `82 02 41 42` cut inside the contents of
the IA5String alternative (the hypotheses are discharged by evaluation) -/
example : BerCodec.decode
    (.choice (.cons "x" .null (.cons "y" (.octetString ⟨0, none, false⟩) .nil)) true
      (.cons "z" (.charString .ia5 ⟨1, some 4, false⟩) .nil))
    ([130, 2, 65, 66].take 3) = .error .decodeError :=
  ber_truncated _ (.choice "z" (.str [65, 66])) [130, 2, 65, 66] 3 (by rfl) (by decide)

end Asn1.C16b

#print axioms Asn1.C16b.ber_truncated
#print axioms Asn1.C16b.ber_string_truncated
