import Asn1Proofs.Properties.C15t
/-
  C03, translator tie (shared with C15): the identifier and length octets of every DER TLV are written by
  `ber.encode_tag` / `ber.encode_length_definite`; their translations from the source equal the model functions
  used by `der_tlv_shape` / `der_refines`.
-/
namespace Asn1.C03t
open Asn1 Asn1.Translated Asn1.Bridge

theorem translated_encode_length_definite (n : Nat) (hn : n < 256 ^ 127) :
    ber_encode_length_definite (n : Int) = ofNats (Ber.encLength n) := C15t.translated_encode_length_definite n hn

theorem translated_encode_tag (n f : Nat) (hf : f % 32 = 0) :
    ber_encode_tag (n : Int) (f : Int) = .ok (ofNats (Ber.encTag n f)) := C15t.translated_encode_tag n f hf

end Asn1.C03t
