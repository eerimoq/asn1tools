import Asn1Model.Translated
import Asn1Proofs.Lemmas.PyPrimLemmas
/-
  C09 — TRANSLATOR TIE: the generation-time predicate `does_bits_match_range` of /repo/asn1tools/source/c/uper.py.
-/
namespace Asn1.C09t
open Asn1 Asn1.Translated

theorem translated_does_bits_match_range (nb : Nat) (lo hi : Int) :
    c_uper_does_bits_match_range (nb : Int) lo hi = decide ((2 : Int) ^ nb = hi - lo + 1) := by
  unfold c_uper_does_bits_match_range
  rw [Py.pow_natCast]

end Asn1.C09t
