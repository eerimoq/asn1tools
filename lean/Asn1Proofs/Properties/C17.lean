import Asn1Model.Cache
import Asn1Proofs.Lemmas.CacheLemmas
/-
  C17 — the compile cache is transparent: the key determines the call (`key_injective`), so a hit returns what an
  uncached compile of the same call returns.
-/
namespace Asn1.C17
open Asn1 Asn1.Cache Asn1.CacheLemmas

/-- the codec names of `compile_dict` (extracted from the source on every run) are prefix-free, so the
codec can be recovered from the key -/
theorem codec_prefix_free : PrefixFree (fun a => a ∈ codecNames) := by
  apply prefixFree_of_list
  decide

/-- length-prefixed file contents determine the list of files (file boundaries are part of the key) -/
theorem files_injective (fs gs : List (List Nat)) (h : fs.flatMap netstring = gs.flatMap netstring) :
    fs = gs :=
  flatMap_netstring_injective fs gs h

theorem key_injective (optsSet : List Nat → Prop) (hpf : PrefixFree optsSet) (c d : Call)
    (hc : CallOk optsSet c) (hd : CallOk optsSet d) (h : key c = key d) : c = d := by
  obtain ⟨cc, co, cf⟩ := c
  obtain ⟨dc, do_, df⟩ := d
  simp only [key, List.append_assoc] at h
  have h1 : cc = dc := codec_prefix_free _ _ _ _ hc.codec_known hd.codec_known h
  subst h1
  have h2 := List.append_cancel_left h
  have h3 : co = do_ := hpf _ _ _ _ hc.opts_ok hd.opts_ok h2
  subst h3
  have h4 := files_injective _ _ (List.append_cancel_left h2)
  subst h4
  rfl

/-- one call on a consistent store returns exactly what an uncached compile returns -/
theorem step_transparent {ρ : Type} (fresh : Call → ρ) (optsSet : List Nat → Prop) (hpf : PrefixFree optsSet)
    (s : Store ρ) (hso : ∀ k r, (k, r) ∈ s → ∃ c, k = key c ∧ r = fresh c ∧ CallOk optsSet c)
    (c : Call) (hc : CallOk optsSet c) :
    (step fresh s c).2 = fresh c := by
  unfold step
  split
  · next r hr =>
    obtain ⟨d, hk, hrd, hd⟩ := hso _ _ (find_some_mem hr)
    rw [key_injective optsSet hpf c d hc hd hk]
    exact hrd
  · rfl

theorem step_preserves {ρ : Type} (fresh : Call → ρ) (optsSet : List Nat → Prop)
    (s : Store ρ) (hso : ∀ k r, (k, r) ∈ s → ∃ c, k = key c ∧ r = fresh c ∧ CallOk optsSet c)
    (c : Call) (hc : CallOk optsSet c) :
    (∀ k r, (k, r) ∈ (step fresh s c).1 → ∃ c', k = key c' ∧ r = fresh c' ∧ CallOk optsSet c') ∧
    StoreOk fresh (step fresh s c).1 := by
  refine (fun main => ⟨main, fun k r hkr => let ⟨c', h1, h2, _⟩ := main k r hkr; ⟨c', h1, h2⟩⟩) ?_
  unfold step
  split
  · exact hso
  · intro k r hkr
    rcases List.mem_cons.mp hkr with h | h
    · cases h
      exact ⟨c, rfl, rfl, hc⟩
    · exact hso k r h

/-- transparency for every history, starting from any consistent store (e.g. a cache directory
filled by earlier runs or by other processes making well-formed calls) -/
theorem run_transparent_from {ρ : Type} (fresh : Call → ρ) (optsSet : List Nat → Prop) (hpf : PrefixFree optsSet)
    (s : Store ρ) (hso : ∀ k r, (k, r) ∈ s → ∃ c, k = key c ∧ r = fresh c ∧ CallOk optsSet c)
    (cs : List Call) (hcs : ∀ c ∈ cs, CallOk optsSet c) :
    (run fresh s cs).2 = cs.map fresh := by
  induction cs generalizing s with
  | nil => rfl
  | cons c cs ih =>
    have hc := hcs c (by simp)
    have ht := step_transparent fresh optsSet hpf s hso c hc
    have hp := (step_preserves fresh optsSet s hso c hc).1
    have := ih (step fresh s c).1 hp (fun d hd => hcs d (by simp [hd]))
    simp only [run, List.map_cons, this, ht]

/-- Starting from the empty cache directory, whatever sequence of calls is made (any codecs, options,
file contents, file splits, repetitions), every call returns what the uncached compile of the same
call returns. -/
theorem run_transparent {ρ : Type} (fresh : Call → ρ) (optsSet : List Nat → Prop) (hpf : PrefixFree optsSet)
    (cs : List Call) (hcs : ∀ c ∈ cs, CallOk optsSet c) :
    (run fresh [] cs).2 = cs.map fresh :=
  run_transparent_from fresh optsSet hpf [] (by simp) cs hcs

/-- Regression: a key made of the codec name and the concatenated file contents only (the key of
asn1tools before /repo commit 4e2142b) is the same for two calls that differ in the options and in
the file split (`[98, 101, 114]` is "ber", `[65, 66]` is "AB"). -/
theorem old_key_collides :
    let oldKey : Call → List Nat := fun c => c.codec ++ c.files.flatMap id
    oldKey ⟨[98, 101, 114], [1], [[65, 66], [67]]⟩ = oldKey ⟨[98, 101, 114], [2], [[65], [66, 67]]⟩ := by
  decide

theorem new_key_separates :
    key ⟨[98, 101, 114], [1], [[65, 66], [67]]⟩ ≠ key ⟨[98, 101, 114], [2], [[65], [66, 67]]⟩ := by
  decide

end Asn1.C17
