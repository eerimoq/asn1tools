import Asn1Proofs.Lemmas.PrepPerm2
import Asn1Proofs.Properties.C13
/-
  C19 — "encodings do not depend on how the specification text is organised (reordering
  assignments / modules, type references vs inline copies)".

  What the compilers see of the organisation of the text is the ORDER of the parser dictionary
  (modules in file order, type assignments in text order), and the dictionary is rewritten in place
  in that order (`Asn1.SpecDict.Preprocess.run`).  Reordering the type assignments of a module
  commutes with the rewrite (`run_permutation`); reordering the modules does not
  (`module_order_matters`, the known genuine defect).

  Properties/C13 is imported for its example data only (`fld`, `summary`, `exB`, `exE`).
-/
namespace Asn1.C19
open Asn1.SpecDict Asn1.SpecDict.Preprocess Asn1.C13

/-- C19 for the order of the type assignments of module `i`, under any reordering `π`.  `hnames` always
holds for a Python dictionary; `hclean` (no COMPONENTS OF entry) restricts module `i` only: other
modules may have such entries, also into module `i`. -/
theorem run_permutation (π : NatPerm) (i : Nat) (n : Bool) (d : Spec)
    (hnames : NodupNames d i) (hclean : ModClean d i) :
    run n (permTypes π i d) = permTypes π i (run n d) := by
  unfold run
  rw [permTypes, modifyAt_length]
  exact foldl_comm (permTypes π i) _ (fun s => NodupNames s i ∧ ModClean s i)
    (fun s j h => ⟨procModule_permTypes π i n h.1 h.2 j,
      NodupNames_of_skel_eq i (skel_procModule n s j) h.1, ModClean_procModule n h.2 j⟩) _ d
    ⟨hnames, hclean⟩

/-- For lookups by name: every type assignment of every module is rewritten to the same descriptor
whatever the order of the assignments in module `i`. -/
theorem run_permutation_lookup (π : NatPerm) (i : Nat) (n : Bool) (d : Spec)
    (hnames : NodupNames d i) (hclean : ModClean d i) (f : Nat) (name mod : String) :
    lookupType (run n (permTypes π i d)) f name mod = lookupType (run n d) f name mod := by
  rw [run_permutation π i n d hnames hclean]
  exact lookupType_congr
    (LookupEquiv_permTypes π i (NodupNames_of_skel_eq i (skel_run n d) hnames)) f name mod

def reversePerm : NatPerm where
  app := List.reverse
  map := fun f l => (List.map_reverse (f := f) (l := l)).symm
  perm := fun l => List.reverse_perm l

/-- two type assignments of the C13 examples that have no COMPONENTS OF entry (`exB` of `exM`, `exE` of `exH`) -/
def exM' : Spec := [("M", { tags := some "AUTOMATIC", types := [("B", exB), ("E", exE)] })]

example : run false (permTypes reversePerm 0 exM') = permTypes reversePerm 0 (run false exM') := by
  refine run_permutation reversePerm 0 false exM' ?_ ?_
  · intro mn ms h
    cases h
    decide
  · intro mn m h k td htd
    cases h
    simp only [List.mem_cons, Prod.mk.injEq, List.not_mem_nil, or_false] at htd
    rcases htd with ⟨_, rfl⟩ | ⟨_, rfl⟩ <;> rfl

/-
  M0 DEFINITIONS AUTOMATIC TAGS ::= BEGIN  S ::= SEQUENCE { a INTEGER, b BOOLEAN }  END
  M1 DEFINITIONS AUTOMATIC TAGS ::= BEGIN  IMPORTS S FROM M0;
       T ::= SEQUENCE { COMPONENTS OF S, c NULL OPTIONAL }                           END
-/
def m0 : String × Module := ("M0", { tags := some "AUTOMATIC", types := [
  ("S", .mk { type := "SEQUENCE" } (.members [
    .desc (.mk (fld "a" "INTEGER") .leaf), .desc (.mk (fld "b" "BOOLEAN") .leaf)]))] })

def m1 : String × Module := ("M1", { tags := some "AUTOMATIC", imports := [("M0", ["S"])], types := [
  ("T", .mk { type := "SEQUENCE" } (.members [
    .compOf "S", .desc (.mk { fld "c" "NULL" with optional := some true } .leaf)]))] })

private def tg (n : Int) : Option Tag := some { number := .int n, kind := some "IMPLICIT" }

/-- The known genuine defect: with COMPONENTS OF across modules under AUTOMATIC TAGS the tags depend on
the order of the modules.  `M0` first: its members are tagged before they are copied, the copies
carry tags, automatic tagging of `T` is skipped and `c` stays UNTAGGED; `M1` first: all three members
get tags 0, 1, 2.
(Real code: BER of `{a 1, b TRUE, c NULL}` is `30088001018101ff0500` resp. `30088001018101ff8200`.) -/
theorem module_order_matters :
    summary (run false [m0, m1]) "M1" "T"
        = [some (some "a", tg 0, none), some (some "b", tg 1, none), some (some "c", none, none)]
    ∧ summary (run false [m1, m0]) "M1" "T"
        = [some (some "a", tg 0, none), some (some "b", tg 1, none), some (some "c", tg 2, none)] :=
  ⟨by decide +kernel, by decide +kernel⟩

theorem run_not_module_order_invariant :
    run false [m1, m0] ≠ (run false [m0, m1]).reverse := by
  intro h
  have := congrArg (fun s => summary s "M1" "T") h
  revert this
  decide +kernel

example : [m1, m0] = [m0, m1].reverse := rfl

end Asn1.C19
