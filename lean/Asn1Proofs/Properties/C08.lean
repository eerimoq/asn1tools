import Asn1Proofs.Lemmas.CostDer
import Asn1Proofs.Lemmas.CostBer
import Asn1Proofs.Lemmas.CostUperTypes
import Asn1Proofs.Lemmas.PrefixUperTypes
import Asn1Proofs.Lemmas.CostOer
/-
  C08 — "for any byte string whatsoever, every decoder returns a value or raises an exception after
  work and memory proportional to the input length (times the declared nesting of the type); it never
  loops forever, never allocates without bound".

  In the models every decoder is a total function: termination is by construction, with every
  data-driven loop of the Python code (`while True`, `for _ in range(length)`) expressed as a
  fuel-indexed combinator whose fuel is computed once from the input length.  What is left to prove is
  that the model is *faithful* there, i.e.

  (1) ALLOCATION: the size of a decoded value (`Val.nodes`: one unit per constructor, record field,
      list element, octet of an OCTET/BIT STRING, character of a string) is at most `K t * (length + 1)`
      with `K t` a computable function of the type only — for DER, BER and UPER, all types, all inputs;
  (2) FUEL SUFFICIENCY: the out-of-fuel branch of every fuel-indexed loop is dead code: the result of
      the decoder is the same for every amount of fuel above the one `decode` supplies, so the loops
      stop because of the data ("every read advances the offset or raises", "declared lengths are
      validated against the remaining data", "every element of a counted loop costs input");
  (3) the genuine DEFECT: OER `SEQUENCE OF` trusts its quantity field; with an element type whose
      encoding is empty, `n` elements are built from `2 + ⌊log₂₅₆ n⌋` octets — no bound of the form
      `K * (length + 1)` exists.
-/
namespace Asn1.C08
open Asn1 Asn1.Cost

/-- **DER**: a decoded value has at most `KD t` nodes per input octet (`KD t` = 1 for every leaf type,
`1 + Σ (1 + |DEFAULT| + KD member)` for SEQUENCE, `1 + KD element` for SEQUENCE OF: every element of a
DER SEQUENCE OF costs at least two octets; `2 + Σ KD alternative` for CHOICE) -/
theorem der_alloc_bound (t : Ty) (bs : Bytes) (v : Val) (h : Der.decode t bs = .ok v) :
    v.nodes ≤ KD t * bs.length := by
  unfold Der.decode Der.decodeWithLength at h
  split at h
  · cases h
  · cases h
  · rename_i w k r hd
    cases h
    have := der_dec_cost t none _ bs w k r hd
    exact bm_mono this.2.2 (Nat.le_refl _) (by omega)

theorem der_alloc_bound' (t : Ty) (bs : Bytes) (v : Val) (h : Der.decode t bs = .ok v) :
    v.nodes ≤ KD t * (bs.length + 1) :=
  bm_mono (der_alloc_bound t bs v h) (Nat.le_refl _) (by omega)

/-- **BER** (indefinite lengths, constructed strings, nested segments): the same constant -/
theorem ber_alloc_bound (t : Ty) (bs : Bytes) (v : Val) (h : BerCodec.decode t bs = .ok v) :
    v.nodes ≤ KD t * bs.length := by
  unfold BerCodec.decode BerCodec.decodeWithLength at h
  split at h
  · cases h
  · cases h
  · rename_i w k r hd
    cases h
    have := ber_dec_cost t none _ bs w k r hd
    exact bm_mono this.2.2 (Nat.le_refl _) (by omega)

theorem ber_alloc_bound' (t : Ty) (bs : Bytes) (v : Val) (h : BerCodec.decode t bs = .ok v) :
    v.nodes ≤ KD t * (bs.length + 1) :=
  bm_mono (ber_alloc_bound t bs v h) (Nat.le_refl _) (by omega)

/-- every DER/BER element decoder advances: a successful `dec` leaves strictly less input, reports a
positive octet count, and its value is paid for by the octets consumed -/
theorem der_dec_advances (t : Ty) (tg : Option Nat) (f : Nat) (bs : Bytes) (v : Val) (k : Nat) (r : Bytes)
    (h : Der.dec t tg f bs = .ok (some (v, k, r))) :
    r.length < bs.length ∧ 1 ≤ k ∧ v.nodes ≤ KD t * (bs.length - r.length) :=
  der_dec_cost t tg f bs v k r h

theorem ber_dec_advances (t : Ty) (tg : Option Nat) (f : Nat) (bs : Bytes) (v : Val) (k : Nat) (r : Bytes)
    (h : BerCodec.dec t tg f bs = .ok (some (v, k, r))) :
    r.length < bs.length ∧ 1 ≤ k ∧ v.nodes ≤ KD t * (bs.length - r.length) :=
  ber_dec_cost t tg f bs v k r h

/-- **UPER**, bit level: the decoder never lengthens the input and allocates at most `KU t` nodes per
bit consumed (+1).  `KU` is 1 for leaf types; a SEQUENCE OF multiplies by `1 + seqOfMax c`, where
`seqOfMax c ≥ 8192` because one length octet `c4` announces 65536 elements, which cost nothing when
the element type is NULL (so `K` is large, but finite and computable) -/
theorem uper_dec_alloc (t : Ty) (f : Nat) (bs : Bits) (v : Val) (r : Bits)
    (h : Uper.dec t f bs = .ok (v, r)) :
    r.length ≤ bs.length ∧ v.nodes ≤ KU t * (bs.length - r.length + 1) :=
  szu_bound t f bs v r h

/-- **UPER**: allocation bound in octets of input -/
theorem uper_alloc_bound (t : Ty) (bs : Bytes) (v : Val) (h : Uper.decode t bs = .ok v) :
    v.nodes ≤ 8 * KU t * (bs.length + 1) :=
  uper_decode_alloc_octets t bs v h

/-- the sharper form `KU t * (8 * length + 1)` -/
theorem uper_alloc_bound_bits (t : Ty) (bs : Bytes) (v : Val) (h : Uper.decode t bs = .ok v) :
    v.nodes ≤ KU t * (8 * bs.length + 1) :=
  uper_decode_alloc t bs v h

/-- **UPER**: `decode` runs `dec` with fuel `8 * length + 2`; any larger fuel gives the same outcome
(value, remaining bits, or error): the out-of-fuel branch of `decChunks` is unreachable -/
theorem uper_fuel_sufficient (t : Ty) (bs : Bytes) (f : Nat) (hf : 8 * bs.length + 2 ≤ f) :
    Uper.dec t f (bytesToBits bs) = Uper.dec t (8 * bs.length + 2) (bytesToBits bs) :=
  Uper.decode_fuel t bs f hf

theorem uper_decode_any_fuel (t : Ty) (bs : Bytes) (f : Nat) (hf : 8 * bs.length + 2 ≤ f) :
    (Uper.dec t f (bytesToBits bs)).map (·.1) = Uper.decode t bs := by
  rw [uper_fuel_sufficient t bs f hf]; rfl

/-- the general statement, on any bit string: two amounts of fuel above the number of remaining bits -/
theorem uper_dec_fuel_irrelevant (t : Ty) (f f' : Nat) (bs : Bits)
    (hf : bs.length < f) (hf' : bs.length < f') : Uper.dec t f bs = Uper.dec t f' bs :=
  Uper.dec_fuel t f f' bs hf hf'

/-- the chunk loop itself (`read_length_determinant_chunks`): for an item decoder that never
lengthens the input, fuel above the number of remaining bits is never used up, since every chunk
starts with a length determinant of at least 8 bits -/
theorem uper_chunks_fuel_irrelevant {α : Type} (p : Bits → Uper.DecM (α × Bits))
    (hp : ∀ bs a r, p bs = .ok (a, r) → r.length ≤ bs.length) (f f' : Nat) (bs : Bits)
    (hf : bs.length < f) (hf' : bs.length < f') :
    Uper.decChunks p f bs = Uper.decChunks p f' bs :=
  Uper.decChunks_fuel hp f f' bs hf hf'

/-- **DER**: `decode` runs `dec` with fuel `length + 1` (used by the SEQUENCE OF element loop
`derElems`); any larger fuel gives the same outcome -/
theorem der_fuel_sufficient (t : Ty) (bs : Bytes) (f : Nat) (hf : bs.length + 1 ≤ f) :
    Der.dec t none f bs = Der.dec t none (bs.length + 1) bs :=
  der_dec_fuel t none f (bs.length + 1) bs (by omega) (by omega)

/-- DER: the `while True` loop of `decode_members` runs with fuel `number of members + 1`, fixed by the
type; each repeated pass decodes at least one more member, so additional fuel changes nothing -/
theorem der_members_fuel_sufficient (ms : Members) (i f extra : Nat) (c : Der.Cur) :
    Der.retry (Der.decPass ms i f) (ms.length + 1 + extra) (List.replicate ms.length none) c
      = Der.retry (Der.decPass ms i f) (ms.length + 1) (List.replicate ms.length none) c :=
  der_retry_fuel ms i f extra c

/-- **BER**: the same for the BER decoder (loops `items` for SEQUENCE OF and constructed strings,
recursion `pcDecode` over nested string segments) -/
theorem ber_fuel_sufficient (t : Ty) (bs : Bytes) (f : Nat) (hf : bs.length + 1 ≤ f) :
    BerCodec.dec t none f bs = BerCodec.dec t none (bs.length + 1) bs :=
  ber_dec_fuel t none f (bs.length + 1) bs (by omega) (by omega)

theorem ber_members_fuel_sufficient (ms : Members) (i f extra : Nat) (c : Der.Cur) :
    Der.retry (BerCodec.decPass ms i f) (ms.length + 1 + extra) (List.replicate ms.length none) c
      = Der.retry (BerCodec.decPass ms i f) (ms.length + 1) (List.replicate ms.length none) c :=
  ber_retry_fuel ms i f extra c

/-- the UTF-8 decoder of the models (fuel = number of octets + 1) is never out of fuel either -/
theorem utf8_fuel_sufficient (bs : Bytes) (f : Nat) (hf : bs.length + 1 ≤ f) :
    Uper.utf8Dec f bs = Uper.utf8Dec (bs.length + 1) bs :=
  utf8Dec_fuel f (bs.length + 1) bs (by omega) (by omega)

/-- OER `read_tag` (the only fuel-indexed loop of the OER model) is never out of fuel -/
theorem oer_readTag_fuel_sufficient (bs : Bytes) (f : Nat) (hf : bs.length + 1 ≤ f) :
    Oer.readTagRest f bs = Oer.readTagRest (bs.length + 1) bs :=
  oer_readTagRest_fuel f (bs.length + 1) bs (by omega) (by omega)

/-- for EVERY `n`: if `q` is the quantity field of `n` (`append_unsigned_integer`), the OER decoder of
`SEQUENCE OF NULL` returns a list of exactly `n` elements having consumed only `q` -/
theorem oer_quantity_unbounded (c : SizeC) (n : Nat) (q rest : Bytes)
    (h : Oer.encUnsigned n = .ok q) :
    Oer.dec (.sequenceOf .null c) (q ++ rest) = .ok (.list (List.replicate n .null), rest) :=
  Cost.oer_quantity_unbounded c n q rest h

/-- `q` exists and is short: for every `n < 256 ^ 127` there is an input of
`1 + ⌈max(bits of n, 1) / 8⌉` genuine octets decoding to a list of `n` elements -/
theorem oer_quantity_any (c : SizeC) (n : Nat) (hn : n < 256 ^ 127) :
    ∃ bs : Bytes, bs.length = 1 + (max (bitLength n) 1 + 7) / 8 ∧ (∀ b ∈ bs, b < 256) ∧
      Oer.decode (.sequenceOf .null c) bs = .ok (.list (List.replicate n .null)) :=
  Cost.oer_quantity_any c n hn

theorem oer_quantity_32 (c : SizeC) (n : Nat) (hn : n < 2 ^ 32) :
    ∃ bs : Bytes, bs.length ≤ 5 ∧ (∀ b ∈ bs, b < 256) ∧
      ∃ vs, Oer.decode (.sequenceOf .null c) bs = .ok (.list vs) ∧ vs.length = n :=
  Cost.oer_quantity_32 c n hn

/-- from the 5 octets `04 ff ff ff ff` the decoder builds `2^32 - 1` elements -/
theorem oer_quantity_04ffffffff (c : SizeC) :
    Oer.decode (.sequenceOf .null c) [0x04, 0xff, 0xff, 0xff, 0xff]
      = .ok (.list (List.replicate 4294967295 .null)) :=
  Cost.oer_quantity_04ffffffff c

/-- `m + 1` octets, `256 ^ m - 1` elements (`m ≤ 127`): exponential, not linear -/
theorem oer_alloc_exponential (c : SizeC) (m : Nat) (hm : m < 128) :
    Oer.decode (.sequenceOf .null c) (m :: List.replicate m 255)
      = .ok (.list (List.replicate (256 ^ m - 1) .null)) :=
  Cost.oer_alloc_exponential c m hm

/-- **no allocation bound for OER**.  (Stated over the model's byte strings, `List Nat`, whose
consumers are total on arbitrary naturals; the witness used for an arbitrary `K` is not made of
octets.  With genuine octets the count is limited by the 127 length-of-length octets of the format,
i.e. by `256 ^ (256 ^ 127)`: see `oer_no_alloc_bound_octets` for the meaningful range.) -/
theorem oer_no_alloc_bound :
    ¬ ∃ K : Nat, ∀ (bs : Bytes) (v : Val),
      Oer.decode (.sequenceOf .null ⟨0, none, false⟩) bs = .ok v → v.nodes ≤ K * (bs.length + 1) :=
  Cost.oer_no_alloc_bound

/-- with genuine octets: no constant below `256 ^ 126` works, the witness has 128 octets -/
theorem oer_no_alloc_bound_octets (K : Nat) (hK : K < 256 ^ 126) :
    ∃ (bs : Bytes) (v : Val), (∀ b ∈ bs, b < 256) ∧ bs.length = 128 ∧
      Oer.decode (.sequenceOf .null ⟨0, none, false⟩) bs = .ok v ∧ K * (bs.length + 1) < v.nodes :=
  Cost.oer_no_alloc_bound_octets K hK

section examples
private abbrev c0 : SizeC := ⟨0, none, false⟩
private abbrev ic : IntC := ⟨none, none, false⟩

-- UPER: a length determinant announcing 65536 BOOLEANs with no data behind it: out of data at the
-- first element
example : Uper.decode (.sequenceOf .boolean c0) [0xc4] = .error .decodeError := by rfl
-- UPER: 127 octets announced, 2 present
example : Uper.decode (.octetString c0) [0x7f, 1, 2] = .error .decodeError := by rfl
-- UPER: `ff` is not a length determinant
example : Uper.decode (.octetString c0) [0xff] = .error .decodeError := by rfl
-- UPER: an OCTET STRING inside a SEQUENCE, two-octet length 0x3ff, one octet of data
example : Uper.decode (.sequence (.cons "a" .mandatory (.octetString c0) .nil) false .nil) [0x83, 0xff, 0xff]
    = .error .decodeError := by rfl
-- UPER: the bound is not vacuous and `K` has the right order of magnitude: one octet `7f` gives 127
-- NULLs (128 nodes), `c4 00` gives 65536 (65537 nodes); `KU = 8194` nodes per bit
set_option maxRecDepth 10000 in
example : (Uper.decode (.sequenceOf .null c0) [0x7f]).toOption.map Val.nodes = some 128 := by rfl
example : KU (.sequenceOf .null c0) = 8194 := by rfl

-- DER: SEQUENCE OF announcing 2^32 - 1 octets of contents that are not there (`MissingDataError`)
example : Der.decode (.sequenceOf .boolean c0) [0x30, 0x84, 0xff, 0xff, 0xff, 0xff] = .error .decodeError := by rfl
-- DER: OCTET STRING announcing 127 octets, 1 present
example : Der.decode (.octetString c0) [0x04, 0x7f, 1] = .error .decodeError := by rfl
-- DER: an element with the wrong tag inside a SEQUENCE OF INTEGER is a decode error
-- (`ArrayType.decode_content`, /repo commit d13122d)
example : Der.decode (.sequenceOf (.integer ic) c0) [0x30, 3, 1, 1, 0] = .error .decodeError := by rfl
-- DER: indefinite length is refused for SEQUENCE OF
example : Der.decode (.sequenceOf .boolean c0) [0x30, 0x80, 1, 1, 0xff, 0, 0] = .error .decodeError := by rfl
-- DER: three NULL elements in 8 octets: 4 nodes ≤ KD * 8 = 16
example : (Der.decode (.sequenceOf .null c0) [0x30, 6, 5, 0, 5, 0, 5, 0]).toOption.map Val.nodes = some 4 := by rfl
example : KD (.sequenceOf .null c0) = 2 := by rfl

-- BER: indefinite length without end-of-contents octets
example : BerCodec.decode (.sequenceOf .boolean c0) [0x30, 0x80, 1, 1, 0xff] = .error .decodeError := by rfl
example : (BerCodec.decode (.sequenceOf .boolean c0) [0x30, 0x80, 1, 1, 0xff, 0, 0]).toOption.map Val.nodes
    = some 2 := by rfl
-- BER: constructed OCTET STRING segments nested until the data ends
example : BerCodec.decode (.octetString c0) [0x24, 0x80, 0x24, 0x80, 0x24, 0x80] = .error .decodeError := by rfl

-- OER: with an element type that needs data, the huge quantity is caught at the first element ...
example : Oer.decode (.sequenceOf .boolean c0) [4, 0xff, 0xff, 0xff, 0xff] = .error .decodeError := by rfl
-- ... with NULL elements it is not: two octets, 200 elements
set_option maxRecDepth 10000 in
example : (Oer.decode (.sequenceOf .null c0) [1, 200]).toOption.map Val.nodes = some 201 := by rfl
-- OER: a quantity field cut short is a decode error
example : Oer.decode (.sequenceOf .null c0) [0x83, 1] = .error .decodeError := by rfl
example : Oer.encUnsigned 4294967295 = .ok [4, 0xff, 0xff, 0xff, 0xff] := by rfl

end examples

end Asn1.C08
