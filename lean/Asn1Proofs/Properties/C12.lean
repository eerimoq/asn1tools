import Asn1Model.TypeCheck
import Asn1Model.Typing
import Asn1Proofs.Lemmas.TypeCheckLemmas
/-
  C12 — ill-typed components are rejected with the exact path: the type checker (model `TypeCheck` of
  type_checker.py).  The constraint side of the path claim is `C11.rejected_path_exact`.
-/
namespace Asn1.C12
open Asn1 Asn1.TypeCheck

/-- Well-typed values are never rejected by the type check: every value accepted by `hasType`
(the model's "passes the library's own checks"), embedded the way asn1tools represents values in Python,
passes the type checker — for every well-formed type (`t.wf`), at every nesting depth. -/
theorem welltyped_ok (t : Ty) (v : Val) (hwf : t.wf = true) (h : hasType t v = true) :
    tcheck t (embed v) = none :=
  tcheck_ok t v hwf h

/-- The reported path is exact: when the type checker rejects, the name path it reports leads to a
component whose own Python type / shape is wrong (or whose CHOICE alternative is unknown). -/
theorem rejected_path_exact (t : Ty) (pv : PyVal) (p : List String) (h : tcheck t pv = some p) :
    ∃ c ∈ preach t pv p, shapeOk c.1 c.2 = false :=
  path_tcheck t pv p h

/-- a wrong Python type deep inside a list inside a CHOICE is located by member names only -/
theorem test_path_through_list :
    tcheck (.choice (.cons "c" (.sequenceOf (.sequence (.cons "m" .mandatory .boolean .nil) false .nil) ⟨0, none, false⟩) .nil) false .nil)
      (.tuple [.str (strOfName "c"), .list [.dict [("m", .bool true)], .dict [("m", .int 1)]]]) = some ["c", "m"] := by
  decide +kernel

/-- `location_str`: blank names are dropped -/
theorem locationStr_example : locationStr "A" ["b", "", "c"] = "A.b.c" := by decide +kernel

end Asn1.C12
