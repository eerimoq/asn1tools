import Asn1Proofs.Lemmas.CostPerComp
import Asn1Proofs.Lemmas.PrefixPerTypes
/-
  C08p — C08 ("decoding arbitrary bytes is bounded") for the ALIGNED PER code model
  `Asn1Model/Per.lean` (`Per.dec`, `Per.decode`), for ALL types of the universe and ALL byte strings
  (no typing hypothesis: the input is arbitrary).

  (1) FUEL SUFFICIENCY: no reader ever lengthens the remaining input (every read moves forward,
      alignment only drops bits), every fragment of `read_length_determinant_chunks` costs 8 bits, so
      the fuel `8 * length + 2` of `Per.decode` is never exhausted and more fuel changes nothing.

  (2) ALLOCATION.  The size of a decoded value (`Val.nodes`, as in C08) is at most

          KP t * (bits consumed + 1)

      with `KP t` computable from the type only: `KP t * (8 * length + 1)` nodes for every type and
      every input, exactly the UPER statement.  Zero-width elements (SEQUENCE OF NULL) are bounded by
      the length determinant, exactly as in UPER.

  (3) REGRESSION.  `per_choice_overrun_rejected`: a known extension addition of a CHOICE that reads
      more than the octets of its open type is a `DecodeError` (`Choice.decode_additions`; /repo commit
      ace6523).  This is what makes (2) hold for every type.
-/
namespace Asn1.C08p
open Asn1 Asn1.CostP

/-- **aligned PER**: `decode` runs `dec` with fuel `8 * length + 2`; any larger fuel gives the same
outcome (value, remaining bits, or error): the out-of-fuel branches of `decChunks` and `decChunksBits`
are unreachable.  Every type, every input. -/
theorem per_fuel_sufficient (t : Ty) (bs : Bytes) (f : Nat) (hf : 8 * bs.length + 2 ≤ f) :
    Per.dec t f ⟨0, bytesToBits bs⟩ = Per.dec t (8 * bs.length + 2) ⟨0, bytesToBits bs⟩ :=
  Per.decode_fuel t bs f hf

theorem per_decode_any_fuel (t : Ty) (bs : Bytes) (f : Nat) (hf : 8 * bs.length + 2 ≤ f) :
    (Per.dec t f ⟨0, bytesToBits bs⟩).map (·.1) = Per.decode t bs := by
  rw [per_fuel_sufficient t bs f hf]; rfl

/-- the general statement, on any decoder state: two amounts of fuel above the number of remaining
bits -/
theorem per_dec_fuel_irrelevant (t : Ty) (f f' : Nat) (s : Per.St)
    (hf : s.bs.length < f) (hf' : s.bs.length < f') : Per.dec t f s = Per.dec t f' s :=
  Per.dec_fuel t f f' s hf hf'

/-- the chunk loop itself (`read_length_determinant_chunks` driving an item decoder): for an item
decoder that never lengthens the input, fuel above the number of remaining bits is never used up -/
theorem per_chunks_fuel_irrelevant {α : Type} (p : Per.St → Uper.DecM (α × Per.St))
    (hp : ∀ s a r, p s = .ok (a, r) → r.bs.length ≤ s.bs.length) (f f' : Nat) (s : Per.St)
    (hf : s.bs.length < f) (hf' : s.bs.length < f') :
    Per.decChunks p f s = Per.decChunks p f' s :=
  Per.decChunks_fuel hp f f' s hf hf'

/-- the block-wise chunk loop (OCTET STRING, BIT STRING, UTF8String) -/
theorem per_chunksBits_fuel_irrelevant (u f f' : Nat) (s : Per.St)
    (hf : s.bs.length < f) (hf' : s.bs.length < f') :
    Per.decChunksBits u f s = Per.decChunksBits u f' s :=
  Per.decChunksBits_fuel u f f' s hf hf'

/-- **aligned PER**, bit level, every type, every decoder state: the decoder never lengthens the
remaining input, and it allocates at most `KP t` nodes per bit consumed (+1).  `KP` is 1 for leaf types;
a SEQUENCE OF multiplies by `1 + seqOfMaxP c ≥ 8193` (one length octet `c4` announces 65536 elements,
which cost nothing when the element type is NULL). -/
theorem per_dec_alloc (t : Ty) (f : Nat) (s : Per.St) (v : Val) (r : Per.St)
    (h : Per.dec t f s = .ok (v, r)) :
    r.bs.length ≤ s.bs.length ∧ v.nodes ≤ KP t * (s.bs.length - r.bs.length + 1) :=
  szp_bound t f s v r h

/-- **aligned PER**: allocation bound in octets of input, every type, every octet string -/
theorem per_alloc_bound (t : Ty) (bs : Bytes) (v : Val)
    (h : Per.decode t bs = .ok v) : v.nodes ≤ 8 * KP t * (bs.length + 1) :=
  per_decode_alloc_octets t bs v h

/-- the sharper form `KP t * (8 * length + 1)` -/
theorem per_alloc_bound_bits (t : Ty) (bs : Bytes) (v : Val)
    (h : Per.decode t bs = .ok v) : v.nodes ≤ KP t * (8 * bs.length + 1) :=
  per_decode_alloc t bs v h

/-- `CHOICE { a NULL, ..., b OCTET STRING }` -/
def rwChoice : Ty :=
  .choice (.cons "a" .null .nil) true (.cons "b" (.octetString ⟨0, none, false⟩) .nil)

/-- `SEQUENCE OF CHOICE { a NULL, ..., b OCTET STRING }` -/
def rwList : Ty := .sequenceOf rwChoice ⟨0, none, false⟩

/-- **Regression** for `Choice.decode_additions` (/repo commit ace6523: an addition longer than its open
type raises `DecodeError`; with a negative `skip_bits` count the read position would move back and the
same octets be decoded again).  `80 00 00`: addition 0 in an open type of ZERO octets, whose OCTET STRING
(a length octet `00`) reads 8 bits.  `02 80 01 03 80 00 01 55`: a SEQUENCE OF of two elements, the first
(`80 01 03`: open type of ONE octet, OCTET STRING of 3) reads beyond its open type. -/
theorem per_choice_overrun_rejected :
    Per.decode rwChoice [0x80, 0x00, 0x00] = .error .decodeError ∧
    Per.decode rwList [0x02, 0x80, 0x01, 0x03, 0x80, 0x00, 0x01, 0x55] = .error .decodeError :=
  ⟨rfl, rfl⟩

section examples
private abbrev c0 : SizeC := ⟨0, none, false⟩

-- a length determinant announcing 65536 BOOLEANs with no data behind it: out of data
example : Per.decode (.sequenceOf .boolean c0) [0xc4] = .error .decodeError := by rfl
-- 127 octets announced, 2 present
example : Per.decode (.octetString c0) [0x7f, 1, 2] = .error .decodeError := by rfl
-- `ff` is not a length determinant
example : Per.decode (.octetString c0) [0xff] = .error .decodeError := by rfl
-- the bound is not vacuous and `K` has the right order of magnitude: one octet `7f` gives 127 NULLs
set_option maxRecDepth 10000 in
example : (Per.decode (.sequenceOf .null c0) [0x7f]).toOption.map Val.nodes = some 128 := by rfl
example : KP (.sequenceOf .null c0) = 8194 := by rfl
-- the type of the regression: linear bound, like every type
example : KP rwList = 32773 := by rfl
-- an addition that fills its open type exactly (or leaves padding) is accepted
example : Per.decode rwList [0x01, 0x80, 0x02, 0x01, 0x55]
    = .ok (.list [.choice "b" (.bytes [0x55])]) := by rfl
example : Per.decode rwList [0x01, 0x80, 0x03, 0x01, 0x55, 0x00]
    = .ok (.list [.choice "b" (.bytes [0x55])]) := by rfl
-- one octet too few in the open type: rejected
example : Per.decode rwList [0x01, 0x80, 0x01, 0x01, 0x55] = .error .decodeError := by rfl

end examples

end Asn1.C08p

#print axioms Asn1.C08p.per_fuel_sufficient
#print axioms Asn1.C08p.per_decode_any_fuel
#print axioms Asn1.C08p.per_dec_fuel_irrelevant
#print axioms Asn1.C08p.per_chunks_fuel_irrelevant
#print axioms Asn1.C08p.per_chunksBits_fuel_irrelevant
#print axioms Asn1.C08p.per_dec_alloc
#print axioms Asn1.C08p.per_alloc_bound
#print axioms Asn1.C08p.per_alloc_bound_bits
#print axioms Asn1.C08p.per_choice_overrun_rejected
