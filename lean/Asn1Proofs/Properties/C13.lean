import Asn1Proofs.Lemmas.PrepEnum
import Asn1Proofs.Lemmas.PrepHistory
import Asn1Proofs.Lemmas.PrepResolve
/-
  C13 — "a parsed dictionary may be compiled any number of times, for any sequence of codecs and
  options: every resulting codec object behaves exactly like one compiled from a fresh parse".

  `asn1tools.compile_dict(d, …)` rewrites the dictionary `d` IN PLACE (three times per call) before it
  compiles it; the model of this rewrite is `Asn1.SpecDict.Preprocess.run numeric_enums d`
  (lean/Asn1Model/SpecDict.lean, tied to the real code by tools/compare_prep.py).  A later compile
  sees the rewritten dictionary; it behaves like a compile of a fresh parse iff the rewrite maps the
  rewritten dictionary to what it maps the fresh one to: `run_idempotent` (same options), `run_history`
  (changing `numeric_enums`, outside the named findings), and closed witnesses that the findings are real.

  `components_of_idem` … `default_value_idem` say of each of the four passes by itself that a second
  application does nothing; `run_idempotent` does not go through them but through the three attribute
  passes composed (`locDesc_absorb`, PrepLoc).
-/
namespace Asn1.C13
open Asn1.SpecDict Asn1.SpecDict.Preprocess

/-- Pass 1: after COMPONENTS OF has been expanded in a module, no member list of a type assignment of
the module contains a COMPONENTS OF entry, and the pass is the identity on such a module. -/
theorem components_of_idem (s : Spec) (i : Nat) (mn mn' : String) (m : Module)
    (hi : s[i]? = some (mn', m)) :
    compOfModule i mn m.types.length (compOfModule i mn m.types.length s)
      = compOfModule i mn m.types.length s :=
  compOfModule_of_clean i mn (ModClean_compOfModule i mn hi) _

theorem components_of_clean (s : Spec) (i : Nat) (mn mn' : String) (m : Module)
    (hi : s[i]? = some (mn', m)) : ModClean (compOfModule i mn m.types.length s) i :=
  ModClean_compOfModule i mn hi

/-- Pass 2: EXTENSIBILITY IMPLIED appends a marker only where there is none. -/
theorem ext_implied_idem (s : Spec) (i : Nat) : extModule i (extModule i s) = extModule i s :=
  mapTypes_at_idem extDesc_idem i s

/-- Pass 3: automatic tagging is skipped when any member carries a tag … -/
theorem tags_skipped_when_tagged (sk : Skel) (mn : String) (ms : List Item)
    (h : anyTagged ms = true) :
    tagBody sk "AUTOMATIC" mn (.members ms) = .members (tagItems sk "AUTOMATIC" mn none ms) := by
  simp [tagBody, h]

/-- … and after automatic tagging every member carries a tag (the list is unchanged by a second
numbering only because there is nothing to number). -/
theorem tags_all_tagged (sk : Skel) (mt mn : String) (k : Nat) (ms : List Item)
    (h : anyTagged (tagItems sk mt mn (some k) ms) = false) (j : Nat) :
    tagItems sk mt mn (some j) (tagItems sk mt mn (some k) ms) = tagItems sk mt mn (some k) ms :=
  tagItems_some_fix sk mt mn j k ms h

theorem tags_idem (s : Spec) (i : Nat) (mn mt : String) :
    tagsModule i mn mt (tagsModule i mn mt s) = tagsModule i mn mt s := by
  unfold tagsModule
  rw [skel_mapTypes_at (fun d => by simp)]
  exact mapTypes_at_idem (tagDesc_idem (skel s) mt mn) i s

/-- Pass 4 on one value: the "already processed" guards make a second conversion a no-op. -/
theorem default_value_idem (n : Bool) (r : Core) (v : DefVal)
    (hr : ∀ vals, r.values = some vals → RefStable vals) :
    convDefault n r (convDefault n r v) = convDefault n r v :=
  convDefault_idem n r v hr

/-- In no ENUMERATED of the dictionary is a value reference that is used as enumeration number also
the name of an item with another number (`ENUMERATED { a(b), b(1) }`).  With `numeric_enums=True`
the DEFAULT `a` of such a type becomes `'b'` in the first compile and `1` in the second one. -/
def EnumRefsStable (d : Spec) : Prop :=
  SpecAll (fun a => ∀ vals, a.core.values = some vals → RefStable vals) d

/-- sufficient: no enumeration number is a value reference (all dictionaries produced by the parser
from specifications without `a(valuereference)` items) -/
def NoEnumRefs (d : Spec) : Prop :=
  SpecAll (fun a => ∀ vals, a.core.values = some vals → ∀ s t, enumValueOf? s vals ≠ some (.ref t)) d

theorem EnumRefsStable_of_NoEnumRefs {d : Spec} (h : NoEnumRefs d) : EnumRefsStable d := by
  intro mn m hm k td htd
  refine Desc.All.imp ?_ td (h mn m hm k td htd)
  intro a ha vals hv s t hs
  exact absurd hs (ha vals hv s t)

theorem passInv_refStable (n : Bool) (d : Spec) (h : EnumRefsStable d) :
    PassInv (fun a => ∀ vals, a.core.values = some vals → RefStable vals) (skel d) n n := by
  refine ⟨?_, ?_, ?_⟩
  · intro a k mt mn ha; simpa using ha
  · intro a mn ha; simpa using ha
  · intro a mn ha
    refine Absorbs_of_value _ _ _ _ _ (fun v _ => ?_)
    exact convDefault_idem n _ v
      (resolve_all (Pc := fun c => ∀ vals, c.values = some vals → RefStable vals) h a.core mn ha)

/-- C13, same options.  Rewriting a rewritten dictionary changes nothing: however often a
dictionary is compiled with the same `numeric_enums`, every compile after the first one starts from
the dictionary the first compile produced.  For ALL dictionaries (any modules, imports, COMPONENTS OF
chains — also unresolvable or cyclic ones, where the model drops the entry and Python raises). -/
theorem run_idempotent (n : Bool) (d : Spec) (h : EnumRefsStable d) :
    run n (run n d) = run n d :=
  run_run_of_inv n d h (passInv_refStable n d h)

/-- Without `numeric_enums` no hypothesis is needed at all. -/
theorem run_idempotent_names (d : Spec) : run false (run false d) = run false d := by
  refine run_run_of_inv (P := fun _ => True) false d (SpecAll_true d) ⟨?_, ?_, ?_⟩
  · intros; trivial
  · intros; trivial
  · intro a mn _
    exact Absorbs_of_value _ _ _ _ _ (fun v _ => convDefault_false_idem _ v)

/-- The hypothesis of the history theorem (its negation is the finding predicate):
no member list of a type assignment has a COMPONENTS OF entry, and every descriptor whose type
resolves to an ENUMERATED has (1) an enumeration whose names and numbers determine each other, none
of them a value reference, and (2) a DEFAULT that is not a Python `bool`. -/
abbrev HistoryOK (d : Spec) : Prop := HistOK d

/-- C13, changing options.  Whatever sequence of `numeric_enums` flags a dictionary has been
compiled with before, a compile with flag `n` starts from the dictionary a fresh parse would be
rewritten to — outside the finding predicate `¬ HistoryOK d`. -/
theorem run_history (n : Bool) (hist : List Bool) (d : Spec) (h : HistoryOK d) :
    (hist ++ [n]).foldl (fun d b => run b d) d = run n d := by
  rw [List.foldl_append]
  exact run_history_aux n hist h

theorem run_run (m n : Bool) (d : Spec) (h : HistoryOK d) : run n (run m d) = run n d :=
  run_absorb m n h

/-- After any compile no member list of a type assignment has a COMPONENTS OF entry left: the first
half of `HistoryOK` holds for every dictionary that has been compiled once, so for later compiles
only the ENUMERATED half is a hypothesis (`run_history` with `d := run m₀ d₀`). -/
theorem clean_after_compile (m : Bool) (d : Spec) : AllClean (run m d) := AllClean_run m d

def fld (name type : String) : Attrs := { type := type, name := some name }

def summary (s : Spec) (mn tn : String) :
    List (Option (Option String × Option Tag × Option DefVal)) :=
  match find? mn s with
  | none => []
  | some m =>
    match find? tn m.types with
    | some (.mk _ (.members ms)) =>
      ms.map fun i => match i with
        | .desc d => some (d.attrs.name, d.attrs.tag, d.attrs.default)
        | _ => none
    | _ => []

def defaultOf (s : Spec) (mn tn : String) (k : Nat) : Option DefVal :=
  match (summary s mn tn)[k]? with
  | some (some (_, _, d)) => d
  | _ => none

/-
  M DEFINITIONS AUTOMATIC TAGS ::= BEGIN
    A ::= SEQUENCE { COMPONENTS OF B, flags BIT STRING { x(0), y(2) } DEFAULT { y },
                     mask BIT STRING DEFAULT '0101'B, ..., extra BOOLEAN DEFAULT TRUE }
    B ::= SEQUENCE { id INTEGER, e ENUMERATED { a(0), b(5) } DEFAULT b, ..., later NULL }
  END
-/
def exB : Desc := .mk { type := "SEQUENCE" } (.members [
  .desc (.mk (fld "id" "INTEGER") .leaf),
  .desc (.mk { fld "e" "ENUMERATED" with
      values := some [.item "a" (.int 0), .item "b" (.int 5)], default := some (.str "b") } .leaf),
  .marker,
  .desc (.mk (fld "later" "NULL") .leaf)])

def exA : Desc := .mk { type := "SEQUENCE" } (.members [
  .compOf "B",
  .desc (.mk { fld "flags" "BIT STRING" with
      namedBits := some [("x", "0"), ("y", "2")], default := some (.names ["y"]) } .leaf),
  .desc (.mk { fld "mask" "BIT STRING" with default := some (.str "0b0101") } .leaf),
  .marker,
  .desc (.mk { fld "extra" "BOOLEAN" with default := some (.str "TRUE") } .leaf)])

def exM : Spec := [("M", { tags := some "AUTOMATIC", types := [("A", exA), ("B", exB)] })]

private def tg (n : Int) : Option Tag := some { number := .int n, kind := some "IMPLICIT" }

/-- what the rewrite does to `A`: COMPONENTS OF expanded up to the marker of `B`, automatic tags
0..4, the three DEFAULT conversions -/
example : summary (run false exM) "M" "A" =
    [some (some "id", tg 0, none), some (some "e", tg 1, some (.str "b")),
     some (some "flags", tg 2, some (.bits [32] 3)), some (some "mask", tg 3, some (.bits [80] 4)),
     none, some (some "extra", tg 4, some (.bool true))] := by decide +kernel

example : defaultOf (run true exM) "M" "A" 1 = some (.int 5) := by decide +kernel

theorem exM_wf : EnumRefsStable exM := by
  refine EnumRefsStable_of_NoEnumRefs ?_
  intro mn m hm k td htd
  cases List.mem_singleton.1 hm
  simp only [List.mem_cons, Prod.mk.injEq, List.not_mem_nil, or_false] at htd
  rcases htd with ⟨rfl, rfl⟩ | ⟨rfl, rfl⟩
  · simp [exA, fld, Desc.All, Body.All, ItemsAll, Item.All, Attrs.core]
  · simp only [exB, fld, Desc.All, Body.All, ItemsAll, Item.All, Attrs.core, and_true, true_and]
    refine ⟨by simp, by simp, ?_, by simp⟩
    intro vals hv
    simp only [Option.some.injEq] at hv
    subst hv
    exact noRef_of_allInt (by decide)

example : run true (run true exM) = run true exM := run_idempotent true exM exM_wf
example : run false (run false exM) = run false exM := run_idempotent_names exM
example : run true (run true exM) = run true exM := run_idempotent true exM exM_wf
/-- the rewrite is not the identity on the example -/
example : defaultOf exM "M" "A" 2 ≠ defaultOf (run false exM) "M" "A" 2 := by decide +kernel

/-
  H DEFINITIONS AUTOMATIC TAGS ::= BEGIN
    E ::= ENUMERATED { a(0), b(5) }
    S ::= SEQUENCE { m E DEFAULT b, n ENUMERATED { p(1), q(2) } DEFAULT q, o BOOLEAN DEFAULT TRUE }
  END
-/
def exE : Desc :=
  .mk { type := "ENUMERATED", values := some [.item "a" (.int 0), .item "b" (.int 5)] } .leaf

def exS : Desc := .mk { type := "SEQUENCE" } (.members [
  .desc (.mk { fld "m" "E" with default := some (.str "b") } .leaf),
  .desc (.mk { fld "n" "ENUMERATED" with
      values := some [.item "p" (.int 1), .item "q" (.int 2)], default := some (.str "q") } .leaf),
  .desc (.mk { fld "o" "BOOLEAN" with default := some (.str "TRUE") } .leaf)])

def exH : Spec := [("H", { tags := some "AUTOMATIC", types := [("E", exE), ("S", exS)] })]

private theorem notBool_of_str (s : String) :
    ∀ v b, some (DefVal.str s) = some v → v ≠ DefVal.bool b := by
  intro v b hv; cases hv; exact fun h => by cases h

theorem exH_ok : HistoryOK exH := by
  refine ⟨?_, ?_⟩
  · intro mn m hm k td htd
    cases List.mem_singleton.1 hm
    simp only [List.mem_cons, Prod.mk.injEq, List.not_mem_nil, or_false] at htd
    rcases htd with ⟨rfl, rfl⟩ | ⟨rfl, rfl⟩ <;> rfl
  · intro mn m hm k td htd
    cases List.mem_singleton.1 hm
    simp only [List.mem_cons, Prod.mk.injEq, List.not_mem_nil, or_false] at htd
    rcases htd with ⟨rfl, rfl⟩ | ⟨rfl, rfl⟩
    · simp only [exE, Desc.All, Body.All, and_true]
      exact fun _ => ⟨GoodEnum_of_values rfl (by decide), fun v b hv => by cases hv⟩
    · simp only [exS, Desc.All, Body.All, ItemsAll, Item.All, and_true]
      exact ⟨fun h => absurd h (by decide),
        fun _ => ⟨GoodEnum_of_values rfl (by decide), notBool_of_str "b"⟩,
        fun _ => ⟨GoodEnum_of_values rfl (by decide), notBool_of_str "q"⟩,
        fun h => absurd h (by decide)⟩

example : run false (run true exH) = run false exH := run_run true false exH exH_ok
example : [true, false, true, true, false].foldl (fun d b => run b d) exH = run false exH :=
  run_history false [true, false, true, true] exH exH_ok
/-- the two flags really give different dictionaries -/
example : defaultOf (run true exH) "H" "S" 0 = some (.int 5)
    ∧ defaultOf (run false exH) "H" "S" 0 = some (.str "b") := by decide +kernel

/-- FINDING (idempotence): `A ::= SEQUENCE { e ENUMERATED { a(b), b(1) } DEFAULT a }` with the value
reference `b` (what `parse_string` returns for it).  With `numeric_enums=True` the first rewrite
turns the DEFAULT into `'b'` (the name of the value reference, not its value) and the second one
into `1`: the three rewrites inside ONE `compile_dict` call already disagree. -/
def wRef : Spec := [("M", { tags := some "AUTOMATIC", types := [("A",
  .mk { type := "SEQUENCE" } (.members [
    .desc (.mk { fld "e" "ENUMERATED" with
      values := some [.item "a" (.ref "b"), .item "b" (.int 1)],
      default := some (.str "a") } .leaf)]))] })]

theorem idempotence_fails_enum_value_reference : run true (run true wRef) ≠ run true wRef := by
  intro h
  have := congrArg (fun s => defaultOf s "M" "A" 0) h
  revert this
  decide +kernel

/-- … so the witness violates `EnumRefsStable`: the hypothesis of `run_idempotent` cannot be dropped -/
theorem wRef_not_wf : ¬ EnumRefsStable wRef := fun h =>
  idempotence_fails_enum_value_reference (run_idempotent true wRef h)

/-- FINDING (history, hand-made dictionary; the parser rejects duplicate numbers): two names with
one number.  `numeric_enums=True` then `False` turns DEFAULT `b` into `a`. -/
def wDup : Spec := [("M", { types := [("A",
  .mk { type := "SEQUENCE" } (.members [
    .desc (.mk { fld "e" "ENUMERATED" with
      values := some [.item "a" (.int 1), .item "b" (.int 1)],
      default := some (.str "b") } .leaf)]))] })]

theorem history_fails_duplicate_numbers : run false (run true wDup) ≠ run false wDup := by
  intro h
  have := congrArg (fun s => defaultOf s "M" "A" 0) h
  revert this
  decide +kernel

/-- FINDING (history, hand-made dictionary): a Python `bool` as DEFAULT of an ENUMERATED member
(`isinstance(True, int)`): `False` then `True` gives the integer 1, a fresh `True` leaves `True`. -/
def wBool : Spec := [("M", { types := [("A",
  .mk { type := "SEQUENCE" } (.members [
    .desc (.mk { fld "e" "ENUMERATED" with
      values := some [.item "a" (.int 0), .item "b" (.int 1)],
      default := some (.bool true) } .leaf)]))] })]

theorem history_fails_bool_default : run true (run false wBool) ≠ run true wBool := by
  intro h
  have := congrArg (fun s => defaultOf s "M" "A" 0) h
  revert this
  decide +kernel

/-- FINDING (history, a dictionary the parser produces and every codec compiles):

      M0 DEFINITIONS AUTOMATIC TAGS ::= BEGIN
        E ::= ENUMERATED { a(0), b(5) }     S ::= SEQUENCE { m E DEFAULT b }            END
      M1 DEFINITIONS AUTOMATIC TAGS ::= BEGIN IMPORTS S FROM M0;
        E ::= ENUMERATED { c(5), d(7), e(8) }     T ::= SEQUENCE { COMPONENTS OF S, x BOOLEAN }  END

  The member copied into `M1.T` keeps the type NAME `E`, which in `M1` is another type.  After
  `numeric_enums=True` the copy carries the integer 5; a later `numeric_enums=False` compile restores
  it from `M1.E` to `c`, whereas a fresh compile keeps `b`.  (Real code: `decode('T', b'\x40')` gives
  `{'m': 'c', …}` after the history and `{'m': 'b', …}` fresh.) -/
def wCapture : Spec :=
  [("M0", { tags := some "AUTOMATIC", types := [
      ("E", .mk { type := "ENUMERATED", values := some [.item "a" (.int 0), .item "b" (.int 5)] }
          .leaf),
      ("S", .mk { type := "SEQUENCE" } (.members [
          .desc (.mk { fld "m" "E" with default := some (.str "b") } .leaf)]))] }),
   ("M1", { tags := some "AUTOMATIC", imports := [("M0", ["S"])], types := [
      ("E", .mk { type := "ENUMERATED",
                  values := some [.item "c" (.int 5), .item "d" (.int 7), .item "e" (.int 8)] }
          .leaf),
      ("T", .mk { type := "SEQUENCE" } (.members [
          .compOf "S", .desc (.mk (fld "x" "BOOLEAN") .leaf)]))] })]

theorem history_fails_components_of :
    defaultOf (run false (run true wCapture)) "M1" "T" 0 = some (.str "c")
    ∧ defaultOf (run false wCapture) "M1" "T" 0 = some (.str "b") := by decide +kernel

theorem history_fails_components_of' : run false (run true wCapture) ≠ run false wCapture := by
  intro h
  have := history_fails_components_of
  rw [h, this.2] at this
  exact absurd this.1 (by decide)

theorem run_history_not_unconditional :
    ¬ ∀ (m n : Bool) (d : Spec), run n (run m d) = run n d :=
  fun h => history_fails_components_of' (h true false wCapture)

end Asn1.C13
