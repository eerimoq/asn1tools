import Asn1Model.Typing
import Asn1Model.Per
import Asn1Proofs.Lemmas.PrefixPerTop
import Asn1Proofs.Lemmas.PrefixPerCounterexample
/-
  C16p — a truncated ALIGNED PER encoding is a decode error.  Route as for UPER in C16: the round trip
  (`C01p.per_roundtrip_partial`) says that the decoder consumes exactly the encoding, prefix determinism
  (`per_prefix_deterministic`) that success on a strict prefix would contradict that; and every failure on
  exhausted input is the library's DecodeError/OutOfDataError class by the primitive readers of the model
  (`Per.readBits`, `Per.readNat`, `Per.readBit`).

  What is specific to the aligned variant: `Decoder.align_always` drops `number_of_bits & 7` of the
  REMAINING bits.  That is stable under extension of the input only when the input ends at an octet
  boundary of the message -- which every input the library can be given does.  So the bit-level
  statements carry the hypothesis `(pos + q.length) % 8 = 0`, shown necessary below, and the byte-level
  theorem needs nothing beyond the hypotheses of the UPER theorem.
-/
namespace Asn1.C16p
open Asn1

/-- **C16, aligned PER.**  Every strict byte prefix of the encoding of a well-typed value is rejected
by the decoder with the library's decode error: it is not decoded to a value and no foreign exception
escapes.  All types of the universe, all values, all cut points.  Same hypotheses as the round-trip
theorem `C01p.per_decode_encode` (and the same shape as `C16.uper_truncated`); `Per.fragFree` is
necessary (`per_truncated_needs_fragFree`). -/
theorem per_truncated (t : Ty) (v : Val) (bytes : Bytes) (k : Nat)
    (hwf : t.wf = true) (hd : t.defaultsOk = true) (ht : hasType t v = true)
    (hf : Per.fragFree t v = true) (hns : t.nsOk = true)
    (he : Per.encode t v = .ok bytes) (hk : k < bytes.length) :
    Per.decode t (bytes.take k) = .error .decodeError :=
  Per.truncated t v bytes k hwf hd ht hf hns he hk

/-- bit-level form, at every start position: the encoder wrote `bits` behind `pos` bits; a strict
prefix `q` of `bits` that ends at an octet boundary of the message (followed by nothing) is rejected
with `decodeError`, whatever fuel (larger than the prefix) the decoder gets.  This covers a cut inside
an enclosing message, e.g. inside the open type of an extension addition. -/
theorem per_truncated_bits (t : Ty) (v : Val) (pos : Nat) (bits q x : Bits) (f' : Nat)
    (hwf : t.wf = true) (hd : t.defaultsOk = true) (ht : hasType t v = true)
    (hf : Per.fragFree t v = true) (hns : t.nsOk = true) (he : Per.enc t pos v = .ok bits)
    (hq : bits = q ++ x) (hx : x ≠ []) (hal : (pos + q.length) % 8 = 0) (hfuel : q.length < f') :
    Per.dec t f' ⟨pos, q⟩ = .error .decodeError :=
  Per.truncated_bits t v pos bits q x f' hwf hd ht hf hns he hq hx hal hfuel

/-- the aligned PER decoder is prefix deterministic for *every* type, also outside the round-trip
hypotheses: a prefix, ending at an octet boundary of the message, of an accepted input is either
accepted with the same value, the same read position and the same consumption (`r.bs = r' ++ x`,
position + remaining bits unchanged), or rejected with `decodeError`.  The position component of the
state does not depend on what follows the prefix. -/
theorem per_prefix_deterministic (t : Ty) (f f' pos : Nat) (q x : Bits) (a : Val) (r : Per.St)
    (hal : (pos + q.length) % 8 = 0) (hf : q.length < f')
    (h : Per.dec t f ⟨pos, q ++ x⟩ = .ok (a, r)) :
    (∃ r', Per.dec t f' ⟨pos, q⟩ = .ok (a, ⟨r.pos, r'⟩) ∧ r.bs = r' ++ x ∧
        r.pos + r'.length = pos + q.length) ∨
      Per.dec t f' ⟨pos, q⟩ = .error .decodeError :=
  Per.dec_prefix t f f' pos q x a r hal hf h

/-- **Necessity of the octet-boundary hypothesis of `per_truncated_bits`.**
`OCTET STRING (SIZE(0..5))`, empty value: three bits of length, `align_always`, no contents; the
encoding is eight zero bits.  All other hypotheses hold; cut after four BITS, the decoder reads the
length, "aligns" by dropping the single bit that is left and returns the value.  (Such a cut cannot be
presented to `Specification.decode`, which takes whole octets: `per_truncated`.) -/
theorem per_truncated_bits_needs_octet_boundary :
    Per.cxaTy.wf = true ∧ Per.cxaTy.defaultsOk = true ∧ hasType Per.cxaTy (.bytes []) = true ∧
    Per.fragFree Per.cxaTy (.bytes []) = true ∧ Per.cxaTy.nsOk = true ∧
    Per.enc Per.cxaTy 0 (.bytes []) = .ok Per.cxaBits ∧
    Per.cxaBits = List.replicate 4 false ++ List.replicate 4 false ∧
    Per.dec Per.cxaTy 6 ⟨0, List.replicate 4 false⟩ = .ok (.bytes [], ⟨8, []⟩) :=
  Per.truncated_bits_unaligned_counterexample

/-- **Necessity of the octet-boundary hypothesis of `per_prefix_deterministic`.**  Same type: there
are `q`, `x` on which the decoder accepts both `q ++ x` and `q` with the same value and position, but
what it leaves of `q ++ x` is not what it leaves of `q` followed by `x` (`align` ate four bits of `x`). -/
theorem per_prefix_needs_octet_boundary :
    ∃ (q x : Bits) (r : Per.St), Per.dec Per.cxaTy 20 ⟨0, q ++ x⟩ = .ok (.bytes [], r) ∧
      (∀ f', ∃ r', Per.dec Per.cxaTy (f' + 1) ⟨0, q⟩ = .ok (.bytes [], ⟨r.pos, r'⟩) ∧ r.bs ≠ r' ++ x) :=
  Per.dec_prefix_unaligned_counterexample

/-- **Necessity of `Per.fragFree` in `per_truncated`** (F_unfragmented, the finding of C01p/C05).
`OCTET STRING (SIZE(0, ...))` with 16385 zero octets: all other hypotheses hold, the encoder succeeds
with the 16387 octets `80 c1 00 … 00` (the length 16385 written without fragmentation is the fragment
marker `c1`); the strict prefix of 16386 octets is ACCEPTED -- the decoder reads `c1` as "16384
octets", finds exactly that many and returns them as the value. -/
theorem per_truncated_needs_fragFree :
    Per.cxTy.wf = true ∧ Per.cxTy.defaultsOk = true ∧ hasType Per.cxTy Per.cxVal = true ∧
    Per.cxTy.nsOk = true ∧ Per.fragFree Per.cxTy Per.cxVal = false ∧
    Per.encode Per.cxTy Per.cxVal = .ok Per.cxBytes ∧ 16386 < Per.cxBytes.length ∧
    Per.decode Per.cxTy (Per.cxBytes.take 16386) = .ok (.bytes (List.replicate 16384 0)) :=
  Per.truncated_fails_without_fragFree

/-- non-vacuity of `per_truncated` on the type of the C16 example (OPTIONAL / DEFAULT members,
extension additions, an extensible CHOICE, an extensible SEQUENCE OF; the encoding contains padding
of `align_always` and two open types): all hypotheses hold and the encoding has 13 octets -/
example :
    let t : Ty := .sequenceOf (.sequence
        (.cons "a" .optional (.integer ⟨some 0, some 300, true⟩)
        (.cons "b" (.default (.bool true)) .boolean .nil)) true
        (.cons "c" .optional (.choice (.cons "x" .null (.cons "y" (.octetString ⟨0, none, false⟩) .nil)) true
            (.cons "z" (.charString .ia5 ⟨1, some 4, false⟩) .nil)) .nil)) ⟨0, some 3, true⟩
    let v : Val := .list [.record [("a", .int 70000), ("c", .choice "z" (.str [65, 66]))], .record [("b", .bool false)]]
    t.wf = true ∧ t.defaultsOk = true ∧ hasType t v = true ∧ Per.fragFree t v = true ∧ t.nsOk = true ∧
      (Per.encode t v).toOption = some [90, 3, 1, 17, 112, 1, 5, 128, 3, 64, 65, 66, 32] := by
  refine ⟨by decide +kernel, by decide +kernel, by decide +kernel, by decide +kernel,
    by decide +kernel, by decide +kernel⟩

end Asn1.C16p

#print axioms Asn1.C16p.per_truncated
#print axioms Asn1.C16p.per_truncated_bits
#print axioms Asn1.C16p.per_prefix_deterministic
#print axioms Asn1.C16p.per_truncated_bits_needs_octet_boundary
#print axioms Asn1.C16p.per_prefix_needs_octet_boundary
#print axioms Asn1.C16p.per_truncated_needs_fragFree
