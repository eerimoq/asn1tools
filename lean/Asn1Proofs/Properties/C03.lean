import Asn1Proofs.Lemmas.X690Refines
import Asn1Proofs.Lemmas.X690Canonical
import Asn1Proofs.Lemmas.X690Shape
/-
  C03: the DER output is the unique X.690 distinguished encoding.

  S-level: `X690.derEncode` (Asn1Model/X690.lean), written clause by clause from X.690 8 / 10 / 11.
  M-level: `Der.encode` (Asn1Model/Der.lean), the model of asn1tools' der.py.
  Abstract values: `Der.canon' = X690.canonV` (Asn1Model/X690Value.lean).
-/
namespace Asn1.C03
open Asn1

/-- the code computes the distinguished encoding on every value of the type, outside the one
named deviation `default-valued-component-not-elided` (`X690.elisionOk`: X.690 11.5 is about the
*value* being equal to the DEFAULT, the code compares the Python objects, and never elides a NULL) -/
theorem der_refines (t : Ty) (v : Val)
    (hwf : t.wf = true) (ht : hasType t v = true) (hdev : X690.deviations t v = []) :
    Der.encode t v = X690.derEncode t v :=
  X690.der_refines t v hwf ht hdev

/-- the same in every tagging context (member `[i]`, alternative `[i]`) -/
theorem der_refines_tagged (t : Ty) (tg : Option Nat) (v : Val)
    (hwf : t.wf = true) (ht : hasType t v = true) (hdev : X690.elisionOk t v = true) :
    Der.enc t tg v = X690.encV t tg v :=
  X690.enc_refines t tg v hwf ht hdev

/-- canonicity: equal abstract values, identical octets (the values need not be well typed) -/
theorem der_canonical (t : Ty) (v₁ v₂ : Val)
    (hwf : t.wf = true) (hd : X690.defaultsOkV t = true) (h : Der.canon' t v₁ = Der.canon' t v₂) :
    X690.derEncode t v₁ = X690.derEncode t v₂ :=
  X690.der_canonical t v₁ v₂ hwf hd h

/-- canonicity of the code's encoder, outside the deviation: by `der_refines` and `der_canonical` -/
theorem der_code_canonical (t : Ty) (v₁ v₂ : Val)
    (hwf : t.wf = true) (hd : X690.defaultsOkV t = true)
    (ht₁ : hasType t v₁ = true) (ht₂ : hasType t v₂ = true)
    (hdev₁ : X690.deviations t v₁ = []) (hdev₂ : X690.deviations t v₂ = [])
    (h : Der.canon' t v₁ = Der.canon' t v₂) :
    Der.encode t v₁ = Der.encode t v₂ := by
  rw [der_refines t v₁ hwf ht₁ hdev₁, der_refines t v₂ hwf ht₂ hdev₂]
  exact der_canonical t v₁ v₂ hwf hd h

/-- shape: every output of the code's encoder (any tagging context) is a single TLV with valid
identifier octets and minimal definite length octets (no valid length octets made of bytes are
shorter), and the framing probe `decode_full_length` (C15) measures it exactly.  "Valid" is
`Ber.validLen`, and `hlen` is its bound, one subsequent length octet more than X.690 has
(`C15.encLength_valid`). -/
theorem der_tlv_shape (t : Ty) (tg : Option Nat) (v : Val) (bytes : Bytes)
    (h : Der.enc t tg v = .ok bytes) (hlen : bytes.length < 256 ^ 127) : X690.SingleTLV bytes := by
  rcases Der.enc_form h with ⟨⟨content, rfl⟩, _⟩ | ⟨_, _, t', j, v', h'⟩
  · exact X690.tlv_singleTLV _ _ (Der.mkTag_valid _ _ _) hlen
  · rcases Der.enc_form h' with ⟨⟨content, rfl⟩, _⟩ | ⟨hn, _⟩
    · exact X690.tlv_singleTLV _ _ (Der.mkTag_valid _ _ _) hlen
    · cases hn

theorem spec_tlv_shape (t : Ty) (v : Val) (bytes : Bytes)
    (h : X690.derEncode t v = .ok bytes) (hlen : bytes.length < 256 ^ 127) : X690.SingleTLV bytes :=
  X690.encV_tlv_shape t none v bytes h hlen

/-- `MinimalLen` needs the competing length octets to be bytes: in the model octets are naturals -/
theorem minimal_len_needs_bytes :
    ¬ (∀ l', Ber.validLen l' 256 → (Ber.encLength 256).length ≤ l'.length) := by
  intro h
  have hv : Ber.validLen [0x81, 256] 256 := Or.inr ⟨1, [256], rfl, by decide, by decide, rfl, rfl⟩
  have h1 := h [0x81, 256] hv
  have h2 : (Ber.encLength 256).length = 3 := by decide
  rw [h2] at h1
  exact absurd h1 (by decide)

/-- a NULL component with a DEFAULT is never elided by the code (`Null.is_default` is `False`) -/
theorem witness_null_default_not_elided :
    let t : Ty := .sequence (.cons "n" (.default .null) .null .nil) false .nil
    Der.encode t (.record [("n", .null)]) = .ok [0x30, 2, 0x80, 0] ∧
    X690.derEncode t (.record [("n", .null)]) = .ok [0x30, 0] ∧
    X690.deviations t (.record [("n", .null)]) = ["default-valued-component-not-elided"] := by
  refine ⟨by rfl, by rfl, by rfl⟩

/-- a component that *denotes* its DEFAULT value without being written like it is not elided -/
theorem witness_structured_default_not_elided :
    let inner : Ty := .sequence (.cons "a" (.default (.bool false)) .boolean .nil) false .nil
    let t : Ty := .sequence (.cons "y" (.default (.record [("a", .bool false)])) inner .nil) false .nil
    Der.encode t (.record [("y", .record [])]) = .ok [0x30, 2, 0xa0, 0] ∧
    X690.derEncode t (.record [("y", .record [])]) = .ok [0x30, 0] ∧
    X690.deviations t (.record [("y", .record [])]) = ["default-valued-component-not-elided"] := by
  refine ⟨by rfl, by rfl, by rfl⟩

-- concrete vectors from /repo/tests/test_der.py: the S-level encoder reproduces them

section vectors
private abbrev int : Ty := .integer ⟨none, none, false⟩
example : X690.derEncode int (.int 32768) = .ok [0x02, 0x03, 0x00, 0x80, 0x00] := by rfl
example : X690.derEncode int (.int 32767) = .ok [0x02, 0x02, 0x7f, 0xff] := by rfl
example : X690.derEncode int (.int 256) = .ok [0x02, 0x02, 0x01, 0x00] := by rfl
example : X690.derEncode int (.int 255) = .ok [0x02, 0x02, 0x00, 0xff] := by rfl
example : X690.derEncode int (.int 128) = .ok [0x02, 0x02, 0x00, 0x80] := by rfl
example : X690.derEncode int (.int 127) = .ok [0x02, 0x01, 0x7f] := by rfl
example : X690.derEncode int (.int 0) = .ok [0x02, 0x01, 0x00] := by rfl
example : X690.derEncode int (.int (-1)) = .ok [0x02, 0x01, 0xff] := by rfl
example : X690.derEncode int (.int (-128)) = .ok [0x02, 0x01, 0x80] := by rfl
example : X690.derEncode int (.int (-129)) = .ok [0x02, 0x02, 0xff, 0x7f] := by rfl
example : X690.derEncode int (.int (-256)) = .ok [0x02, 0x02, 0xff, 0x00] := by rfl
example : X690.derEncode int (.int (-32768)) = .ok [0x02, 0x02, 0x80, 0x00] := by rfl
example : X690.derEncode int (.int (-32769)) = .ok [0x02, 0x03, 0xff, 0x7f, 0xff] := by rfl
-- test_bit_string
private abbrev bits : Ty := .bitString ⟨0, none, false⟩
example : X690.derEncode bits (.bits [] 0) = .ok [0x03, 0x01, 0x00] := by rfl
example : X690.derEncode bits (.bits [0x40] 4) = .ok [0x03, 0x02, 0x04, 0x40] := by rfl
example : X690.derEncode bits (.bits [0x80] 1) = .ok [0x03, 0x02, 0x07, 0x80] := by rfl
example : X690.derEncode bits (.bits [0x00, 0x00] 9) = .ok [0x03, 0x03, 0x07, 0x00, 0x00] := by rfl
-- ('A', (b'\xff', 1), b'\x03\x02\x07\x80'): unused bits are cleared (11.2.1)
example : X690.derEncode bits (.bits [0xff] 1) = .ok [0x03, 0x02, 0x07, 0x80] := by rfl
-- SEQUENCE { a BIT STRING DEFAULT '010'B, b ... , c ... }: DEFAULT-valued components are left out
private abbrev seqBits : Ty := .sequence
  (.cons "a" (.default (.bits [0x60] 3)) bits (.cons "b" (.default (.bits [0x60] 3)) bits
  (.cons "c" (.default (.bits [0x60] 3)) bits .nil))) false .nil
example : X690.derEncode seqBits (.record [("a", .bits [0x40] 2), ("b", .bits [0x40] 2), ("c", .bits [0x40] 2)])
    = .ok [0x30, 0x0c, 0x80, 0x02, 0x06, 0x40, 0x81, 0x02, 0x06, 0x40, 0x82, 0x02, 0x06, 0x40] := by rfl
example : X690.derEncode seqBits (.record [("a", .bits [0x60] 3), ("b", .bits [0x60] 3), ("c", .bits [0x60] 3)])
    = .ok [0x30, 0x00] := by rfl
-- test_octet_string
private abbrev seqOcts : Ty := .sequence
  (.cons "a" (.default (.bytes [0x00, 0x60])) (.octetString ⟨0, none, false⟩)
  (.cons "b" (.default (.bytes [0x00, 0x06, 0x00])) (.octetString ⟨0, none, false⟩) .nil)) false .nil
example : X690.derEncode seqOcts (.record [("a", .bytes [0x00, 0x60]), ("b", .bytes [0x00, 0x06, 0x00])]) = .ok [0x30, 0x00] := by rfl
example : X690.derEncode seqOcts (.record [("a", .bytes [0xcc]), ("b", .bytes [0xdd])])
    = .ok [0x30, 0x06, 0x80, 0x01, 0xcc, 0x81, 0x01, 0xdd] := by rfl
-- test_utf8_string
example : X690.derEncode (.charString .utf8 ⟨0, none, false⟩) (.str [0x62, 0x61, 0x72]) = .ok [0x0c, 0x03, 0x62, 0x61, 0x72] := by rfl
example : X690.derEncode (.charString .utf8 ⟨0, none, false⟩) (.str [0x61, 0x1010, 0x63])
    = .ok [0x0c, 0x05, 0x61, 0xe1, 0x80, 0x90, 0x63] := by rfl
-- test_all_types
example : X690.derEncode .boolean (.bool true) = .ok [0x01, 0x01, 0xff] := by rfl
example : X690.derEncode .boolean (.bool false) = .ok [0x01, 0x01, 0x00] := by rfl
example : X690.derEncode (.octetString ⟨0, none, false⟩) (.bytes [0x00]) = .ok [0x04, 0x01, 0x00] := by rfl
set_option maxRecDepth 8000 in
example : X690.derEncode (.octetString ⟨0, none, false⟩) (.bytes (List.replicate 127 0x55))
    = .ok ([0x04, 0x7f] ++ List.replicate 127 0x55) := by rfl
set_option maxRecDepth 8000 in
example : X690.derEncode (.octetString ⟨0, none, false⟩) (.bytes (List.replicate 128 0xaa))
    = .ok ([0x04, 0x81, 0x80] ++ List.replicate 128 0xaa) := by rfl
example : X690.derEncode .null .null = .ok [0x05, 0x00] := by rfl
example : X690.derEncode (.enumerated [("one", 1)] none) (.enum "one") = .ok [0x0a, 0x01, 0x01] := by rfl
example : X690.derEncode (.sequence .nil false .nil) (.record []) = .ok [0x30, 0x00] := by rfl
example : X690.derEncode (.charString .numeric ⟨0, none, false⟩) (.str [0x31, 0x32, 0x33]) = .ok [0x12, 0x03, 0x31, 0x32, 0x33] := by rfl
example : X690.derEncode (.charString .printable ⟨0, none, false⟩) (.str [0x66, 0x6f, 0x6f]) = .ok [0x13, 0x03, 0x66, 0x6f, 0x6f] := by rfl
example : X690.derEncode (.charString .ia5 ⟨0, none, false⟩) (.str [0x62, 0x61, 0x72]) = .ok [0x16, 0x03, 0x62, 0x61, 0x72] := by rfl
example : X690.derEncode (.charString .visible ⟨0, none, false⟩) (.str [0x62, 0x61, 0x72]) = .ok [0x1a, 0x03, 0x62, 0x61, 0x72] := by rfl
-- the code model gives the same octets, on two of them (instances of `der_refines`)
example : Der.encode int (.int (-32769)) = X690.derEncode int (.int (-32769)) := by rfl
example : Der.encode seqBits (.record [("a", .bits [0x40] 2), ("b", .bits [0x40] 2), ("c", .bits [0x40] 2)])
    = X690.derEncode seqBits (.record [("a", .bits [0x40] 2), ("b", .bits [0x40] 2), ("c", .bits [0x40] 2)]) := by rfl
end vectors

end Asn1.C03

#print axioms Asn1.C03.der_tlv_shape
