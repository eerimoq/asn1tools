import Asn1Proofs.Lemmas.CCursorRefineDec
import Asn1Proofs.Lemmas.CCursorBitsDec
import Asn1Proofs.Lemmas.UperMisc
/-
  C09 (helper library part): memory safety, short-buffer behaviour, the bit strings written and the
  encoder/decoder round trips of the C helper library that asn1tools emits into every generated UPER C
  source, proved about the checked model `Asn1Model/CCursor.lean` (tied to the real generator output by
  `tools/compare_chelpers.py`).

  In the model every memory access, shift and `ssize_t` operation is checked and returns a `Fault` instead of
  leaving defined behaviour (head of `Asn1Model/CCursor.lean`), so "`= .ok _`" means: no out-of-bounds
  access, no undefined shift, no signed overflow.
-/
namespace Asn1.C09
open Asn1 Asn1.CCursor

/-- `encoder_init` establishes the invariant (for any object smaller than 2^59 bytes and a claimed
size not larger than the object). -/
theorem enc_init_inv {buf : Mem} {size : UInt64} (hs : size.toNat ≤ buf.size)
    (hb : buf.size < 576460752303423488) :
    ∃ e, Enc.init buf size = .ok e ∧ e.Inv ∧ e.buf = buf ∧ e.pos = 0 ∧ e.size = 8 * (size.toNat : Int) := by
  refine ⟨_, Enc.init_ok (by omega), ?_, rfl, rfl, rfl⟩
  refine ⟨hb, Or.inl ⟨?_, ?_, ?_⟩⟩ <;> simp <;> omega

theorem dec_init_inv {buf : Mem} {size : UInt64} (hs : size.toNat ≤ buf.size)
    (hb : buf.size < 576460752303423488) :
    ∃ d, Dec.init buf size = .ok d ∧ d.Inv ∧ d.buf = buf ∧ d.pos = 0 ∧ d.size = 8 * (size.toNat : Int) := by
  refine ⟨_, Dec.init_ok (by omega), ?_, rfl, rfl, rfl⟩
  refine ⟨hb, Or.inl ⟨?_, ?_, ?_⟩⟩ <;> simp <;> omega

/-- Every encoder helper preserves the invariant and never faults - for all argument values
satisfying `EncOp.Pre`, all buffer contents, all cursor positions. -/
theorem enc_step_safe {e : Enc} (hi : e.Inv) {op : EncOp} (hpre : op.Pre) :
    ∃ e', e.run op = .ok e' ∧ e'.Inv ∧ e'.buf.size = e.buf.size := by
  by_cases ha : ∃ err, op = .abort err
  · obtain ⟨err, rfl⟩ := ha
    show ∃ e', e.abort err = .ok e' ∧ _
    by_cases hl : e.size < 0
    · exact ⟨e, Enc.abort_latched hl err, hi, rfl⟩
    · exact ⟨_, Enc.abort_live (by omega) (by have := hpre.1; omega) (by have := hpre.2; omega),
        Enc.latch_inv hi.1 hpre.1 hpre.2, rfl⟩
  · obtain ⟨B, hB, hr⟩ := Enc.run_eq hi hpre fun err h => ha ⟨err, h⟩
    exact ⟨_, hr, Enc.put_inv hi _ hB⟩

/-- Once the error is latched every encoder helper is a no-op: same struct, same error code, the
destination buffer is not touched. -/
theorem enc_latched_frozen {e : Enc} (hi : e.Inv) (hl : e.size < 0) {op : EncOp} (hpre : op.Pre) :
    e.run op = .ok e := by
  by_cases ha : ∃ err, op = .abort err
  · obtain ⟨err, rfl⟩ := ha
    exact Enc.abort_latched hl err
  · obtain ⟨B, _, hr⟩ := Enc.run_eq hi hpre fun err h => ha ⟨err, h⟩
    rw [hr, Enc.put_latched hl]

/-- No sequence of encoder helper calls can fault. -/
theorem enc_no_fault : ∀ (ops : List EncOp) (e : Enc), e.Inv → (∀ op ∈ ops, op.Pre) →
    ∃ e', e.runAll ops = .ok e' ∧ e'.Inv ∧ e'.buf.size = e.buf.size := by
  intro ops
  induction ops with
  | nil => intro e hi _; exact ⟨e, rfl, hi, rfl⟩
  | cons op ops ih =>
    intro e hi hpre
    obtain ⟨e1, h1, hi1, hs1⟩ := enc_step_safe hi (hpre op (by simp))
    obtain ⟨e2, h2, hi2, hs2⟩ := ih e1 hi1 (fun o ho => hpre o (by simp [ho]))
    exact ⟨e2, (Enc.runAll_cons h1 ops).trans h2, hi2, by rw [hs2, hs1]⟩

theorem runAll_size {ops : List EncOp} {e e' : Enc} (hi : e.Inv) (hpre : ∀ op ∈ ops, op.Pre)
    (hr : e.runAll ops = .ok e') : e'.buf.size = e.buf.size := by
  obtain ⟨e'', hr', _, hsz⟩ := enc_no_fault ops e hi hpre
  rw [hr] at hr'
  cases hr'
  exact hsz

/-- `encoder_get_result` never faults under the invariant. -/
theorem enc_result_safe {e : Enc} (hi : e.Inv) : ∃ r, e.getResult = .ok r := by
  by_cases hl : e.size < 0
  · exact ⟨_, Enc.getResult_latched hl⟩
  · exact ⟨_, Enc.getResult_live hi (by omega)⟩

/-- Every decoder helper preserves the invariant and never faults - on arbitrary input bytes: there
is no hypothesis on `d.buf`'s content or on the cursor (`DecOp.Pre` asks that destination objects are
as large as claimed and, for `bytes`, that the count is below 2^59: `read_bytes_huge_size_overruns`). -/
theorem dec_step_safe {d : Dec} (hi : d.Inv) {op : DecOp} (hpre : op.Pre) :
    ∃ v d', d.run op = .ok (v, d') ∧ d'.Inv ∧ d'.buf = d.buf := by
  by_cases ha : ∃ err, op = .abort err
  · obtain ⟨err, rfl⟩ := ha
    by_cases hl : d.size < 0
    · refine ⟨.unit, d, ?_, hi, rfl⟩
      show (do let d ← d.abort err; (.ok (DecVal.unit, d) : C _)) = _
      rw [Dec.abort_latched hl]; rfl
    · refine ⟨.unit, d.latch err, ?_, Dec.latch_inv hi.1 hpre.1 hpre.2, rfl⟩
      show (do let d ← d.abort err; (.ok (DecVal.unit, d) : C _)) = _
      rw [Dec.abort_live (by omega) (by have := hpre.1; omega) (by have := hpre.2; omega)]; rfl
  · obtain ⟨v, hr⟩ := Dec.run_eq hi hpre (fun err h => ha ⟨err, h⟩)
    exact ⟨v, _, hr, Dec.adv_inv hi _, Dec.adv_buf _ _⟩

/-- Once the error is latched every decoder helper leaves the struct unchanged. -/
theorem dec_latched_frozen {d : Dec} (hi : d.Inv) (hl : d.size < 0) {op : DecOp} (hpre : op.Pre) :
    ∃ v, d.run op = .ok (v, d) := by
  by_cases ha : ∃ err, op = .abort err
  · obtain ⟨err, rfl⟩ := ha
    refine ⟨.unit, ?_⟩
    show (do let d ← d.abort err; (.ok (DecVal.unit, d) : C _)) = _
    rw [Dec.abort_latched hl]; rfl
  · obtain ⟨v, hr⟩ := Dec.run_eq hi hpre (fun err h => ha ⟨err, h⟩)
    exact ⟨v, by rw [hr, Dec.adv_latched hl]⟩

/-- No sequence of decoder helper calls can fault, whatever the input bytes are. -/
theorem dec_no_fault : ∀ (ops : List DecOp) (d : Dec), d.Inv → (∀ op ∈ ops, op.Pre) →
    ∃ vs d', d.runAll ops = .ok (vs, d') ∧ d'.Inv ∧ d'.buf = d.buf := by
  intro ops
  induction ops with
  | nil => intro d hi _; exact ⟨[], d, rfl, hi, rfl⟩
  | cons op ops ih =>
    intro d hi hpre
    obtain ⟨v, d1, h1, hi1, hb1⟩ := dec_step_safe hi (hpre op (by simp))
    obtain ⟨vs, d2, h2, hi2, hb2⟩ := ih d1 hi1 (fun o ho => hpre o (by simp [ho]))
    exact ⟨v :: vs, d2, Dec.runAll_cons h1 h2, hi2, by rw [hb2, hb1]⟩

theorem dec_result_safe {d : Dec} (hi : d.Inv) : ∃ r, d.getResult = .ok r := by
  by_cases hl : d.size < 0
  · exact ⟨_, Dec.getResult_latched hl⟩
  · exact ⟨_, Dec.getResult_live hi (by omega)⟩

/-- shape of every generated `<type>_encode(dst, size, src)` function: init, helper calls, result -/
def encode (buf : Mem) (size : UInt64) (ops : List EncOp) : C (Int × Mem) := do
  let e ← Enc.init buf size
  let e ← e.runAll ops
  let r ← e.getResult
  .ok (r, e.buf)

/-- shape of every generated `<type>_decode(dst, src, size)` function -/
def decode (buf : Mem) (size : UInt64) (ops : List DecOp) : C (Int × List DecVal) := do
  let d ← Dec.init buf size
  let (vs, d) ← d.runAll ops
  let r ← d.getResult
  .ok (r, vs)

theorem encode_eq {buf : Mem} {size : UInt64} {ops : List EncOp} {e e' : Enc} {r : Int}
    (he : Enc.init buf size = .ok e) (hr : e.runAll ops = .ok e') (hres : e'.getResult = .ok r) :
    encode buf size ops = .ok (r, e'.buf) := by
  rw [encode, he, ok_bind, hr, ok_bind, hres, ok_bind]

theorem decode_eq {buf : Mem} {size : UInt64} {ops : List DecOp} {d d' : Dec} {vs : List DecVal} {r : Int}
    (hd : Dec.init buf size = .ok d) (hr : d.runAll ops = .ok (vs, d')) (hres : d'.getResult = .ok r) :
    decode buf size ops = .ok (r, vs) := by
  rw [decode, hd, ok_bind, hr, ok_bind]
  simp only []
  rw [hres, ok_bind]

/-- End to end, encoder: for every destination object and claimed size `≤` its real size, every
sequence of helper calls with admissible arguments runs without any fault. -/
theorem encode_no_fault {buf : Mem} {size : UInt64} (hs : size.toNat ≤ buf.size)
    (hb : buf.size < 576460752303423488) {ops : List EncOp} (hpre : ∀ op ∈ ops, op.Pre) :
    ∃ r out, encode buf size ops = .ok (r, out) ∧ out.size = buf.size := by
  obtain ⟨e, he, hi, hbuf, _, _⟩ := enc_init_inv hs hb
  obtain ⟨e', hr, hi', hsz⟩ := enc_no_fault ops e hi hpre
  obtain ⟨r, hres⟩ := enc_result_safe hi'
  exact ⟨r, e'.buf, encode_eq he hr hres, by rw [hsz, hbuf]⟩

/-- End to end, decoder: for every input byte string (`buf` arbitrary) every sequence of helper
calls runs without out-of-bounds access, undefined shift or signed overflow. -/
theorem decode_no_fault {buf : Mem} {size : UInt64} (hs : size.toNat ≤ buf.size)
    (hb : buf.size < 576460752303423488) {ops : List DecOp} (hpre : ∀ op ∈ ops, op.Pre) :
    ∃ r vs, decode buf size ops = .ok (r, vs) := by
  obtain ⟨d, hd, hi, _, _, _⟩ := dec_init_inv hs hb
  obtain ⟨vs, d', hr, hi', _⟩ := dec_no_fault ops d hi hpre
  obtain ⟨r, hres⟩ := dec_result_safe hi'
  exact ⟨r, vs, decode_eq hd hr hres⟩

def needs (ops : List EncOp) : Nat := (ops.map EncOp.need).sum

def NoAbort (ops : List EncOp) : Prop := ∀ op ∈ ops, ∀ err, op ≠ .abort err

/-- a sequence of helper calls without `encoder_abort` behaves like one call appending `needs ops` bits -/
theorem enc_runAll_spec : ∀ (ops : List EncOp) (e : Enc), e.Inv → (∀ op ∈ ops, op.Pre) → NoAbort ops →
    e.StepSpec (needs ops) (e.runAll ops) := by
  intro ops e hi hpre hna
  obtain ⟨B, hB, hr⟩ := Enc.runAll_eq ops hi hpre hna
  rw [hr]
  exact .of_put e _ hB

/-- The cursor after a sequence of helper calls: frozen if latched; advanced by exactly the number
of bits needed if they fit; otherwise `-ENOMEM` is latched (never a silent overrun: by
`enc_no_fault` there is no out-of-bounds write on the way). -/
theorem enc_runAll_cursor : ∀ (ops : List EncOp) (e : Enc), e.Inv → (∀ op ∈ ops, op.Pre) → NoAbort ops →
    ∃ e', e.runAll ops = .ok e' ∧ e'.Inv ∧
      (e.size < 0 → e' = e) ∧
      (0 ≤ e.size → e.pos + (needs ops : Int) ≤ e.size → e'.size = e.size ∧ e'.pos = e.pos + (needs ops : Int)) ∧
      (0 ≤ e.size → e.size < e.pos + (needs ops : Int) → e'.size = -12 ∧ e'.pos = -12) := by
  intro ops e hi hpre hna
  obtain ⟨B, hB, hr⟩ : ∃ B, B.size = e.buf.size ∧ e.runAll ops = .ok (e.put (needs ops) B) :=
    Enc.runAll_eq ops hi hpre hna
  refine ⟨_, hr, (Enc.put_inv hi _ hB).1, fun hl => Enc.put_latched hl _ _, fun h0 h => ?_, fun h0 h => ?_⟩
  · rw [Enc.put_fits ⟨h0, h⟩]
    exact ⟨rfl, rfl⟩
  · rw [Enc.put_short h0 h]
    exact ⟨rfl, rfl⟩

/-- Short buffer: a generated encode function whose helper calls need more bits than the
destination has (`8 * size`) returns `-ENOMEM` (= -12) - in particular a buffer one byte too small is
reported as an error; if the bits fit it returns the number of bytes used `⌈bits / 8⌉`.  In both cases
no fault occurs (no overrun). -/
theorem short_buffer {buf : Mem} {size : UInt64} (hs : size.toNat ≤ buf.size)
    (hb : buf.size < 576460752303423488) {ops : List EncOp} (hpre : ∀ op ∈ ops, op.Pre)
    (hna : NoAbort ops) :
    ∃ out, out.size = buf.size ∧
      encode buf size ops
        = .ok (if needs ops ≤ 8 * size.toNat then (((needs ops + 7) / 8 : Nat) : Int) else -12, out) := by
  obtain ⟨e, he, hi, hbuf, hpos, hsize⟩ := enc_init_inv hs hb
  obtain ⟨e', hr, hi', _, hfit, hover⟩ := enc_runAll_cursor ops e hi hpre hna
  refine ⟨e'.buf, by rw [runAll_size hi hpre hr, hbuf], ?_⟩
  have h0 : 0 ≤ e.size := by omega
  by_cases hfits : needs ops ≤ 8 * size.toNat
  · have := hfit h0 (by omega)
    rw [encode_eq he hr (Enc.getResult_live hi' (by omega)), if_pos hfits, this.2, hpos]
    congr 2
    omega
  · have := hover h0 (by omega)
    rw [encode_eq he hr (Enc.getResult_latched (by omega)), if_neg hfits, this.2]

def dneeds (ops : List DecOp) : Nat := (ops.map DecOp.need).sum

def DNoAbort (ops : List DecOp) : Prop := ∀ op ∈ ops, ∀ err, op ≠ .abort err

theorem dec_runAll_cursor : ∀ (ops : List DecOp) (d : Dec), d.Inv → (∀ op ∈ ops, op.Pre) → DNoAbort ops →
    ∃ vs d', d.runAll ops = .ok (vs, d') ∧ d'.Inv ∧ vs.length = ops.length ∧
      (d.size < 0 → d' = d) ∧
      (0 ≤ d.size → d.pos + (dneeds ops : Int) ≤ d.size → d' = { d with pos := d.pos + (dneeds ops : Int) }) ∧
      (0 ≤ d.size → d.size < d.pos + (dneeds ops : Int) → d' = d.latch 500) := by
  intro ops d hi hpre hna
  obtain ⟨vs, hr, hl⟩ := Dec.runAll_eq ops hi hpre hna
  exact ⟨vs, _, hr, Dec.adv_inv hi _, hl, fun h => Dec.adv_latched h _, fun h0 h => Dec.adv_fits ⟨h0, h⟩,
    fun h0 h => Dec.adv_short h0 h⟩

/-- Out of data: a generated decode function whose helper calls need more bits than the
input has returns `-EOUTOFDATA` (= -500) - on any input bytes, without any out-of-bounds read
(`decode_no_fault`); if the data suffices it returns the number of bytes consumed. -/
theorem short_input {buf : Mem} {size : UInt64} (hs : size.toNat ≤ buf.size)
    (hb : buf.size < 576460752303423488) {ops : List DecOp} (hpre : ∀ op ∈ ops, op.Pre)
    (hna : DNoAbort ops) :
    ∃ vs, vs.length = ops.length ∧
      decode buf size ops
        = .ok (if dneeds ops ≤ 8 * size.toNat then (((dneeds ops + 7) / 8 : Nat) : Int) else -500, vs) := by
  obtain ⟨d, hd, hi, hbuf, hpos, hsize⟩ := dec_init_inv hs hb
  obtain ⟨vs, d', hr, hi', hlen, _, hfit, hover⟩ := dec_runAll_cursor ops d hi hpre hna
  refine ⟨vs, hlen, ?_⟩
  have h0 : 0 ≤ d.size := by omega
  by_cases hfits : dneeds ops ≤ 8 * size.toNat
  · have hd' := hfit h0 (by omega)
    rw [decode_eq hd hr (Dec.getResult_live hi' (by rw [hd']; exact h0)), if_pos hfits, hd']
    simp only [hpos]
    congr 2
    omega
  · have hd' := hover h0 (by omega)
    rw [decode_eq hd hr (Dec.getResult_latched (by rw [hd']; simp [Dec.latch])), if_neg hfits, hd']
    rfl

/-! ## the preconditions are necessary: outside `Pre` the helper library itself is NOT safe

Each witness is also confirmed on the real C text by `tools/compare_chelpers.py ub` (UBSan/ASan report,
model answers `FAULT`). -/

/-- `encoder_append_non_negative_binary_integer(value, 65)` shifts a 64 bit operand by 64. -/
theorem nnbi_65_is_undefined :
    ∃ e, Enc.init (Array.replicate 16 0) 16 = .ok e ∧ e.Inv ∧ e.appendNnbi 1 65 = .error .undefinedShift :=
  ⟨_, rfl, ⟨by decide, Or.inl ⟨by decide, by decide, by decide⟩⟩, rfl⟩

/-- `encoder_append_bit` with a negative `int` shifts a negative value. -/
theorem bit_negative_is_undefined :
    ∃ e, Enc.init (Array.replicate 4 0) 4 = .ok e ∧ e.Inv ∧ e.appendBit (-1) = .error .undefinedShift :=
  ⟨_, rfl, ⟨by decide, Or.inl ⟨by decide, by decide, by decide⟩⟩, rfl⟩

/-- `encoder_append_bytes(src, 2^61 - 1)` at an unaligned position: `8u * size` wraps to `2^64 - 8`,
`(ssize_t)` of that is `-8`, so `encoder_alloc` SUCCEEDS (and moves the cursor backwards) and the copy
loop runs off the end of the source/destination objects. -/
theorem bytes_huge_size_overruns :
    ∃ e e1, Enc.init (Array.replicate 4 0) 4 = .ok e ∧ e.appendBit 1 = .ok e1 ∧ e1.Inv ∧
      e1.appendBytes #[1, 2] 2305843009213693951 = .error .outOfBounds :=
  ⟨_, _, rfl, rfl, ⟨by decide, Or.inl ⟨by decide, by decide, by decide⟩⟩, rfl⟩

/-- same wrap-around in `decoder_read_bytes` -/
theorem read_bytes_huge_size_overruns :
    ∃ d v d1, Dec.init #[1, 2, 3, 4] 4 = .ok d ∧ d.readBit = .ok (v, d1) ∧ d1.Inv ∧
      d1.readBytes #[0, 0] 2305843009213693951 = .error .outOfBounds :=
  ⟨_, _, _, rfl, rfl, ⟨by decide, Or.inl ⟨by decide, by decide, by decide⟩⟩, rfl⟩

/-! ## observation: UPER `decoder_read_uint16/32/64` return uninitialised stack bytes when out of data

`uint8_t buf[2];` is not initialised and `decoder_read_bytes` returns early in the error state, so the
value handed back is whatever the automatic array contained (`junk`).  Not undefined behaviour
(`unsigned char` has no trap representation and the array's address is taken) and the error is latched,
but the struct field is filled with an unspecified value.  (The OER helpers `memset` the destination.) -/
theorem read_uint16_out_of_data_returns_junk {d : Dec} (hi : d.Inv) (h0 : 0 ≤ d.size)
    (h : d.size < d.pos + 16) {junk : Mem} (hj : junk.size = 2) :
    d.readU16 junk = .ok (valU16 junk, d.latch 500) := by
  rw [Dec.readU16_eq hi hj, Dec.adv_short h0 h, Dec.got, if_neg fun hf => by have := hf.2; omega]

/-- in the good case two runs agree as soon as the two overwritten arrays carry the same value (`hval`, which is
assumed: no theorem here says that the overwritten array forgets what it held) -/
theorem read_uint16_independent_of_junk {d : Dec} (hi : d.Inv) (h0 : 0 ≤ d.size)
    (h : d.pos + 16 ≤ d.size) {j1 j2 : Mem} (h1 : j1.size = 2) (h2 : j2.size = 2)
    (hval : valU16 (readBytesVal d.buf d.pos.toNat j1 2) = valU16 (readBytesVal d.buf d.pos.toNat j2 2)) :
    d.readU16 j1 = d.readU16 j2 := by
  rw [Dec.readU16_eq hi h1, Dec.readU16_eq hi h2, Dec.got_fits 2 ⟨h0, h⟩, Dec.got_fits 2 ⟨h0, h⟩, hval]

example : encode (Array.replicate 2 0x55) 2 [.bit 1, .nnbi 5 3, .u8 255] = .ok (2, #[0xdf, 0xf0]) := rfl
/-- one byte too small: `-ENOMEM`, the byte after the object is never touched (there is none) -/
example : encode (Array.replicate 1 0x55) 1 [.bit 1, .nnbi 5 3, .u8 255] = .ok (-12, #[0xd0]) := rfl
example : needs [.bit 1, .nnbi 5 3, .u8 255] = 12 := rfl
example : decode #[0xff, 0x0a] 2 [.bit, .u8, .nnbi 3, .bytes #[0xaa] 1]
    = .ok (-500, [.int 1, .int 254, .int 0, .mem #[0xaa]]) := rfl
example : decode #[0xdf, 0xf0] 2 [.bit, .nnbi 3, .u8] = .ok (2, [.int 1, .int 5, .int 255]) := rfl
example : (∀ op ∈ [EncOp.bit 1, .nnbi 5 3, .u8 255], op.Pre) := by
  intro op h
  simp only [List.mem_cons, List.mem_nil_iff, or_false] at h
  rcases h with rfl | rfl | rfl
  · exact ⟨by decide, by decide⟩
  · show (3 : UInt64).toNat ≤ 64; decide
  · trivial

theorem i8_offset (v : Int8) : (UInt8.ofNat (v.toUInt8.toNat + 128)).toNat = (v.toInt + 128).toNat :=
  UInt8.toNat_ofNat'.trans (bv_offset (w := 7) v.toBitVec).1

theorem i16_offset (v : Int16) : (UInt16.ofNat (v.toUInt16.toNat + 32768)).toNat = (v.toInt + 32768).toNat :=
  UInt16.toNat_ofNat'.trans (bv_offset (w := 15) v.toBitVec).1

theorem i32_offset (v : Int32) :
    (UInt32.ofNat (v.toUInt32.toNat + 2147483648)).toNat = (v.toInt + 2147483648).toNat :=
  UInt32.toNat_ofNat'.trans (bv_offset (w := 31) v.toBitVec).1

theorem i64_offset (v : Int64) :
    (v.toUInt64 + 9223372036854775808).toNat = (v.toInt + 9223372036854775808).toNat :=
  (UInt64.toNat_add _ _).trans (bv_offset (w := 63) v.toBitVec).1

/-- functional invariant of a live encoder: the memory-safety invariant, no latched error, and
zero padding from the cursor to the next byte boundary (the helpers use `|=`) -/
def Good (e : Enc) : Prop := e.Inv ∧ 0 ≤ e.size ∧ Padded e.buf e.pos.toNat

/-- the bit string a helper call appends (the Python codec's primitives from `Asn1Model/Prim.lean`):
`append_non_negative_binary_integer(v, n)` is `natToBits n v`; the signed helpers append the value
minus the type's minimum (offset binary), which is what UPER prescribes for a constrained INTEGER
whose range is the full `intN_t` -/
def opBits : EncOp → Bits
  | .bit v => [v == 1]
  | .bool b => [b]
  | .bytes src n => bytesToBits ((src.toList.take n.toNat).map UInt8.toNat)
  | .u8 v => natToBits 8 v.toNat
  | .u16 v => natToBits 16 v.toNat
  | .u32 v => natToBits 32 v.toNat
  | .u64 v => natToBits 64 v.toNat
  | .i8 v => natToBits 8 (v.toInt + 128).toNat
  | .i16 v => natToBits 16 (v.toInt + 32768).toNat
  | .i32 v => natToBits 32 (v.toInt + 2147483648).toNat
  | .i64 v => natToBits 64 (v.toInt + 9223372036854775808).toNat
  | .nnbi v n => natToBits n.toNat v.toNat
  | .abort _ => []

/-- `encoder_append_bit` is only meaningful for the values 0 and 1 -/
def BitOk : EncOp → Prop
  | .bit v => v = 0 ∨ v = 1
  | _ => True

theorem init_good {buf : Mem} {size : UInt64} (hs : size.toNat ≤ buf.size)
    (hb : buf.size < 576460752303423488) :
    ∃ e, Enc.init buf size = .ok e ∧ Good e ∧ e.buf = buf ∧ e.pos = 0 ∧ e.size = 8 * (size.toNat : Int) := by
  obtain ⟨e, he, hi, hbuf, hpos, hsize⟩ := enc_init_inv hs hb
  refine ⟨e, he, ⟨hi, by omega, ?_⟩, hbuf, hpos, hsize⟩
  rw [hpos]
  exact padded_aligned _ _ rfl

theorem Good.live {e : Enc} (hg : Good e) : 0 ≤ e.pos ∧ e.pos ≤ e.size ∧ e.size ≤ 8 * (e.buf.size : Int) := by
  obtain ⟨⟨_, h | h⟩, h0, _⟩ := hg
  · exact h
  · omega

/-- appending `N` bits keeps a live encoder good; what the bit, byte and integer helpers have in common -/
theorem Good.append {e : Enc} (hg : Good e) {K : Int} {N : Nat} (hK : K = N) (hroom : e.pos + K ≤ e.size)
    {B : Mem} {bits : Bits} {r : C Enc} (hr : r = .ok { e with buf := B, pos := e.pos + K })
    (hsz : B.size = e.buf.size)
    (h : bitsFrom B 0 (e.pos.toNat + N) = bitsFrom e.buf 0 e.pos.toNat ++ bits ∧ Padded B (e.pos.toNat + N)) :
    ∃ e', r = .ok e' ∧ Good e' ∧ e'.size = e.size ∧ e'.pos = e.pos + K ∧
      bitsFrom e'.buf 0 e'.pos.toNat = bitsFrom e.buf 0 e.pos.toNat ++ bits := by
  have hl := hg.live
  have hpos : (e.pos + K).toNat = e.pos.toNat + N := by omega
  refine ⟨_, hr, ⟨Enc.inv_step hg.1 hsz (by omega) hroom, hg.2.1, ?_⟩, rfl, rfl, ?_⟩
  · simp only [hpos]; exact h.2
  · rw [hpos]; exact h.1

theorem appendBytes_bits {e : Enc} (hg : Good e) {src : Mem} {n : UInt64}
    (hn : n.toNat < 576460752303423488) (hsrc : n.toNat ≤ src.size)
    (hroom : e.pos + 8 * (n.toNat : Int) ≤ e.size) :
    ∃ e', e.appendBytes src n = .ok e' ∧ Good e' ∧ e'.size = e.size ∧
      e'.pos = e.pos + 8 * (n.toNat : Int) ∧
      bitsFrom e'.buf 0 e'.pos.toNat
        = bitsFrom e.buf 0 e.pos.toNat ++ bytesToBits ((src.toList.take n.toNat).map UInt8.toNat) := by
  have hl := hg.live
  have hf : e.fits (8 * n.toNat) := ⟨hg.2.1, by omega⟩
  have hc : ((8 * n.toNat : Nat) : Int) = 8 * (n.toNat : Int) := by omega
  have ha := writeBytes_appends e.buf e.pos.toNat src n.toNat hsrc (by omega) hg.2.2
  exact hg.append (N := 8 * n.toNat) (by omega) hroom
    (by rw [Enc.appendBytes_eq hg.1 hn hsrc, Enc.put_fits hf, Enc.sel_fits hf, hc]) ha.size
    (ha.written (by rw [bytesToBits_length, List.length_map, List.length_take, Array.length_toList, Nat.min_eq_left hsrc]))

theorem opBits_asBytes {op : EncOp} {src : Mem} (h : op.asBytes = some src) :
    opBits op = bytesToBits (src.toList.map UInt8.toNat) := by
  cases op with
  | u8 v => cases h; exact (bytesToBits_u8 v).symm
  | u16 v => cases h; exact (bytesToBits_bytesU16 v).symm
  | u32 v => cases h; exact (bytesToBits_bytesU32 v).symm
  | u64 v => cases h; exact (bytesToBits_bytesU64 v).symm
  | i8 v => cases h; rw [bytesToBits_u8, i8_offset]; rfl
  | i16 v => cases h; rw [bytesToBits_bytesU16, i16_offset]; rfl
  | i32 v => cases h; rw [bytesToBits_bytesU32, i32_offset]; rfl
  | i64 v => cases h; rw [bytesToBits_bytesU64, i64_offset]; rfl
  | _ => cases h

theorem enc_step_bits {e : Enc} (hg : Good e) {op : EncOp} (hpre : op.Pre) (hbit : BitOk op)
    (hna : ∀ err, op ≠ .abort err) (hroom : e.pos + (op.need : Int) ≤ e.size) :
    ∃ e', e.run op = .ok e' ∧ Good e' ∧ e'.size = e.size ∧ e'.pos = e.pos + (op.need : Int) ∧
      bitsFrom e'.buf 0 e'.pos.toNat = bitsFrom e.buf 0 e.pos.toNat ++ opBits op := by
  obtain ⟨hi, h0, hpad⟩ := id hg
  have hl := hg.live
  have hbitcase : ∀ v : Int, (v = 0 ∨ v = 1) → e.pos + 1 ≤ e.size →
      ∃ e', e.appendBit v = .ok e' ∧ Good e' ∧ e'.size = e.size ∧ e'.pos = e.pos + 1 ∧
        bitsFrom e'.buf 0 e'.pos.toNat = bitsFrom e.buf 0 e.pos.toNat ++ [v == 1] := by
    intro v hv hr
    have hv1 : v.toNat ≤ 1 := by omega
    have hp8 : e.pos.toNat / 8 < e.buf.size := by omega
    have hveq : (v.toNat == 1) = (v == 1) := by
      rcases hv with rfl | rfl <;> rfl
    have hf : e.fits 1 := ⟨h0, hr⟩
    have ha := writeBit_appends e.buf e.pos.toNat v.toNat hv1 hp8 hpad
    rw [hveq] at ha
    exact hg.append (N := 1) rfl hr
      (by rw [Enc.appendBit_eq hi (by omega) (by omega), Enc.put_fits hf, Enc.sel_fits hf]) ha.size (ha.written rfl)
  cases hb : op.asBytes with
  | some src =>
    obtain ⟨n, hn, hn9, hneed, hrun⟩ := e.run_asBytes hb
    obtain ⟨e', h1, h2, h3, h4, h5⟩ := appendBytes_bits (src := src) (n := n) hg (by omega) (by omega)
      (by rw [hneed] at hroom; omega)
    refine ⟨e', hrun ▸ h1, h2, h3, by rw [h4, hneed]; omega, ?_⟩
    rw [h5, hn, List.take_of_length_le (by simp), opBits_asBytes hb]
  | none =>
    cases op with
    | bit v => exact hbitcase v hbit hroom
    | bool b =>
      have := hbitcase (if b then 1 else 0) (by cases b <;> simp) hroom
      cases b <;> exact this
    | bytes src n =>
      have hc : ((EncOp.bytes src n).need : Int) = 8 * (n.toNat : Int) := by simp [EncOp.need]
      rw [hc] at hroom ⊢
      exact appendBytes_bits hg hpre.2 hpre.1 hroom
    | nnbi v n =>
      have hneed : (EncOp.nnbi v n).need = n.toNat := rfl
      obtain ⟨B, _, hr, hw⟩ := Enc.nnbiLoop_eq v n hpre n.toNat 0 e hi (by simp)
      have hf : e.fits n.toNat := ⟨h0, hroom⟩
      have ha := writeNnbi_appends v n.toNat hpre n.toNat 0 e.buf e.pos.toNat (by omega) (by omega) hpad
      exact hg.append rfl hroom (hr.trans (by rw [Enc.put_fits hf, hw hf]; rfl)) ha.size
        (ha.written (natToBits_length _ _))
    | abort err => exact absurd rfl (hna err)
    | _ => cases hb

/-- The written bit string is the concatenation of the appended bit strings. -/
theorem enc_bits : ∀ (ops : List EncOp) (e : Enc), Good e → (∀ op ∈ ops, op.Pre) → (∀ op ∈ ops, BitOk op) →
    NoAbort ops → e.pos + (needs ops : Int) ≤ e.size →
    ∃ e', e.runAll ops = .ok e' ∧ Good e' ∧ e'.size = e.size ∧ e'.pos = e.pos + (needs ops : Int) ∧
      bitsFrom e'.buf 0 e'.pos.toNat = bitsFrom e.buf 0 e.pos.toNat ++ ops.flatMap opBits := by
  intro ops
  induction ops with
  | nil =>
    intro e hg _ _ _ _
    exact ⟨e, rfl, hg, rfl, by simp [needs], by simp⟩
  | cons op ops ih =>
    intro e hg hpre hbit hna hroom
    have hn : (needs (op :: ops) : Int) = (op.need : Int) + (needs ops : Int) := by simp [needs]
    have hnn : (0 : Int) ≤ (needs ops : Int) := Int.natCast_nonneg _
    obtain ⟨e1, h1, hg1, hs1, hp1, hb1⟩ := enc_step_bits hg (hpre op (by simp)) (hbit op (by simp))
      (hna op (by simp)) (by omega)
    obtain ⟨e2, h2, hg2, hs2, hp2, hb2⟩ := ih e1 hg1 (fun o ho => hpre o (by simp [ho]))
      (fun o ho => hbit o (by simp [ho])) (fun o ho => hna o (by simp [ho])) (by rw [hp1, hs1]; omega)
    refine ⟨e2, (Enc.runAll_cons h1 ops).trans h2, hg2, by rw [hs2, hs1],
      by rw [hp2, hp1]; omega, ?_⟩
    rw [hb2, hb1, List.flatMap_cons, List.append_assoc]

theorem encode_fits {buf : Mem} {size : UInt64} (hs : size.toNat ≤ buf.size)
    (hb : buf.size < 576460752303423488) {ops : List EncOp} (hpre : ∀ op ∈ ops, op.Pre)
    (hbit : ∀ op ∈ ops, BitOk op) (hna : NoAbort ops) (hfit : needs ops ≤ 8 * size.toNat) :
    ∃ e', Good e' ∧ e'.buf.size = buf.size ∧ e'.pos = (needs ops : Int) ∧
      bitsFrom e'.buf 0 (needs ops) = ops.flatMap opBits ∧
      encode buf size ops = .ok ((((needs ops + 7) / 8 : Nat) : Int), e'.buf) := by
  obtain ⟨e, he, hg, hbuf, hpos, hsize⟩ := init_good hs hb
  obtain ⟨e', hr, hg', hs', hp', hbits⟩ := enc_bits ops e hg hpre hbit hna (by omega)
  have hpn : e'.pos = (needs ops : Int) := by omega
  refine ⟨e', hg', by rw [runAll_size hg.1 hpre hr, hbuf], hpn, ?_, ?_⟩
  · rw [hpn, hpos] at hbits
    simpa [bitsFrom] using hbits
  · rw [encode_eq he hr (Enc.getResult_live hg'.1 hg'.2.1), hpn]
    rfl

/-- A generated encode function, functionally: if the bits fit, the function returns
`⌈bits/8⌉` and the first that many bytes of the destination are exactly
`packBits (concatenation of the appended bit strings)` - the Python encoder's `as_bytearray()`
of the same appends (zero padded to a byte boundary). -/
theorem encode_functional {buf : Mem} {size : UInt64} (hs : size.toNat ≤ buf.size)
    (hb : buf.size < 576460752303423488) {ops : List EncOp} (hpre : ∀ op ∈ ops, op.Pre)
    (hbit : ∀ op ∈ ops, BitOk op) (hna : NoAbort ops) (hfit : needs ops ≤ 8 * size.toNat) :
    ∃ out, encode buf size ops = .ok ((((needs ops + 7) / 8 : Nat) : Int), out) ∧ out.size = buf.size ∧
      (out.toList.take ((needs ops + 7) / 8)).map UInt8.toNat = packBits (ops.flatMap opBits) := by
  obtain ⟨e', ⟨hi', h0', hpad'⟩, hsz', hpn, hbits, henc⟩ := encode_fits hs hb hpre hbit hna hfit
  have hlive : e'.size ≤ 8 * (e'.buf.size : Int) := by
    obtain ⟨_, h | h⟩ := hi'
    · exact h.2.2
    · omega
  have := packBits_bitsFrom e'.buf e'.pos.toNat hpad' (by omega)
  rw [hpn] at this
  exact ⟨e'.buf, henc, hsz', by rw [Int.toNat_natCast] at this; rw [this, hbits]⟩

/-- A fresh encoder with enough room, one
`encoder_append_non_negative_binary_integer(v, n)` (`n ≤ 64`), then `encoder_get_result`:
the result is `⌈n/8⌉` and the bytes are `packBits (natToBits n v)`. -/
theorem append_nnbi_functional {buf : Mem} {size : UInt64} (hs : size.toNat ≤ buf.size)
    (hb : buf.size < 576460752303423488) (v n : UInt64) (hn : n.toNat ≤ 64) (hfit : n.toNat ≤ 8 * size.toNat) :
    ∃ out, encode buf size [.nnbi v n] = .ok ((((n.toNat + 7) / 8 : Nat) : Int), out) ∧
      (out.toList.take ((n.toNat + 7) / 8)).map UInt8.toNat = packBits (natToBits n.toNat v.toNat) := by
  have hneeds : needs [EncOp.nnbi v n] = n.toNat := by simp [needs, EncOp.need]
  obtain ⟨out, h1, _, h3⟩ := encode_functional (ops := [.nnbi v n]) hs hb
    (List.forall_mem_singleton.2 hn) (List.forall_mem_singleton.2 trivial)
    (List.forall_mem_singleton.2 fun _ h => by cases h)
    (by rw [hneeds]; exact hfit)
  rw [hneeds] at h1 h3
  exact ⟨out, h1, by simpa [opBits] using h3⟩

/-- `decoder_read_bit` returns the next bit of the input -/
theorem read_bit_functional {d : Dec} (hi : d.Inv) (h0 : 0 ≤ d.size) (h : d.pos + 1 ≤ d.size) :
    d.readBit = .ok (if getBit d.buf d.pos.toNat then 1 else 0, { d with pos := d.pos + 1 }) := by
  rw [Dec.readBit_eq hi, if_pos ⟨h0, h⟩, Dec.adv_fits ⟨h0, h⟩, readBitVal_eq]
  rfl

/-- `decoder_read_non_negative_binary_integer(n)` (`n ≤ 64`, enough data) returns `bitsToNat` of the
next `n` bits - `Uper.lean`'s `readNat` primitive. -/
theorem read_nnbi_functional {d : Dec} (hi : d.Inv) (h0 : 0 ≤ d.size) {n : UInt64} (hn : n.toNat ≤ 64)
    (h : d.pos + (n.toNat : Int) ≤ d.size) :
    ∃ v, d.readNnbi n = .ok (v, { d with pos := d.pos + (n.toNat : Int) }) ∧
      v.toNat = bitsToNat (bitsFrom d.buf d.pos.toNat n.toNat) :=
  ⟨_, Dec.readNnbi_ok hi h0 h, readNnbiVal_spec_le _ _ _ hn⟩

/-- for any number of bits: the low 64 bits of the big-endian number -/
theorem read_nnbi_functional_any {d : Dec} (hi : d.Inv) (h0 : 0 ≤ d.size) {n : UInt64}
    (h : d.pos + (n.toNat : Int) ≤ d.size) :
    ∃ v, d.readNnbi n = .ok (v, { d with pos := d.pos + (n.toNat : Int) }) ∧
      v.toNat = bitsToNat (bitsFrom d.buf d.pos.toNat n.toNat) % 2 ^ 64 :=
  ⟨_, Dec.readNnbi_ok hi h0 h, readNnbiVal_spec _ _ _⟩

theorem read_u8_of_bits {d : Dec} (hi : d.Inv) (h0 : 0 ≤ d.size) (h : d.pos + 8 ≤ d.size) (v : UInt8)
    (hb : bitsFrom d.buf d.pos.toNat 8 = natToBits 8 v.toNat) :
    d.readU8 = .ok (v, { d with pos := d.pos + 8 }) := by
  rw [Dec.readU8_eq hi, Dec.adv_fits ⟨h0, h⟩, Dec.got_fits 1 ⟨h0, h⟩, readU8_of_bits _ _ _ v (by simp) hb]
  rfl

theorem read_u16_of_bits {d : Dec} (hi : d.Inv) (h0 : 0 ≤ d.size) (h : d.pos + 16 ≤ d.size) (v : UInt16)
    {junk : Mem} (hj : junk.size = 2) (hb : bitsFrom d.buf d.pos.toNat 16 = natToBits 16 v.toNat) :
    d.readU16 junk = .ok (v, { d with pos := d.pos + 16 }) := by
  rw [Dec.readU16_eq hi hj, Dec.adv_fits ⟨h0, h⟩, Dec.got_fits 2 ⟨h0, h⟩, readU16_of_bits _ _ _ v (by omega) hb]
  rfl

theorem read_u32_of_bits {d : Dec} (hi : d.Inv) (h0 : 0 ≤ d.size) (h : d.pos + 32 ≤ d.size) (v : UInt32)
    {junk : Mem} (hj : junk.size = 4) (hb : bitsFrom d.buf d.pos.toNat 32 = natToBits 32 v.toNat) :
    d.readU32 junk = .ok (v, { d with pos := d.pos + 32 }) := by
  rw [Dec.readU32_eq hi hj, Dec.adv_fits ⟨h0, h⟩, Dec.got_fits 4 ⟨h0, h⟩, readU32_of_bits _ _ _ v (by omega) hb]
  rfl

theorem read_u64_of_bits {d : Dec} (hi : d.Inv) (h0 : 0 ≤ d.size) (h : d.pos + 64 ≤ d.size) (v : UInt64)
    {junk : Mem} (hj : junk.size = 8) (hb : bitsFrom d.buf d.pos.toNat 64 = natToBits 64 v.toNat) :
    d.readU64 junk = .ok (v, { d with pos := d.pos + 64 }) := by
  rw [Dec.readU64_eq hi hj, Dec.adv_fits ⟨h0, h⟩, Dec.got_fits 8 ⟨h0, h⟩, readU64_of_bits _ _ _ v (by omega) hb]
  rfl

/-- the signed helpers undo the offset: reading the offset-binary bits of `v` gives back `v` -/
theorem read_i8_of_bits {d : Dec} (hi : d.Inv) (h0 : 0 ≤ d.size) (h : d.pos + 8 ≤ d.size) (v : Int8)
    (hb : bitsFrom d.buf d.pos.toNat 8 = natToBits 8 (v.toInt + 128).toNat) :
    d.readI8 = .ok (v, { d with pos := d.pos + 8 }) := by
  unfold Dec.readI8
  rw [read_u8_of_bits hi h0 h (UInt8.ofNat (v.toUInt8.toNat + 128)) (by rw [i8_offset]; exact hb), ok_bind]
  simp only []
  rw [i8_offset_roundtrip]

theorem read_i16_of_bits {d : Dec} (hi : d.Inv) (h0 : 0 ≤ d.size) (h : d.pos + 16 ≤ d.size) (v : Int16)
    {junk : Mem} (hj : junk.size = 2)
    (hb : bitsFrom d.buf d.pos.toNat 16 = natToBits 16 (v.toInt + 32768).toNat) :
    d.readI16 junk = .ok (v, { d with pos := d.pos + 16 }) := by
  unfold Dec.readI16
  rw [read_u16_of_bits hi h0 h (UInt16.ofNat (v.toUInt16.toNat + 32768)) hj (by rw [i16_offset]; exact hb), ok_bind]
  simp only []
  rw [i16_offset_roundtrip]

theorem read_i32_of_bits {d : Dec} (hi : d.Inv) (h0 : 0 ≤ d.size) (h : d.pos + 32 ≤ d.size) (v : Int32)
    {junk : Mem} (hj : junk.size = 4)
    (hb : bitsFrom d.buf d.pos.toNat 32 = natToBits 32 (v.toInt + 2147483648).toNat) :
    d.readI32 junk = .ok (v, { d with pos := d.pos + 32 }) := by
  unfold Dec.readI32
  rw [read_u32_of_bits hi h0 h (UInt32.ofNat (v.toUInt32.toNat + 2147483648)) hj (by rw [i32_offset]; exact hb), ok_bind]
  simp only []
  rw [i32_offset_roundtrip]

theorem read_i64_of_bits {d : Dec} (hi : d.Inv) (h0 : 0 ≤ d.size) (h : d.pos + 64 ≤ d.size) (v : Int64)
    {junk : Mem} (hj : junk.size = 8)
    (hb : bitsFrom d.buf d.pos.toNat 64 = natToBits 64 (v.toInt + 9223372036854775808).toNat) :
    d.readI64 junk = .ok (v, { d with pos := d.pos + 64 }) := by
  unfold Dec.readI64
  rw [read_u64_of_bits hi h0 h (v.toUInt64 + 9223372036854775808) hj (by rw [i64_offset]; exact hb), ok_bind]
  simp only []
  rw [i64_offset_roundtrip]

theorem read_nnbi_of_bits {d : Dec} (hi : d.Inv) (h0 : 0 ≤ d.size) {n : UInt64} (hn : n.toNat ≤ 64)
    (h : d.pos + (n.toNat : Int) ≤ d.size) {x : Nat} (hx : x < 2 ^ n.toNat)
    (hb : bitsFrom d.buf d.pos.toNat n.toNat = natToBits n.toNat x) :
    d.readNnbi n = .ok (UInt64.ofNat x, { d with pos := d.pos + (n.toNat : Int) }) := by
  rw [Dec.readNnbi_ok hi h0 h]
  have := readNnbiVal_of_bits d.buf n.toNat d.pos.toNat x hn hx hb
  have hv : readNnbiVal d.buf n.toNat 0 d.pos.toNat = UInt64.ofNat x := by
    apply UInt64.toNat_inj.1
    rw [this, UInt64.toNat_ofNat']
    have : 2 ^ n.toNat ≤ 2 ^ 64 := Nat.pow_le_pow_right (by decide) hn
    omega
  rw [hv]

theorem read_bool_of_bits {d : Dec} (hi : d.Inv) (h0 : 0 ≤ d.size) (h : d.pos + 1 ≤ d.size) (b : Bool)
    (hb : bitsFrom d.buf d.pos.toNat 1 = [b]) :
    d.readBool = .ok (b, { d with pos := d.pos + 1 }) := by
  unfold Dec.readBool
  rw [read_bit_functional hi h0 h]
  have : getBit d.buf d.pos.toNat = b := by simpa [bitsFrom] using hb
  rw [this]
  cases b <;> rfl

theorem bytesToBits_length (L : List Nat) : (bytesToBits L).length = 8 * L.length :=
  Asn1.bytesToBits_length L

theorem opBits_length {op : EncOp} (hpre : op.Pre) : (opBits op).length = op.need := by
  cases op with
  | bytes src n =>
    have h1 := hpre.1
    show (bytesToBits _).length = 8 * n.toNat
    rw [bytesToBits_length, List.length_map, List.length_take]
    have : src.toList.length = src.size := by simp
    omega
  | _ => simp [opBits, EncOp.need]

theorem enc_step_bits_at {e : Enc} (hg : Good e) {op : EncOp} (hpre : op.Pre) (hbit : BitOk op)
    (hna : ∀ err, op ≠ .abort err) (hroom : e.pos + (op.need : Int) ≤ e.size) :
    ∃ e', e.run op = .ok e' ∧ Good e' ∧ e'.size = e.size ∧ e'.pos = e.pos + (op.need : Int) ∧
      (opBits op).length = op.need ∧ bitsFrom e'.buf e.pos.toNat op.need = opBits op := by
  obtain ⟨e', h1, h2, h3, h4, h5⟩ := enc_step_bits hg hpre hbit hna hroom
  have h0 := hg.live.1
  have hp : e'.pos.toNat = e.pos.toNat + op.need := by omega
  rw [hp] at h5
  exact ⟨e', h1, h2, h3, h4, opBits_length hpre, bitsFrom_at_of_append _ _ _ _ _ (by simp) h5⟩

/-- a decoder looking at the encoder's buffer, positioned where the encoder was before the call -/
structure Follows (d : Dec) (e e' : Enc) : Prop where
  inv : d.Inv
  buf : d.buf = e'.buf
  pos : d.pos = e.pos
  /-- the decoder's claimed size covers what the encoder has written -/
  size : e'.pos ≤ d.size

theorem Follows.facts {e e' : Enc} {d : Dec} (hg : Good e) (hf : Follows d e e') {n : Nat}
    (hp : e'.pos = e.pos + (n : Int)) :
    0 ≤ d.size ∧ d.pos + (n : Int) ≤ d.size ∧ d.pos.toNat = e.pos.toNat := by
  have h0 := hg.live.1
  have := hf.size
  have := hf.pos
  refine ⟨by omega, by omega, by rw [hf.pos]⟩

/-- what a decoder that follows the encoder across one helper call finds: room for `need` bits, and the
appended bit string as its next bits -/
theorem Follows.sees {e : Enc} (hg : Good e) {op : EncOp} (hpre : op.Pre) (hbit : BitOk op)
    (hna : ∀ err, op ≠ .abort err) (hroom : e.pos + (op.need : Int) ≤ e.size) :
    ∃ e', e.run op = .ok e' ∧ Good e' ∧ ∀ d, Follows d e e' →
      d.Inv ∧ 0 ≤ d.size ∧ d.pos + (op.need : Int) ≤ d.size ∧ bitsFrom d.buf d.pos.toNat op.need = opBits op := by
  obtain ⟨e', h1, h2, _, h4, _, h6⟩ := enc_step_bits_at hg hpre hbit hna hroom
  refine ⟨e', h1, h2, fun d hf => ?_⟩
  obtain ⟨f0, f1, f2⟩ := hf.facts hg h4
  exact ⟨hf.inv, f0, f1, by rw [hf.buf, f2]; exact h6⟩

/-- Round trip for every encoder/decoder helper pair (at any bit position, after any prefix):
what `encoder_append_X(v)` wrote, `decoder_read_X` reads back as `v` - including the signed
helpers' offset trick (`+ 2^(N-1)` on encoding, `- 2^(N-1)` on decoding). -/
theorem roundtrip_u8 {e : Enc} (hg : Good e) (hroom : e.pos + 8 ≤ e.size) (v : UInt8) :
    ∃ e', e.appendU8 v = .ok e' ∧ Good e' ∧ ∀ d, Follows d e e' →
      d.readU8 = .ok (v, { d with pos := d.pos + 8 }) := by
  obtain ⟨e', h1, h2, h3⟩ := Follows.sees hg (op := .u8 v) trivial trivial (fun _ h => by cases h) hroom
  exact ⟨e', h1, h2, fun d hf => let ⟨i, z, r, h⟩ := h3 d hf; read_u8_of_bits i z r v h⟩

theorem roundtrip_u16 {e : Enc} (hg : Good e) (hroom : e.pos + 16 ≤ e.size) (v : UInt16) :
    ∃ e', e.appendU16 v = .ok e' ∧ Good e' ∧ ∀ (d : Dec) (junk : Mem), Follows d e e' → junk.size = 2 →
      d.readU16 junk = .ok (v, { d with pos := d.pos + 16 }) := by
  obtain ⟨e', h1, h2, h3⟩ := Follows.sees hg (op := .u16 v) trivial trivial (fun _ h => by cases h) hroom
  exact ⟨e', h1, h2, fun d junk hf hj => let ⟨i, z, r, h⟩ := h3 d hf; read_u16_of_bits i z r v hj h⟩

theorem roundtrip_u32 {e : Enc} (hg : Good e) (hroom : e.pos + 32 ≤ e.size) (v : UInt32) :
    ∃ e', e.appendU32 v = .ok e' ∧ Good e' ∧ ∀ (d : Dec) (junk : Mem), Follows d e e' → junk.size = 4 →
      d.readU32 junk = .ok (v, { d with pos := d.pos + 32 }) := by
  obtain ⟨e', h1, h2, h3⟩ := Follows.sees hg (op := .u32 v) trivial trivial (fun _ h => by cases h) hroom
  exact ⟨e', h1, h2, fun d junk hf hj => let ⟨i, z, r, h⟩ := h3 d hf; read_u32_of_bits i z r v hj h⟩

theorem roundtrip_u64 {e : Enc} (hg : Good e) (hroom : e.pos + 64 ≤ e.size) (v : UInt64) :
    ∃ e', e.appendU64 v = .ok e' ∧ Good e' ∧ ∀ (d : Dec) (junk : Mem), Follows d e e' → junk.size = 8 →
      d.readU64 junk = .ok (v, { d with pos := d.pos + 64 }) := by
  obtain ⟨e', h1, h2, h3⟩ := Follows.sees hg (op := .u64 v) trivial trivial (fun _ h => by cases h) hroom
  exact ⟨e', h1, h2, fun d junk hf hj => let ⟨i, z, r, h⟩ := h3 d hf; read_u64_of_bits i z r v hj h⟩

theorem roundtrip_i8 {e : Enc} (hg : Good e) (hroom : e.pos + 8 ≤ e.size) (v : Int8) :
    ∃ e', e.appendI8 v = .ok e' ∧ Good e' ∧ ∀ (d : Dec), Follows d e e' →
      d.readI8 = .ok (v, { d with pos := d.pos + 8 }) := by
  obtain ⟨e', h1, h2, h3⟩ := Follows.sees hg (op := .i8 v) trivial trivial (fun _ h => by cases h) hroom
  exact ⟨e', h1, h2, fun d hf => let ⟨i, z, r, h⟩ := h3 d hf; read_i8_of_bits i z r v h⟩

theorem roundtrip_i16 {e : Enc} (hg : Good e) (hroom : e.pos + 16 ≤ e.size) (v : Int16) :
    ∃ e', e.appendI16 v = .ok e' ∧ Good e' ∧ ∀ (d : Dec) (junk : Mem), Follows d e e' → junk.size = 2 →
      d.readI16 junk = .ok (v, { d with pos := d.pos + 16 }) := by
  obtain ⟨e', h1, h2, h3⟩ := Follows.sees hg (op := .i16 v) trivial trivial (fun _ h => by cases h) hroom
  exact ⟨e', h1, h2, fun d junk hf hj => let ⟨i, z, r, h⟩ := h3 d hf; read_i16_of_bits i z r v hj h⟩

theorem roundtrip_i32 {e : Enc} (hg : Good e) (hroom : e.pos + 32 ≤ e.size) (v : Int32) :
    ∃ e', e.appendI32 v = .ok e' ∧ Good e' ∧ ∀ (d : Dec) (junk : Mem), Follows d e e' → junk.size = 4 →
      d.readI32 junk = .ok (v, { d with pos := d.pos + 32 }) := by
  obtain ⟨e', h1, h2, h3⟩ := Follows.sees hg (op := .i32 v) trivial trivial (fun _ h => by cases h) hroom
  exact ⟨e', h1, h2, fun d junk hf hj => let ⟨i, z, r, h⟩ := h3 d hf; read_i32_of_bits i z r v hj h⟩

theorem roundtrip_i64 {e : Enc} (hg : Good e) (hroom : e.pos + 64 ≤ e.size) (v : Int64) :
    ∃ e', e.appendI64 v = .ok e' ∧ Good e' ∧ ∀ (d : Dec) (junk : Mem), Follows d e e' → junk.size = 8 →
      d.readI64 junk = .ok (v, { d with pos := d.pos + 64 }) := by
  obtain ⟨e', h1, h2, h3⟩ := Follows.sees hg (op := .i64 v) trivial trivial (fun _ h => by cases h) hroom
  exact ⟨e', h1, h2, fun d junk hf hj => let ⟨i, z, r, h⟩ := h3 d hf; read_i64_of_bits i z r v hj h⟩

theorem roundtrip_bool {e : Enc} (hg : Good e) (hroom : e.pos + 1 ≤ e.size) (b : Bool) :
    ∃ e', e.appendBool b = .ok e' ∧ Good e' ∧ ∀ d, Follows d e e' →
      d.readBool = .ok (b, { d with pos := d.pos + 1 }) := by
  obtain ⟨e', h1, h2, h3⟩ := Follows.sees hg (op := .bool b) trivial trivial (fun _ h => by cases h) hroom
  exact ⟨e', h1, h2, fun d hf => let ⟨i, z, r, h⟩ := h3 d hf; read_bool_of_bits i z r b h⟩

/-- `append_non_negative_binary_integer(value, n)` / `read_non_negative_binary_integer(n)`:
the low `n` bits of `value` come back (all of it when `value < 2^n`, which generated code ensures) -/
theorem roundtrip_nnbi {e : Enc} (hg : Good e) (value n : UInt64) (hn : n.toNat ≤ 64)
    (hroom : e.pos + (n.toNat : Int) ≤ e.size) :
    ∃ e', e.appendNnbi value n = .ok e' ∧ Good e' ∧ ∀ d, Follows d e e' →
      d.readNnbi n = .ok (UInt64.ofNat (value.toNat % 2 ^ n.toNat), { d with pos := d.pos + (n.toNat : Int) }) := by
  obtain ⟨e', h1, h2, h3⟩ := Follows.sees hg (op := .nnbi value n) hn trivial (fun _ h => by cases h) hroom
  refine ⟨e', h1, h2, fun d hf => ?_⟩
  obtain ⟨i, z, r, h⟩ := h3 d hf
  exact read_nnbi_of_bits i z hn r (Nat.mod_lt _ (Nat.two_pow_pos _)) (by rw [natToBits_mod]; exact h)

theorem bits_groups (m : Mem) : ∀ (L : List Nat) (p : Nat),
    bitsFrom m p (8 * L.length) = bytesToBits L → ∀ k (hk : k < L.length), bitsFrom m (p + 8 * k) 8 = natToBits 8 L[k] := by
  intro L
  induction L with
  | nil => intro p _ k hk; simp at hk
  | cons a L ih =>
    intro p h k hk
    have h8 : 8 * (a :: L).length = 8 + 8 * L.length := by simp; omega
    rw [h8, bitsFrom_add] at h
    have h' : bitsFrom m p 8 ++ bitsFrom m (p + 8) (8 * L.length) = natToBits 8 a ++ bytesToBits L := h
    obtain ⟨ha, hL⟩ := List.append_inj h' (by simp)
    cases k with
    | zero => simpa using ha
    | succ k =>
      have := ih (p + 8) hL k (by simpa using hk)
      have e : p + 8 + 8 * k = p + 8 * (k + 1) := by omega
      rw [e] at this
      simpa using this

theorem natToBits8_inj {a b : Nat} (ha : a < 256) (hb : b < 256) (h : natToBits 8 a = natToBits 8 b) : a = b := by
  have h1 := bitsToNat_natToBits_of_lt (w := 8) (n := a) (by omega)
  have h2 := bitsToNat_natToBits_of_lt (w := 8) (n := b) (by omega)
  rw [h] at h1
  omega

/- `hsrc` is not needed: `Array.extract` clamps at the size of `src`. -/
set_option linter.unusedVariables false in
/-- `decoder_read_bytes` reads back what `encoder_append_bytes` wrote -/
theorem read_bytes_of_bits {d : Dec} (hi : d.Inv) (h0 : 0 ≤ d.size) {n : UInt64}
    (hn : n.toNat < 576460752303423488) (h : d.pos + 8 * (n.toNat : Int) ≤ d.size) (src : Mem)
    (hsrc : n.toNat ≤ src.size) (fill : UInt8)
    (hb : bitsFrom d.buf d.pos.toNat (8 * n.toNat) = bytesToBits ((src.toList.take n.toNat).map UInt8.toNat)) :
    d.readBytes (Array.replicate n.toNat fill) n
      = .ok (src.extract 0 n.toNat, { d with pos := d.pos + 8 * (n.toNat : Int) }) := by
  have hlt : ∀ l : List UInt8, ∀ b ∈ l.map UInt8.toNat, b < 256 := by
    intro l b hb
    obtain ⟨a, _, rfl⟩ := List.mem_map.1 hb
    exact a.toNat_lt
  have hsz := readBytesVal_size d.buf d.pos.toNat (Array.replicate n.toNat fill) n.toNat
  -- both byte strings have the same bits, and `packBits` recovers a byte string from its bits
  have hl := congrArg packBits
    ((readBytesVal_bits d.buf d.pos.toNat (Array.replicate n.toNat fill) n.toNat (by simp)).trans hb)
  rw [packBits_bytesToBits _ (hlt _), packBits_bytesToBits _ (hlt _),
    List.take_of_length_le (by simp [hsz])] at hl
  have hf : d.fits (8 * n.toNat) := ⟨h0, by omega⟩
  rw [Dec.readBytes_eq hi hn (by simp), Dec.got_fits _ hf, Dec.adv_fits hf,
    show ((8 * n.toNat : Nat) : Int) = 8 * (n.toNat : Int) by omega]
  congr 2
  apply Array.toList_inj.1
  rw [(List.map_inj_right fun _ _ => UInt8.toNat_inj.1).1 hl]
  simp

/-- the decoder helper call that generated code pairs with an encoder helper call -/
def decOf : EncOp → DecOp
  | .bit _ => .bit
  | .bool _ => .bool
  | .bytes _ n => .bytes (Array.replicate n.toNat 0xaa) n
  | .u8 _ => .u8
  | .u16 _ => .u16 (Array.replicate 2 0)
  | .u32 _ => .u32 (Array.replicate 4 0)
  | .u64 _ => .u64 (Array.replicate 8 0)
  | .i8 _ => .i8
  | .i16 _ => .i16 (Array.replicate 2 0)
  | .i32 _ => .i32 (Array.replicate 4 0)
  | .i64 _ => .i64 (Array.replicate 8 0)
  | .nnbi _ n => .nnbi n
  | .abort err => .abort err

def expected : EncOp → DecVal
  | .bit v => .int v
  | .bool b => .int (if b then 1 else 0)
  | .bytes src n => .mem (src.extract 0 n.toNat)
  | .u8 v => .int v.toNat
  | .u16 v => .int v.toNat
  | .u32 v => .int v.toNat
  | .u64 v => .int v.toNat
  | .i8 v => .int v.toInt
  | .i16 v => .int v.toInt
  | .i32 v => .int v.toInt
  | .i64 v => .int v.toInt
  | .nnbi v n => .int ((v.toNat % 2 ^ n.toNat : Nat) : Int)
  | .abort _ => .unit

theorem dec_step_of_bits {d : Dec} (hi : d.Inv) (h0 : 0 ≤ d.size) {op : EncOp} (hpre : op.Pre)
    (hbit : BitOk op) (hna : ∀ err, op ≠ .abort err) (hroom : d.pos + (op.need : Int) ≤ d.size)
    (hb : bitsFrom d.buf d.pos.toNat op.need = opBits op) :
    d.run (decOf op) = .ok (expected op, { d with pos := d.pos + (op.need : Int) }) := by
  cases op with
  | bit v =>
    have hg : getBit d.buf d.pos.toNat = (v == 1) := by simpa [bitsFrom, opBits, EncOp.need] using hb
    rw [decOf, Dec.run, read_bit_functional hi h0 hroom, hg]
    rcases hbit with rfl | rfl <;> rfl
  | bool b => rw [decOf, Dec.run, read_bool_of_bits hi h0 hroom b hb]; rfl
  | bytes src n =>
    have hc : ((EncOp.bytes src n).need : Int) = 8 * (n.toNat : Int) := by simp [EncOp.need]
    rw [hc] at hroom ⊢
    rw [decOf, Dec.run, read_bytes_of_bits hi h0 hpre.2 hroom src hpre.1 0xaa hb]
    rfl
  | u8 v => rw [decOf, Dec.run, read_u8_of_bits hi h0 hroom v hb]; rfl
  | u16 v => rw [decOf, Dec.run, read_u16_of_bits hi h0 hroom v (by simp) hb]; rfl
  | u32 v => rw [decOf, Dec.run, read_u32_of_bits hi h0 hroom v (by simp) hb]; rfl
  | u64 v => rw [decOf, Dec.run, read_u64_of_bits hi h0 hroom v (by simp) hb]; rfl
  | i8 v => rw [decOf, Dec.run, read_i8_of_bits hi h0 hroom v hb]; rfl
  | i16 v => rw [decOf, Dec.run, read_i16_of_bits hi h0 hroom v (by simp) hb]; rfl
  | i32 v => rw [decOf, Dec.run, read_i32_of_bits hi h0 hroom v (by simp) hb]; rfl
  | i64 v => rw [decOf, Dec.run, read_i64_of_bits hi h0 hroom v (by simp) hb]; rfl
  | nnbi v n =>
    have hn : n.toNat ≤ 64 := hpre
    have hlt := Nat.mod_lt v.toNat (Nat.two_pow_pos n.toNat)
    have h64 : 2 ^ n.toNat ≤ 2 ^ 64 := Nat.pow_le_pow_right (by decide) hn
    have : (UInt64.ofNat (v.toNat % 2 ^ n.toNat)).toNat = v.toNat % 2 ^ n.toNat := by
      rw [UInt64.toNat_ofNat']; omega
    rw [decOf, Dec.run, read_nnbi_of_bits hi h0 hn hroom hlt (by rw [natToBits_mod]; exact hb), ok_bind]
    simp only [expected, this]
    rfl
  | abort err => exact absurd rfl (hna err)

/-- a decoder whose next bits are the concatenation of the bit strings appended by `ops` reads back
all the values -/
theorem dec_seq_of_bits : ∀ (ops : List EncOp) (d : Dec), d.Inv → 0 ≤ d.size → (∀ op ∈ ops, op.Pre) →
    (∀ op ∈ ops, BitOk op) → NoAbort ops → d.pos + (needs ops : Int) ≤ d.size →
    bitsFrom d.buf d.pos.toNat (needs ops) = ops.flatMap opBits →
    d.runAll (ops.map decOf) = .ok (ops.map expected, { d with pos := d.pos + (needs ops : Int) }) := by
  intro ops
  induction ops with
  | nil => intro d _ _ _ _ _ _ _; simp [Dec.runAll, needs]
  | cons op ops ih =>
    intro d hi h0 hpre hbit hna hroom hb
    have hn : needs (op :: ops) = op.need + needs ops := by simp [needs]
    have hnn : (0 : Int) ≤ (needs ops : Int) := Int.natCast_nonneg _
    have hp0 : 0 ≤ d.pos := by obtain ⟨_, h | h⟩ := hi <;> omega
    rw [hn, bitsFrom_add, List.flatMap_cons] at hb
    obtain ⟨hb1, hb2⟩ := List.append_inj hb (by rw [bitsFrom_length, opBits_length (hpre op (by simp))])
    have hstep := dec_step_of_bits hi h0 (hpre op (by simp)) (hbit op (by simp)) (hna op (by simp))
      (by rw [hn] at hroom; omega) hb1
    have hi1 : ({ d with pos := d.pos + (op.need : Int) } : Dec).Inv :=
      Dec.inv_step hi (by omega) (by rw [hn] at hroom; omega)
    have hpn : (d.pos + (op.need : Int)).toNat = d.pos.toNat + op.need := by omega
    have hrest := ih _ hi1 h0 (fun o ho => hpre o (by simp [ho])) (fun o ho => hbit o (by simp [ho]))
      (fun o ho => hna o (by simp [ho])) (by simp only []; rw [hn] at hroom; omega)
      (by simp only [hpn]; exact hb2)
    rw [List.map_cons, List.map_cons, Dec.runAll_cons hstep hrest]
    congr 3
    simp only [hn]; omega

/-- End-to-end round trip of the helper library: any admissible sequence of encoder helper calls that
fits the destination, followed by the matching sequence of decoder helper calls on the produced bytes,
hands back exactly the encoded values, and both sides report the same number of bytes. -/
theorem roundtrip {buf : Mem} {size : UInt64} (hs : size.toNat ≤ buf.size)
    (hb : buf.size < 576460752303423488) {ops : List EncOp} (hpre : ∀ op ∈ ops, op.Pre)
    (hbit : ∀ op ∈ ops, BitOk op) (hna : NoAbort ops) (hfit : needs ops ≤ 8 * size.toNat) :
    ∃ r out, encode buf size ops = .ok (r, out) ∧
      decode out size (ops.map decOf) = .ok (r, ops.map expected) := by
  obtain ⟨e', ⟨hi', h0', hpad'⟩, hsz', hpn, hbits, henc⟩ := encode_fits hs hb hpre hbit hna hfit
  refine ⟨_, e'.buf, henc, ?_⟩
  obtain ⟨d, hd, hdi, hdbuf, hdpos, hdsize⟩ := dec_init_inv (buf := e'.buf) (size := size) (by omega) (by omega)
  have hrun := dec_seq_of_bits ops d hdi (by omega) hpre hbit hna (by omega) (by rw [hdbuf, hdpos]; exact hbits)
  have hi2 : ({ d with pos := d.pos + (needs ops : Int) } : Dec).Inv := Dec.inv_step hdi (by omega) (by omega)
  rw [decode_eq hd hrun (Dec.getResult_live hi2 (by show 0 ≤ d.size; omega))]
  congr 2
  simp only [hdpos]
  omega

example : packBits ([EncOp.bit 1, .nnbi 5 3, .u8 255].flatMap opBits) = [0xdf, 0xf0] := by decide
example : opBits (.i8 (-128)) = natToBits 8 0 := rfl
example : opBits (.i16 32767) = natToBits 16 65535 := rfl

example : decode #[0xdf, 0xf0] 2 ([EncOp.bit 1, .nnbi 5 3, .u8 255].map decOf)
    = .ok (2, [EncOp.bit 1, .nnbi 5 3, .u8 255].map expected) := rfl
example : encode (Array.replicate 5 0) 5 [.bool true, .i16 (-2), .bytes #[1, 2, 3] 2]
    = .ok (5, #[0xbf, 0xff, 0x00, 0x81, 0x00]) := rfl
example : decode #[0xbf, 0xff, 0x00, 0x81, 0x00] 5 ([EncOp.bool true, .i16 (-2), .bytes #[1, 2, 3] 2].map decOf)
    = .ok (5, [.int 1, .int (-2), .mem #[1, 2]]) := rfl

example : decode #[0xff] 1 [.u8, .bit] = .ok (-500, [.int 255, .int 0]) := rfl
example : dneeds [.u8, .bit] = 9 := rfl

end Asn1.C09
