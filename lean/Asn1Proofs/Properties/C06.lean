import Asn1Model.X696
import Asn1Proofs.Lemmas.X696Refine
import Asn1Proofs.Lemmas.X696Decl
/-
  C06 — outside the named deviations the OER encoder emits exactly the octets Basic OER (Rec. ITU-T
  X.696) prescribes, and the decoder reads the value back from those octets.  (No theorem here says
  which other octets the decoder accepts.)

  `X696.enc` (Asn1Model/X696.lean) is a specification-level encoder written from the standard;
  `Oer.enc` / `Oer.dec` (Asn1Model/Oer.lean) model what asn1tools computes.  `X696.deviations t v` lists
  the *named kinds* of deviation of the code from the standard that apply to `(t, v)`:

    fixed-utf8, addition-error-swallowed, addition-default-encoded, default-unclean-bits-encoded,
    enum-oversize                                   (documentation: Asn1Model/X696.lean)
-/
namespace Asn1.C06
open Asn1
open Asn1.Uper (Err)

/-- Outside the named deviations the OER encoder emits exactly the standard's octets, for all types
and all well-typed values; when the standard has no encoding (a length that needs more than 127 length
octets) the code refuses as well. -/
theorem oer_refines (t : Ty) (v : Val)
    (hdev : X696.deviations t v = []) (hwf : t.wf = true) (ht : hasType t v = true) :
    Oer.enc t v = X696.enc t v :=
  (X696.ref_all t v hwf ht (eraseDups_eq_nil _ hdev)).1

/-- The decoder returns the value from the standard's octets, in its canonical form `canon t v`
(absent DEFAULT components of the root filled in, components in declaration order, unused bits
cleared); whatever follows the octets is left untouched (so the decoder consumes exactly those
octets).  `hwf'`, `hd` are the hypotheses of `Oer.roundtrip_partial`, of which this is an instance
through `oer_refines`. -/
theorem decoder_exact (t : Ty) (v : Val) (bytes rest : Bytes)
    (hdev : X696.deviations t v = []) (hwf : t.wf = true) (hwf' : Oer.oerWf t = true)
    (hd : t.defaultsOk = true) (ht : hasType t v = true) (he : X696.enc t v = .ok bytes) :
    Oer.dec t (bytes ++ rest) = .ok (canon t v, rest) := by
  obtain ⟨hm, hu, hns⟩ := X696.ref_all t v hwf ht (eraseDups_eq_nil _ hdev)
  exact Oer.roundtrip_partial t v bytes rest hwf hwf' hd ht hu hns (hm.trans he)

/-- outside the deviations the specification answers a well-typed value with octets or with
`encodeError` (its only refusal on such values is a length that needs more than 127 length octets,
X.696 8.6.5; the statement does not single that case out).  C05's `spec_total` is a plain `∃ bits`
without deviation hypothesis. -/
theorem spec_total (t : Ty) (v : Val)
    (hdev : X696.deviations t v = []) (hwf : t.wf = true) (hd : t.defaultsOk = true)
    (ht : hasType t v = true) :
    (∃ bytes, X696.enc t v = .ok bytes) ∨ X696.enc t v = .error .encodeError := by
  rw [← oer_refines t v hdev hwf ht]
  exact Oer.enc_total t v hwf hd ht

/-- fixed-width table (unsigned): a fixed-size unsigned number of `k` octets is used only for a
non-extensible constraint with both bounds and a non-negative lower bound, and `k` is the least of
1, 2, 4, 8 octets that can hold the upper bound -/
theorem fixed_width_unsigned {c : IntC} {k : Nat} (h : X696.intForm c = .fixedUnsigned k) :
    c.ext = false ∧ ∃ lb ub, c.lo = some lb ∧ c.hi = some ub ∧ 0 ≤ lb ∧ k ∈ X696.widths ∧
      ub < (256 : Int) ^ k ∧ ∀ k' ∈ X696.widths, ub < (256 : Int) ^ k' → k ≤ k' := by
  have hfx := X696.intFixed_of_intForm (s := false) h
  obtain ⟨lb, ub, rfl⟩ := Oer.intFixed_some hfx
  obtain ⟨hu, -, hk, hf, hl⟩ := Oer.intFixed_least hfx
  exact ⟨rfl, lb, ub, rfl, rfl, hu rfl, hk, (Oer.fitsW_nonneg (hu rfl)).1 hf,
    fun k' hk' h => hl k' hk' ((Oer.fitsW_nonneg (hu rfl)).2 h)⟩

/-- fixed-width table (signed): a fixed-size signed number of `k` octets is used only for a
non-extensible constraint with both bounds and a negative lower bound, and `k` is the least of 1, 2, 4, 8
octets whose two's complement range holds both bounds -/
theorem fixed_width_signed {c : IntC} {k : Nat} (h : X696.intForm c = .fixedSigned k) :
    c.ext = false ∧ ∃ lb ub, c.lo = some lb ∧ c.hi = some ub ∧ lb < 0 ∧ k ∈ X696.widths ∧
      (-(2 : Int) ^ (8 * k - 1) ≤ lb ∧ ub < (2 : Int) ^ (8 * k - 1)) ∧
      ∀ k' ∈ X696.widths, (-(2 : Int) ^ (8 * k' - 1) ≤ lb ∧ ub < (2 : Int) ^ (8 * k' - 1)) → k ≤ k' := by
  have hfx := X696.intFixed_of_intForm (s := true) h
  obtain ⟨lb, ub, rfl⟩ := Oer.intFixed_some hfx
  obtain ⟨-, hs, hk, hf, hl⟩ := Oer.intFixed_least hfx
  exact ⟨rfl, lb, ub, rfl, rfl, hs rfl, hk, (Oer.fitsW_neg (hs rfl)).1 hf,
    fun k' hk' h => hl k' hk' ((Oer.fitsW_neg (hs rfl)).2 h)⟩

/-- fixed-width table (completeness): every non-extensible range that fits 8 octets is fixed-size;
extensible constraints never are -/
theorem fixed_width_complete {lb ub : Int} (hfit : (0 ≤ lb ∧ ub < (256 : Int) ^ 8) ∨
      (lb < 0 ∧ -(2 : Int) ^ 63 ≤ lb ∧ ub < (2 : Int) ^ 63)) :
    ∃ k ∈ X696.widths, X696.intForm ⟨some lb, some ub, false⟩ = .fixedUnsigned k ∨
                       X696.intForm ⟨some lb, some ub, false⟩ = .fixedSigned k := by
  obtain ⟨⟨k, s⟩, hfx⟩ := Oer.intFixed_of_fits (hfit.elim (fun h => (Oer.fitsW_nonneg h.1).2 h.2)
    fun h => (Oer.fitsW_neg h.1).2 h.2)
  refine ⟨k, (Oer.intFixed_least hfx).2.2.1, ?_⟩
  rw [X696.intForm_eq, hfx]
  cases s
  · exact .inl rfl
  · exact .inr rfl

/-- an extensible constraint is not OER-visible: always the variable-size signed form -/
theorem extensible_is_variable_signed (lo hi : Option Int) :
    X696.intForm ⟨lo, hi, true⟩ = .varSigned := X696.ext_varSigned lo hi

/-- least number of octets of the variable-size unsigned form, which denotes the value -/
theorem unsigned_minimal (n : Nat) :
    1 ≤ X696.unsignedOctets n ∧ n < 256 ^ X696.unsignedOctets n ∧
    (∀ k, 1 ≤ k → n < 256 ^ k → X696.unsignedOctets n ≤ k) ∧
    bytesToNat (natToBytesN (X696.unsignedOctets n) n) = n :=
  ⟨X696.unsignedOctets_pos n, X696.unsignedOctets_fits n, fun k => X696.unsignedOctets_least n k,
   X696.unsigned_value n⟩

/-- least number of octets of the variable-size two's complement form, which denotes the value -/
theorem signed_minimal (i : Int) :
    1 ≤ X696.signedOctets i ∧
    (-((2 ^ (8 * X696.signedOctets i - 1) : Nat) : Int) ≤ i ∧ i < ((2 ^ (8 * X696.signedOctets i - 1) : Nat) : Int)) ∧
    (∀ k, 1 ≤ k → -((2 ^ (8 * k - 1) : Nat) : Int) ≤ i → i < ((2 ^ (8 * k - 1) : Nat) : Int) →
      X696.signedOctets i ≤ k) ∧
    bytesToInt (intToBytesN (X696.signedOctets i) i) = i :=
  ⟨intByteLength_pos i, intByteLength_bounds i, fun k => X696.signedOctets_least i k,
   bytesToInt_intToBytesMin i⟩

/-- length determinant (8.6.4): short form below 128 -/
theorem length_short {n : Nat} (h : n < 128) : X696.lengthDet n = .ok [n] := by
  rcases X696.lengthDet_cases n with ⟨_, e⟩ | ⟨h', _⟩ | ⟨h', _⟩
  · exact e
  · omega
  · omega

/-- length determinant (8.6.5): from 128 on the long form: `80 + k`, then `k` octets denoting the
length, `k` being the least number of octets that can hold it (so the first length octet is not zero) -/
theorem length_long_minimal {n : Nat} {bs : Bytes} (h : 128 ≤ n) (he : X696.lengthDet n = .ok bs) :
    ∃ k ds, bs = (128 + k) :: ds ∧ ds.length = k ∧ 1 ≤ k ∧ k ≤ 127 ∧ bytesToNat ds = n ∧
      ∀ k', n < 256 ^ k' → k ≤ k' := by
  rcases X696.lengthDet_cases n with ⟨h', _⟩ | ⟨_, hk, e⟩ | ⟨_, _, e⟩
  · omega
  · rw [e] at he
    cases he
    refine ⟨_, _, rfl, natToBytesN_length _ _, ?_, hk, bytesToNat_natToBytesMin n,
      fun k' => (byteLength_le_iff n k').2⟩
    have := (byteLength_le_iff n 0).1
    omega
  · rw [e] at he
    cases he

theorem length_exists_iff (n : Nat) : (∃ bs, X696.lengthDet n = .ok bs) ↔ n < 256 ^ 127 := by
  rw [← byteLength_le_iff]
  rcases X696.lengthDet_cases n with ⟨h, e⟩ | ⟨_, hk, e⟩ | ⟨_, hk, e⟩
  · have := (byteLength_le_iff n 127).2 (Nat.lt_of_lt_of_le h (by decide))
    exact ⟨fun _ => this, fun _ => ⟨_, e⟩⟩
  · exact ⟨fun _ => hk, fun _ => ⟨_, e⟩⟩
  · rw [e]
    exact ⟨fun ⟨_, h⟩ => (nomatch h), fun h => absurd h hk⟩

/-- tests/files/overview_of_oer.asn: `A ::= SEQUENCE { a1 INTEGER (0..100), a2 INTEGER (-290..399),
a3 INTEGER (0..60000) OPTIONAL, a4 INTEGER (-5000000..5000000), a5 INTEGER (1000..MAX),
a6 INTEGER (-1..MAX), a7 INTEGER OPTIONAL }` -/
theorem overview_A : X696.encode X696.exA X696.exAval =
    .ok [0xc0, 0x04, 0x00, 0x04, 0x00, 0x04, 0x00, 0x00, 0x00, 0x04, 0x02, 0x04, 0x00, 0x01, 0x04, 0x01, 0x04] := by
  rfl

/-- `B ::= SEQUENCE { b1 IA5String (SIZE (0..10)), b2 IA5String (SIZE (3)), b3 IA5String,
b4 OCTET STRING, b5 BIT STRING (SIZE (4)), b6 BIT STRING }` -/
theorem overview_B : X696.encode X696.exB X696.exBval =
    .ok [0x03, 0x41, 0x42, 0x43, 0x41, 0x42, 0x43, 0x03, 0x41, 0x42, 0x43, 0x04, 0x01, 0x02, 0x03, 0x04,
         0x50, 0x02, 0x04, 0x50] := by
  rfl

/-- `C ::= CHOICE { c1 BOOLEAN, c2 SEQUENCE OF ENUMERATED { a, b, c, d, e } }`, `c2 : { b, c, d, e }` -/
theorem overview_C : X696.encode X696.exC X696.exCval = .ok [0x81, 0x01, 0x04, 0x01, 0x02, 0x03, 0x04] := by
  rfl

/-- the code model produces the same octets on the three examples (instances of `oer_refines`) -/
theorem overview_model_agrees :
    Oer.enc X696.exA X696.exAval = X696.enc X696.exA X696.exAval ∧
    Oer.enc X696.exB X696.exBval = X696.enc X696.exB X696.exBval ∧
    Oer.enc X696.exC X696.exCval = X696.enc X696.exC X696.exCval :=
  ⟨oer_refines _ _ (by decide +kernel) (by decide +kernel) (by decide +kernel),
   oer_refines _ _ (by decide +kernel) (by decide +kernel) (by decide +kernel),
   oer_refines _ _ (by decide +kernel) (by decide +kernel) (by decide +kernel)⟩

private def vis : Ty := .charString .visible ⟨0, none, false⟩
private def nameTy : Ty := .sequence
  (.cons "givenName" .mandatory vis (.cons "initial" .mandatory vis (.cons "familyName" .mandatory vis .nil)))
  false .nil

/-- X.691 Annex A.1 `PersonnelRecord` (tests/files/x691_a1.asn).  The type is a SET; OER encodes a SET as
a SEQUENCE whose components are put in canonical tag order (X.696 18: name [APPLICATION 1], number
[APPLICATION 2], title [0], dateOfHire [1], nameOfSpouse [2], children [3]), which is the order written
here — the ordering itself is outside the `Ty` universe.  Type and value are those of
`X691.Annex.a1Ty` / `a1Val` (X691Annex.lean), written out a second time. -/
def personnelRecord : Ty := .sequence
  (.cons "name" .mandatory nameTy
  (.cons "number" .mandatory (.integer ⟨none, none, false⟩)
  (.cons "title" .mandatory vis
  (.cons "dateOfHire" .mandatory vis
  (.cons "nameOfSpouse" .mandatory nameTy
  (.cons "children" (.default (.list []))
    (.sequenceOf (.sequence (.cons "name" .mandatory nameTy (.cons "dateOfBirth" .mandatory vis .nil)) false .nil)
      ⟨0, none, false⟩) .nil)))))) false .nil

def personnelValue : Val :=
  .record [("name", .record [("givenName", .str [74, 111, 104, 110]), ("initial", .str [80]), ("familyName", .str [83, 109, 105, 116, 104])]), ("number", .int 51), ("title", .str [68, 105, 114, 101, 99, 116, 111, 114]), ("dateOfHire", .str [49, 57, 55, 49, 48, 57, 49, 55]),
    ("nameOfSpouse", .record [("givenName", .str [77, 97, 114, 121]), ("initial", .str [84]), ("familyName", .str [83, 109, 105, 116, 104])]),
    ("children", .list [
      .record [("name", .record [("givenName", .str [82, 97, 108, 112, 104]), ("initial", .str [84]), ("familyName", .str [83, 109, 105, 116, 104])]), ("dateOfBirth", .str [49, 57, 53, 55, 49, 49, 49, 49])],
      .record [("name", .record [("givenName", .str [83, 117, 115, 97, 110]), ("initial", .str [66]), ("familyName", .str [74, 111, 110, 101, 115])]), ("dateOfBirth", .str [49, 57, 53, 57, 48, 55, 49, 55])]])]

/-- `test_oer.py::test_x691_a1` -/
theorem x691_a1 : X696.encode personnelRecord personnelValue = .ok
    [0x80, 0x04, 0x4a, 0x6f, 0x68, 0x6e, 0x01, 0x50, 0x05, 0x53, 0x6d, 0x69, 0x74, 0x68, 0x01, 0x33,
     0x08, 0x44, 0x69, 0x72, 0x65, 0x63, 0x74, 0x6f, 0x72, 0x08, 0x31, 0x39, 0x37, 0x31, 0x30, 0x39,
     0x31, 0x37, 0x04, 0x4d, 0x61, 0x72, 0x79, 0x01, 0x54, 0x05, 0x53, 0x6d, 0x69, 0x74, 0x68, 0x01,
     0x02, 0x05, 0x52, 0x61, 0x6c, 0x70, 0x68, 0x01, 0x54, 0x05, 0x53, 0x6d, 0x69, 0x74, 0x68, 0x08,
     0x31, 0x39, 0x35, 0x37, 0x31, 0x31, 0x31, 0x31, 0x05, 0x53, 0x75, 0x73, 0x61, 0x6e, 0x01, 0x42,
     0x05, 0x4a, 0x6f, 0x6e, 0x65, 0x73, 0x08, 0x31, 0x39, 0x35, 0x39, 0x30, 0x37, 0x31, 0x37] := by
  rfl

/-- more vectors from tests/test_oer.py checked against the specification:
`INTEGER (0..MAX)` 128 ↦ `01 80` (unsigned), unconstrained 128 ↦ `02 00 80`, enumeration values 127, 128, -1,
an extensible SEQUENCE with one of two additions present. -/
example : X696.encode (.integer ⟨some 0, none, false⟩) (.int 128) = .ok [0x01, 0x80] := by rfl
example : X696.encode (.integer ⟨none, none, false⟩) (.int 128) = .ok [0x02, 0x00, 0x80] := by rfl
example : X696.encode (.integer ⟨some 0, some 10, true⟩) (.int (-1)) = .ok [0x01, 0xff] := by rfl
example : X696.encode (.enumerated [("a", 127), ("b", 128), ("c", -1)] none) (.enum "a") = .ok [0x7f] := by rfl
example : X696.encode (.enumerated [("a", 127), ("b", 128), ("c", -1)] none) (.enum "b") = .ok [0x82, 0x00, 0x80] := by rfl
example : X696.encode (.enumerated [("a", 127), ("b", 128), ("c", -1)] none) (.enum "c") = .ok [0x81, 0xff] := by rfl
example : X696.encode (.charString .utf8 ⟨2, some 2, false⟩) (.str [229, 228]) = .ok [0x04, 0xc3, 0xa5, 0xc3, 0xa4] := by rfl
example : X696.encode
    (.sequence (.cons "a" .mandatory .boolean .nil) true
      (.cons "b" .optional .null (.cons "c" .optional (.integer ⟨some 0, some 255, false⟩) .nil)))
    (.record [("a", .bool true), ("c", .int 7)]) = .ok [0x80, 0xff, 0x02, 0x06, 0x40, 0x01, 0x07] := by rfl

def tUtf8 : Ty := .charString .utf8 ⟨2, some 2, false⟩

/-- `fixed-utf8`: `UTF8String (SIZE(2))`, "ab": code `61 62`, standard `02 61 62` -/
theorem witness_fixed_utf8 :
    X696.deviations tUtf8 (.str [97, 98]) = ["fixed-utf8"] ∧
    Oer.enc tUtf8 (.str [97, 98]) = .ok [0x61, 0x62] ∧
    X696.enc tUtf8 (.str [97, 98]) = .ok [0x02, 0x61, 0x62] ∧
    Oer.enc tUtf8 (.str [97, 98]) ≠ X696.enc tUtf8 (.str [97, 98]) := by
  have h1 : Oer.enc tUtf8 (.str [97, 98]) = .ok [0x61, 0x62] := rfl
  have h2 : X696.enc tUtf8 (.str [97, 98]) = .ok [0x02, 0x61, 0x62] := rfl
  exact ⟨by decide +kernel, h1, h2, by rw [h1, h2]; exact nofun⟩

def tSwallow : Ty := .sequence (.cons "a" .mandatory .boolean .nil) true
  (.cons "m0" .optional .boolean (.cons "m1" .mandatory .boolean
    (.cons "m2" .optional (.integer ⟨some 0, some 255, false⟩) .nil)))
def vSwallow : Val := .record [("a", .bool true), ("m0", .bool true)]

/-- `addition-error-swallowed`: `SEQUENCE { a BOOLEAN, ..., m0 BOOLEAN OPTIONAL, m1 BOOLEAN,
m2 INTEGER (0..255) OPTIONAL }`, `{a TRUE, m0 TRUE}` (a value of the version that ends with `m0`): the code
writes the presence bitmap `010` (addition `m1`), the standard `100` -/
theorem witness_addition_error_swallowed :
    X696.deviations tSwallow vSwallow = ["addition-error-swallowed"] ∧
    Oer.enc tSwallow vSwallow = .ok [0x80, 0xff, 0x02, 0x05, 0x40, 0x01, 0xff] ∧
    X696.enc tSwallow vSwallow = .ok [0x80, 0xff, 0x02, 0x05, 0x80, 0x01, 0xff] ∧
    Oer.enc tSwallow vSwallow ≠ X696.enc tSwallow vSwallow := by
  have h1 : Oer.enc tSwallow vSwallow = .ok [0x80, 0xff, 0x02, 0x05, 0x40, 0x01, 0xff] := rfl
  have h2 : X696.enc tSwallow vSwallow = .ok [0x80, 0xff, 0x02, 0x05, 0x80, 0x01, 0xff] := rfl
  exact ⟨by decide +kernel, h1, h2, by rw [h1, h2]; exact nofun⟩

def tAddDefault : Ty := .sequence (.cons "a" .mandatory .boolean .nil) true
  (.cons "b" (.default (.int 5)) (.integer ⟨none, none, false⟩) .nil)
def vAddDefault : Val := .record [("a", .bool true), ("b", .int 5)]

/-- `addition-default-encoded`: `SEQUENCE { a BOOLEAN, ..., b INTEGER DEFAULT 5 }`, `{a TRUE, b 5}`: the code
sends the addition, the canonical encoding omits it (both are valid Basic-OER) -/
theorem witness_addition_default_encoded :
    X696.deviations tAddDefault vAddDefault = ["addition-default-encoded"] ∧
    Oer.enc tAddDefault vAddDefault = .ok [0x80, 0xff, 0x02, 0x07, 0x80, 0x02, 0x01, 0x05] ∧
    X696.enc tAddDefault vAddDefault = .ok [0x00, 0xff] ∧
    Oer.enc tAddDefault vAddDefault ≠ X696.enc tAddDefault vAddDefault := by
  have h1 : Oer.enc tAddDefault vAddDefault = .ok [0x80, 0xff, 0x02, 0x07, 0x80, 0x02, 0x01, 0x05] := rfl
  have h2 : X696.enc tAddDefault vAddDefault = .ok [0x00, 0xff] := rfl
  exact ⟨by decide +kernel, h1, h2, by rw [h1, h2]; exact nofun⟩

/-- `Except Err Bytes` has no decidable equality here: the witness below evaluates this test (and
`Except.toBool`) in the kernel and turns the Boolean back into an equation -/
def isEncodeError : Except Err Bytes → Bool
  | .error .encodeError => true
  | _ => false

-- `2 ^ 1016` is above the default threshold for evaluating powers
set_option exponentiation.threshold 2000 in
def tEnumBig : Ty := .enumerated [("a", 2 ^ 1016)] none

set_option exponentiation.threshold 2000 in
/-- `enum-oversize`: an enumeration value that needs 128 octets has no long form (the count field has
seven bits); the code emits octets nevertheless -/
theorem witness_enum_oversize :
    X696.deviations tEnumBig (.enum "a") = ["enum-oversize"] ∧
    X696.enc tEnumBig (.enum "a") = .error .encodeError ∧
    (∃ bs, Oer.enc tEnumBig (.enum "a") = .ok bs) ∧
    Oer.enc tEnumBig (.enum "a") ≠ X696.enc tEnumBig (.enum "a") := by
  have hk : isEncodeError (X696.enc tEnumBig (.enum "a")) = true := by decide +kernel
  have h2 : X696.enc tEnumBig (.enum "a") = .error .encodeError := by
    cases h : X696.enc tEnumBig (.enum "a") with
    | ok bs => rw [h] at hk; cases hk
    | error e => rw [h] at hk; cases e <;> first | rfl | cases hk
  have hb : (Oer.enc tEnumBig (.enum "a")).toBool = true := by decide +kernel
  have h1 : ∃ bs, Oer.enc tEnumBig (.enum "a") = .ok bs := by
    cases h : Oer.enc tEnumBig (.enum "a") with
    | ok bs => exact ⟨bs, rfl⟩
    | error e => rw [h] at hb; cases hb
  refine ⟨by decide +kernel, h2, h1, ?_⟩
  obtain ⟨bs, h1⟩ := h1
  rw [h1, h2]; intro h; cases h

def tUnclean : Ty := .sequence (.cons "d" (.default (.bits [0xa0] 3)) (.bitString ⟨0, none, false⟩) .nil) false .nil
def vUnclean : Val := .record [("d", .bits [0xbf] 3)]

/-- `default-unclean-bits-encoded` is a deviation of the *real code only*: `d BIT STRING DEFAULT '101'B`
with the Python value `(b'\xbf', 3)`.  The real encoder answers `10 02 05 a0` (verified by
tools/compare_spec_oer.py), the model `Oer.lean` — which compares cleaned bit strings — answers
the standard's `00`.  So no witness against the *model* exists; this theorem records that the model agrees
with the standard on the real code's witness. -/
theorem unclean_default_model_agrees :
    X696.deviations tUnclean vUnclean = ["default-unclean-bits-encoded"] ∧
    Oer.enc tUnclean vUnclean = .ok [0x00] ∧ X696.enc tUnclean vUnclean = .ok [0x00] :=
  ⟨by decide +kernel, rfl, rfl⟩

/-- the names `deviations` can produce: each has its theorem above (four witnesses and
`unclean_default_model_agrees`) -/
theorem deviation_names : X696.deviationNames =
    ["fixed-utf8", "addition-error-swallowed", "addition-default-encoded", "default-unclean-bits-encoded",
     "enum-oversize"] := rfl

end Asn1.C06

#print axioms Asn1.C06.oer_refines
#print axioms Asn1.C06.decoder_exact
#print axioms Asn1.C06.spec_total
#print axioms Asn1.C06.fixed_width_unsigned
#print axioms Asn1.C06.fixed_width_signed
#print axioms Asn1.C06.fixed_width_complete
#print axioms Asn1.C06.unsigned_minimal
#print axioms Asn1.C06.signed_minimal
#print axioms Asn1.C06.length_long_minimal
#print axioms Asn1.C06.length_exists_iff
#print axioms Asn1.C06.x691_a1
#print axioms Asn1.C06.overview_model_agrees
#print axioms Asn1.C06.witness_fixed_utf8
#print axioms Asn1.C06.witness_addition_error_swallowed
#print axioms Asn1.C06.witness_addition_default_encoded
#print axioms Asn1.C06.witness_enum_oversize
#print axioms Asn1.C06.unclean_default_model_agrees
