import Asn1Proofs.Lemmas.JerRoundtrip
import Asn1Proofs.Lemmas.JsonAscii
import Asn1Proofs.Lemmas.JerCanon
/-
  C02, JER half (`jer_roundtrip`).

  Model: Asn1Model/Json.lean (RFC 8259 reader `Json.parse`, `json.dumps` writer `Json.render`) and
  Asn1Model/Jer.lean (`Jer.toJson` / `Jer.ofJson` / `Jer.encode` / `Jer.decode`), validated against the
  real codec by tools/compare_jer.py.

  The "same abstract value" of the property is `Jer.canonJ t v`: `v` with absent DEFAULT members filled in
  (root members and extension additions alike; everything else, including the unused bits of a BIT STRING, unchanged).
-/
namespace Asn1.C02j
open Asn1 Asn1.Jer Asn1.Json

/-- tree level: the JSON tree the encoder builds for a well-typed value decodes to the canonical
form of the value -/
theorem jer_tree_roundtrip (t : Ty) (v : Val) (j : JsonV)
    (hwf : t.wf = true) (ht : hasType t v = true) (he : Jer.toJson t v = .ok j) :
    Jer.ofJson t j = .ok (Jer.canonJ t v) := by
  obtain ⟨j', h1, h2, _⟩ := Jer.rt_all t v hwf ht
  rw [he] at h1
  cases h1
  exact h2

/-- the tree is well formed: every string and member name is a list of Unicode scalar values and there
is no number with a fraction or exponent -/
theorem jer_tree_wf (t : Ty) (v : Val) (j : JsonV)
    (hwf : t.wf = true) (ht : hasType t v = true) (he : Jer.toJson t v = .ok j) :
    Json.wfV j = true := by
  obtain ⟨j', h1, _, h3⟩ := Jer.rt_all t v hwf ht
  rw [he] at h1
  cases h1
  exact h3

/-- every value the checkers accept is accepted by the JER encoder -/
theorem jer_enc_total (t : Ty) (v : Val) (hwf : t.wf = true) (ht : hasType t v = true) :
    ∃ j, Jer.toJson t v = .ok j :=
  let ⟨j, h, _⟩ := Jer.rt_all t v hwf ht
  ⟨j, h⟩

/-- the writer emits a valid JSON document and the independent RFC 8259 reader gives back the tree,
for `indent = None` (`none`) and every integer indent (`some n`), for every well-formed tree -/
theorem json_parse_render (indent : Option Nat) (j : JsonV) (hj : Json.wfV j = true) :
    Json.parse (Json.render indent j) = some j := by
  have key := value_render indent j hj 0 [] trivial (2 * (render indent j).length + 2) (by
    rw [List.append_nil, render]; omega)
  have hs := skipWs_renderV indent 0 j [] [] (fun _ h => nomatch h)
  rw [List.append_nil] at key hs
  rw [parse, render, List.nil_append] at *
  rw [hs, key]
  rfl

/-- `ensure_ascii`: the document consists of ASCII characters only, for every tree -/
theorem json_render_ascii (indent : Option Nat) (j : JsonV) : ∀ c ∈ Json.render indent j, c < 128 :=
  Json.render_ascii indent j

theorem utf8_of_ascii (cps : List Nat) (h : ∀ c ∈ cps, c < 128) : cps.flatMap Uper.utf8Enc = cps :=
  Json.utf8_of_ascii cps h

/-- C02 for JER, document level: for every well-formed type, every value the checkers accept and
every indentation, the encoder produces octets that are (the UTF-8 form of) a valid JSON document, and
decoding them yields the canonical form of the value. -/
theorem jer_roundtrip (t : Ty) (v : Val) (indent : Option Nat)
    (hwf : t.wf = true) (ht : hasType t v = true) :
    ∃ doc, Jer.encode t v indent = .ok doc ∧ Jer.isJson doc = true ∧
      Jer.decode t doc = .ok (Jer.canonJ t v) := by
  obtain ⟨j, hj⟩ := jer_enc_total t v hwf ht
  have hrt := jer_tree_roundtrip t v j hwf ht hj
  have hw := jer_tree_wf t v j hwf ht hj
  have hasc := json_render_ascii indent j
  have hdoc : Jer.docCps ((Json.render indent j).flatMap Uper.utf8Enc) = some (Json.render indent j) := by
    unfold Jer.docCps
    exact Uper.utf8Dec_flatMap_utf8Enc _ (fun cp hcp => by have := hasc cp hcp; omega) _ (Nat.le_refl _)
  refine ⟨(Json.render indent j).flatMap Uper.utf8Enc, by simp only [Jer.encode, hj], ?_, ?_⟩
  · simp only [Jer.isJson, hdoc, json_parse_render indent j hw, Option.isSome_some]
  · simp only [Jer.decode, hdoc, json_parse_render indent j hw, hrt]

/-- the canonical form is the value itself when no DEFAULT member is left out (`Jer.explicitDefaults`,
decidable) -/
theorem canonJ_of_explicit (t : Ty) (v : Val)
    (hwf : t.wf = true) (ht : hasType t v = true) (hx : Jer.explicitDefaults t v = true) :
    Jer.canonJ t v = v :=
  Jer.id_all t v hwf ht hx

/-- document level, literally "the same abstract value": when every DEFAULT member is present in the
value, decoding the document gives exactly the value, for every indentation. -/
theorem jer_roundtrip_exact (t : Ty) (v : Val) (indent : Option Nat)
    (hwf : t.wf = true) (ht : hasType t v = true) (hx : Jer.explicitDefaults t v = true) :
    ∃ doc, Jer.encode t v indent = .ok doc ∧ Jer.isJson doc = true ∧ Jer.decode t doc = .ok v := by
  obtain ⟨doc, h1, h2, h3⟩ := jer_roundtrip t v indent hwf ht
  exact ⟨doc, h1, h2, by rw [h3, canonJ_of_explicit t v hwf ht hx]⟩

/-- the octets of the document are the code points of the rendered text (no octet ≥ 128) -/
theorem jer_encode_ascii (t : Ty) (v : Val) (indent : Option Nat) (doc : Bytes)
    (he : Jer.encode t v indent = .ok doc) : ∀ b ∈ doc, b < 128 := by
  unfold Jer.encode at he
  cases hj : Jer.toJson t v with
  | error e => rw [hj] at he; cases he
  | ok j =>
    rw [hj] at he
    cases he
    rw [utf8_of_ascii _ (json_render_ascii indent j)]
    exact json_render_ascii indent j

/-- a SEQUENCE with OPTIONAL, DEFAULT (root and addition), both BIT STRING forms, an OCTET STRING, an
ENUMERATED, a UTF8String and an extensible CHOICE inside a SEQUENCE OF -/
def exT : Ty :=
  .sequenceOf (.sequence
    (.cons "a" .optional (.integer ⟨some 0, some 300, true⟩)
    (.cons "b" (.default (.bool true)) .boolean
    (.cons "c" .mandatory (.bitString ⟨4, some 4, false⟩)
    (.cons "d" .mandatory (.bitString ⟨0, none, false⟩)
    (.cons "s" .mandatory (.charString .utf8 ⟨0, none, false⟩) .nil))))) true
    (.cons "x" (.default (.int 5)) (.integer ⟨none, none, false⟩)
    (.cons "y" .optional (.choice (.cons "n" .null (.cons "o" (.octetString ⟨0, none, false⟩) .nil)) true
      (.cons "e" (.enumerated [("r", 0)] (some [("q", 1)])) .nil)) .nil))) ⟨0, some 3, true⟩

def exV : Val :=
  .list [.record [("a", .int 70000), ("c", .bits [0xa0] 4), ("d", .bits [0xff, 0x80] 9),
                  ("s", .str [97, 34, 92, 10, 233, 0x1d11e]), ("y", .choice "e" (.enum "q"))],
         .record [("b", .bool false), ("c", .bits [0x50] 4), ("d", .bits [] 0), ("s", .str []),
                  ("x", .int (-1)), ("y", .choice "o" (.bytes [0xde, 0xad]))]]

example : exT.wf = true ∧ hasType exT exV = true := by
  refine ⟨by decide +kernel, by decide +kernel⟩

/-- the compact document: `[{"a":70000,"c":"A0","d":{"value":"FF80","length":9},"s":"a\"\\\né𝄞","y":{"e":"q"}},{...}]` -/
example : (Jer.encode exT exV none).toOption.map (·.length) = some 180 := by decide +kernel

example : ∀ indent ∈ [none, some 0, some 1, some 4],
    (match Jer.encode exT exV indent with
     | .ok doc => Jer.isJson doc && (match Jer.decode exT doc with | .ok w => w == Jer.canonJ exT exV | .error _ => false)
     | .error _ => false) = true := by decide +kernel

/-- the canonical form differs from the value only by the filled-in DEFAULTs (`b` in the first record,
`x` in the first record) -/
example : Jer.canonJ exT exV =
  .list [.record [("a", .int 70000), ("b", .bool true), ("c", .bits [0xa0] 4), ("d", .bits [0xff, 0x80] 9),
                  ("s", .str [97, 34, 92, 10, 233, 0x1d11e]), ("x", .int 5), ("y", .choice "e" (.enum "q"))],
         .record [("b", .bool false), ("c", .bits [0x50] 4), ("d", .bits [] 0), ("s", .str []),
                  ("x", .int (-1)), ("y", .choice "o" (.bytes [0xde, 0xad]))]] := by rfl

/-- `exV` leaves DEFAULT members out, its second element does not -/
example : Jer.explicitDefaults exT exV = false ∧
    Jer.explicitDefaults exT (.list [.record [("b", .bool false), ("c", .bits [0x50] 4), ("d", .bits [] 0),
      ("s", .str []), ("x", .int (-1)), ("y", .choice "o" (.bytes [0xde, 0xad]))]]) = true := by
  constructor <;> decide +kernel

/-- indentation: `json.dumps(..., indent=1)` of a CHOICE in a SEQUENCE OF -/
example : Jer.encode (.sequenceOf (.choice (.cons "n" .null .nil) false .nil) ⟨0, none, false⟩)
    (.list [.choice "n" .null]) (some 1)
    = .ok [91, 10, 32, 123, 10, 32, 32, 34, 110, 34, 58, 32, 110, 117, 108, 108, 10, 32, 125, 10, 93] := by rfl

/-- the reader rejects what is not JSON: a leading zero, a trailing comma, a lone surrogate escape, a raw
control character, text after the value, `NaN` -/
example : Json.parse [48, 49] = none ∧ Json.parse [91, 49, 44, 93] = none ∧
    Json.parse [34, 92, 117, 100, 56, 48, 48, 34] = none ∧ Json.parse [34, 9, 34] = none ∧
    Json.parse [49, 32, 50] = none ∧ Json.parse [78, 97, 78] = none := by
  refine ⟨by rfl, by rfl, by rfl, by rfl, by rfl, by rfl⟩

/-- deviation witness (decoder): a document without the mandatory members decodes without an error -/
example : Jer.ofJson (.sequence (.cons "a" .mandatory .boolean .nil) false .nil) (.obj []) = .ok (.record []) := by rfl

/-- deviation witness (decoder): the pass-through types return any JSON value (`"yes"` for a BOOLEAN) -/
example : Jer.ofJson .boolean (.str [121, 101, 115]) = .ok (.str [121, 101, 115]) := by rfl

/-- deviation witness (BIT STRING `SIZE(5, ...)`, a 7-bit value, which `hasType` excludes): the length is
not written and the decoder returns the declared size -/
example : Jer.toJson (.bitString ⟨5, some 5, true⟩) (.bits [0xfe] 7) = .ok (.str [70, 69]) ∧
    Jer.ofJson (.bitString ⟨5, some 5, true⟩) (.str [70, 69]) = .ok (.bits [0xfe] 5) := by
  constructor <;> rfl

end Asn1.C02j
