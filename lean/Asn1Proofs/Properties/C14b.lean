import Asn1Proofs.Lemmas.C14More
/-
  C14, second part.  The proofs are in Lemmas/C14More.lean (namespace `Asn1.C14`), which needs `strip_ok_iff` of
  Properties/C14; each statement is repeated here word for word and proved by citing the theorem of the same name.
-/
namespace Asn1.C14b
open Asn1.Comments

/-- Text inside a character string literal is copied verbatim and never opens a comment. -/
theorem str_verbatim (a : Nat) (rest body : List Char) (hb : '"' ∉ body) :
    go .str a (body ++ '"' :: rest) = (fun o => body ++ '"' :: o) <$> go .normal a rest :=
  Asn1.C14.str_verbatim a rest body hb

/-- Blanked text contains no comment: a second pass returns it unchanged. -/
theorem strip_idem (s o : List Char) (h : strip s = .ok o) : strip o = .ok o :=
  Asn1.C14.strip_idem s o h

theorem strip_no_comment (s : List Char)
    (h1 : ∀ pre post, s ≠ pre ++ '-' :: '-' :: post)
    (h2 : ∀ pre post, s ≠ pre ++ '/' :: '*' :: post)
    (h3 : '"' ∉ s) : strip s = .ok s :=
  Asn1.C14.strip_no_comment s h1 h2 h3

end Asn1.C14b
