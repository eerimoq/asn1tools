import Asn1Proofs.Lemmas.BridgeFun
/-
  C01, translator tie for OBJECT IDENTIFIER subidentifiers and `lowest_set_bit`, which are outside the `Ty` universe of
  the codec models: the theorems are about the definitions that harness/py2lean.py generates from
  /repo/asn1tools/codecs/ber.py and codecs/compiler.py.
-/
namespace Asn1.C01t
open Asn1 Asn1.Translated Asn1.Bridge

/-- decoding what `encode_object_identifier_subidentifier` wrote returns the number and the offset right behind it,
for EVERY subidentifier (arbitrary size) and whatever octets follow -/
theorem oid_subidentifier_roundtrip (n : Nat) (rest : List Int) :
    ber_decode_object_identifier_subidentifier (ber_encode_object_identifier_subidentifier (n : Int) ++ rest) 0
      = .ok ((n : Int), ((ber_encode_object_identifier_subidentifier (n : Int)).length : Int)) := by
  rw [oid_encode_eq]
  unfold ber_decode_object_identifier_subidentifier
  have h := oid_dec_loop (contLE (n / 128)).reverse
    (1 + Py.fuelOfList (ofNats ((contLE (n / 128)).reverse ++ [n % 128]) ++ rest) + Py.fuelOfInt 0 + Py.fuelOfInt 0)
    [] 0 (n % 128) rest (fun c hc => contLE_range _ c (by simpa using hc)) (Nat.mod_lt _ (by omega))
    (by simp [Py.fuelOfList, ofNats]; omega)
  simp only [List.nil_append, List.length_nil, Int.natCast_zero, Nat.zero_add] at h
  have hnat : ((0 : Nat) : Int) = 0 := rfl
  simp only [bind, Except.bind, h, contLE_fold]
  have hg := getIdx_ofNats_mid (contLE (n / 128)).reverse (n % 128) [] rest
  simp only [List.length_reverse] at hg ⊢
  rw [hg]
  simp only [pure, Except.pure, ofNats_length, List.length_append, List.length_reverse, List.length_cons,
    List.length_nil]
  congr 2
  · omega

/-- X.690 8.19.2: octets, continuation bits, and the fewest possible octets (no leading 0x80) -/
theorem oid_subidentifier_shape (n : Nat) :
    let e := ber_encode_object_identifier_subidentifier (n : Int)
    e ≠ [] ∧ (∀ b ∈ e, 0 ≤ b ∧ b < 256) ∧ (∀ b ∈ e.dropLast, 128 ≤ b) ∧ (∀ b, e.getLast? = some b → b < 128) ∧
      (e.length > 1 → e.head? ≠ some 128) := by
  intro e
  have he : e = ofNats ((contLE (n / 128)).reverse ++ [n % 128]) := oid_encode_eq n
  have hr := contLE_range (n / 128)
  rw [he]
  refine ⟨by simp [ofNats], ?_, ?_, ?_, ?_⟩
  · intro b hb
    simp only [ofNats, List.map_append, List.mem_append, List.mem_map, List.mem_reverse] at hb
    rcases hb with ⟨a, ha, rfl⟩ | ⟨a, ha, rfl⟩
    · have := hr a ha
      simp only [Int.ofNat_eq_natCast]; omega
    · simp at ha; subst ha
      simp only [Int.ofNat_eq_natCast]; omega
  · intro b hb
    simp only [ofNats, List.map_append, List.map_cons, List.map_nil, List.dropLast_concat, List.mem_map,
      List.mem_reverse] at hb
    obtain ⟨a, ha, rfl⟩ := hb
    have := hr a ha
    simp only [Int.ofNat_eq_natCast]; omega
  · intro b hb
    simp only [ofNats, List.map_append, List.map_cons, List.map_nil, List.getLast?_concat, Option.some.injEq] at hb
    subst hb
    simp only [Int.ofNat_eq_natCast]; omega
  · intro hlen
    have hne : contLE (n / 128) ≠ [] := by
      intro h0; rw [h0] at hlen; simp [ofNats] at hlen
    have hl := contLE_getLast (n / 128)
    rw [← List.head?_reverse] at hl
    cases hc : (contLE (n / 128)).reverse with
    | nil => simp at hc; exact absurd hc hne
    | cons a r =>
      rw [hc] at hl
      simp only [List.head?_cons, ne_eq, Option.some.injEq] at hl
      simp only [ofNats, List.cons_append, List.map_cons, List.head?_cons, ne_eq, Option.some.injEq,
        Int.ofNat_eq_natCast]
      omega

/-- `lowest_set_bit` (named-bit BIT STRING trimming, REAL mantissa normalisation) is the 2-adic valuation -/
theorem lowest_set_bit_spec (n : Nat) (h : 0 < n) :
    ∃ k : Nat, compiler_lowest_set_bit (n : Int) = (k : Int) ∧ 2 ^ k ∣ n ∧ ¬ 2 ^ (k + 1) ∣ n := by
  obtain ⟨k, hk1, hk2, hk3⟩ := lowbit n h
  refine ⟨k, ?_, hk2, hk3⟩
  unfold compiler_lowest_set_bit
  obtain ⟨m, rfl⟩ : ∃ m, n = m + 1 := ⟨n - 1, by omega⟩
  have e : -(((m + 1 : Nat)) : Int) = Int.negSucc m := rfl
  rw [e]
  have hb : Py.band (((m + 1 : Nat)) : Int) (Int.negSucc m) = Int.ofNat (m + 1 - (m + 1 &&& m)) := rfl
  simp only [Nat.add_sub_cancel] at hk1
  rw [hb, hk1]
  have : Py.bitLength (Int.ofNat (2 ^ k)) = ((k + 1 : Nat) : Int) := by
    rw [← bitLength_two_pow]; exact Py.bitLength_natCast _
  simp only [this]
  have h2 : ¬ (((k + 1 : Nat) : Int) - 1 < 0) := by omega
  simp only [h2, decide_false, Bool.false_eq_true, if_false]
  omega

theorem lowest_set_bit_zero : compiler_lowest_set_bit 0 = 0 := by decide

example : ber_encode_object_identifier_subidentifier 999 = [135, 103] := by decide

end Asn1.C01t
