import Asn1Proofs.Lemmas.Bridge4
import Asn1Proofs.Properties.C15
/-
  C15 / C16 / C04 — translator tie for the BER/DER framing readers.  `Asn1.Translated.ber_skip_tag`, `ber_decode_length`,
  `ber_detect_end_of_contents_tag` and the length probe `ber_decode_full_length` (through `ber_skip_tag_length_contents`,
  which has no statement of its own) are regenerated from /repo/asn1tools/codecs/ber.py by harness/py2lean.py on every
  run, with Python's exceptions and their attributes (`OutOfByteDataError(offset)`, `MissingDataError(offset,
  expected_length)`, the `try/except` clauses and the class hierarchy read from the source).  `probe_complete_translated`
  and `probe_prefix_translated` are the statement of property C15 about the translated code itself.
-/
namespace Asn1.C15u
open Asn1 Asn1.Translated Asn1.Bridge Asn1.Ber

theorem translated_skip_tag (data : Bytes) (hd : Bridge.allBytes data) :
    match Ber.skipTag data with
    | some o => ber_skip_tag (ofNats data) 0 = .ok (o : Int)
    | none => ∃ k, ber_skip_tag (ofNats data) 0 = .error ⟨"OutOfByteDataError", [k]⟩ := by
  have h := ber_skip_tag_at [] data hd
  simp only [List.nil_append, List.length_nil, Nat.zero_add] at h
  exact h

set_option linter.unusedVariables false in   -- `hp` is not needed
/-- `decode_length`: definite value and header size; OutOfByteDataError when the length octets are cut; DecodeError for the
indefinite form; MissingDataError carrying (offset of the contents, length) when the contents are incomplete -/
theorem translated_decode_length (pre data : Bytes) (hp : Bridge.allBytes pre) (hd : Bridge.allBytes data) :
    match Ber.decodeLength data with
    | .outOfData => ∃ k, ber_decode_length (ofNats (pre ++ data)) pre.length = .error ⟨"OutOfByteDataError", [k]⟩
    | .indefinite => ∃ k, ber_decode_length (ofNats (pre ++ data)) pre.length = .error ⟨"DecodeError", [k]⟩
    | .ok n h =>
        if pre.length + h + n ≤ (pre ++ data).length
        then ber_decode_length (ofNats (pre ++ data)) pre.length = .ok ((n : Int), ((pre.length + h : Nat) : Int))
        else ber_decode_length (ofNats (pre ++ data)) pre.length
               = .error ⟨"MissingDataError", [((pre.length + h : Nat) : Int), (n : Int)]⟩ := by
  generalize hres : ber_decode_length (ofNats (pre ++ data)) pre.length = res
  unfold ber_decode_length at hres
  cases data with
  | nil =>
    rw [List.append_nil, getIdx_catch_end] at hres
    exact ⟨_, hres.symm⟩
  | cons l r =>
    have hl := (allBytes_cons hd).1
    simp only [getIdx_catch_mid, bind, Except.bind] at hres
    simp only [decodeLength, Nat.mod_eq_of_lt hl]
    by_cases h1 : l < 128
    · rw [if_pos h1]
      simp only [Py.not_truthy_band128 h1, Bool.false_eq_true, if_false, Py.len_eq, ofNats_length] at hres
      rw [← hres]
      exact decode_length_tail _ _ _ _ (Int.natCast_succ _).symm
    · rw [if_neg h1]
      rw [Py.truthy_band128 (Nat.le_of_not_lt h1) hl, if_pos rfl] at hres
      -- long or indefinite form: the first octet written `128 + k`; with `l - 128` in the model's test, reducing the
      -- surrounding `match` unfolds the subtraction of the literal step by step and exceeds the recursion depth
      obtain ⟨k, rfl⟩ := Nat.exists_eq_add_of_le (Nat.le_of_not_lt h1)
      have hk : k < 128 := by omega
      rw [Nat.add_sub_cancel_left]
      by_cases h2 : k = 0
      · subst h2
        exact ⟨_, hres.symm⟩
      · rw [if_neg (by omega)]
        -- `encoded[offset:number_of_bytes + offset]` are the first `k` octets of `r`
        have hs := Py.slice_nat (ofNats (pre ++ (128 + k) :: r)) (pre.length + 1) k
        rw [Int.natCast_succ, Int.add_comm _ (k : Int), ofNats_drop, ofNats_take,
          show (pre ++ (128 + k) :: r).drop (pre.length + 1) = r by simp] at hs
        rw [if_neg (by rw [decide_eq_true_eq]; omega)] at hres
        simp only [Py.band127, Nat.add_mod_left, Nat.mod_eq_of_lt hk, hs, bytesToInt_ofNats, Py.len_eq, ofNats_length,
          List.length_take] at hres
        by_cases h3 : r.length < k
        · rw [if_pos h3]
          rw [Nat.min_eq_right (Nat.le_of_lt h3), if_pos (by rw [decide_eq_true_eq]; omega)] at hres
          exact ⟨_, hres.symm⟩
        · rw [if_neg h3]
          rw [Nat.min_eq_left (Nat.le_of_not_lt h3), if_neg (by rw [decide_eq_true_eq]; exact not_not_intro rfl)] at hres
          rw [← hres]
          exact decode_length_tail _ _ _ _ (by omega)

theorem translated_decode_full_length (data : Bytes) (hd : Bridge.allBytes data) :
    match Ber.fullLength data with
    | .unknown => ber_decode_full_length (ofNats data) = .ok none
    | .known n => ber_decode_full_length (ofNats data) = .ok (some (n : Int))
    | .indefinite => ∃ k, ber_decode_full_length (ofNats data) = .error ⟨"DecodeError", [k]⟩ := by
  have hs := translated_skip_tag data hd
  generalize hres : ber_decode_full_length (ofNats data) = res
  unfold ber_decode_full_length ber_skip_tag_length_contents at hres
  unfold fullLength
  cases hsk : skipTag data with
  | none =>
    rw [hsk] at hs
    obtain ⟨k, hk⟩ := hs
    simp only
    simp only [hk, bind, Except.bind, isSub_ood_missing, isSub_refl, if_true, Bool.false_eq_true, if_false] at hres
    exact hres.symm
  | some o =>
    rw [hsk] at hs
    simp only
    have hdl := translated_decode_length (data.take o) (data.drop o) (allBytes_take o hd) (allBytes_drop o hd)
    rw [List.take_append_drop, List.length_take_of_le (Nat.le_of_lt (skipTag_lt data o hsk))] at hdl
    simp only [hs, bind, Except.bind] at hres
    cases hdec : decodeLength (data.drop o) with
    | outOfData =>
      rw [hdec] at hdl
      obtain ⟨k, hk⟩ := hdl
      simp only [hk, isSub_ood_missing, isSub_refl, if_true, Bool.false_eq_true, if_false] at hres
      exact hres.symm
    | indefinite =>
      rw [hdec] at hdl
      obtain ⟨k, hk⟩ := hdl
      simp only [hk, isSub_dec_missing, isSub_dec_ood, Bool.false_eq_true, if_false] at hres
      exact ⟨k, hres.symm⟩
    | ok n h =>
      rw [hdec] at hdl
      simp only at hdl
      split at hdl
      · simp only [hdl, pure, Except.pure] at hres
        rw [← hres, Int.add_comm, ← Int.natCast_add]
      · simp only [hdl, isSub_refl, if_true, pure, Except.pure, Py.excArg, List.getD_cons_zero,
          List.getD_cons_succ] at hres
        rw [← hres, ← Int.natCast_add]

set_option linter.unusedVariables false in   -- neither `hp` nor `hd` is needed
theorem translated_detect_end_of_contents_tag (pre data : Bytes) (hp : Bridge.allBytes pre) (hd : Bridge.allBytes data) :
    ber_detect_end_of_contents_tag (ofNats (pre ++ data)) pre.length =
      (if data.take 2 = [0, 0] then .ok true
       else if data.length < 2 then .error ⟨"OutOfByteDataError", [(pre.length : Int)]⟩
       else .ok false) := by
  unfold ber_detect_end_of_contents_tag
  have hs := Py.slice_nat (ofNats (pre ++ data)) pre.length 2
  rw [Int.cast_ofNat_Int, ofNats_drop, List.drop_left, ofNats_take] at hs
  have e : ([0, 0] : List Int) = ofNats [0, 0] := rfl
  simp only [hs, e, ofNats_inj, Py.len_eq, ofNats_length, List.length_take]
  by_cases h1 : data.take 2 = [0, 0]
  · simp only [h1, decide_true, if_true]; rfl
  · simp only [h1, decide_false, Bool.false_eq_true, if_false]
    by_cases h2 : data.length < 2
    · rw [if_pos (by rw [decide_eq_true_eq]; omega), if_pos h2]; rfl
    · rw [if_neg (by rw [decide_eq_true_eq]; omega), if_neg h2]; rfl

/-- C15 on the code translated from the source: `decode_full_length` returns the full message length for every prefix
that contains the complete identifier and length octets, whatever follows -/
theorem probe_complete_translated (t l rest : Bytes) (n : Nat) (ht : validTag t) (hl : validLen l n) (hr : Bridge.allBytes rest)
    (hb : Bridge.allBytes (t ++ l)) :
    ber_decode_full_length (ofNats (t ++ l ++ rest)) = .ok (some ((t.length + l.length + n : Nat) : Int)) := by
  have h := translated_decode_full_length (t ++ l ++ rest) (allBytes_append hb hr)
  rw [C15.probe_complete t l rest n ht hl] at h
  exact h

/-- … and 'not yet known' (`None`) for every shorter prefix — never a wrong number -/
theorem probe_prefix_translated (t l : Bytes) (n k : Nat) (ht : validTag t) (hl : validLen l n) (hb : Bridge.allBytes (t ++ l))
    (hk : k < t.length + l.length) :
    ber_decode_full_length (ofNats ((t ++ l).take k)) = .ok none := by
  have h := translated_decode_full_length ((t ++ l).take k) (allBytes_take k hb)
  rw [C15.probe_prefix t l n k ht hl hk] at h
  exact h

example : ber_decode_full_length [0x5f, 0x81, 0x00, 0x82, 0x01, 0x00, 7] = .ok (some 262) := by rfl
example : ber_decode_full_length [0x5f, 0x81, 0x00, 0x82, 0x01] = .ok none := by rfl

end Asn1.C15u
