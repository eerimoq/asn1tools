import Asn1Proofs.Lemmas.BridgeFun
/-
  C06 — translator tie: `oer.encode_tag` (CHOICE tag octets), regenerated from /repo/asn1tools/codecs/oer.py on every
  run, is the model function `Oer.encTag` of `oer_refines` for every tag number and class.
-/
namespace Asn1.C06t
open Asn1 Asn1.Translated Asn1.Bridge

theorem translated_encode_tag (n f : Nat) (hf : f % 64 = 0) :
    oer_encode_tag (n : Int) (f : Int) = .ok (ofNats (Oer.encTag n f)) := by
  unfold oer_encode_tag Oer.encTag
  by_cases h : n < 63
  · rw [decide_eq_true (by omega : (n : Int) < 63), if_pos h, Py.bor_natCast, or_low 6 hf (show n < 2 ^ 6 by omega)]
    rfl
  · rw [decide_eq_false (by omega : ¬ (n : Int) < 63), if_neg h]
    simp only [← Ber.base128_eq_oer, base128_cont]
    exact tag_long n f 63 6 (by omega) hf (by omega) _
      (cont_loop (fun fuel x a => oer_encode_tag_loop1 fuel x f _ a) .ok (fun _ _ _ => rfl) _ n []
        (by rw [Py.fuelOfInt_natCast]; omega))

example : oer_encode_tag 63 128 = .ok [191, 63] := by rfl

end Asn1.C06t
