import Asn1Model.SpecDict
/-
  C07, recorded finding `C07-automatic-tags-trailing-root` as closed theorems about the rewrite model
  (`Preprocess.run`, tied to `Compiler.pre_process` by dictionary-exact correspondence on every run):
  automatic tag numbers follow the textual order of the components across BOTH extension markers, so the tag
  of a root component written after the second marker changes when an addition is inserted between the markers.
  X.680 25.7 numbers the components of the extension root first.  BER / DER encodings of the two versions of
  such a type therefore do not interoperate (PER, OER, JER, XER do not use the tags).
-/
namespace Asn1.C07w
open Asn1.SpecDict Asn1.SpecDict.Preprocess

def comp (n ty : String) (opt : Bool := false) : Item :=
  .desc (.mk { type := ty, name := some n, optional := if opt then some true else none } .leaf)

/-- `S ::= SEQUENCE { a INTEGER, ..., x INTEGER OPTIONAL, ..., z INTEGER }` -/
def v1 : Desc := .mk { type := "SEQUENCE" } (.members
  [comp "a" "INTEGER", .marker, comp "x" "INTEGER" true, .marker, comp "z" "INTEGER"])

/-- the next version: `y OCTET STRING OPTIONAL` added at the insertion point -/
def v2 : Desc := .mk { type := "SEQUENCE" } (.members
  [comp "a" "INTEGER", .marker, comp "x" "INTEGER" true, comp "y" "OCTET STRING" true, .marker, comp "z" "INTEGER"])

def specOf (d : Desc) : Spec := [("M", { tags := some "AUTOMATIC", types := [("S", d)] })]

def memberTag (n : String) : List Item → Option TagNum
  | [] => none
  | .desc (.mk a _) :: t => if a.name = some n then a.tag.map (·.number) else memberTag n t
  | _ :: t => memberTag n t

/-- the tag number of component `n` of type `S` after the rewrite -/
def tagAfterRun (d : Desc) (n : String) : Option TagNum :=
  match find? "M" (run false (specOf d)) with
  | none => none
  | some m =>
    match find? "S" m.types with
    | some (.mk _ (.members ms)) => memberTag n ms
    | _ => none

/-- version 1: a ↦ [0], x ↦ [1], z ↦ [2] -/
theorem v1_tags : (tagAfterRun v1 "a", tagAfterRun v1 "x", tagAfterRun v1 "z")
    = (some (.int 0), some (.int 1), some (.int 2)) := by decide +kernel

/-- version 2: the inserted addition takes [2] and pushes the ROOT component z to [3] -/
theorem v2_tags : (tagAfterRun v2 "a", tagAfterRun v2 "x", tagAfterRun v2 "y", tagAfterRun v2 "z")
    = (some (.int 0), some (.int 1), some (.int 2), some (.int 3)) := by decide +kernel

/-- the recorded finding: a legal extension step changes the tag of a root component -/
theorem trailing_root_tag_moves : tagAfterRun v1 "z" ≠ tagAfterRun v2 "z" := by decide +kernel

/-- while the components in front of the inserted addition keep theirs -/
theorem leading_root_tags_stable : tagAfterRun v1 "a" = tagAfterRun v2 "a" ∧ tagAfterRun v1 "x" = tagAfterRun v2 "x" := by decide +kernel

end Asn1.C07w

#print axioms Asn1.C07w.v1_tags
#print axioms Asn1.C07w.v2_tags
#print axioms Asn1.C07w.trailing_root_tag_moves
#print axioms Asn1.C07w.leading_root_tags_stable
