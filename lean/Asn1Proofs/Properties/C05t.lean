import Asn1Proofs.Lemmas.Bridge
import Asn1Model.Per
/-
  C05 — translator tie for the PER bit buffer.  `Asn1.Translated.per_Encoder_*` are regenerated from the Python class
  `per.Encoder` (/repo/asn1tools/codecs/per.py: a big integer `value`, a bit count, and 4096-bit `chunks`) by
  harness/py2lean.py on every run.  Under the representation invariant `EncInv` (established by `Encoder()`, preserved by
  every method) each method appends to the abstract bit string `absBits` exactly the bits of the primitive of the UPER /
  PER code models about which `uper_refines` / `per_refines` (C05) are proved, for every buffer state (any number of
  flushed chunks), value and width.  So the integer tricks of the Python code (shift/or accumulation, the chunk flush
  above 4096 bits, two's complement by `(1 << 8k) + value`) are verified, not assumed.
-/
namespace Asn1.C05t
open Asn1 Asn1.Translated Asn1.Bridge

theorem encoder_init : EncInv Bridge.empty ∧ absBits Bridge.empty = [] :=
  ⟨⟨by decide, by decide, by decide, fun _ hc => (nomatch hc), rfl⟩, rfl⟩

theorem encoder_number_of_bytes (s : per_EncoderS) (h : EncInv s) :
    per_Encoder_number_of_bytes s = (((absBits s).length + 7) / 8 : Nat) := by
  unfold per_Encoder_number_of_bytes
  rw [← abs_length s h, show (((absBits s).length : Nat) : Int) + 7 = (((absBits s).length + 7 : Nat) : Int) by omega,
    Py.fdiv8]

theorem encoder_append_non_negative_binary_integer (s : per_EncoderS) (h : EncInv s) (v n : Nat) (hv : v < 2 ^ n) :
    EncInv (per_Encoder_append_non_negative_binary_integer s v n) ∧
    absBits (per_Encoder_append_non_negative_binary_integer s v n) = absBits s ++ natToBits n v := by
  rw [nnbi_eq]
  by_cases hc : s.number_of_bits > 4096
  · simp only [hc, if_true]
    have ⟨h1, h2⟩ := flush_refines s h
    have := push_core (flush s) h1 v n hv _ (bor_shl _ h1.v0 v n hv)
    rw [h2] at this
    exact this
  · simp only [hc, if_false]
    exact push_core s h v n hv _ (bor_shl _ h.v0 v n hv)

theorem encoder_append_bit (s : per_EncoderS) (h : EncInv s) (b : Bool) :
    EncInv (per_Encoder_append_bit s (if b then 1 else 0)) ∧
    absBits (per_Encoder_append_bit s (if b then 1 else 0)) = absBits s ++ [b] := by
  have key : ∀ v : Nat, v < 2 ^ 1 →
      EncInv (per_Encoder_append_bit s (v : Int)) ∧
      absBits (per_Encoder_append_bit s (v : Int)) = absBits s ++ natToBits 1 v := fun v hv =>
    push_core s h v 1 hv _ (bor_shl _ h.v0 v 1 hv)
  cases b
  · exact key 0 (by decide)
  · exact key 1 (by decide)

/-- `align_always` pads with zero bits to the next octet boundary of the WHOLE buffer (flushed chunks included) -/
theorem encoder_align_always (s : per_EncoderS) (h : EncInv s) :
    EncInv (per_Encoder_align_always s) ∧
    absBits (per_Encoder_align_always s) = absBits s ++ Per.alignBits (absBits s).length := by
  unfold per_Encoder_align_always
  have hw : (8 : Int) * per_Encoder_number_of_bytes s - s.chunks_number_of_bits - s.number_of_bits
      = ((Per.padLen (absBits s).length : Nat) : Int) := by
    rw [encoder_number_of_bytes s h, Int.sub_sub, ← abs_length s h]
    unfold Per.padLen
    omega
  simp only [hw]
  have := push_core s h 0 (Per.padLen (absBits s).length) (Nat.two_pow_pos _)
    (Py.shl s.value (Per.padLen (absBits s).length : Int)) (by simp [Py.shl])
  rw [natToBits_zero] at this
  exact this

theorem encoder_align (s : per_EncoderS) (h : EncInv s) :
    EncInv (per_Encoder_align s) ∧
    absBits (per_Encoder_align s) = absBits s ++ Per.alignBits (absBits s).length :=
  encoder_align_always s h

theorem encoder_append_bits (s : per_EncoderS) (h : EncInv s) (data : Bytes) (hd : ∀ b ∈ data, b < 256)
    (n : Nat) (hn : n ≤ 8 * data.length) :
    EncInv (per_Encoder_append_bits s (ofNats data) n) ∧
    absBits (per_Encoder_append_bits s (ofNats data) n) = absBits s ++ (bytesToBits data).take n := by
  unfold per_Encoder_append_bits
  by_cases h0 : n = 0
  · subst h0; simp [h]
  · obtain ⟨v, e, hv, hb⟩ := bits_of_bytes data hd n hn
    simp only [decide_eq_false (by omega : ¬ (n : Int) = 0), Bool.false_eq_true, if_false, e, ← hb]
    exact encoder_append_non_negative_binary_integer s h v n hv

theorem encoder_append_bytes (s : per_EncoderS) (h : EncInv s) (data : Bytes) (hd : ∀ b ∈ data, b < 256) :
    EncInv (per_Encoder_append_bytes s (ofNats data)) ∧
    absBits (per_Encoder_append_bytes s (ofNats data)) = absBits s ++ bytesToBits data := by
  have := encoder_append_bits s h data hd (8 * data.length) (Nat.le_refl _)
  rw [List.take_of_length_le (by rw [bytesToBits_length]; omega)] at this
  unfold per_Encoder_append_bytes
  rw [Py.len_eq, ofNats_length, Py.mul8]
  exact this

/-- the length determinant octets and the number of items they announce (16K fragment sizes above 16383) -/
theorem encoder_append_length_determinant (s : per_EncoderS) (h : EncInv s) (n : Nat) :
    EncInv (per_Encoder_append_length_determinant s n).1 ∧
    absBits (per_Encoder_append_length_determinant s n).1 = absBits s ++ (Uper.lenDet n).1 ∧
    (per_Encoder_append_length_determinant s n).2 = ((Uper.lenDet n).2 : Int) := by
  unfold per_Encoder_append_length_determinant Uper.lenDet
  rw [Py.ite_natCast_lt n 128 128 rfl, Py.ite_natCast_lt n 16384 16384 rfl, Py.ite_natCast_lt n 32768 32768 rfl,
    Py.ite_natCast_lt n 49152 49152 rfl, Py.ite_natCast_lt n 65536 65536 rfl]
  have one : ∀ (b l : Nat), b < 256 →
      EncInv (per_Encoder_append_bytes s [(b : Int)]) ∧
      absBits (per_Encoder_append_bytes s [(b : Int)]) = absBits s ++ natToBits 8 b ∧ ((l : Nat) : Int) = l := fun b l hb => by
    have := encoder_append_bytes s h [b] (by simp; omega)
    rw [bytesToBits_singleton] at this
    exact ⟨this.1, this.2, rfl⟩
  by_cases c1 : n < 128
  · rw [if_pos c1, if_pos c1]; exact one n n (by omega)
  rw [if_neg c1, if_neg c1]
  by_cases c2 : n < 16384
  · rw [if_pos c2, if_pos c2, Py.shr8, Py.band255, Py.bor128 (show n / 256 < 128 by omega)]
    have := encoder_append_bytes s h [128 + n / 256, n % 256] (by simp; omega)
    rw [lenDet_two n] at this
    exact ⟨this.1, this.2, rfl⟩
  rw [if_neg c2, if_neg c2]
  by_cases c3 : n < 32768
  · rw [if_pos c3, if_pos c3]; exact one 193 16384 (by omega)
  rw [if_neg c3, if_neg c3]
  by_cases c4 : n < 49152
  · rw [if_pos c4, if_pos c4]; exact one 194 32768 (by omega)
  rw [if_neg c4, if_neg c4]
  by_cases c5 : n < 65536
  · rw [if_pos c5, if_pos c5]; exact one 195 49152 (by omega)
  rw [if_neg c5, if_neg c5]
  exact one 196 65536 (by omega)

theorem encoder_append_normally_small_non_negative_whole_number (s : per_EncoderS) (h : EncInv s) (v : Nat) :
    EncInv (per_Encoder_append_normally_small_non_negative_whole_number s v) ∧
    absBits (per_Encoder_append_normally_small_non_negative_whole_number s v) = absBits s ++ Uper.encNsnnwn v := by
  unfold per_Encoder_append_normally_small_non_negative_whole_number Uper.encNsnnwn
  rw [Py.ite_natCast_lt v 64 64 rfl]
  by_cases c : v < 64
  · rw [if_pos c, if_pos c]
    exact encoder_append_non_negative_binary_integer s h v 7 (by omega)
  · rw [if_neg c, if_neg c]
    dsimp only
    have ⟨a1, a2⟩ := encoder_append_bit s h true
    simp only [if_true] at a1 a2
    rw [Py.bitLength_natCast, show ((bitLength v : Nat) : Int) + 7 = ((bitLength v + 7 : Nat) : Int) by omega, Py.fdiv8]
    have ⟨b1, b2, _⟩ := encoder_append_length_determinant _ a1 ((bitLength v + 7) / 8)
    rw [Py.mul8]
    have hv : v < 2 ^ (8 * ((bitLength v + 7) / 8)) :=
      Nat.lt_of_lt_of_le (lt_two_pow_bitLength v) (Nat.pow_le_pow_right (by omega) (by omega))
    have ⟨c1, c2⟩ := encoder_append_non_negative_binary_integer _ b1 v _ hv
    refine ⟨c1, ?_⟩
    rw [c2, b2, a2]
    simp

/-- normally small length: the bits of the model, and NotImplementedError exactly where the model has it (> 127) -/
theorem encoder_append_normally_small_length (s : per_EncoderS) (h : EncInv s) (v : Nat) (hv : 1 ≤ v) :
    match Uper.encNsLength v with
    | .ok bits => ∃ s', per_Encoder_append_normally_small_length s v = .ok s' ∧ EncInv s' ∧ absBits s' = absBits s ++ bits
    | .error _ => per_Encoder_append_normally_small_length s v = .error "NotImplementedError" := by
  unfold per_Encoder_append_normally_small_length Uper.encNsLength
  rw [Py.ite_decide_congr (show (v : Int) ≤ 64 ↔ v ≤ 64 by omega), Py.ite_decide_congr (show (v : Int) ≤ 127 ↔ v ≤ 127 by omega)]
  by_cases c : v ≤ 64
  · rw [if_pos c, if_pos c, show (v : Int) - 1 = ((v - 1 : Nat) : Int) by omega]
    have := encoder_append_non_negative_binary_integer s h (v - 1) 7 (by omega)
    exact ⟨_, rfl, this.1, this.2⟩
  · rw [if_neg c, if_neg c]
    by_cases d : v ≤ 127
    · rw [if_pos d, if_pos d, Py.bor256 (show v < 256 by omega)]
      have := encoder_append_non_negative_binary_integer s h (256 + v) 9 (by omega)
      exact ⟨_, rfl, this.1, this.2⟩
    · rw [if_neg d, if_neg d]
      rfl

/-- constrained whole number incl. the aligned variant's octet alignment for ranges of 256 and more values -/
theorem encoder_append_constrained_whole_number (s : per_EncoderS) (h : EncInv s) (value lo hi : Int) (nbits : Nat)
    (h1 : lo ≤ value) (h2 : value ≤ hi) (hfit : (value - lo).toNat < 2 ^ nbits) :
    EncInv (per_Encoder_append_constrained_whole_number s value lo hi nbits) ∧
    absBits (per_Encoder_append_constrained_whole_number s value lo hi nbits) =
      absBits s ++ Per.encCwn (absBits s).length (value - lo).toNat (hi - lo + 1).toNat nbits := by
  unfold per_Encoder_append_constrained_whole_number Per.encCwn
  obtain ⟨v, hv⟩ := Int.eq_ofNat_of_zero_le (show 0 ≤ value - lo by omega)
  obtain ⟨r, hr⟩ := Int.eq_ofNat_of_zero_le (show 0 ≤ hi - lo + 1 by omega)
  have hvr : v < r := by omega
  have hfit' : v < 2 ^ nbits := by rw [hv] at hfit; simpa using hfit
  rw [hv, hr]
  simp only [Int.toNat_natCast]
  rw [Py.ite_decide_congr (show (r : Int) ≤ 255 ↔ r ≤ 255 by omega), Py.ite_decide_congr (show (r : Int) = 256 ↔ r = 256 by omega),
    Py.ite_decide_congr (show (r : Int) ≤ 65536 ↔ r ≤ 65536 by omega)]
  have aligned : ∀ w : Nat, v < 2 ^ w →
      EncInv (per_Encoder_append_non_negative_binary_integer (per_Encoder_align_always s) v w) ∧
      absBits (per_Encoder_append_non_negative_binary_integer (per_Encoder_align_always s) v w) =
        absBits s ++ (Per.alignBits (absBits s).length ++ natToBits w v) := fun w hw => by
    have ⟨a1, a2⟩ := encoder_align_always s h
    have := encoder_append_non_negative_binary_integer _ a1 v w hw
    rw [← List.append_assoc, ← a2]; exact this
  by_cases c1 : r ≤ 255
  · rw [if_pos c1, if_pos c1]
    exact encoder_append_non_negative_binary_integer s h v nbits hfit'
  rw [if_neg c1, if_neg c1]
  by_cases c2 : r = 256
  · rw [if_pos c2, if_pos c2]; exact aligned 8 (by omega)
  rw [if_neg c2, if_neg c2]
  by_cases c3 : r ≤ 65536
  · rw [if_pos c3, if_pos c3]; exact aligned 16 (by omega)
  rw [if_neg c3, if_neg c3]
  exact aligned nbits hfit'

/-- unconstrained whole number: length determinant + minimal two's complement octets, for EVERY integer -/
theorem encoder_append_unconstrained_whole_number (s : per_EncoderS) (h : EncInv s) (i : Int) :
    EncInv (per_Encoder_append_unconstrained_whole_number s i) ∧
    absBits (per_Encoder_append_unconstrained_whole_number s i) = absBits s ++ Uper.encUnconstrained i := by
  rw [unconstrained_unfold, uncSel_eq]
  simp only
  have ⟨a1, a2, _⟩ := encoder_append_length_determinant s h (intByteLength i)
  have := encoder_append_non_negative_binary_integer _ a1 _ (8 * intByteLength i) (emod_pow256_lt i _)
  rw [Py.mul8]
  refine ⟨this.1, ?_⟩
  rw [this.2, a2, List.append_assoc]
  unfold Uper.encUnconstrained intToBytesN
  dsimp only
  rw [bytesToBits_natToBytesN]

theorem iadd_fold (cs : List (Int × Int)) : ∀ (s : per_EncoderS), EncInv s →
    (∀ c ∈ cs, 0 ≤ c.2 ∧ 0 ≤ c.1 ∧ c.1 < 2 ^ c.2.toNat) →
    EncInv (List.foldl (fun self it__ => per_Encoder_append_non_negative_binary_integer self it__.1 it__.2) s cs) ∧
    absBits (List.foldl (fun self it__ => per_Encoder_append_non_negative_binary_integer self it__.1 it__.2) s cs)
      = absBits s ++ cs.flatMap (fun c => natToBits c.2.toNat c.1.toNat) := by
  induction cs with
  | nil => intro s h _; simp [h]
  | cons c r ih =>
    intro s h hc
    obtain ⟨c1, c2, c3⟩ := hc c (by simp)
    obtain ⟨n, v, hn, hv, hlt⟩ := word_view c1 c2 c3
    have ⟨a1, a2⟩ := encoder_append_non_negative_binary_integer s h v n hlt
    rw [← hn, ← hv] at a1 a2
    have ⟨b1, b2⟩ := ih _ a1 (fun x hx => hc x (by simp [hx]))
    simp only [List.foldl_cons, List.flatMap_cons]
    refine ⟨b1, ?_⟩
    rw [b2, a2, hn, hv, Int.toNat_natCast, Int.toNat_natCast, List.append_assoc]

/-- `self += other` (used for every open type / extension addition) appends the other buffer's bits -/
theorem encoder_iadd (s o : per_EncoderS) (h : EncInv s) (ho : EncInv o) :
    EncInv (per_Encoder___iadd__ s o) ∧ absBits (per_Encoder___iadd__ s o) = absBits s ++ absBits o := by
  unfold per_Encoder___iadd__
  have ⟨a1, a2⟩ := iadd_fold o.chunks s h ho.ch
  obtain ⟨nb, val, hnb, hval, hlt⟩ := word_view ho.nb ho.v0 ho.vlt
  have ⟨b1, b2⟩ := encoder_append_non_negative_binary_integer _ a1 val nb hlt
  rw [← hnb, ← hval] at b1 b2
  refine ⟨b1, ?_⟩
  rw [b2, a2, List.append_assoc]
  unfold absBits
  rw [hnb, hval, Int.toNat_natCast, Int.toNat_natCast]

theorem translated_integer_as_number_of_bits (n : Nat) :
    per_integer_as_number_of_bits (n : Int) = (bitLength n : Int) := by
  unfold per_integer_as_number_of_bits
  rw [Py.bitLength_natCast]
  split
  · rename_i h
    have : n = 0 := by simpa using h
    subst this; rfl
  · rfl

theorem translated_integer_as_number_of_bits_power_of_two (n : Nat) :
    per_integer_as_number_of_bits_power_of_two (n : Int) = (Per.bitsPow2 n : Int) := by
  unfold per_integer_as_number_of_bits_power_of_two Per.bitsPow2
  by_cases h : n = 0
  · subst h; rfl
  · have h' : ¬ ((n : Int) = 0) := by omega
    simp only [h', h, decide_false, Bool.false_eq_true, if_false]
    rw [translated_integer_as_number_of_bits]
    have := pow2_loop (1 + Py.fuelOfInt (n : Int) + Py.fuelOfInt (bitLength n : Int) + Py.fuelOfInt 1) (n : Int)
      (bitLength n) 0 (by omega) (by
        rw [Py.fuelOfInt_natCast, Py.fuelOfInt_natCast]
        have := bitLength_le_self (bitLength n - 1)
        omega)
    exact this

theorem translated_size_as_number_of_bytes (n : Nat) :
    per_size_as_number_of_bytes (n : Int) = (Per.sizeAsBytes n : Int) := by
  unfold per_size_as_number_of_bytes Per.sizeAsBytes
  rw [Py.bitLength_natCast]
  by_cases h : n = 0
  · subst h; rfl
  · have h' : ¬ ((n : Int) = 0) := by omega
    simp only [h', h, decide_false, if_false, Py.fmod8, Bool.false_eq_true]
    by_cases h2 : bitLength n % 8 = 0
    · have h3 : ((bitLength n % 8 : Nat) : Int) = 0 := by omega
      simp only [h3, ne_eq, not_true_eq_false, decide_false, Bool.false_eq_true, if_false, Py.fdiv8]
      congr 1; omega
    · have h3 : ¬ ((bitLength n % 8 : Nat) : Int) = 0 := by omega
      simp only [ne_eq, h3, not_false_eq_true, decide_true, if_true]
      rw [show ((bitLength n : Nat) : Int) + (8 - ((bitLength n % 8 : Nat) : Int)) = ((bitLength n + (8 - bitLength n % 8) : Nat) : Int) by omega, Py.fdiv8]
      congr 1; omega

theorem translated_to_byte_array (num nbits : Nat) :
    per_to_byte_array (num : Int) (nbits : Int) = ofNats (natToBytesN ((nbits + 7) / 8) num) := by
  unfold per_to_byte_array
  have := to_byte_array_loop (1 + Py.fuelOfInt (num : Int) + Py.fuelOfInt (nbits : Int) + Py.fuelOfList ([] : List Int))
    num (nbits : Int) [] (by rw [Py.fuelOfInt_natCast, Py.fuelOfInt_natCast]; simp; omega)
  simp only [Int.toNat_natCast, List.append_nil] at this
  rw [← this]
  rfl

/-- non-vacuity: a state with a flushed chunk satisfies the invariant and the theorems apply to it -/
example : EncInv { number_of_bits := 3, value := 5, chunks_number_of_bits := 4, chunks := [(9, 4)] } :=
  { nb := by decide, v0 := by decide, vlt := by decide, ch := by simp, cnb := by decide }
example : absBits { number_of_bits := 3, value := 5, chunks_number_of_bits := 4, chunks := [(9, 4)] }
    = [true, false, false, true, true, false, true] := by decide

end Asn1.C05t
