import Asn1Proofs.Lemmas.Bridge3
import Asn1Proofs.Lemmas.Bridge2PerDec
/-
  C05 / C01 — translator tie, where the PER bit buffer meets the octets: `Encoder.as_bytearray` (what `Specification.encode`
  returns) and `Decoder.__init__` (what `Specification.decode` starts from), translated from /repo/asn1tools/codecs/per.py on
  every run.  With C05t / C05u this closes the chain  abstract bits --Encoder methods--> buffer --as_bytearray--> octets
  --Decoder(..)--> reader state --Decoder methods--> abstract bits  for the leaf layer of PER and UPER.
-/
namespace Asn1.C05v
open Asn1 Asn1.Translated Asn1.Bridge

/-- the octets returned are the bits written (flushed chunks included), zero padded to whole octets -/
theorem per_as_bytearray (s : per_EncoderS) (h : EncInv s) :
    per_Encoder_as_bytearray s = .ok (ofNats (packBits (absBits s))) := by
  obtain ⟨nb, val, hnb, hval, hlt⟩ := word_view h.nb h.v0 h.vlt
  obtain ⟨V, N, hf, hVN, hbits⟩ := abFold s.chunks h.ch 0 0 (by decide)
  have hW := shift_add_lt hVN hlt
  have hab : absBits s = natToBits (N + nb) (V * 2 ^ nb + val) := by
    unfold absBits
    rw [natToBits_shift_add _ _ _ _ hlt, hbits, hnb, hval, Int.toNat_natCast, Int.toNat_natCast]
    rfl
  rw [per_as_bytearray_unfold]
  have hf' : List.foldlM abStep ((0 : Int), (0 : Int)) s.chunks = .ok ((V : Int), (N : Int)) := hf
  rw [hf', hnb, hval]
  simp only [shlE_natCast, bind, Except.bind, bor_mul V val nb hlt]
  rw [show (N : Int) + (nb : Int) = ((N + nb : Nat) : Int) by omega, abTail_eq _ _ hW, hab]

/-- `Decoder(data)` stands at position 0 in front of exactly the bits of `data` -/
theorem per_decoder_init (data : Bytes) (hd : ∀ b ∈ data, b < 256) :
    PDecInv (per_Decoder___init__ (ofNats data)) ∧ pAbs (per_Decoder___init__ (ofNats data)) = ⟨0, bytesToBits data⟩ := by
  unfold per_Decoder___init__
  simp only [Py.len_eq, ofNats_length]
  by_cases h0 : data.length = 0
  · have : data = [] := List.eq_nil_of_length_eq_zero h0
    subst this
    exact ⟨⟨by decide, by decide, by decide, (by intro c hc; cases hc), by decide⟩, rfl⟩
  · rw [decide_eq_true (by omega : ((data.length : Nat) : Int) > 0)]
    simp only [if_true]
    have hB := bytesToNat_lt data hd
    have e : Py.bor (Py.bytesToInt (ofNats data)) (Py.shl 128 (8 * (data.length : Int)))
        = ((128 * 2 ^ (8 * data.length) + bytesToNat data : Nat) : Int) := by
      rw [bytesToInt_ofNats, Py.mul8,
        show (128 : Int) = ((128 : Nat) : Int) from rfl, Py.shl_natCast, Py.bor_natCast, Nat.or_comm,
        Py.mul_pow_or _ hB]
    rw [e, binAfter10_sentinel _ _ hB, ← bytesToBits_eq data hd,
      Py.mul8]
    have hlen : ((bytesToBits data).map charOfBit).length = 8 * data.length := by
      rw [List.length_map, bytesToBits_length]
    have hbin : ∀ c ∈ (bytesToBits data).map charOfBit, c = '0' ∨ c = '1' := by
      intro c hc
      obtain ⟨b, _, rfl⟩ := List.mem_map.1 hc
      exact charOfBit_bin b
    refine ⟨pdec_inv_mk _ _ _ (Nat.le_refl _) hlen hbin (by omega), ?_⟩
    rw [pAbs_mk _ _ _ (Nat.le_refl _), Nat.sub_self, List.drop_zero, List.map_map]
    congr 1
    conv => rhs; rw [← List.map_id (bytesToBits data)]
    apply List.map_congr_left
    intro b _
    exact charOfBit_beq b

theorem per_buffer_roundtrip (s : per_EncoderS) (h : EncInv s) :
    ∃ out, per_Encoder_as_bytearray s = .ok out ∧
      PDecInv (per_Decoder___init__ out) ∧
      pAbs (per_Decoder___init__ out) = ⟨0, Uper.padToByte (absBits s)⟩ := by
  have ⟨i1, i2⟩ := per_decoder_init (packBits (absBits s)) (packBits_lt _)
  rw [bytesToBits_packBits] at i2
  exact ⟨_, per_as_bytearray s h, i1, i2⟩

end Asn1.C05v
