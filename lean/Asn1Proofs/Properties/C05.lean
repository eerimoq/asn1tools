import Asn1Model.X691
import Asn1Model.Per
import Asn1Proofs.Lemmas.X691UperRefine
import Asn1Proofs.Lemmas.X691PerRefine
import Asn1Proofs.Lemmas.X691Total
import Asn1Proofs.Lemmas.X691Sort
import Asn1Proofs.Lemmas.X691Annex
import Asn1Proofs.Lemmas.X691Witness
import Asn1Proofs.Lemmas.X691WitnessBig
/-
  C05 — the PER encoders emit the bit string X.691 prescribes.

  `X691.enc` / `X691.encode` (Asn1Model/X691.lean) is the specification S written from the
  standard; `Uper.enc` / `Per.enc` are the models M of what asn1tools computes.  Wherever S defines
  an encoding, M emits it, in both variants, outside the deviations named by `X691.devs`; each
  deviation name has a witness at the end of the file.
-/
namespace Asn1.C05
open Asn1 Asn1.X691


/-- UNALIGNED PER emits the bit string X.691 prescribes: outside the deviation predicates, whenever
the specification defines an encoding of `v : t` — at any position `pos` of an enclosing
encoding — the code emits exactly that bit string. -/
theorem uper_refines (t : Ty) (v : Val) (pos : Nat) (bits : Bits)
    (hd : X691.devs false t v = []) (h : X691.enc false t pos v = .ok bits) :
    Uper.enc t v = .ok bits :=
  X691.uper_refines_bits t v pos bits hd h

/-- the same for complete encodings (octets), with the deviation list of the driver -/
theorem uper_refines_encode (t : Ty) (v : Val) (bytes : Bytes)
    (hd : X691.deviations false t v = []) (h : X691.encode false t v = .ok bytes) :
    Uper.encode t v = .ok bytes :=
  X691.uper_refines_encode t v bytes hd h

/-- ALIGNED PER emits the bit string X.691 prescribes, at every position `pos` in the enclosing
complete encoding (alignment padding depends on it), outside the deviation predicates of the
aligned variant. -/
theorem per_refines (t : Ty) (v : Val) (pos : Nat) (bits : Bits)
    (hd : X691.devs true t v = []) (h : X691.enc true t pos v = .ok bits) :
    Per.enc t pos v = .ok bits :=
  X691.per_refines_bits t v pos bits hd h

/-- the specification is defined on every value the library's own checkers accept, in both
variants (so the theorems above are not vacuous).  `Ty.optOk`: every SEQUENCE has fewer than 64K
OPTIONAL / DEFAULT root components (the one scope limit of S, X.691 18.3). -/
theorem spec_total (aligned : Bool) (t : Ty) (v : Val) (pos : Nat)
    (hwf : t.wf = true) (hopt : t.optOk = true) (ht : hasType t v = true) :
    ∃ bits, X691.enc aligned t pos v = .ok bits :=
  X691.enc_total aligned t v pos hwf hopt ht

theorem uper_refines_eq (t : Ty) (v : Val) (pos : Nat)
    (hwf : t.wf = true) (hopt : t.optOk = true) (ht : hasType t v = true)
    (hd : X691.devs false t v = []) :
    Uper.enc t v = X691.enc false t pos v := by
  obtain ⟨bits, h⟩ := X691.enc_total false t v pos hwf hopt ht
  rw [h]
  exact X691.uper_refines_bits t v pos bits hd h

theorem per_refines_eq (t : Ty) (v : Val) (pos : Nat)
    (hwf : t.wf = true) (hopt : t.optOk = true) (ht : hasType t v = true)
    (hd : X691.devs true t v = []) :
    Per.enc t pos v = X691.enc true t pos v := by
  obtain ⟨bits, h⟩ := X691.enc_total true t v pos hwf hopt ht
  rw [h]
  exact X691.per_refines_bits t v pos bits hd h

/-- non-vacuity: the Annex A.4 value (extensible SEQUENCE and CHOICE, extension additions,
OPTIONAL components, constrained INTEGER, fixed-size NumericString) satisfies every hypothesis -/
example :
    X691.Annex.a4Ty.wf = true ∧ X691.Annex.a4Ty.optOk = true ∧
    hasType X691.Annex.a4Ty X691.Annex.a4Val = true ∧
    X691.devs false X691.Annex.a4Ty X691.Annex.a4Val = [] ∧
    X691.devs true X691.Annex.a4Ty X691.Annex.a4Val = [] := by
  decide +kernel


/-- 10.5.6 / 10.5.7.1: `w` bits can represent `range` values iff `w ≥ bitLength (range - 1)` -/
theorem cwn_width_minimal (range w : Nat) : range ≤ 2 ^ w ↔ bitLength (range - 1) ≤ w :=
  X691.cwn_width_minimal range w

/-- the width used by S is the least one -/
theorem cwn_width_least (range : Nat) :
    range ≤ 2 ^ X691.minBits range ∧ ∀ w, range ≤ 2 ^ w → X691.minBits range ≤ w := by
  rw [X691.minBits_eq]
  exact ⟨(X691.cwn_width_minimal range _).2 (Nat.le_refl _), fun w h => (X691.cwn_width_minimal range w).1 h⟩

/-- 10.3.6 (semi-constrained whole numbers, normally small numbers ≥ 64, the indefinite length
case): the octet count used by S is the least positive one that holds the number -/
theorem semi_constrained_octets_minimal (n : Nat) :
    1 ≤ X691.minOctets n ∧ n < 256 ^ X691.minOctets n ∧
      ∀ k, 1 ≤ k → n < 256 ^ k → X691.minOctets n ≤ k :=
  X691.octets_minimal n _ (X691.minOctets_eq n)

/-- 10.4.6 (unconstrained whole numbers): the octet count used by S is the least positive one whose
2's complement range contains the number -/
theorem unconstrained_octets_minimal (i : Int) :
    1 ≤ X691.minOctets2c i ∧ X691.fits2c (X691.minOctets2c i) i = true ∧
      ∀ k, 1 ≤ k → X691.fits2c k i = true → X691.minOctets2c i ≤ k := by
  rw [X691.minOctets2c_eq]
  exact ⟨intByteLength_pos i, X691.intByteLength_minimal i⟩

/-- 10.9.3.6 – 10.9.3.8: the three forms of a length determinant, and the number of items it
announces: `0nnnnnnn`; `10nnnnnn nnnnnnnn`; `11mmmmmm` with the largest `m ≤ 4` of 16K blocks -/
theorem length_determinant_form (n : Nat) :
    (n ≤ 127 → X691.lengthOctets n = (false :: natToBits 7 n, n)) ∧
    (127 < n → n < 16384 → X691.lengthOctets n = (true :: false :: natToBits 14 n, n)) ∧
    (16384 ≤ n → ∃ m, 1 ≤ m ∧ m ≤ 4 ∧ m * 16384 ≤ n ∧ (m = 4 ∨ n < (m + 1) * 16384) ∧
        X691.lengthOctets n = (true :: true :: natToBits 6 m, m * 16384)) := by
  unfold X691.lengthOctets
  refine ⟨fun h => by rw [if_pos h], fun h1 h2 => by rw [if_neg (by omega), if_pos h2], fun h => ?_⟩
  refine ⟨min 4 (n / 16384), by omega, by omega, by omega, by omega, ?_⟩
  rw [if_neg (by omega), if_neg (by omega)]

/-- the octets of a length determinant are those the code writes (the code differs in WHERE it
fragments, not in the form of a determinant) -/
theorem length_determinant_octets (n : Nat) : X691.lengthOctets n = Uper.lenDet n :=
  X691.lengthOctets_eq n

/-- 13.1: the enumeration root used for the index is the declared list "sorted into ascending
order by enumeration value": a permutation of the items, ascending -/
theorem enum_root_sorted (root : List (String × Int)) :
    (X691.sortAsc root).Perm root ∧ (X691.sortAsc root).Pairwise (fun a b => a.2 ≤ b.2) :=
  ⟨X691.sortAsc_perm root, X691.sortAsc_sorted root⟩


section annex
open X691.Annex

/-- A.1.4: the UNALIGNED PER representation of the personnel record -/
theorem annex_a1_unaligned : X691.encode false a1Ty a1Val = .ok a1Unaligned := by decide +kernel

/-- A.1.3: the ALIGNED PER representation of the personnel record -/
theorem annex_a1_aligned : X691.encode true a1Ty a1Val = .ok a1Aligned := by decide +kernel

/-- A.4.4: the UNALIGNED PER representation of the value of `Ax` -/
theorem annex_a4_unaligned : X691.encode false a4Ty a4Val = .ok a4Unaligned := by decide +kernel

/-- A.4.3: the ALIGNED PER representation of the value of `Ax` -/
theorem annex_a4_aligned : X691.encode true a4Ty a4Val = .ok a4Aligned := by decide +kernel

theorem annex_no_deviation :
    X691.deviations false a1Ty a1Val = [] ∧ X691.deviations true a1Ty a1Val = [] ∧
    X691.deviations false a4Ty a4Val = [] ∧ X691.deviations true a4Ty a4Val = [] := by
  -- the encodings are known from the four theorems above; only the walk over type and value is run
  have hd : X691.devs false a1Ty a1Val = [] ∧ X691.devs true a1Ty a1Val = [] ∧
      X691.devs false a4Ty a4Val = [] ∧ X691.devs true a4Ty a4Val = [] := by decide +kernel
  exact ⟨X691.deviations_eq_nil hd.1 annex_a1_unaligned (by decide),
    X691.deviations_eq_nil hd.2.1 annex_a1_aligned (by decide),
    X691.deviations_eq_nil hd.2.2.1 annex_a4_unaligned (by decide),
    X691.deviations_eq_nil hd.2.2.2 annex_a4_aligned (by decide)⟩

/-- the code models give the octets of the Annex as well, by the refinement theorems -/
theorem annex_code_models :
    Uper.encode a1Ty a1Val = .ok a1Unaligned ∧ Per.encode a1Ty a1Val = .ok a1Aligned ∧
    Uper.encode a4Ty a4Val = .ok a4Unaligned ∧ Per.encode a4Ty a4Val = .ok a4Aligned := by
  obtain ⟨d1u, d1a, d4u, d4a⟩ := annex_no_deviation
  exact ⟨X691.uper_refines_encode _ _ _ d1u annex_a1_unaligned,
    X691.per_refines_encode _ _ _ (by decide) d1a annex_a1_aligned,
    X691.uper_refines_encode _ _ _ d4u annex_a4_unaligned,
    X691.per_refines_encode _ _ _ (by decide) d4a annex_a4_aligned⟩

end annex


section witnesses
open X691.Witness

/-- `INTEGER (3..MAX)`, value 3: code `01 03` (2's complement of the value), standard `01 00`
(offset from the lower bound, 12.2.3 / 10.7) -/
theorem witness_semi_constrained_integer :
    Uper.encode (.integer ⟨some 3, none, false⟩) (.int 3) = .ok [1, 3] ∧
    X691.encode false (.integer ⟨some 3, none, false⟩) (.int 3) = .ok [1, 0] ∧
    Per.encode (.integer ⟨some 3, none, false⟩) (.int 3) = .ok [1, 3] ∧
    X691.encode true (.integer ⟨some 3, none, false⟩) (.int 3) = .ok [1, 0] ∧
    X691.deviations false (.integer ⟨some 3, none, false⟩) (.int 3) = ["semi-constrained-integer"] := by
  decide +kernel

/-- `OCTET STRING (SIZE(0..10, ...))` with 16384 octets `data`: the code writes the fragment
marker `c1` and the octets and stops; the standard requires a further length determinant (here the
zero octet of 10.9.3.8.3) after the 16K fragment -/
theorem witness_unfragmented_length (data : Bytes) (hb : ∀ b ∈ data, b < 256)
    (hlen : data.length = 16384) :
    ∃ m, Uper.enc (.octetString ⟨0, some 10, true⟩) (.bytes data) = .ok m ∧
      X691.enc false (.octetString ⟨0, some 10, true⟩) 0 (.bytes data) = .ok (m ++ natToBits 8 0) ∧
      "unfragmented-length" ∈ X691.devs false (.octetString ⟨0, some 10, true⟩) (.bytes data) := by
  have h1 := Uper.lenDet_c1 16384 (Nat.le_refl _) (by decide)
  refine ⟨[true] ++ natToBits 8 0xc1 ++ bytesToBits data, ?_, ?_, ?_⟩
  · unfold Uper.enc
    simp [hlen, Uper.inSize, h1]
  · have hall : (data.all fun x => decide (x < 256)) = true := by simpa using hb
    have hout : (decide (0 ≤ 16384) && decide (16384 ≤ 10)) = false := by decide
    unfold X691.enc X691.encOctetString X691.extSizedM
    simp only [if_pos hall, inRoot, List.length_map, hlen, if_true, hout, Bool.false_eq_true,
      if_false, genLenM_leaf, genLen_false]
    rw [encChunked_16384 _ (by simp [hlen]), flatten_map_natToBits8]
    simp
  · simp [devs, devsSize, inRoot, hlen]

/-- `BIT STRING (SIZE(0..10, ...))` with 16 bits: `NotImplementedError`; standard `88 00 84 00` -/
theorem witness_size_extension_unimplemented :
    Uper.encode (.bitString ⟨0, some 10, true⟩) (.bits [1, 8] 16) = .error .notImplemented ∧
    X691.encode false (.bitString ⟨0, some 10, true⟩) (.bits [1, 8] 16) = .ok [0x88, 0x00, 0x84, 0x00] ∧
    X691.deviations false (.bitString ⟨0, some 10, true⟩) (.bits [1, 8] 16)
      = ["size-extension-unimplemented"] := by
  decide +kernel

/-- `INTEGER (0..MAX, ...)`, value 5: `TypeError`; standard `00 82 80` (bit 0, then the
semi-constrained whole number `01 05`) -/
theorem witness_ext_open_bound :
    Uper.encode (.integer ⟨some 0, none, true⟩) (.int 5) = .error .foreign ∧
    X691.encode false (.integer ⟨some 0, none, true⟩) (.int 5) = .ok [0x00, 0x82, 0x80] ∧
    Per.encode (.integer ⟨some 0, none, true⟩) (.int 5) = .error .foreign ∧
    X691.encode true (.integer ⟨some 0, none, true⟩) (.int 5) = .ok [0x00, 0x01, 0x05] ∧
    X691.deviations false (.integer ⟨some 0, none, true⟩) (.int 5) = ["ext-open-bound"] := by
  decide +kernel

/-- an outermost NULL: the code returns no octet, 10.1.3 requires one zero octet; and an
extension addition of type NULL: the code writes the open type as length 0 (`c0 40 00`), the
standard as length 1 and a zero octet (`c0 40 40 00`) -/
theorem witness_empty_complete_encoding :
    Uper.encode .null .null = .ok [] ∧ X691.encode false .null .null = .ok [0] ∧
    X691.deviations false .null .null = ["empty-complete-encoding"] ∧
    (let t : Ty := .sequence (.cons "r" .mandatory .boolean .nil) true (.cons "x" .optional .null .nil)
     let v : Val := .record [("r", .bool true), ("x", .null)]
     Uper.encode t v = .ok [0xc0, 0x40, 0x00] ∧ X691.encode false t v = .ok [0xc0, 0x40, 0x40, 0x00] ∧
     Per.encode t v = .ok [0xc0, 0x40, 0x00] ∧ X691.encode true t v = .ok [0xc0, 0x40, 0x01, 0x00] ∧
     X691.deviations false t v = ["empty-complete-encoding"]) := by
  decide +kernel

/-- a SEQUENCE with 128 extension additions, the first one present: `NotImplementedError`;
standard: `1 1 1 10000000 10000000` (extension bit, `r`, normally small length > 64 as an
unconstrained length) and the 128-bit bitmap ... -/
theorem witness_normally_small_length_unsupported :
    let v : Val := .record [("r", .bool true), ("x0", .bool true)]
    Uper.encode seq128 v = .error .notImplemented ∧
    (X691.encode false seq128 v).toOption.map (·.take 4) = some [0xf0, 0x10, 0x10, 0x00] ∧
    X691.deviations false seq128 v = ["normally-small-length-unsupported"] := by
  decide +kernel

/-- additions `a BOOLEAN, b BOOLEAN OPTIONAL` with `b` present and the mandatory `a` absent: not
a value of the type (the standard prescribes nothing, S rejects); the code silently drops `b` -/
theorem witness_addition_error_swallowed :
    let t : Ty := .sequence (.cons "r" .mandatory .boolean .nil) true
      (.cons "a" .mandatory .boolean (.cons "b" .optional .boolean .nil))
    let v : Val := .record [("r", .bool true), ("b", .bool true)]
    Uper.encode t v = .ok [0x40] ∧ X691.encode false t v = .error .encodeError ∧
    X691.deviations false t v = ["addition-error-swallowed"] := by
  decide +kernel

/-- ALIGNED, ENUMERATED with 257 root items, item `e239`: the code writes the index in 9 bits
(`77 80`), 10.5.7.3 requires two octets (`00 ef`) -/
theorem witness_aligned_enum_index :
    Per.encode enum257 (.enum "e239") = .ok [0x77, 0x80] ∧
    X691.encode true enum257 (.enum "e239") = .ok [0x00, 0xef] ∧
    X691.deviations true enum257 (.enum "e239") = ["aligned-enum-index"] := by
  decide +kernel

/-- ALIGNED, 65th addition of an extensible ENUMERATED: 10.6.2 = bit 1, then (octet-aligned) length
`01` and the octet `40`; the code does not align: `c0 50 00` instead of `c0 01 40` -/
theorem witness_aligned_normally_small_unaligned :
    Per.encode enumExt65 (.enum "x64") = .ok [0xc0, 0x50, 0x00] ∧
    X691.encode true enumExt65 (.enum "x64") = .ok [0xc0, 0x01, 0x40] ∧
    X691.deviations true enumExt65 (.enum "x64") = ["aligned-normally-small-unaligned"] := by
  decide +kernel

/-- ALIGNED, `NumericString (SIZE(0..2))` value "0": `aub * b = 8 < 16`, so 27.5.7 does not align
the characters (`44` = length 01, character 0001); the code aligns (`40 10`) -/
theorem witness_aligned_string_alignment :
    let t : Ty := .charString .numeric ⟨0, some 2, false⟩
    Per.encode t (.str [48]) = .ok [0x40, 0x10] ∧ X691.encode true t (.str [48]) = .ok [0x44] ∧
    X691.deviations true t (.str [48]) = ["aligned-string-alignment"] := by
  decide +kernel

/-- ALIGNED, an empty `IA5String (SIZE(0..2))` between two BOOLEANs: `aub * b = 16`, 27.5.7 makes
the (empty) field of characters octet-aligned; read literally that inserts padding (`80 80`), the
code inserts none (`90`).  The reading of the standard is uncertain here. -/
theorem witness_aligned_empty_string_alignment :
    let t : Ty := .sequence (.cons "p" .mandatory .boolean (.cons "x" .mandatory
      (.charString .ia5 ⟨0, some 2, false⟩) (.cons "q" .mandatory .boolean .nil))) false .nil
    let v : Val := .record [("p", .bool true), ("x", .str []), ("q", .bool true)]
    Per.encode t v = .ok [0x90] ∧ X691.encode true t v = .ok [0x80, 0x80] ∧
    X691.deviations true t v = ["aligned-empty-string-alignment"] := by
  decide +kernel

/-- ALIGNED, `INTEGER (0..2^1032 - 1)`, value 0 (10.5.7.4, 12.2.6 a): the length `1` of the value
is a constrained whole number in `1..129`, 8 bits; the code writes it in two aligned octets -/
theorem witness_aligned_length_of_length :
    let t : Ty := .integer ⟨some 0, some ((2 ^ 1032 : Nat) - 1 : Int), false⟩
    Per.encode t (.int 0) = .ok [0, 0, 0] ∧ X691.encode true t (.int 0) = .ok [0, 0] ∧
    X691.deviations true t (.int 0) = ["aligned-length-of-length"] := by
  decide +kernel

/-- ALIGNED, `SEQUENCE OF CHOICE { a BOOLEAN, b NULL }` with 16385 components: after the
first fragment of 16384 components (here an odd number of bits) the next length determinant is
octet-aligned by 10.9.3.5; the code writes it without padding -/
theorem witness_aligned_fragment_length_unaligned :
    Per.enc X691.FragWitness.t 0 (.list X691.FragWitness.vs) =
      .ok (natToBits 8 0xc1 ++ X691.FragWitness.body ++ natToBits 8 1 ++ [true]) ∧
    X691.enc true X691.FragWitness.t 0 (.list X691.FragWitness.vs) =
      .ok (natToBits 8 0xc1 ++ X691.FragWitness.body ++ List.replicate 7 false ++
            natToBits 8 1 ++ [true]) ∧
    "aligned-fragment-length-unaligned" ∈
      X691.devs true X691.FragWitness.t (.list X691.FragWitness.vs) :=
  ⟨X691.FragWitness.code, X691.FragWitness.spec, X691.FragWitness.flagged⟩

end witnesses

end Asn1.C05
