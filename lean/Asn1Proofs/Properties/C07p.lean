import Asn1Model.Extension
import Asn1Model.Per
import Asn1Proofs.Lemmas.ExtLemmas
import Asn1Proofs.Lemmas.ExtPer
import Asn1Proofs.Lemmas.ExtPerCounterexample
/-
  C07p — extension additions keep old and new versions of a type interoperable: ALIGNED PER
  (`Ext.Extends`, `Ext.project` and the UPER / OER / DER theorems: C07.lean).
  The code model is `Per.enc t pos v` (bits appended to an encoder that holds `pos` bits) and
  `Per.dec t fuel ⟨pos, bits⟩` (decoder state: bits consumed so far, remaining bits).

  The side conditions are those of the aligned PER round trip (`C01p`: `Per.fragFree`, `Ty.nsOk`) for the
  ENCODER's type and the value, `defaultsOk` in both versions, and one more in the forward direction:
  `Per.skipFree t1 t2 v` (decidable, `ExtPerBase.lean`): every SEQUENCE addition of `v` that V1 does
  not know has an open type shorter than 16384 octets.  It is necessary: the aligned PER encoder
  writes the open type length of an addition without fragmentation (`c1` + all the octets); a decoder
  that KNOWS the addition ignores that length (so `Per.fragFree` and the round trip do not need it, and
  V2 decodes its own encoding), a decoder that does NOT know it skips by it and stops early.  This is a
  genuine interoperability defect of asn1tools' aligned PER, confirmed on the real code; the witness is
  `forward_per_needs_skipFree` below.

  The proofs are `Ext.PerX.xt_all`, one statement about a decoder type and an encoder type that agree up
  to the tails of their extension additions (`Ext.Compat`), for every decoder position that agrees with
  the encoder position modulo 8: open types are written into a fresh buffer and read at an octet boundary.
-/
namespace Asn1.C07p
open Asn1 Asn1.Ext

/-- Aligned PER forward: a V2 encoding written at position `pos`, followed by anything, decodes under V1
to the canonical form of the V1 projection, leaves exactly what follows and stands at the position
behind the encoding (additions / alternatives V1 does not know are skipped by exactly their open type
length behind the octet alignment). -/
theorem forward_per (t1 t2 : Ty) (v : Val) (pos : Nat) (bits rest : Bits) (fuel : Nat)
    (hx : Extends t1 t2)
    (hwf : t2.wf = true) (hd1 : t1.defaultsOk = true) (hd2 : t2.defaultsOk = true)
    (hns : t2.nsOk = true) (ht : hasType t2 v = true) (hf : Per.fragFree t2 v = true)
    (hs : Per.skipFree t1 t2 v = true)
    (he : Per.enc t2 pos v = .ok bits) (hfuel : bits.length + rest.length + 2 ≤ fuel) :
    Per.dec t1 fuel ⟨pos, bits ++ rest⟩ =
      .ok (canon t1 (project t1 t2 v), ⟨pos + bits.length, rest⟩) :=
  PerX.forward_mod8 t1 t2 v pos pos bits rest fuel hx hwf hd1 hd2 hns ht hf hs rfl he hfuel

/-- Aligned PER backward: a V1 encoding, followed by anything, decodes under V2 to the same (canonical)
value. -/
theorem backward_per (t1 t2 : Ty) (v : Val) (pos : Nat) (bits rest : Bits) (fuel : Nat)
    (hx : Extends t1 t2)
    (hwf : t2.wf = true) (hd1 : t1.defaultsOk = true) (hd2 : t2.defaultsOk = true)
    (hns : t2.nsOk = true) (ht : hasType t1 v = true) (hf : Per.fragFree t1 v = true)
    (he : Per.enc t1 pos v = .ok bits) (hfuel : bits.length + rest.length + 2 ≤ fuel) :
    Per.dec t2 fuel ⟨pos, bits ++ rest⟩ = .ok (canon t2 v, ⟨pos + bits.length, rest⟩) :=
  PerX.backward_mod8 t1 t2 v pos pos bits rest fuel hx hwf hd1 hd2 hns ht hf rfl he hfuel

/-- forward, general form: the decoder may run at any position that agrees with the encoder's modulo 8
(an encoding produced in a fresh buffer and embedded at an octet boundary, as open types are) -/
theorem forward_per_mod8 (t1 t2 : Ty) (v : Val) (pos pos' : Nat) (bits rest : Bits) (fuel : Nat)
    (hx : Extends t1 t2)
    (hwf : t2.wf = true) (hd1 : t1.defaultsOk = true) (hd2 : t2.defaultsOk = true)
    (hns : t2.nsOk = true) (ht : hasType t2 v = true) (hf : Per.fragFree t2 v = true)
    (hs : Per.skipFree t1 t2 v = true) (hp : pos' % 8 = pos % 8)
    (he : Per.enc t2 pos v = .ok bits) (hfuel : bits.length + rest.length + 2 ≤ fuel) :
    Per.dec t1 fuel ⟨pos', bits ++ rest⟩ =
      .ok (canon t1 (project t1 t2 v), ⟨pos' + bits.length, rest⟩) :=
  PerX.forward_mod8 t1 t2 v pos pos' bits rest fuel hx hwf hd1 hd2 hns ht hf hs hp he hfuel

theorem backward_per_mod8 (t1 t2 : Ty) (v : Val) (pos pos' : Nat) (bits rest : Bits) (fuel : Nat)
    (hx : Extends t1 t2)
    (hwf : t2.wf = true) (hd1 : t1.defaultsOk = true) (hd2 : t2.defaultsOk = true)
    (hns : t2.nsOk = true) (ht : hasType t1 v = true) (hf : Per.fragFree t1 v = true)
    (hp : pos' % 8 = pos % 8)
    (he : Per.enc t1 pos v = .ok bits) (hfuel : bits.length + rest.length + 2 ≤ fuel) :
    Per.dec t2 fuel ⟨pos', bits ++ rest⟩ = .ok (canon t2 v, ⟨pos' + bits.length, rest⟩) :=
  PerX.backward_mod8 t1 t2 v pos pos' bits rest fuel hx hwf hd1 hd2 hns ht hf hp he hfuel

/-- Aligned PER forward, `Specification.encode` of V2 / `Specification.decode` of V1 -/
theorem forward_per_top (t1 t2 : Ty) (v : Val) (bytes : Bytes) (hx : Extends t1 t2)
    (hwf : t2.wf = true) (hd1 : t1.defaultsOk = true) (hd2 : t2.defaultsOk = true)
    (hns : t2.nsOk = true) (ht : hasType t2 v = true) (hf : Per.fragFree t2 v = true)
    (hs : Per.skipFree t1 t2 v = true) (he : Per.encode t2 v = .ok bytes) :
    Per.decode t1 bytes = .ok (canon t1 (project t1 t2 v)) := by
  obtain ⟨bits, hb, hE⟩ := Per.encode_total t2 v hwf ht
  rw [hE] at he
  cases he
  exact Per.decode_packBits t1 bits _ (fun rest fuel hfu =>
    ⟨_, PerX.forward_mod8 t1 t2 v 0 0 bits rest fuel hx hwf hd1 hd2 hns ht hf hs rfl hb hfu⟩)

/-- Aligned PER backward, `Specification.encode` of V1 / `Specification.decode` of V2 -/
theorem backward_per_top (t1 t2 : Ty) (v : Val) (bytes : Bytes) (hx : Extends t1 t2)
    (hwf : t2.wf = true) (hd1 : t1.defaultsOk = true) (hd2 : t2.defaultsOk = true)
    (hns : t2.nsOk = true) (ht : hasType t1 v = true) (hf : Per.fragFree t1 v = true)
    (he : Per.encode t1 v = .ok bytes) :
    Per.decode t2 bytes = .ok (canon t2 v) := by
  obtain ⟨bits, hb, hE⟩ := Per.encode_total t1 v (wf_all.1 hx hwf) ht
  rw [hE] at he
  cases he
  exact Per.decode_packBits t2 bits _ (fun rest fuel hfu =>
    ⟨_, PerX.backward_mod8 t1 t2 v 0 0 bits rest fuel hx hwf hd1 hd2 hns ht hf rfl hb hfu⟩)

/-- the extra side condition of the forward direction is vacuous in the backward direction: a decoder
of the newer version knows every addition the older encoder can send -/
theorem skipFree_backward (t1 t2 : Ty) (v : Val) (hx : Extends t1 t2) : Per.skipFree t2 t1 v = true :=
  PerX.skipFree_backward hx v

/-! The witness that `Per.skipFree` is necessary:

    V1:  O ::= SEQUENCE { i SEQUENCE { a BOOLEAN, ... },                          z BOOLEAN }
    V2:  O ::= SEQUENCE { i SEQUENCE { a BOOLEAN, ..., b OCTET STRING OPTIONAL }, z BOOLEAN }
    v  = { i { a TRUE, b '00'H * 16384 }, z TRUE }          (`PerCx.cxT1`, `cxT2`, `cxV`)

The encoding of `b` is 16386 octets (`c1`, the 16384 octets, `00`); its open type length is written as
the single octet `c1` in front of all 16386 octets.  V1 skips 16384 octets and reads `z` from the next
bit, a bit of the last octet of `b`. -/

/-- every hypothesis of `forward_per` except `Per.skipFree` holds at position 0, the encoder succeeds, and
for every continuation and every amount of fuel the V1 decoder returns `z = FALSE`, stands 16 bits
before the end of the encoding and leaves 15 bits of the addition and the bit of `z` unread -/
theorem forward_per_needs_skipFree :
    Extends PerCx.cxT1 PerCx.cxT2 ∧ PerCx.cxT2.wf = true ∧ PerCx.cxT1.defaultsOk = true ∧
    PerCx.cxT2.defaultsOk = true ∧ PerCx.cxT2.nsOk = true ∧ hasType PerCx.cxT2 PerCx.cxV = true ∧
    Per.fragFree PerCx.cxT2 PerCx.cxV = true ∧
    Per.skipFree PerCx.cxT1 PerCx.cxT2 PerCx.cxV = false ∧
    Per.enc PerCx.cxT2 0 PerCx.cxV = .ok PerCx.cxBits ∧ PerCx.cxBits.length = 131113 ∧
    canon PerCx.cxT1 (project PerCx.cxT1 PerCx.cxT2 PerCx.cxV) =
      .record [("i", .record [("a", .bool true)]), ("z", .bool true)] ∧
    (∀ (rest : Bits) (fuel : Nat), Per.dec PerCx.cxT1 fuel ⟨0, PerCx.cxBits ++ rest⟩ =
      .ok (.record [("i", .record [("a", .bool true)]), ("z", .bool false)],
        ⟨131097, PerCx.z15 ++ true :: rest⟩)) ∧
    (∀ (rest : Bits) (fuel : Nat), Per.dec PerCx.cxT1 fuel ⟨0, PerCx.cxBits ++ rest⟩ ≠
      .ok (canon PerCx.cxT1 (project PerCx.cxT1 PerCx.cxT2 PerCx.cxV),
        ⟨0 + PerCx.cxBits.length, rest⟩)) :=
  ⟨PerCx.cx_extends, PerCx.cx_wf, PerCx.cx_defaultsOk1, PerCx.cx_defaultsOk2, PerCx.cx_nsOk,
    PerCx.cx_hasType, PerCx.cx_fragFree, PerCx.cx_not_skipFree, PerCx.cx_enc, PerCx.cxBits_length,
    PerCx.cx_expected, PerCx.cx_dec, PerCx.cx_forward_fails⟩

/-- the same at the level of `Specification.encode` / `Specification.decode`: V2 decodes its own
encoding to the value, V1 decodes it without any error to a WRONG value (`z = FALSE`) -/
theorem forward_per_wrong_value :
    Per.encode PerCx.cxT2 PerCx.cxV = .ok (packBits PerCx.cxBits) ∧
    Per.decode PerCx.cxT2 (packBits PerCx.cxBits) = .ok PerCx.cxV ∧
    Per.decode PerCx.cxT1 (packBits PerCx.cxBits) =
      .ok (.record [("i", .record [("a", .bool true)]), ("z", .bool false)]) ∧
    canon PerCx.cxT1 (project PerCx.cxT1 PerCx.cxT2 PerCx.cxV) =
      .record [("i", .record [("a", .bool true)]), ("z", .bool true)] :=
  ⟨PerCx.cx_encode, PerCx.cx_decode_v2, PerCx.cx_decode_v1, PerCx.cx_expected⟩

/-! non-vacuity: a nested extension (an addition whose type is itself extended, inside a SEQUENCE OF) -/

/-- V1: `SEQUENCE OF SEQUENCE { a BOOLEAN, ..., b CHOICE { x NULL, ... } OPTIONAL }` -/
def exT1 : Ty := .sequenceOf (.sequence (.cons "a" .mandatory .boolean .nil) true
  (.cons "b" .optional (.choice (.cons "x" .null .nil) true .nil) .nil)) ⟨0, none, false⟩
/-- V2: `SEQUENCE OF SEQUENCE { a BOOLEAN, ..., b CHOICE { x NULL, ..., k1 BOOLEAN } OPTIONAL, n1 INTEGER OPTIONAL }` -/
def exT2 : Ty := .sequenceOf (.sequence (.cons "a" .mandatory .boolean .nil) true
  (.cons "b" .optional (.choice (.cons "x" .null .nil) true (.cons "k1" .boolean .nil))
    (.cons "n1" .optional (.integer ⟨none, none, false⟩) .nil))) ⟨0, none, false⟩
/-- a V2 value using the new alternative and the new addition -/
def exV : Val := .list [.record [("a", .bool true), ("b", .choice "k1" (.bool false)), ("n1", .int 5)],
  .record [("a", .bool false), ("b", .choice "x" .null)]]
/-- what V1 sees of it -/
def exV' : Val := .list [.record [("a", .bool true), ("b", .choice "" .absent)],
  .record [("a", .bool false), ("b", .choice "x" .null)]]
def exV1 : Val := .list [.record [("a", .bool true), ("b", .choice "x" .null)], .record [("a", .bool false)]]
/-- the V2 encoding of `exV` written at position 3 (5 padding bits first) -/
def exBits : Bits := [false, false, false, false, false, false, false, false, false, false, false, true, false, true, true, false,
  false, false, false, false, false, true, true, true, false, false, false, false, false, false, false, false, false,
  false, false, true, true, true, false, false, false, false, false, false, false, false, false, false, false, false,
  false, false, true, false, false, false, false, false, false, false, false, false, false, false, false, false, false,
  true, false, false, false, false, false, false, false, false, true, false, false, false, false, false, true, false,
  true, true, false, false, false, false, false, false, false, true, true, false, false, false, false, false, false,
  false, false, false, false, false, false, false, true, false, false, false, false, false, false, false, false]
/-- the V1 encoding of `exV1` written at position 3 -/
def exBits1 : Bits := [false, false, false, false, false, false, false, false, false, false, false, true, false, true, true, false,
  false, false, false, false, false, false, true, false, false, false, false, false, false, false, false, false, false,
  false, false, false, true, false, false, false, false, false, false, false, false, false, false]

example : extendsB exT1 exT2 = true ∧ extendsB exT2 exT1 = false ∧ project exT1 exT2 exV = exV' := by
  refine ⟨by rfl, by rfl, by rfl⟩

set_option maxRecDepth 100000 in
/-- every hypothesis of `forward_per` holds for the example, and its conclusion is the evaluated decoding -/
example : Per.dec exT1 200 ⟨3, exBits ++ [true, false, true]⟩ = .ok (exV', ⟨120, [true, false, true]⟩) :=
  forward_per exT1 exT2 exV 3 exBits [true, false, true] 200 ((extendsB_iff _ _).1 (by rfl))
    (by decide +kernel) (by decide +kernel) (by decide +kernel) (by decide +kernel) (by decide +kernel)
    (by decide +kernel) (by decide +kernel) (by rfl) (by decide +kernel)

set_option maxRecDepth 100000 in
/-- the same, evaluated in the kernel without the theorem -/
example : Per.enc exT2 3 exV = .ok exBits ∧
    Per.dec exT1 200 ⟨3, exBits ++ [true, false, true]⟩ = .ok (exV', ⟨120, [true, false, true]⟩) := by
  constructor <;> rfl

set_option maxRecDepth 100000 in
/-- backward: the V1 encoding of a V1 value decodes under V2 -/
example : Per.dec exT2 200 ⟨3, exBits1 ++ [true]⟩ = .ok (exV1, ⟨50, [true]⟩) :=
  backward_per exT1 exT2 exV1 3 exBits1 [true] 200 ((extendsB_iff _ _).1 (by rfl))
    (by decide +kernel) (by decide +kernel) (by decide +kernel) (by decide +kernel) (by decide +kernel)
    (by decide +kernel) (by rfl) (by decide +kernel)

set_option maxRecDepth 100000 in
/-- the top level: octets of `Specification.encode` under V2, `Specification.decode` under V1 -/
example : Per.decode exT1 [2, 192, 224, 3, 128, 1, 0, 2, 1, 5, 128, 192, 1, 0] = .ok exV' :=
  forward_per_top exT1 exT2 exV _ ((extendsB_iff _ _).1 (by rfl))
    (by decide +kernel) (by decide +kernel) (by decide +kernel) (by decide +kernel) (by decide +kernel)
    (by decide +kernel) (by decide +kernel) (by rfl)

set_option maxRecDepth 100000 in
example : Per.decode exT2 [2, 192, 64, 1, 0, 0] = .ok exV1 :=
  backward_per_top exT1 exT2 exV1 _ ((extendsB_iff _ _).1 (by rfl))
    (by decide +kernel) (by decide +kernel) (by decide +kernel) (by decide +kernel) (by decide +kernel)
    (by decide +kernel) (by rfl)

end Asn1.C07p

#print axioms Asn1.C07p.forward_per
#print axioms Asn1.C07p.backward_per
#print axioms Asn1.C07p.forward_per_mod8
#print axioms Asn1.C07p.backward_per_mod8
#print axioms Asn1.C07p.forward_per_top
#print axioms Asn1.C07p.backward_per_top
#print axioms Asn1.C07p.skipFree_backward
#print axioms Asn1.C07p.forward_per_needs_skipFree
#print axioms Asn1.C07p.forward_per_wrong_value
