import Asn1Model.Constraints
import Asn1Model.Typing
import Asn1Proofs.Lemmas.ConstraintsLemmas
/-
  C11 — check_constraints accepts exactly the values the declared constraints admit.

  The hypothesis `t.altsDisjoint = true` of `check_iff_admits` and `violation_rejected` is necessary.
  Without it both are false: for a CHOICE whose additions repeat a root alternative name, the checker
  (`checkAlt`) stops at the root alternative, whereas `components` also lists the addition of the
  same name (counterexample below).  `altsDisjoint` (`Asn1Proofs/Lemmas/ConstraintsLemmas.lean`) says
  that in every CHOICE nested in `t` no addition repeats a root alternative name; X.680 requires it and
  `Ty.wf` implies it.  Duplicate SEQUENCE member names are harmless (both sides look the value up by name).
-/
namespace Asn1.C11
open Asn1 Asn1.Constraints

/-- `CHOICE { a INTEGER, ..., a INTEGER (0..1) }` with value `a: 5` is accepted although the component
`(INTEGER (0..1), 5)` of the value violates its constraint. -/
example :
    let t : Ty := .choice (.cons "a" (.integer ⟨none, none, false⟩) .nil) false
                    (.cons "a" (.integer ⟨some 0, some 1, false⟩) .nil)
    let v : Val := .choice "a" (.int 5)
    check t v = none ∧ admits t v = false ∧ t.altsDisjoint = false ∧
      ((Ty.integer ⟨some 0, some 1, false⟩, Val.int 5) ∈ components t v ∧
        localOk (Ty.integer ⟨some 0, some 1, false⟩) (Val.int 5) = false) := by
  refine ⟨by decide +kernel, by decide +kernel, by decide +kernel, ?_, by decide +kernel⟩
  simp [components, componentsAlt]

/-- the checker (model of constraints_checker.py) accepts a value exactly when every component
of the value — at any nesting depth, through SEQUENCE members, extension additions, SEQUENCE OF elements
and CHOICE alternatives — lies inside every non-extensible value-range / SIZE / permitted-alphabet
constraint on its own type. -/
theorem check_iff_admits (t : Ty) (v : Val) (hd : t.altsDisjoint = true) :
    check t v = none ↔ admits t v = true :=
  ⟨all_of_check_none t v hd, check_none_of_all t v⟩

/-- the same for every type the compiler accepts -/
theorem check_iff_admits_of_wf (t : Ty) (v : Val) (hwf : t.wf = true) :
    check t v = none ↔ admits t v = true :=
  check_iff_admits t v (Ty.altsDisjoint_of_wf t hwf)

/-- a value inside every constraint is never rejected (no hypothesis on the type) -/
theorem admits_not_rejected (t : Ty) (v : Val) (h : admits t v = true) : check t v = none :=
  check_none_of_all t v h

/-- a value outside some constraint never passes -/
theorem violation_rejected (t : Ty) (v : Val) (hd : t.altsDisjoint = true) (c : Ty × Val)
    (hc : c ∈ components t v)
    (hbad : localOk c.1 c.2 = false ∨ altKnown c.1 c.2 = false) : (check t v).isSome = true := by
  cases h : check t v with
  | some p => rfl
  | none =>
    have hall := all_of_check_none t v hd h
    have hok : compOk c = true := List.all_eq_true.1 hall c hc
    have hno : compOk c = false := (bad_iff c).1 hbad
    rw [hok] at hno
    cases hno

/-- the same for every type the compiler accepts -/
theorem violation_rejected_of_wf (t : Ty) (v : Val) (hwf : t.wf = true) (c : Ty × Val)
    (hc : c ∈ components t v)
    (hbad : localOk c.1 c.2 = false ∨ altKnown c.1 c.2 = false) : (check t v).isSome = true :=
  violation_rejected t v (Ty.altsDisjoint_of_wf t hwf) c hc hbad

/-- when the checker rejects, the reported name path leads to a component that really violates
its own constraint (C12: the dotted path is exact). -/
theorem rejected_path_exact (t : Ty) (v : Val) (p : List String) (h : check t v = some p) :
    ∃ c ∈ reach t v p, localOk c.1 c.2 = false ∨ altKnown c.1 c.2 = false :=
  path_check t v p h

/-- an extensible value range on an INTEGER is not checked at all -/
theorem extensible_unconstrained (lo hi : Option Int) (i : Int) :
    check (.integer ⟨lo, hi, true⟩) (.int i) = none := by
  simp [check, localOk, intOk]

-- a violation deep inside a list inside an addition, and its path
example :
    check (.sequence (.cons "a" .mandatory (.integer ⟨some 0, some 10, false⟩) .nil) true
            (.cons "b" .optional (.sequenceOf (.sequence (.cons "c" .mandatory (.octetString ⟨1, some 2, false⟩) .nil) false .nil)
                ⟨0, none, false⟩) .nil))
          (.record [("a", .int 3), ("b", .list [.record [("c", .bytes [1])], .record [("c", .bytes [1, 2, 3])]])])
      = some ["b", "c"] := by decide +kernel

end Asn1.C11
