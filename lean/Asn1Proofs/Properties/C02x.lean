import Asn1Proofs.Lemmas.XerPlain
/-
  C02, XER half: for every type and constraint-satisfying value whose characters are
  XML-1.0-legal the XER encoding is a well-formed XML document and decoding it yields the same
  abstract value, with and without indentation.

  Statements are about the model of `codecs/xer.py` (`Asn1Model/Xer.lean`), the writer that mirrors
  `ElementTree.tostring` + `indent_xml` and the independent XML reader (`Asn1Model/Xml.lean`);
  `tools/compare_xer.py` ties the three to the real library.

  Hypotheses (all decidable):
  * `t.wf`, `hasType t v`        — the type is accepted by the compiler, the value passes the
                                   library's type / constraint checks;
  * `Xer.intsOk t v`             — every INTEGER has at most 4300 decimal digits.  NECESSARY: the
                                   codec uses `str()` / `int()`, CPython refuses longer conversions
                                   (`int_needs_4300_digits` below);
  * `Xer.namesOk t`, `nameOk`    — identifiers are (ASCII) XML names; true of every ASN.1 identifier;
  * `Xer.textOk t v`             — characters of character strings are XML `Char`s other than CR.
                                   NECESSARY: other characters are written raw / as references to
                                   non-characters, giving an ill-formed document, and a CR comes
                                   back as LF (`control_char_not_wellformed`, `cr_changes_value`).
  The value returned is `X690.canonV t v`: `v` with absent DEFAULT members filled in and unused
  BIT STRING bits cleared.
-/
namespace Asn1.C02x
open Asn1 Asn1.Xml Asn1.Xer

/-- Tree level: the decoder applied to the element tree the encoder builds returns the value.
No assumption on characters or names is needed here. -/
theorem xer_tree_roundtrip (t : Ty) (name : String) (v : Val)
    (hwf : t.wf = true) (hty : hasType t v = true) (hint : Xer.intsOk t v = true) :
    ∃ x, Xer.toXml t name v = .ok x ∧ x.name = name ∧ Xer.ofXml t x = .ok (X690.canonV t v) := by
  obtain ⟨x, h1, h2, h3⟩ := Xer.rt_all t false name v hwf hty hint
  exact ⟨x, h1, h3 rfl, h2⟩

/-- the same for the element forms used inside SEQUENCE OF (`encode_of` / `decode_of`) -/
theorem xer_tree_roundtrip_in_list (t : Ty) (v : Val)
    (hwf : t.wf = true) (hty : hasType t v = true) (hint : Xer.intsOk t v = true) :
    ∃ x, Xer.enc t true (Xer.typeName t) v = .ok x ∧ Xer.dec t true x = .ok (X690.canonV t v) := by
  obtain ⟨x, h1, h2, _⟩ := Xer.rt_all t true (Xer.typeName t) v hwf hty hint
  exact ⟨x, h1, h2⟩

/-- The XML reader reads back every tree the encoder can produce, for every indentation
(`none` = no indentation, `some k` = `indent=k`). -/
theorem xml_parse_render (indent : Option Nat) (x : XmlT) (hp : x.plain = true) :
    Xml.parse (Xml.renderDoc indent x) = .ok x :=
  Xml.parse_renderDoc indent x hp

/-- the trees the encoder produces are of that kind -/
theorem xer_tree_plain (t : Ty) (name : String) (v : Val) (x : XmlT)
    (hnames : Xer.namesOk t = true) (hname : Xer.nameOk name = true)
    (htext : Xer.textOk t v = true) (h : Xer.toXml t name v = .ok x) : x.plain = true :=
  Xer.pl_all t false name v x hnames hname htext h

/-- C02 for XER, document level: the encoding exists, is pure ASCII, is a well-formed XML document (the
independent reader accepts it) and decodes to the value — for every indentation. -/
theorem xer_document_roundtrip (t : Ty) (name : String) (v : Val) (indent : Option Nat)
    (hwf : t.wf = true) (hty : hasType t v = true) (hint : Xer.intsOk t v = true)
    (hnames : Xer.namesOk t = true) (hname : Xer.nameOk name = true)
    (htext : Xer.textOk t v = true) :
    ∃ doc, Xer.encode t name v indent = .ok doc ∧ (∀ b ∈ doc, b < 128) ∧
      (∃ x, Xer.parseDoc doc = .ok x) ∧ Xer.decode t doc = .ok (X690.canonV t v) := by
  obtain ⟨x, h1, _, h3⟩ := xer_tree_roundtrip t name v hwf hty hint
  have hp := xer_tree_plain t name v x hnames hname htext h1
  have hd := Xer.parseDoc_renderDoc indent x hp
  refine ⟨Xml.renderDoc indent x, by simp only [Xer.encode, h1], ?_, ⟨x, hd⟩, ?_⟩
  · exact fun b hb => (Xml.outOk_renderDoc indent x hp b hb).2
  · simp only [Xer.decode, hd, h3]

theorem xer_indent_irrelevant (t : Ty) (name : String) (v : Val) (i j : Option Nat)
    (hwf : t.wf = true) (hty : hasType t v = true) (hint : Xer.intsOk t v = true)
    (hnames : Xer.namesOk t = true) (hname : Xer.nameOk name = true)
    (htext : Xer.textOk t v = true) :
    ∃ d1 d2, Xer.encode t name v i = .ok d1 ∧ Xer.encode t name v j = .ok d2 ∧
      Xer.decode t d1 = Xer.decode t d2 := by
  obtain ⟨d1, e1, _, _, r1⟩ := xer_document_roundtrip t name v i hwf hty hint hnames hname htext
  obtain ⟨d2, e2, _, _, r2⟩ := xer_document_roundtrip t name v j hwf hty hint hnames hname htext
  exact ⟨d1, d2, e1, e2, by rw [r1, r2]⟩

def unconstrained : IntC := ⟨none, none, false⟩
def anySize : SizeC := ⟨0, none, false⟩

/-- version 1: `CHOICE { n NULL, ... }` -/
def choiceV1 : Ty := .choice (.cons "n" .null .nil) true .nil
/-- version 2: `CHOICE { n NULL, ..., m INTEGER }` -/
def choiceV2 : Ty := .choice (.cons "n" .null .nil) true (.cons "m" (.integer unconstrained) .nil)

/-- `<A><m>5</m></A>` -/
def docNewAlt : Bytes := [60, 65, 62, 60, 109, 62, 53, 60, 47, 109, 62, 60, 47, 65, 62]

/-- A version-1 reader of `SEQUENCE OF CHOICE { n NULL, ... }` cannot read the alternative `m`
added in version 2: `decode_of` raises DecodeError although the CHOICE is extensible (finding
C07-xer-list-element-unknown) … -/
theorem seqof_choice_not_extension_aware :
    Xer.encode (.sequenceOf choiceV2 anySize) "A" (.list [.choice "m" (.int 5)]) none = .ok docNewAlt ∧
    Xer.decode (.sequenceOf choiceV1 anySize) docNewAlt = .error .decodeError := by
  constructor <;> rfl

/-- … whereas outside a SEQUENCE OF the same situation is handled (`(None, None)`). -/
theorem choice_extension_aware :
    Xer.encode choiceV2 "A" (.choice "m" (.int 5)) none = .ok docNewAlt ∧
    Xer.decode choiceV1 docNewAlt = .ok (.choice "" .absent) := by
  constructor <;> rfl

def enumV1 : Ty := .enumerated [("a", 0)] (some [])
def enumV2 : Ty := .enumerated [("a", 0)] (some [("b", 1)])

/-- `<A><b /></A>` -/
def docNewItem : Bytes := [60, 65, 62, 60, 98, 32, 47, 62, 60, 47, 65, 62]

/-- the same defect for `SEQUENCE OF ENUMERATED { a, ... }` and an item added later -/
theorem seqof_enum_not_extension_aware :
    Xer.encode (.sequenceOf enumV2 anySize) "A" (.list [.enum "b"]) none = .ok docNewItem ∧
    Xer.decode (.sequenceOf enumV1 anySize) docNewItem = .error .decodeError ∧
    Xer.decode enumV1 docNewItem = .ok .absent := by
  refine ⟨?_, ?_, ?_⟩ <;> rfl

/-- `10^4300`, the smallest number with 4301 decimal digits -/
def big : Nat := 10 ^ 4300

/-- the hypothesis of `Xml.natToDec_length_gt` for `big`: by unfolding `big`, no digit of the number is computed -/
theorem big_ge : 10 ^ 4300 ≤ big := Nat.le_refl _

theorem intText_big : Xer.intText (big : Int) = .error .foreign := by
  have h : 4300 < (Xml.natToDec big).length := Xml.natToDec_length_gt big 4300 big_ge
  unfold Xer.intText
  simp only [Int.natAbs_natCast]
  rw [if_pos (by unfold Xer.maxStrDigits; omega)]

theorem toXml_int_error (c : IntC) (name : String) (i : Int) (h : Xer.intText i = .error .foreign) :
    Xer.toXml (.integer c) name (.int i) = .error .foreign := by
  simp only [Xer.toXml, Xer.enc, h]

theorem hasType_int_unconstrained (i : Int) : hasType (.integer unconstrained) (.int i) = true := by
  simp [hasType, unconstrained, intInRange]

/-- a well-typed INTEGER with 4301 digits cannot be encoded (`str()` raises ValueError) -/
theorem int_needs_4300_digits :
    hasType (.integer unconstrained) (.int (big : Int)) = true ∧
    Xer.toXml (.integer unconstrained) "A" (.int (big : Int)) = .error .foreign :=
  ⟨hasType_int_unconstrained _, toXml_int_error _ _ _ intText_big⟩

def ia5 : Ty := .charString .ia5 anySize

/-- a NUL in an IA5String is written raw: `<A>\x00</A>` is not well-formed XML (the real
`decode` raises `ParseError`) -/
theorem control_char_not_wellformed :
    hasType ia5 (.str [0]) = true ∧
    Xer.encode ia5 "A" (.str [0]) none = .ok [60, 65, 62, 0, 60, 47, 65, 62] ∧
    Xer.parseDoc [60, 65, 62, 0, 60, 47, 65, 62] = .error .malformed := by
  refine ⟨?_, ?_, ?_⟩ <;> rfl

/-- U+FFFF in a UTF8String is written as `&#65535;`, a reference to a non-character -/
theorem nonchar_not_wellformed :
    hasType (.charString .utf8 anySize) (.str [0xFFFF]) = true ∧
    Xer.encode (.charString .utf8 anySize) "A" (.str [0xFFFF]) none =
      .ok [60, 65, 62, 38, 35, 54, 53, 53, 51, 53, 59, 60, 47, 65, 62] ∧
    Xer.parseDoc [60, 65, 62, 38, 35, 54, 53, 53, 51, 53, 59, 60, 47, 65, 62] = .error .malformed := by
  refine ⟨?_, ?_, ?_⟩ <;> rfl

/-- a CR is written raw and read back as LF (XML 1.0, 2.11): the value changes silently -/
theorem cr_changes_value :
    hasType ia5 (.str [13]) = true ∧
    Xer.encode ia5 "A" (.str [13]) none = .ok [60, 65, 62, 13, 60, 47, 65, 62] ∧
    Xer.decode ia5 [60, 65, 62, 13, 60, 47, 65, 62] = .ok (.str [10]) := by
  refine ⟨?_, ?_, ?_⟩ <;> rfl

/-- `SEQUENCE { a BOOLEAN, b UTF8String OPTIONAL, c INTEGER DEFAULT 7, d SEQUENCE OF ENUMERATED {x, y},
..., e BIT STRING }` -/
def exTy : Ty :=
  .sequence
    (.cons "a" .mandatory .boolean
      (.cons "b" .optional (.charString .utf8 anySize)
        (.cons "c" (.default (.int 7)) (.integer unconstrained)
          (.cons "d" .mandatory (.sequenceOf (.enumerated [("x", 0), ("y", 1)] none) anySize) .nil))))
    true
    (.cons "e" .optional (.bitString anySize) .nil)

/-- `{a TRUE, b " <&>\t\né ", d {y, x}, e '101'B}` -/
def exVal : Val :=
  .record [("a", .bool true), ("b", .str [32, 60, 38, 62, 9, 10, 233, 32]),
    ("d", .list [.enum "y", .enum "x"]), ("e", .bits [0xbf] 3)]

example : exTy.wf = true := by decide
example : hasType exTy exVal = true := by decide
example : Xer.intsOk exTy exVal = true := by decide
example : Xer.namesOk exTy = true := by decide
example : Xer.textOk exTy exVal = true := by decide

example : ∃ doc, Xer.encode exTy "A" exVal (some 2) = .ok doc ∧ (∀ b ∈ doc, b < 128) ∧
    (∃ x, Xer.parseDoc doc = .ok x) ∧ Xer.decode exTy doc = .ok (X690.canonV exTy exVal) :=
  xer_document_roundtrip exTy "A" exVal (some 2) (by decide) (by decide) (by decide) (by decide)
    (by decide) (by decide)

/-- the value `xer_document_roundtrip` returns for the example: DEFAULT filled in, unused bits cleared -/
example : X690.canonV exTy exVal =
    .record [("a", .bool true), ("b", .str [32, 60, 38, 62, 9, 10, 233, 32]), ("c", .int 7),
      ("d", .list [.enum "y", .enum "x"]), ("e", .bits [0xa0] 3)] := by rfl

/-- `<A><a><true /></a><b> &lt;&amp;&gt;\t\n&#233; </b><d><y /><x /></d><e>101</e></A>` -/
example : Xer.encode exTy "A" exVal none =
    .ok [60, 65, 62, 60, 97, 62, 60, 116, 114, 117, 101, 32, 47, 62, 60, 47, 97, 62, 60, 98, 62, 32, 38,
      108, 116, 59, 38, 97, 109, 112, 59, 38, 103, 116, 59, 9, 10, 38, 35, 50, 51, 51, 59, 32, 60, 47, 98,
      62, 60, 100, 62, 60, 121, 32, 47, 62, 60, 120, 32, 47, 62, 60, 47, 100, 62, 60, 101, 62, 49, 48, 49,
      60, 47, 101, 62, 60, 47, 65, 62] := by rfl

end Asn1.C02x
