import Asn1Proofs.Lemmas.BridgeFun
/-
  C15 / C03 — translator tie for the BER framing writers.  `Asn1.Translated.ber_encode_length_definite` and
  `ber_encode_tag` are regenerated from /repo/asn1tools/codecs/ber.py by harness/py2lean.py on every run; for ALL
  arguments they are the model functions `Ber.encLength` / `Ber.encTag`, about which C15 and the DER shape theorems
  (C03) are proved, so a change to the Python text that changes their behaviour breaks this file.
-/
namespace Asn1.C15t
open Asn1 Asn1.Translated Asn1.Bridge

/-- `encode_length_definite(n)` is the model's `encLength n` for every length below 256^127 (up to 127 subsequent
length octets, one more than X.690 8.1.3.5 allows; at 256^127 neither result is a definite length and the two differ,
see `length_original_false`) -/
theorem translated_encode_length_definite (n : Nat) (hn : n < 256 ^ 127) :
    ber_encode_length_definite (n : Int) = ofNats (Ber.encLength n) :=
  ber_encode_length_definite_eq n hn

theorem translated_encode_length_definite_general (n : Nat) :
    ber_encode_length_definite (n : Int)
      = ofNats (if n ≤ 127 then [n] else (128 ||| (natToBytesMin n).length) :: natToBytesMin n) :=
  ber_encode_length_definite_general n

/-- Without the bound the equation is false: the first octet is `0x80 | 128` in the code, `128 + 128` in the model. -/
theorem length_original_false :
    ber_encode_length_definite ((256 ^ 127 : Nat) : Int) ≠ ofNats (Ber.encLength (256 ^ 127)) := by
  intro h1
  rw [ber_encode_length_definite_general] at h1
  have h2 : (natToBytesMin (256 ^ 127)).length = 128 := by
    unfold natToBytesMin
    rw [natToBytesN_length]
    apply Nat.le_antisymm
    · rw [byteLength_le_iff]; exact Nat.pow_lt_pow_right (by omega) (by omega)
    · have : ¬ byteLength (256 ^ 127) ≤ 127 := by
        rw [byteLength_le_iff]; omega
      omega
  have h3 : ¬ (256 ^ 127 ≤ 127) := by
    have : 256 ^ 1 ≤ 256 ^ 127 := Nat.pow_le_pow_right (by omega) (by omega)
    omega
  simp only [Ber.encLength, h3, if_false, h2, ofNats, List.map_cons] at h1
  have := (List.cons.inj h1).1
  revert this
  decide

/-- `encode_tag(number, flags)` never raises and is the model's `encTag`, for every tag number and every
class/constructed octet (`flags` with the five low bits clear) -/
theorem translated_encode_tag (n f : Nat) (hf : f % 32 = 0) :
    ber_encode_tag (n : Int) (f : Int) = .ok (ofNats (Ber.encTag n f)) := by
  unfold ber_encode_tag Ber.encTag
  by_cases h : n < 31
  · rw [decide_eq_true (by omega : (n : Int) < 31), if_pos h, Py.bor_natCast, or_low 5 hf (show n < 2 ^ 5 by omega)]
    rfl
  · rw [decide_eq_false (by omega : ¬ (n : Int) < 31), if_neg h]
    simp only [base128_cont]
    exact tag_long n f 31 5 (by omega) hf (by omega) _
      (cont_loop (fun fuel x a => ber_encode_tag_loop1 fuel x f _ a) .ok (fun _ _ _ => rfl) _ n []
        (by rw [Py.fuelOfInt_natCast]; omega))

example : ber_encode_length_definite 70000 = [131, 1, 17, 112] := by decide
example : ber_encode_tag 2097152 64 = .ok [95, 129, 128, 128, 0] := by rfl

end Asn1.C15t
