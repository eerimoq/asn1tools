import Asn1Model.Sched
import Asn1Model.Uper
import Asn1Model.Oer
import Asn1Proofs.Lemmas.SchedLemmas
/-
  C18 — a compiled specification is stateless across calls and threads.
-/
namespace Asn1.C18
open Asn1 Asn1.Sched

/-- If no micro-step of any call writes the shared state (the compiled specification), then after ANY
interleaving in which every call runs to completion the shared state is unchanged and each call's
local result is exactly the result of that call made alone on the initial shared state. -/
theorem noninterference {σ ℓ : Type} (s : σ) (calls : List (Call σ ℓ)) (sched : List Nat)
    (hro : ∀ c ∈ calls, ReadOnly c)
    (hdone : Done (runSched s (calls.map start) sched).2) :
    (runSched s (calls.map start) sched).1 = s ∧
    (runSched s (calls.map start) sched).2.map (·.loc) = calls.map (fun c => (solo s c).2) := by
  obtain ⟨hs, hrel⟩ := runSched_preserves (allRel_start s calls) hro sched
  exact ⟨hs, allRel_done hrel hdone⟩

/-- the frame hypothesis is necessary: one writing micro-step is enough for a later call on another
thread to observe a different result than it would alone -/
theorem interference_witness :
    let w : Call Nat Nat := ⟨0, [fun _ l => (1, l)]⟩
    let r : Call Nat Nat := ⟨0, [fun s _ => (s, s)]⟩
    ((runSched 0 [start w, start r] [0, 1]).2.map (·.loc)) ≠ [w, r].map (fun c => (solo 0 c).2) := by
  decide

/-- The codec models are functions of their arguments, so there is no state a statement about them
could speak of: this one is `Uper.encode t v = Uper.encode t v` with two unused `let`s.  What is
proved about calls that share state is `noninterference`. -/
theorem model_calls_pure (t : Ty) (v w : Val) (bs : Bytes) :
    let r1 := Uper.encode t v
    let _ := Uper.decode t bs
    let _ := Oer.encode t w
    Uper.encode t v = r1 := by
  intros; rfl

end Asn1.C18
