import Asn1Proofs.Lemmas.Bridge3
import Asn1Proofs.Lemmas.Bridge2OerEnc
import Asn1Proofs.Lemmas.Bridge2OerDec
/-
  C06 / C01 — translator tie, where the OER buffer meets the octets (`oer.Encoder.as_bytearray`, `oer.Decoder.__init__`).
-/
namespace Asn1.C06v
open Asn1 Asn1.Translated Asn1.Bridge

/-- `oer.Encoder.as_bytearray` at an octet boundary (the OER codec only ever asks there) -/
theorem oer_as_bytearray (s : oer_EncoderS) (h : OEncInv s) (ha : s.number_of_bits % 8 = 0) :
    oer_Encoder_as_bytearray s = .ok (ofNats (packBits (oEncBits s))) := by
  obtain ⟨nb, val, hnb, hval, hlt⟩ := word_view h.nb h.v0 h.vlt
  unfold oer_Encoder_as_bytearray oEncBits
  rw [hnb] at ha
  rw [hnb, hval, Int.toNat_natCast, Int.toNat_natCast]
  by_cases h0 : nb = 0
  · subst h0; rfl
  · obtain ⟨k, rfl⟩ : ∃ k, nb = 8 * k := ⟨nb / 8, by omega⟩
    rw [decide_eq_false (by omega)]
    simp only [Bool.false_eq_true, if_false, shlE_natCast, bind, Except.bind, pure, Except.pure]
    rw [unhex_sentinel_bor k val hlt, packBits_natToBits]

theorem oer_decoder_init (data : Bytes) (hd : ∀ b ∈ data, b < 256) :
    ODecInv (oer_Decoder___init__ (ofNats data)) ∧ oAt (oer_Decoder___init__ (ofNats data)) data := by
  unfold oer_Decoder___init__
  simp only [Py.len_eq, ofNats_length]
  rw [Py.mul8]
  by_cases h0 : data.length = 0
  · have : data = [] := List.eq_nil_of_length_eq_zero h0
    subst this
    exact ⟨⟨by decide, by decide, by decide⟩, hd, rfl⟩
  · rw [decide_eq_true (by omega : ((data.length : Nat) : Int) > 0)]
    simp only [if_true, bytesToInt_ofNats]
    refine ⟨odec_inv_mk _ _ _ (Int.le_refl _), hd, ?_⟩
    rw [oBits_mk, bytesToBits_eq data hd]

end Asn1.C06v

-- the OER counterpart of `C05v.per_buffer_roundtrip`, named in the namespace of the lemma modules
namespace Asn1.Bridge
open Asn1 Asn1.Translated

theorem oer_buffer_roundtrip (s : oer_EncoderS) (h : OEncInv s) (ha : s.number_of_bits % 8 = 0) :
    ∃ out, oer_Encoder_as_bytearray s = .ok out ∧
      ODecInv (oer_Decoder___init__ out) ∧ oAt (oer_Decoder___init__ out) (packBits (oEncBits s)) := by
  have ⟨i1, i2⟩ := C06v.oer_decoder_init (packBits (oEncBits s)) (packBits_lt _)
  exact ⟨_, C06v.oer_as_bytearray s h ha, i1, i2⟩

end Asn1.Bridge
