import Asn1Model.BerFraming
import Asn1Proofs.Lemmas.BerFramingLemmas
/-
  C15 — the BER/DER framing probe `decode_full_length` (`Ber.fullLength`): on identifier octets and
  definite length octets in the sense of `Ber.validTag` / `Ber.validLen` it answers the length of the
  whole encoding as soon as both are complete and `unknown` before; the encoder's own identifier and
  length octets are valid in that sense.
-/
namespace Asn1.C15
open Asn1 Asn1.Ber

/-- `rest` is ANY following bytes (content, partial content, or content plus a tail): every prefix that
contains the complete identifier and length octets yields the full message length. -/
theorem probe_complete (t l rest : Bytes) (n : Nat) (ht : validTag t) (hl : validLen l n) :
    fullLength (t ++ l ++ rest) = .known (t.length + l.length + n) :=
  fullLength_tlv t l rest n ht hl

/-- Every strictly shorter prefix (one that cuts the identifier or length octets) is reported as
'not yet known', never as a wrong number. -/
theorem probe_prefix (t l : Bytes) (n k : Nat) (ht : validTag t) (hl : validLen l n)
    (hk : k < t.length + l.length) :
    fullLength ((t ++ l).take k) = .unknown := by
  rw [List.take_append]
  by_cases hkt : k ≤ t.length
  · have : k - t.length = 0 := by omega
    simp [fullLength, this, skipTag_prefix t k ht]
  · have h1 : t.take k = t := List.take_of_length_le (by omega)
    have hne : l.take (k - t.length) ≠ [] := by
      have := validLen_ne_nil hl
      intro h
      rcases List.take_eq_nil_iff.mp h with h | h
      · omega
      · exact this h
    simp only [fullLength, h1, skipTag_complete t _ ht hne, List.drop_left,
      decodeLength_prefix l n (k - t.length) hl (by omega)]

theorem encTag_valid (number flags : Nat) (hf : flags < 256) (hf' : flags % 32 = 0) :
    validTag (encTag number flags) :=
  encTag_validTag number flags hf hf'

/-- The hypothesis `hn` is necessary (`Asn1.Ber.encLength_valid_iff`): at `n = 256 ^ 127` the model computes a first
octet `128 + 128 = 256`, which is not a byte (the two `example`s below); `encode_length_definite` computes
`0x80 | 128`, the octet that announces the indefinite form (`C15t.length_original_false`).
X.690 8.1.3.5 c) reserves the first length octet `0xff`, so the standard has at most 126 subsequent
length octets (lengths below 256^126; the reference decoder `X690.readLength` rejects `0xff`), while the
model's `Ber.validLen`, like the code's `encode_length_definite` / `decode_length`, admits 127 (lengths
below 256^127). -/
theorem encLength_valid (n : Nat) (hn : n < 256 ^ 127) : validLen (encLength n) n :=
  (encLength_valid_iff n).mpr hn

example : (encLength (256 ^ 127)).head? = some 256 := by
  have h1 := (byteLength_le_iff (256 ^ 127) 128).2 (by decide)
  have h2 := mt (byteLength_le_iff (256 ^ 127) 127).1 (Nat.lt_irrefl _)
  have h : byteLength (256 ^ 127) = 128 := by omega
  rw [encLength, if_neg (by decide), List.head?_cons, natToBytesMin, natToBytesN_length, h]
example : ¬ validLen (encLength (256 ^ 127)) (256 ^ 127) :=
  fun h => Nat.lt_irrefl _ ((encLength_valid_iff _).mp h)

example : fullLength [0x30, 0x82, 0x01] = .unknown := by decide
example : fullLength [0x30, 0x82, 0x01, 0x00] = .known 260 := by decide
example : fullLength [0x5f, 0x87, 0x68, 0x03, 1] = .known 7 := by decide

end Asn1.C15
