import Asn1Proofs.Lemmas.Bridge2OerEnc
import Asn1Proofs.Lemmas.Bridge2OerDec
import Asn1Model.Per
/-
  C06 / C16 — translator tie for the OER octet writer and reader.  `Asn1.Translated.oer_Encoder_*` / `oer_Decoder_*` are
  regenerated from the Python classes `oer.Encoder` / `oer.Decoder` (/repo/asn1tools/codecs/oer.py: one big integer and a bit
  count) by harness/py2lean.py on every run.  Every method is related, for all states and arguments, to the primitive of
  the OER code model about which `oer_refines` / `decoder_exact` (C06) and `oer_truncated` (C16) are stated.
-/
namespace Asn1.C06u
open Asn1 Asn1.Translated Asn1.Bridge
open Asn1.Uper (Err)

theorem oer_read_bit_bits (d : oer_DecoderS) (h : ODecInv d) :
    match oBits d with
    | [] => oer_Decoder_read_bit d = .error "OutOfDataError"
    | b :: r => ∃ d', oer_Decoder_read_bit d = .ok (d', if b then 1 else 0) ∧ ODecInv d' ∧ oBits d' = r := by
  have := oer_rnnbi_bits d h 1
  rw [← oer_read_bit_eq d h] at this
  generalize oBits d = bits at this ⊢
  cases bits with
  | nil => exact this
  | cons b r =>
    obtain ⟨d', e, hi, hr⟩ := this
    refine ⟨d', ?_, hi, hr⟩
    cases b with
    | false => exact e
    | true => exact e

theorem oer_peek_bit_bits (d : oer_DecoderS) (h : ODecInv d) :
    match oBits d with
    | [] => oer_Decoder_peek_bit d = .error "OutOfDataError"
    | b :: _ => oer_Decoder_peek_bit d = .ok (if b then 1 else 0) := by
  have := oer_read_bit_bits d h
  rw [oer_peek_bit_eq]
  generalize oBits d = bits at this ⊢
  cases bits with
  | nil =>
    rw [this]
    rfl
  | cons b r =>
    obtain ⟨d', e, _, _⟩ := this
    rw [e]
    rfl

theorem oer_skip_bits_bits (d : oer_DecoderS) (h : ODecInv d) (n : Nat) :
    if n ≤ (oBits d).length then ∃ d', oer_Decoder_skip_bits d n = .ok d' ∧ ODecInv d' ∧ oBits d' = (oBits d).drop n
    else oer_Decoder_skip_bits d n = .error "OutOfDataError" := by
  obtain ⟨N, V, T, rfl, hle⟩ := h.view
  rw [oBits_mk, natToBits_length]
  unfold oer_Decoder_skip_bits
  rw [Py.ite_decide_congr Int.ofNat_lt]
  by_cases hn : n ≤ N
  · rw [if_pos hn, if_neg (Nat.not_lt.2 hn)]
    dsimp only
    rw [← Int.natCast_sub hn]
    exact ⟨_, rfl, odec_advance V hn hle⟩
  · rw [if_neg hn, if_pos (Nat.lt_of_not_le hn)]
    rfl

theorem oer_read_byte_refines (d : oer_DecoderS) (h : ODecInv d) (bs : Bytes) (ha : oAt d bs) :
    ORefines natVal (oer_Decoder_read_byte d) (Oer.readByte bs) := by
  unfold oer_Decoder_read_byte
  rw [Oer.readByte_eq, show (8 : Int) = 8 * ((1 : Nat) : Int) from rfl]
  exact ORefines.bind (oer_rnnbi_bytes d h bs ha 1) fun d1 a ds r _ hi hb hv => ⟨hi, hb, hv⟩

theorem oer_read_bytes_refines (d : oer_DecoderS) (h : ODecInv d) (bs : Bytes) (ha : oAt d bs) (n : Nat) :
    ORefines bytesVal (oer_Decoder_read_bytes d n) (Oer.readBytes n bs) := by
  unfold oer_Decoder_read_bytes
  rw [← bind_pure (Oer.readBytes n bs)]
  exact ORefines.bind (oer_read_bits_bytes d h bs ha n) fun d1 a ds r _ hi hb hv => ⟨hi, hb, hv⟩

theorem oer_read_length_determinant_refines (d : oer_DecoderS) (h : ODecInv d) (bs : Bytes) (ha : oAt d bs) :
    ORefines natVal (oer_Decoder_read_length_determinant d) (Oer.readLenDet bs) := by
  unfold oer_Decoder_read_length_determinant Oer.readLenDet
  refine ORefines.bind (oer_read_byte_refines d h bs ha) fun d1 a b r hy hi hb hv => ?_
  obtain rfl : a = (b : Int) := hv
  obtain rfl := Oer.readByte_ok hy
  have hb256 : b < 256 := ha.1 b List.mem_cons_self
  dsimp only
  by_cases c : b < 128
  · rw [Py.not_truthy_band128 c, if_pos c]
    exact ⟨hi, hb, rfl⟩
  · have c' : 128 ≤ b := Nat.le_of_not_lt c
    rw [Py.truthy_band128 c' hb256, if_neg c, if_pos rfl, Py.band127, Nat.mod_eq_sub_mod c',
      Nat.mod_eq_of_lt (Nat.sub_lt_left_of_lt_add c' hb256), bind_assoc]
    exact ORefines.bind (oer_rnnbi_bytes d1 hi r hb (b - 128)) fun d2 a2 ds r' _ hi2 hb2 hv2 => ⟨hi2, hb2, hv2⟩

theorem oer_read_integer_refines (d : oer_DecoderS) (h : ODecInv d) (bs : Bytes) (ha : oAt d bs) :
    ORefines (fun a (i : Int) => a = i) (oer_Decoder_read_integer d) (Oer.decSigned bs) := by
  unfold oer_Decoder_read_integer Oer.decSigned
  refine ORefines.bind (oer_read_length_determinant_refines d h bs ha) fun d1 a k r _ hi hb hv => ?_
  obtain rfl : a = (k : Int) := hv
  dsimp only
  refine ORefines.bind (oer_rnnbi_bytes d1 hi r hb k) fun d2 a2 ds r' hy hi2 hb2 hv2 => ?_
  obtain rfl : a2 = _ := hv2
  obtain ⟨hk, rfl, rfl⟩ := Oer.readBytes_ok hy
  dsimp only
  by_cases k0 : k = 0
  · subst k0
    -- a length of 0: `1 << (0 - 1)` raises ValueError, the model's `.foreign`
    rw [shlE_neg _ _ (by decide), if_pos rfl]
    exact rfl
  · have hlt := bytesToNat_lt (r.take k) (allBytes_take k hb.1)
    have hw : 1 ≤ 8 * k := Nat.mul_pos (by decide) (Nat.pos_of_ne_zero k0)
    unfold bytesToInt
    dsimp only
    rw [List.length_take_of_le hk] at hlt ⊢
    generalize bytesToNat (r.take k) = n at hlt ⊢
    rw [if_neg k0, Py.mul8,
      show ((8 * k : Nat) : Int) - 1 = ((8 * k - 1 : Nat) : Int) from (Int.natCast_sub hw).symm, shlE_natCast, ok_bind,
      truthy_sign_bit n (8 * k) hw hlt]
    by_cases cA : 2 ^ (8 * k - 1) ≤ n
    · rw [decide_eq_true cA, if_pos rfl, shlE_natCast, ok_bind, sub_mask, if_pos ⟨Nat.ne_of_gt hw, cA⟩]
      exact ⟨hi2, hb2, rfl⟩
    · rw [decide_eq_false cA, if_neg Bool.false_ne_true, if_neg fun hh => cA hh.2]
      exact ⟨hi2, hb2, rfl⟩

theorem oer_read_unsigned_integer_refines (d : oer_DecoderS) (h : ODecInv d) (bs : Bytes) (ha : oAt d bs) :
    ORefines natVal (oer_Decoder_read_unsigned_integer d) (Oer.decUnsigned bs) := by
  unfold oer_Decoder_read_unsigned_integer Oer.decUnsigned
  refine ORefines.bind (oer_read_length_determinant_refines d h bs ha) fun d1 a k r _ hi hb hv => ?_
  obtain rfl : a = (k : Int) := hv
  dsimp only
  exact ORefines.bind (oer_rnnbi_bytes d1 hi r hb k) fun d2 a2 ds r' _ hi2 hb2 hv2 => ⟨hi2, hb2, hv2⟩

/-- sequencing after the loop of `read_tag` (`while True: byte = self.read_byte(); tag.append(byte); if byte & 0x80 == 0:
break`), which has appended the octets `tag` so far: the continuations `k` (code) and `g` (model, after
`Oer.readTagRest`) are compared on the octets `t` that the loop appends -/
theorem oer_read_tag_loop {α β : Type} {val : α → β → Prop} : ∀ (fuel fuel' : Nat) (r : Bytes) (d : oer_DecoderS)
    (byte : Int) (tag : List Nat) (k : Int × List Int × oer_DecoderS → Except String (oer_DecoderS × α))
    (g : Bytes × Bytes → Except Err (β × Bytes)),
    ODecInv d → oAt d r → r.length < fuel → r.length < fuel' →
    (∀ byte' t rest d', ODecInv d' → oAt d' rest → ORefines val (k (byte', ofNats (tag ++ t), d')) (g (t, rest))) →
    ORefines val (oer_Decoder_read_tag_loop1 fuel d byte (ofNats tag) >>= k) (Oer.readTagRest fuel' r >>= g) := by
  intro fuel
  induction fuel with
  | zero =>
    intro fuel' r d byte tag k g h ha hf
    exact absurd hf (Nat.not_lt_zero _)
  | succ f ih =>
    intro fuel' r d byte tag k g h ha hf hf' hk
    obtain ⟨f', rfl⟩ := Nat.exists_eq_add_one_of_ne_zero (Nat.ne_of_gt (Nat.zero_lt_of_lt hf'))
    unfold oer_Decoder_read_tag_loop1 Oer.readTagRest
    rw [bind_assoc, bind_assoc]
    refine ORefines.bind (oer_read_byte_refines d h r ha) fun d1 a b rest hy hi hb hv => ?_
    obtain rfl : a = (b : Int) := hv
    obtain rfl := Oer.readByte_ok hy
    have hb256 : b < 256 := ha.1 b List.mem_cons_self
    rw [List.length_cons] at hf hf'
    dsimp only
    rw [← ofNats_singleton, ← ofNats_append]
    by_cases c : b < 128
    · rw [if_pos c, Py.band128_eq_zero c, decide_eq_true rfl, if_pos rfl]
      exact hk b [b] rest d1 hi hb
    · rw [if_neg c, decide_eq_false (Py.band128_ne_zero (Nat.le_of_not_lt c) hb256), if_neg Bool.false_ne_true, bind_assoc]
      refine ih f' rest d1 b (tag ++ [b]) _ _ hi hb (Nat.lt_of_succ_lt_succ hf) (Nat.lt_of_succ_lt_succ hf')
        fun byte' t rest' d' hi' hb' => ?_
      rw [List.append_assoc]
      exact hk byte' (b :: t) rest' d' hi' hb'

theorem oer_read_tag_refines (d : oer_DecoderS) (h : ODecInv d) (bs : Bytes) (ha : oAt d bs) :
    ORefines bytesVal (oer_Decoder_read_tag d) (Oer.readTag bs) := by
  unfold oer_Decoder_read_tag Oer.readTag
  refine ORefines.bind (oer_read_byte_refines d h bs ha) fun d1 a b r _ hi hb hv => ?_
  obtain rfl : a = (b : Int) := hv
  dsimp only
  rw [Py.band63]
  by_cases c : b % 64 = 63
  · rw [if_pos c, decide_eq_true (show ((b % 64 : Nat) : Int) = 63 from congrArg Nat.cast c), if_pos rfl, bind_assoc]
    -- the generic fuel of the translated loop covers the unread octets
    have hfuel : r.length ≤ Py.fuelOfInt d1.number_of_bits := by
      have hlen := oAt_length hb
      obtain ⟨N, hN⟩ := Int.eq_ofNat_of_zero_le hi.nb
      rw [oBits_length, hN, Int.toNat_natCast] at hlen
      rw [hN, Py.fuelOfInt_natCast, hlen]
      exact Nat.le_mul_of_pos_left _ (by decide)
    refine oer_read_tag_loop _ _ r d1 b [b] _ _ hi hb ?_ (Nat.lt_succ_self _)
      fun byte' t rest d' hi' hb' => ⟨hi', hb', rfl⟩
    rw [Nat.add_assoc, Nat.add_assoc, Nat.add_assoc, Nat.add_assoc, Nat.lt_one_add_iff]
    exact Nat.le_trans hfuel (Nat.le_add_right _ _)
  · rw [if_neg c, decide_eq_false (show ¬ ((b % 64 : Nat) : Int) = 63 from mt Int.natCast_inj.1 c), if_neg Bool.false_ne_true]
    exact ⟨hi, hb, rfl⟩

theorem oer_append_non_negative_binary_integer_refines (s : oer_EncoderS) (h : OEncInv s) (v n : Nat) (hv : v < 2 ^ n) :
    OEncInv (oer_Encoder_append_non_negative_binary_integer s v n) ∧
    oEncBits (oer_Encoder_append_non_negative_binary_integer s v n) = oEncBits s ++ natToBits n v :=
  o_push_core s h v n hv _ (bor_shl _ h.v0 v n hv)

theorem oer_append_bit_refines (s : oer_EncoderS) (h : OEncInv s) (b : Bool) :
    OEncInv (oer_Encoder_append_bit s (if b then 1 else 0)) ∧
    oEncBits (oer_Encoder_append_bit s (if b then 1 else 0)) = oEncBits s ++ [b] := by
  have key : ∀ v : Nat, v < 2 ^ 1 →
      OEncInv (oer_Encoder_append_bit s (v : Int)) ∧
      oEncBits (oer_Encoder_append_bit s (v : Int)) = oEncBits s ++ natToBits 1 v := fun v hv =>
    o_push_core s h v 1 hv _ (bor_shl _ h.v0 v 1 hv)
  cases b
  · exact key 0 (by decide)
  · exact key 1 (by decide)

theorem oer_append_u8_refines (s : oer_EncoderS) (h : OEncInv s) (v : Nat) (hv : v < 256) :
    OEncInv (oer_Encoder_append_u8 s v) ∧ oEncBits (oer_Encoder_append_u8 s v) = oEncBits s ++ natToBits 8 v :=
  oer_append_non_negative_binary_integer_refines s h v 8 hv

theorem oer_append_bits_refines (s : oer_EncoderS) (h : OEncInv s) (data : Bytes) (hd : ∀ b ∈ data, b < 256)
    (n : Nat) (hn : n ≤ 8 * data.length) :
    OEncInv (oer_Encoder_append_bits s (ofNats data) n) ∧
    oEncBits (oer_Encoder_append_bits s (ofNats data) n) = oEncBits s ++ (bytesToBits data).take n := by
  unfold oer_Encoder_append_bits
  by_cases h0 : n = 0
  · subst h0; simp [h]
  · obtain ⟨v, e, hv, hb⟩ := bits_of_bytes data hd n hn
    simp only [decide_eq_false (by omega : ¬ (n : Int) = 0), Bool.false_eq_true, if_false, e, ← hb]
    exact oer_append_non_negative_binary_integer_refines s h v n hv

theorem oer_append_bytes_refines (s : oer_EncoderS) (h : OEncInv s) (data : Bytes) (hd : ∀ b ∈ data, b < 256) :
    OEncInv (oer_Encoder_append_bytes s (ofNats data)) ∧
    oEncBits (oer_Encoder_append_bytes s (ofNats data)) = oEncBits s ++ bytesToBits data := by
  have := oer_append_bits_refines s h data hd (8 * data.length) (Nat.le_refl _)
  rw [List.take_of_length_le (by rw [bytesToBits_length]; omega)] at this
  unfold oer_Encoder_append_bytes
  rw [Py.len_eq, ofNats_length, Py.mul8]
  exact this

theorem oer_number_of_bytes_eq (s : oer_EncoderS) (h : OEncInv s) :
    oer_Encoder_number_of_bytes s = ((((oEncBits s).length + 7) / 8 : Nat) : Int) := by
  unfold oer_Encoder_number_of_bytes
  obtain ⟨nb, hnb⟩ := Int.eq_ofNat_of_zero_le h.nb
  rw [oEncBits_length, hnb, Int.toNat_natCast, show ((nb : Nat) : Int) + 7 = ((nb + 7 : Nat) : Int) by omega, Py.fdiv8]

theorem oer_align_refines (s : oer_EncoderS) (h : OEncInv s) :
    OEncInv (oer_Encoder_align s) ∧ oEncBits (oer_Encoder_align s) = oEncBits s ++ Per.alignBits (oEncBits s).length := by
  unfold oer_Encoder_align
  have hl : (((oEncBits s).length : Nat) : Int) = s.number_of_bits := by
    rw [oEncBits_length]; have := h.nb; omega
  have hw : (8 : Int) * oer_Encoder_number_of_bytes s - s.number_of_bits
      = ((Per.padLen (oEncBits s).length : Nat) : Int) := by
    rw [oer_number_of_bytes_eq s h, ← hl]
    unfold Per.padLen
    omega
  simp only [hw]
  have := o_push_core s h 0 (Per.padLen (oEncBits s).length) (Nat.two_pow_pos _)
    (Py.shl s.value (Per.padLen (oEncBits s).length : Int)) (by simp [Py.shl])
  rw [natToBits_zero] at this
  exact this

theorem oer_iadd_refines (s o : oer_EncoderS) (h : OEncInv s) (ho : OEncInv o) :
    OEncInv (oer_Encoder___iadd__ s o) ∧ oEncBits (oer_Encoder___iadd__ s o) = oEncBits s ++ oEncBits o := by
  unfold oer_Encoder___iadd__
  obtain ⟨nb, val, hnb, hval, hlt⟩ := word_view ho.nb ho.v0 ho.vlt
  have ⟨b1, b2⟩ := oer_append_non_negative_binary_integer_refines s h val nb hlt
  rw [← hnb, ← hval] at b1 b2
  refine ⟨b1, ?_⟩
  rw [b2]
  unfold oEncBits
  rw [hnb, hval, Int.toNat_natCast, Int.toNat_natCast]

/-- `OEncRefines` spelled out.  A hypothesis `OEncRefines s (oer_Encoder_append_length_determinant s n) _` cannot be used as
it stands: reducing its `match` evaluates `decide (↑n < 128)` with the literal in unary and exceeds the recursion depth. -/
theorem oer_append_length_determinant_cases (s : oer_EncoderS) (h : OEncInv s) (n : Nat) :
    (∃ s' bs, oer_Encoder_append_length_determinant s n = .ok s' ∧ Oer.lenDet n = .ok bs ∧
      OEncInv s' ∧ oEncBits s' = oEncBits s ++ bytesToBits bs) ∨
    (oer_Encoder_append_length_determinant s n = .error "EncodeError" ∧ Oer.lenDet n = .error .encodeError) := by
  rw [oer_length_determinant_unfold]
  unfold Oer.lenDet
  by_cases c1 : n < 128
  · rw [if_pos c1, if_pos c1]
    have := oer_append_non_negative_binary_integer_refines s h n 8 (by omega)
    rw [← bytesToBits_singleton] at this
    exact .inl ⟨_, _, rfl, rfl, this⟩
  rw [if_neg c1, if_neg c1]
  dsimp only
  by_cases c2 : (natToBytesMin n).length > 127
  · rw [if_pos c2, if_pos c2]
    exact .inr ⟨rfl, rfl⟩
  · rw [if_neg c2, if_neg c2, Py.bor128 (show (natToBytesMin n).length < 128 by omega)]
    have ⟨a1, a2⟩ := oer_append_u8_refines s h (128 + (natToBytesMin n).length) (by omega)
    have ⟨b1, b2⟩ := oer_append_bytes_refines _ a1 (natToBytesMin n) (natToBytesMin_lt n)
    refine .inl ⟨_, _, rfl, rfl, b1, ?_⟩
    rw [b2, a2, List.append_assoc, bytesToBits]
    rfl

theorem oer_append_integer_refines (s : oer_EncoderS) (h : OEncInv s) (i : Int) :
    OEncRefines s (oer_Encoder_append_integer s i) (Oer.encSigned i) := by
  rw [oer_integer_unfold, uncSel_eq]
  simp only
  unfold Oer.encSigned
  dsimp only
  rw [Py.mul8]
  cases oer_append_length_determinant_cases s h (intByteLength i) with
  | inr hx => rw [hx.1, hx.2]; exact rfl
  | inl hx =>
    cases hx with | intro s1 hx =>
    cases hx with | intro l hx =>
    have a1 := hx.2.2.1
    have a2 := hx.2.2.2
    rw [hx.1, hx.2.1]
    have := oer_append_non_negative_binary_integer_refines s1 a1 _ (8 * intByteLength i) (emod_pow256_lt i _)
    refine ⟨this.1, ?_⟩
    show oEncBits _ = _
    rw [this.2, a2, List.append_assoc, bytesToBits_append]
    unfold intToBytesN
    rw [bytesToBits_natToBytesN]

theorem oer_append_unsigned_integer_refines (s : oer_EncoderS) (h : OEncInv s) (n : Nat) :
    OEncRefines s (oer_Encoder_append_unsigned_integer s n) (Oer.encUnsigned n) := by
  unfold oer_Encoder_append_unsigned_integer Oer.encUnsigned
  dsimp only
  have hk : Py.fdiv (max (Py.bitLength (n : Int)) 1 + 7) 8 = (((max (bitLength n) 1 + 7) / 8 : Nat) : Int) := by
    rw [Py.bitLength_natCast,
      show max ((bitLength n : Nat) : Int) 1 + 7 = ((max (bitLength n) 1 + 7 : Nat) : Int) by omega, Py.fdiv8]
  rw [hk]
  generalize hkk : (max (bitLength n) 1 + 7) / 8 = k
  have hU : n < 2 ^ (8 * k) := by
    have h1 := lt_two_pow_bitLength n
    have h2 : 2 ^ bitLength n ≤ 2 ^ (8 * k) := Nat.pow_le_pow_right (by omega) (by omega)
    omega
  rw [Py.mul8]
  cases oer_append_length_determinant_cases s h k with
  | inr hx => rw [hx.1, hx.2]; exact rfl
  | inl hx =>
    cases hx with | intro s1 hx =>
    cases hx with | intro l hx =>
    have a1 := hx.2.2.1
    have a2 := hx.2.2.2
    rw [hx.1, hx.2.1]
    have := oer_append_non_negative_binary_integer_refines s1 a1 n (8 * k) hU
    refine ⟨this.1, ?_⟩
    show oEncBits _ = _
    rw [this.2, a2, List.append_assoc, bytesToBits_append, bytesToBits_natToBytesN]

end Asn1.C06u

-- the statement of `oer_append_length_determinant_cases` as an `OEncRefines`, named in the namespace of the lemma modules
namespace Asn1.Bridge
open Asn1 Asn1.Translated

theorem oer_append_length_determinant_refines (s : oer_EncoderS) (h : OEncInv s) (n : Nat) :
    OEncRefines s (oer_Encoder_append_length_determinant s n) (Oer.lenDet n) := by
  cases C06u.oer_append_length_determinant_cases s h n with
  | inr hx => rw [hx.1, hx.2]; exact rfl
  | inl hx =>
    cases hx with | intro s' hx =>
    cases hx with | intro bs hx =>
    rw [hx.1, hx.2.1]; exact hx.2.2

end Asn1.Bridge
